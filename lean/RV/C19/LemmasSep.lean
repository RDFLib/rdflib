import RV.C19.LemmasOps
/-
  C19: separation.  A `Collection` only ever looks at, and writes to, the
  triples whose subject is its head, one of its cells (reached over rdf:rest), rdf:nil or a blank node it
  minted.  For any set `F` of *foreign* subjects that this walk cannot reach, every operation on the whole
  graph `g` is the operation on `own F g` (the graph without the foreign subjects' triples), and the foreign
  triples are left exactly as they were.  The foreign part may hold anything: other collections, the private
  prefix of a collection that shares its tail with this one, malformed list triples.
  Method: the chain of the own part is an `LChain` of the whole graph (`LChain.of_own`), so on both graphs every walk
  finds what the chain says, cells that are not foreign; writes at such subjects keep the relation `Tr`.  Reads of a
  *second* collection, whose structure is arbitrary, go by congruence instead (`Agree`).
-/
namespace RV.C19

variable {F : Term → Bool} {V : Term → Prop} {g g' : Graph} {h : Term}

theorem mem_own {t : Triple} : t ∈ own F g ↔ t ∈ g ∧ F t.1 = false := by
  simp [own]

theorem own_none (g : Graph) : own (fun _ => false) g = g := List.filter_eq_self.mpr (fun _ _ => rfl)

theorem objects_filter {P : Term → Bool} {s : Term} (hs : P s = true) (p : Term) :
    objects (g.filter (fun t => P t.1)) s p = objects g s p := by
  induction g with
  | nil => rfl
  | cons t g ih =>
    obtain ⟨s', p', o⟩ := t
    by_cases hf : P s' = true
    · rw [List.filter_cons_of_pos (p := fun t : Triple => P t.1) (a := (s', p', o)) hf]
      simp only [objects, ih]
    · have hne : ¬(s' = s ∧ p' = p) := fun e => hf (e.1 ▸ hs)
      rw [List.filter_cons_of_neg (p := fun t : Triple => P t.1) (a := (s', p', o)) hf, objects, if_neg hne, ih]

theorem objects_foreign {l : Term} (hl : F l = true) (p : Term) : objects (foreign F g) l p = objects g l p :=
  objects_filter hl p

/-- `g'` says the same as `g` about a set `V` of nodes that no rdf:rest link of `g` leaves: every walk of a
    `Collection` started inside `V` runs the same on both graphs -/
structure Agree (V : Term → Prop) (g g' : Graph) : Prop where
  same : ∀ l, V l → ∀ p, p = FIRST ∨ p = REST → objects g' l p = objects g l p
  closed : ∀ l n, V l → (l, REST, n) ∈ g → V n

theorem Agree.value_eq (w : Agree V g g') {l p : Term} (hl : V l)
    (hp : p = FIRST ∨ p = REST) : value g' l p = value g l p := by
  rw [value_eq_head, value_eq_head, w.same l hl p hp]

theorem Agree.next (w : Agree V g g') {l n : Term} (hl : V l)
    (hv : value g l REST = some n) : V n := w.closed l n hl (value_some_mem hv)

theorem getContainer_congr (w : Agree V g g') :
    ∀ (k : Nat) (oc : Option Term), (∀ c, oc = some c → V c) →
      getContainer g' oc k = getContainer g oc k ∧ ∀ c, getContainer g oc k = some c → V c := by
  intro k
  induction k with
  | zero => exact fun oc hoc => ⟨by cases oc <;> rfl, by cases oc <;> exact hoc⟩
  | succ k ih =>
    intro oc hoc
    cases oc with
    | none => exact ⟨rfl, nofun⟩
    | some c =>
      simp only [getContainer, w.value_eq (hoc c rfl) (Or.inr rfl)]
      exact ih (value g c REST) (fun o ho => w.next (hoc c rfl) ho)

theorem itemsAux_congr (w : Agree V g g') :
    ∀ (f : Nat) (l : Term) (chain : List Term), V l → itemsAux g' f l chain = itemsAux g f l chain := by
  intro f
  induction f with
  | zero => exact fun _ _ _ => rfl
  | succ f ih =>
    intro l chain hl
    simp only [itemsAux, w.value_eq hl (Or.inl rfl), w.value_eq hl (Or.inr rfl)]
    cases hr : value g l REST with
    | none => rfl
    | some n => simp only [ih n (n :: chain) (w.next hl hr)]

theorem itemsAux_mono :
    ∀ (f f' : Nat) (l : Term) (chain : List Term), f ≤ f' → (itemsAux g f l chain).2 ≠ some .fuel →
      itemsAux g f' l chain = itemsAux g f l chain := by
  intro f
  induction f with
  | zero => exact fun _ _ _ _ hne => absurd rfl hne
  | succ f ih =>
    intro f' l chain hle hne
    obtain ⟨f', rfl⟩ := fuel_succ hle
    cases hv : value g l REST with
    | none => rw [itemsAux_none hv, itemsAux_none hv]
    | some n =>
      by_cases hn : n ∈ chain
      · rw [itemsAux_seen hv hn, itemsAux_seen hv hn]
      · rw [itemsAux_next hv hn] at hne
        rw [itemsAux_next hv hn, itemsAux_next hv hn f, ih f' n (n :: chain) (Nat.le_of_succ_le_succ hle) hne]

/-- `Graph.items` is the same on two graphs that agree on the nodes its walk visits (their sizes, hence the
    fuel, may differ: no walk exhausts it) -/
theorem items_congr (w : Agree V g g') (hh : V h) :
    items g' h = items g h := by
  have h1 : items g' h = itemsAux g (g'.length + 2) h [h] := itemsAux_congr w _ _ _ hh
  have n1 := items_no_fuel g' h
  rw [h1] at n1 ⊢
  have n2 : (itemsAux g (g.length + 2) h [h]).2 ≠ some .fuel := items_no_fuel g h
  rw [items, ← itemsAux_mono _ (max (g'.length + 2) (g.length + 2)) h [h] (Nat.le_max_left _ _) n1,
    ← itemsAux_mono _ (max (g'.length + 2) (g.length + 2)) h [h] (Nat.le_max_right _ _) n2]

theorem len_congr (w : Agree V g g') (hh : V h) :
    len g' h = len g h := by
  simp only [len, items_congr w hh]

theorem iter_congr (w : Agree V g g') (hh : V h) :
    iter g' h = iter g h := by
  simp only [iter, items_congr w hh]

theorem contains_congr (w : Agree V g g') (hh : V h) (x : Term) :
    contains g' h x = contains g h x := by
  simp only [contains, items_congr w hh]

theorem normIdx_congr (w : Agree V g g') (hh : V h) (key : Int) :
    normIdx g' h key = normIdx g h key := by
  simp only [normIdx, len_congr w hh]

theorem getAt_congr (w : Agree V g g') (hh : V h) (k : Nat) :
    getAt g' h k = getAt g h k := by
  have hgc := getContainer_congr w k (some h) (fun _ e => Option.some.inj e ▸ hh)
  simp only [getAt, hgc.1]
  cases hc : getContainer g (some h) k with
  | none => rfl
  | some c => simp only [w.value_eq (hgc.2 c hc) (Or.inl rfl)]

theorem getItem_congr (w : Agree V g g') (hh : V h) (key : Int) :
    getItem g' h key = getItem g h key := by
  unfold getItem
  rw [normIdx_congr w hh]
  cases normIdx g h key with
  | error e => rfl
  | ok k => exact getAt_congr w hh k

/-- the foreign subjects cannot be reached from the head over rdf:rest -/
structure Sep (F : Term → Bool) (g : Graph) (h : Term) : Prop where
  head : F h = false
  nil : F NIL = false
  closed : ∀ c o, F c = false → (c, REST, o) ∈ g → F o = false

theorem objects_own {s : Term} (p : Term) (hs : F s = false) : objects (own F g) s p = objects g s p :=
  objects_filter (P := fun c => !F c) (by rw [hs]; rfl) p

theorem value_own {s : Term} (p : Term) (hs : F s = false) :
    value (own F g) s p = value g s p := by
  rw [value_eq_head, value_eq_head, objects_own p hs]

theorem own_filter (F : Term → Bool) (g : Graph) (q : Triple → Bool) : own F (g.filter q) = (own F g).filter q := by
  simp only [own, List.filter_filter]
  exact List.filter_congr (fun t _ => Bool.and_comm _ _)

theorem own_removeSP (F : Term → Bool) (g : Graph) (s p : Term) :
    own F (removeSP g s p) = removeSP (own F g) s p := own_filter F g _

theorem own_removeS (F : Term → Bool) (g : Graph) (s : Term) :
    own F (removeS g s) = removeS (own F g) s := own_filter F g _

theorem own_add (g : Graph) {t : Triple} (ht : F t.1 = false) :
    own F (add g t) = add (own F g) t := by
  unfold add sinsert
  by_cases hm : t ∈ g
  · rw [if_pos hm, if_pos (mem_own.mpr ⟨hm, ht⟩)]
  · rw [if_neg hm, if_neg (fun h => hm (mem_own.mp h).1)]
    simp [own, List.filter_append, ht]

theorem foreign_filter (g : Graph) {s : Term} {q : Triple → Bool} (hs : F s = false) (hq : ∀ t, t.1 ≠ s → q t = true) :
    foreign F (g.filter q) = foreign F g := by
  simp only [foreign, List.filter_filter]
  refine List.filter_congr (fun t _ => ?_)
  by_cases hf : F t.1 = true
  · rw [hf, hq t (fun e => by rw [e, hs] at hf; cases hf)]; rfl
  · rw [Bool.not_eq_true] at hf; rw [hf]; rfl

theorem foreign_removeSP (g : Graph) {s : Term} (p : Term) (hs : F s = false) :
    foreign F (removeSP g s p) = foreign F g :=
  foreign_filter g hs (fun t h => by simp [h])

theorem foreign_removeS (g : Graph) {s : Term} (hs : F s = false) :
    foreign F (removeS g s) = foreign F g :=
  foreign_filter g hs (fun t h => by simp [h])

theorem foreign_add (g : Graph) {t : Triple} (ht : F t.1 = false) :
    foreign F (add g t) = foreign F g := by
  unfold add sinsert
  split
  · rfl
  · simp [foreign, List.filter_append, ht]

/-- `b` is the own part of `a`, and `a` holds the foreign triples of `g0`, in their order.  Kept by every write at a
    subject that is not foreign: the separation proofs pass `Tr.refl` through the writes of an operation. -/
structure Tr (F : Term → Bool) (g0 a b : Graph) : Prop where
  own_eq : own F a = b
  foreign_eq : foreign F a = foreign F g0

variable {g0 a b : Graph}

theorem Tr.refl (F : Term → Bool) (g : Graph) : Tr F g g (own F g) := ⟨rfl, rfl⟩

theorem Tr.add (t : Tr F g0 a b) (u : Triple) (hu : F u.1 = false) : Tr F g0 (add a u) (add b u) :=
  ⟨t.own_eq ▸ own_add a hu, (foreign_add a hu).trans t.foreign_eq⟩

theorem Tr.removeSP (t : Tr F g0 a b) {s : Term} (p : Term) (hs : F s = false) :
    Tr F g0 (removeSP a s p) (removeSP b s p) :=
  ⟨t.own_eq ▸ own_removeSP F a s p, (foreign_removeSP a p hs).trans t.foreign_eq⟩

theorem Tr.removeS (t : Tr F g0 a b) {s : Term} (hs : F s = false) : Tr F g0 (removeS a s) (removeS b s) :=
  ⟨t.own_eq ▸ own_removeS F a s, (foreign_removeS a hs).trans t.foreign_eq⟩

theorem Tr.gset (t : Tr F g0 a b) {s : Term} (p o : Term) (hs : F s = false) :
    Tr F g0 (gset a s p o) (gset b s p o) := (t.removeSP p hs).add _ hs

theorem Tr.value (t : Tr F g0 a b) {s : Term} (p : Term) (hs : F s = false) : value b s p = value a s p :=
  t.own_eq ▸ value_own p hs

theorem Tr.hasSP (t : Tr F g0 a b) {s : Term} (p : Term) (hs : F s = false) : hasSP b s p = hasSP a s p :=
  congrArg Option.isSome (t.value p hs)

theorem Tr.clearG {ps : List Cell} (hF : ∀ c ∈ ps.map Prod.fst, F c = false) :
    ∀ (a b : Graph), Tr F g0 a b → Tr F g0 (clearG a ps) (clearG b ps) := by
  induction ps with
  | nil => exact fun _ _ => id
  | cons q ps ih =>
    have hc := hF q.1 List.mem_cons_self
    exact fun _ _ t => ih (fun c hc => hF c (List.mem_cons_of_mem _ hc)) _ _ ((t.removeSP _ hc).removeSP _ hc)

def simG (F : Term → Bool) (g0 : Graph) : Except Err Graph → Except Err Graph → Prop
  | .ok a, .ok b => Tr F g0 a b
  | .error e, .error e' => e = e'
  | _, _ => False

theorem simG_err (F : Term → Bool) (g0 : Graph) (e : Err) : simG F g0 (.error e) (.error e) := rfl
theorem simG_ite {g0 : Graph} {c : Prop} [Decidable c] {a a' b b' : Except Err Graph}
    (ha : c → simG F g0 a a') (hb : ¬c → simG F g0 b b') :
    simG F g0 (if c then a else b) (if c then a' else b') := by
  by_cases hc : c
  · rw [if_pos hc, if_pos hc]; exact ha hc
  · rw [if_neg hc, if_neg hc]; exact hb hc

theorem Inv.cell_notForeign {fr : Nat} {ps : List Cell}
    (inv : Inv ⟨own F g, fr⟩ h ps) {c : Term} (hc : c ∈ ps.map Prod.fst) : F c = false := by
  obtain ⟨t, ht, e⟩ := List.mem_map.mp (cells_subject_mem inv.chain.cells c hc)
  exact e ▸ (mem_own.mp ht).2

/-- the cells of the own part's chain are not foreign, so the whole graph says the same about them -/
theorem LChain.of_own {fr : Nat} {ps : List Cell} (hh : F h = false) (hn : F NIL = false)
    (inv : Inv ⟨own F g, fr⟩ h ps) : LChain g h ps := by
  have c := inv.local
  have hat : F (cellAtLen h ps) = false := by cases ps; exact hh; exact hn
  exact ⟨c.head, c.hne, c.nodup,
    cells_congr c.cells (fun t ht => (mem_own.trans (and_iff_left (inv.cell_notForeign ht))).symm),
    fun hp o hm => c.clean hp o (mem_own.mpr ⟨hm, hat⟩)⟩

theorem restOnce_of_own {fr : Nat} {ps : List Cell} (inv : Inv ⟨own F g, fr⟩ h ps) : RestOnce g ps :=
  fun c hc => objects_own REST (inv.cell_notForeign hc) ▸ objects_nodup inv.nodup c REST

theorem setItem_sim {ps : List Cell} (lc : LChain g h ps) (lo : LChain (own F g) h ps)
    (hF : ∀ {k c}, cellAt h ps k = some c → F c = false) (key : Int) (v : Term) :
    simG F g (setItem g h key v) (setItem (own F g) h key v) := by
  rw [lc.setItem, lo.setItem]
  cases hc : (normK ps.length key).bind (cellAt h ps) with
  | none => exact simG_err _ _ _
  | some c =>
    obtain ⟨k, _, hk⟩ := Option.bind_eq_some_iff.mp hc
    exact (Tr.refl F g).gset _ _ (hF hk)

/-- the walks of `__delitem__` find the same cells on both graphs, none foreign; then `Tr` branch by branch -/
theorem delItem_sim {ps : List Cell} (lc : LChain g h ps) (lo : LChain (own F g) h ps)
    (hF : ∀ {k c}, cellAt h ps k = some c → F c = false) (key : Int) :
    simG F g (delItem g h key) (delItem (own F g) h key) := by
  have t := Tr.refl F g
  unfold delItem
  rw [lc.normIdx, lo.normIdx]
  cases normK ps.length key with
  | none => exact simG_err _ _ _
  | some k =>
    simp only [lc.getAt, lo.getAt, lc.container_eq, lo.container_eq, lc.len, lo.len]
    cases ps[k]? with
    | none => exact simG_err _ _ _
    | some _ =>
      cases hcur : cellAt h ps k with
      | none => exact simG_err _ _ _
      | some cur =>
        have hcurF := hF hcur
        -- first the dead `len == 1 and key > 0` branch
        refine simG_ite (fun _ => t) (fun _ => simG_ite (fun _ => ?head) (fun _ => simG_ite (fun _ => ?tail) (fun _ => ?middle)))
        case head =>
          cases h1 : cellAt h ps 1 with
          | none => exact simG_err _ _ _
          | some nx =>
            have hnxF := hF h1
            refine simG_ite (fun _ => (t.removeSP _ hcurF).removeSP _ hcurF) (fun _ => ?_)
            rw [t.value _ hnxF]
            cases value g nx FIRST with
            | none => exact simG_err _ _ _
            | some f =>
              simp only [(t.gset FIRST f hcurF).value _ hnxF]
              cases value (gset g cur FIRST f) nx REST with
              | none => exact simG_err _ _ _
              | some r => exact ((t.gset _ _ hcurF).gset _ _ hcurF).removeS hnxF
        case tail =>
          cases hp : cellAt h ps (k - 1) with
          | none => exact simG_err _ _ _
          | some prior => exact (t.gset _ _ (hF hp)).removeS hcurF
        case middle =>
          cases hn : cellAt h ps (k + 1) with
          | none => exact simG_err _ _ _
          | some nx =>
            cases hp : cellAt h ps (k - 1) with
            | none => exact simG_err _ _ _
            | some prior => exact (t.removeS hcurF).gset _ _ (hF hp)

/-- "the same step on the own part"; unfolded, this is the conclusion of `coll_separation` -/
def StepSim (F : Term → Bool) (g0 : Graph) (r r' : St × Out) : Prop :=
  r.2 = r'.2 ∧ own F r.1.g = r'.1.g ∧ r.1.fresh = r'.1.fresh ∧ foreign F r.1.g = foreign F g0

theorem StepSim.same (s : St) (o : Out) : StepSim F s.g (s, o) (⟨own F s.g, s.fresh⟩, o) := ⟨rfl, rfl, rfl, rfl⟩

theorem Tr.stepSim {g0 a b : Graph} (t : Tr F g0 a b) (fr : Nat) (o : Out) : StepSim F g0 (⟨a, fr⟩, o) (⟨b, fr⟩, o) :=
  ⟨rfl, t.own_eq, rfl, t.foreign_eq⟩

theorem iaddLoop_sim :
    ∀ (xs : List Term) (a b : Graph) (fr : Nat) (e : Term), Tr F g0 a b → F e = false → (∀ n, fr ≤ n → F n = false) →
      Tr F g0 (iaddLoop a fr e xs).1 (iaddLoop b fr e xs).1 ∧ (iaddLoop a fr e xs).2 = (iaddLoop b fr e xs).2 ∧
        F (iaddLoop a fr e xs).2.2 = false := by
  intro xs
  induction xs with
  | nil => exact fun a b fr e t he _ => ⟨t, rfl, he⟩
  | cons x xs ih =>
    intro a b fr e t he hfr
    have hf : F fr = false := hfr fr (Nat.le_refl _)
    simp only [iaddLoop, t.hasSP _ he]
    split
    · exact ih _ _ _ _ ((t.add (e, REST, fr) he).add (fr, FIRST, x) hf) hf
        (fun n hn => hfr n (Nat.le_of_succ_le hn))
    · exact ih _ _ _ _ (t.add (e, FIRST, x) he) he hfr

theorem iadd_sim {h e : Term} {fr : Nat} (hfr : ∀ n, fr ≤ n → F n = false)
    (he : endOf (own F g) h = .ok e) (he' : endOf g h = .ok e) (heF : F e = false) (xs : List Term) :
    StepSim F g (stOf ⟨g, fr⟩ (iadd ⟨g, fr⟩ h xs)) (stOf ⟨own F g, fr⟩ (iadd ⟨own F g, fr⟩ h xs)) := by
  unfold iadd
  simp only [he, he']
  split
  · exact StepSim.same _ _
  · obtain ⟨t, h2, h4⟩ := iaddLoop_sim xs _ _ fr e ((Tr.refl F g).removeSP REST heF) heF hfr
    rw [← h2, t.hasSP _ h4]
    split
    · exact (t.add (_, REST, NIL) h4).stepSim _ _
    · exact t.stepSim _ _

theorem cells_rest_target {ps : List Cell} (hc : Cells g (some NIL) ps) {c o : Term}
    (hm : c ∈ ps.map Prod.fst) (hr : (c, REST, o) ∈ g) : o = NIL ∨ o ∈ ps.map Prod.fst := by
  induction ps with
  | nil => exact absurd hm List.not_mem_nil
  | cons q ps ih =>
    obtain ⟨c0, x0⟩ := q
    by_cases e : c = c0
    · subst e
      have ho : o = hdN ps := some_eq_hd_iff.mp ((hc.rest o).1 hr)
      cases ps with
      | nil => exact Or.inl ho
      | cons q' ps' => exact Or.inr (List.mem_cons_of_mem _ (ho ▸ List.mem_cons_self))
    · exact (ih hc.tail ((List.mem_cons.mp hm).resolve_left e)).imp_right (List.mem_cons_of_mem _)

/-- what the no-orphan clause of the own part's chain says of the whole graph; the separation proof itself goes through
    `LChain.of_own` -/
theorem sep_of_inv {fr : Nat} {ps : List Cell}
    (hh : F h = false) (hn : F NIL = false) (inv : Inv ⟨own F g, fr⟩ h ps) : Sep F g h := by
  refine ⟨hh, hn, fun c o hc hm => ?_⟩
  have hm' : (c, REST, o) ∈ own F g := mem_own.mpr ⟨hm, hc⟩
  rcases cells_rest_target inv.chain.cells (inv.chain.noOrphan _ _ _ hm' (Or.inr rfl)) hm' with e | ho
  · exact e ▸ hn
  · exact inv.cell_notForeign ho

theorem gOf_sim {s : St} {r r' : Except Err Graph} (hs : simG F s.g r r') :
    StepSim F s.g (gOf s r) (gOf ⟨own F s.g, s.fresh⟩ r') :=
  match r, r', hs with
  | .ok _, .ok _, t => t.stepSim _ _
  | .error _, .error _, rfl => StepSim.same _ _

theorem StepSim.out_eq {g0 : Graph} {r r' : St × Out} (hs : StepSim F g0 r r') : r.2 = r'.2 := hs.1

theorem StepSim.foreign_eq {g0 : Graph} {r r' : St × Out} (hs : StepSim F g0 r r') :
    foreign F r.1.g = foreign F g0 := hs.2.2.2

theorem StepSim.own_state {g0 : Graph} {r r' : St × Out} (hs : StepSim F g0 r r') :
    r'.1 = ⟨own F r.1.g, r.1.fresh⟩ := by
  obtain ⟨⟨g1, fr1⟩, _⟩ := r'
  obtain ⟨_, hown, hfresh, _⟩ := hs
  exact congr (congrArg St.mk hown.symm) hfresh.symm

theorem step_sep {s : St} {ps : List Cell} (op : Op)
    (hh : F h = false) (hn : F NIL = false) (hfr : ∀ n, s.fresh ≤ n → F n = false)
    (inv : Inv ⟨own F s.g, s.fresh⟩ h ps) :
    StepSim F s.g (step h s op) (step h ⟨own F s.g, s.fresh⟩ op) := by
  have lo : LChain (own F s.g) h ps := inv.local
  have lc : LChain s.g h ps := .of_own hh hn inv
  have hcell : ∀ c ∈ ps.map Prod.fst, F c = false := fun _ => inv.cell_notForeign
  have hF : ∀ {k c}, cellAt h ps k = some c → F c = false :=
    fun hk => (cellAt_mem hk).elim (hcell _) (fun e => e.elim (· ▸ hh) (· ▸ hn))
  have heF : F (lastCell h ps) = false := (lastCell_mem h ps).elim (hcell _) (fun e => e.symm ▸ hh)
  have hext : ∀ xs, StepSim F s.g (step h s (.extend xs)) (step h ⟨own F s.g, s.fresh⟩ (.extend xs)) :=
    fun xs => iadd_sim hfr lo.endOf lc.endOf heF xs
  cases op with
  | append x =>
    rw [lc.step_append, LChain.step_append (s := ⟨own F s.g, s.fresh⟩) lo]
    exact hext [x]
  | extend xs => exact hext xs
  | setItem i x => exact gOf_sim (setItem_sim lc lo hF i x)
  | delItem i => exact gOf_sim (delItem_sim lc lo hF i)
  | clear =>
    simp only [step, lc.clear, lo.clear, gOf]
    exact (Tr.clearG hcell _ _ (Tr.refl F s.g)).stepSim _ _
  | len => simp only [step, lc.len, lo.len]; exact StepSim.same _ _
  | iter => simp only [step, lc.iter, lo.iter]; exact StepSim.same _ _
  | getItem i => simp only [step, lc.getItem, lo.getItem]; exact StepSim.same _ _
  | index x =>
    simp only [step, lc.index (restOnce_of_own inv), lo.index (restOnce_of_nodup inv.nodup ps)]
    exact StepSim.same _ _
  | contains x => simp only [step, lc.contains, lo.contains]; exact StepSim.same _ _

/-- A second collection whose whole rdf:rest walk stays inside the foreign subjects until rdf:nil: the two graphs agree
    on every node it visits, as long as the foreign triples are the same and rdf:nil carries no list triples. -/
theorem agree_second (hf : foreign F g' = foreign F g)
    (hnil : ∀ p, p = FIRST ∨ p = REST → value g NIL p = none ∧ value g' NIL p = none)
    (hcl : ∀ c o, F c = true → (c, REST, o) ∈ g → F o = true ∨ o = NIL) :
    Agree (fun l => F l = true ∨ l = NIL) g g' := by
  refine ⟨fun l hl p hp => ?_, fun l n hl hm => ?_⟩
  · rcases hl with hl | rfl
    · exact (objects_foreign hl p).symm.trans (hf ▸ objects_foreign hl p)
    · rw [objects_absent (value_none_iff.mp (hnil p hp).1), objects_absent (value_none_iff.mp (hnil p hp).2)]
  · rcases hl with hl | rfl
    · exact hcl l n hl hm
    · exact absurd hm (value_none_iff.mp (hnil REST (Or.inr rfl)).1 n)

theorem value_nil_of_own_inv {fr : Nat} {ps : List Cell}
    (hn : F NIL = false) (inv : Inv ⟨own F g, fr⟩ h ps) {p : Term} (hp : p = FIRST ∨ p = REST) :
    value g NIL p = none := by
  rw [← value_own p hn]
  exact value_none_iff.mpr (fun _ => inv.chain.nil_free hp)

end RV.C19

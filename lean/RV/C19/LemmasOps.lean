import RV.C19.Lemmas
/-
  C19: each `Collection` mutation, run on a state satisfying the invariant, succeeds exactly when the list
  operation does and re-establishes the invariant for the new list; the frame (`Frame`); what `c[len(c)] = x` does
  instead (K1); a second `Collection` object over the same chain.  What a mutation's walks find is stated for `LChain`,
  what the writes do to the chain for `Chain` (surgery lemmas); the rest of the invariant and the frame are `Kept`.
-/
namespace RV.C19

variable {g : Graph} {h : Term} {ps : List Cell} {s : St}

theorem FIRST_ne_REST : FIRST ≠ REST := by decide

theorem nodup_split {pre post : List Cell} {c x : Term}
    (h : ((pre ++ (c, x) :: post).map Prod.fst).Nodup) :
    c ∉ pre.map Prod.fst ∧ c ∉ post.map Prod.fst := by
  rw [List.map_append, List.map_cons, List.nodup_append, List.nodup_cons] at h
  exact ⟨fun hm => h.2.2 c hm c List.mem_cons_self rfl, h.2.1.1⟩

theorem nodup_split_next {pre post : List Cell} {p : Cell} {c x : Term}
    (h : ((pre ++ p :: (c, x) :: post).map Prod.fst).Nodup) :
    c ∉ (pre ++ [p]).map Prod.fst ∧ c ∉ post.map Prod.fst :=
  nodup_split (x := x) (List.append_cons pre p _ ▸ h)

theorem all_add {Q : Triple → Prop} {u : Triple} (hg : ∀ t ∈ g, Q t) (hn : Q u) : ∀ t ∈ add g u, Q t :=
  fun t ht => (mem_add.mp ht).elim (fun e => e ▸ hn) (hg t)

theorem all_filter {Q : Triple → Prop} (hg : ∀ t ∈ g, Q t) (q : Triple → Bool) : ∀ t ∈ g.filter q, Q t :=
  fun t ht => hg t (List.mem_filter.mp ht).1

theorem cells_gset {tl : Option Term} {s : Term} (hs : s ∉ ps.map Prod.fst)
    (p o : Term) (hc : Cells g tl ps) : Cells (gset g s p o) tl ps :=
  cells_congr hc (fun _ ht => mem_gset_of_ne (fun e => hs (e.1 ▸ ht)))

theorem cells_add {tl : Option Term} {u : Triple} (hs : u.1 ∉ ps.map Prod.fst)
    (hc : Cells g tl ps) : Cells (add g u) tl ps :=
  cells_congr hc (fun _ ht => mem_add_of_ne (fun e => hs (e.1 ▸ ht)))

theorem cells_removeSP {tl : Option Term} {s : Term} (hs : s ∉ ps.map Prod.fst)
    (p : Term) (hc : Cells g tl ps) : Cells (removeSP g s p) tl ps :=
  cells_congr hc (fun _ ht => mem_removeSP_of_ne (fun e => hs (e.1 ▸ ht)))

theorem cells_removeS {tl : Option Term} {s : Term} (hs : s ∉ ps.map Prod.fst)
    (hc : Cells g tl ps) : Cells (removeS g s) tl ps :=
  cells_congr hc (fun _ ht => mem_removeS_of_ne (fun e => hs (e ▸ ht)))

theorem Chain.head_mid {tl : Option Term} {pre post : List Cell} {c x : Term} (ch : Chain g h tl (pre ++ (c, x) :: post))
    (tl' : Option Term) (x' : Term) (post' : List Cell) : hd tl' (pre ++ (c, x') :: post') = some h :=
  (hd_append tl' pre _).trans ((hd_append tl pre _).symm.trans (ch.head (mid_ne_nil _ _ _)))

theorem mem_fst_mid (pre : List Cell) (c x : Term) (post : List Cell) : c ∈ (pre ++ (c, x) :: post).map Prod.fst :=
  List.mem_map.mpr ⟨(c, x), List.mem_append_right _ List.mem_cons_self, rfl⟩

theorem chain_nil {tl : Option Term} (hne : h ≠ NIL) (hno : ∀ s p o, (s, p, o) ∈ g → p = FIRST ∨ p = REST → False) :
    Chain g h tl [] :=
  { head := fun hne => absurd rfl hne, hne := hne, nodup := List.nodup_nil, cells := trivial
    noOrphan := fun s p o hm hp => (hno s p o hm hp).elim }

theorem chain_nil_tl {tl tl' : Option Term} (ch : Chain g h tl []) : Chain g h tl' [] :=
  chain_nil ch.hne (fun _ _ _ hm hp => ch.empty_no_triple hp hm)

theorem chain_congr {g' : Graph} {tl : Option Term} (ch : Chain g h tl ps)
    (hg : ∀ t, t ∈ g' ↔ t ∈ g) : Chain g' h tl ps :=
  { head := ch.head, hne := ch.hne, nodup := ch.nodup, cells := cells_congr ch.cells (fun _ _ => hg _)
    noOrphan := fun s p o hm hp => ch.noOrphan s p o ((hg _).1 hm) hp }

theorem chain_set {tl : Option Term} {pre post : List Cell} {c x : Term}
    (ch : Chain g h tl (pre ++ (c, x) :: post)) (v : Term) :
    Chain (gset g c FIRST v) h tl (pre ++ (c, v) :: post) := by
  have hfst : (pre ++ (c, v) :: post).map Prod.fst = (pre ++ (c, x) :: post).map Prod.fst := by
    simp only [List.map_append, List.map_cons]
  obtain ⟨hc1, hc2⟩ := nodup_split ch.nodup
  obtain ⟨hpre, hmid⟩ := cells_append.mp ch.cells
  exact {
    head := fun _ => ch.head_mid ..
    hne := ch.hne
    nodup := hfst ▸ ch.nodup
    cells := cells_mid (cells_gset hc1 _ _ hpre) hmid.ne_nil (first := fun o => mem_gset_self)
      (rest := fun o => (mem_gset_of_ne (fun e => FIRST_ne_REST e.2.symm)).trans (hmid.rest o))
      (cells_gset hc2 _ _ hmid.tail)
    noOrphan := fun s p o hm hp => hfst ▸ (mem_gset.mp hm).elim (fun e => (Prod.mk.inj e).1 ▸ mem_fst_mid ..)
      (fun hm' => ch.noOrphan _ _ _ hm'.1 hp) }

/-- `del c[k]` for `k ≥ 1`: the cell `c` after `p` disappears, `p` is linked to what followed `c`
    (rdf:nil if `c` was the tail) -/
theorem chain_del_inner {pre rest : List Cell} {p xp c x : Term}
    (ch : Chain g h (some NIL) (pre ++ (p, xp) :: (c, x) :: rest)) :
    Chain (gset (removeS g c) p REST (hdN rest)) h (some NIL) (pre ++ (p, xp) :: rest) := by
  obtain ⟨hp1, hp2⟩ := nodup_split ch.nodup
  obtain ⟨hc1, hc2⟩ := nodup_split_next ch.nodup
  simp only [List.map_append, List.map_cons, List.map_nil, List.mem_append, List.mem_cons, List.not_mem_nil, or_false,
    not_or] at hp2 hc1
  obtain ⟨hpre, hp⟩ := cells_append.mp ch.cells
  have hsub : List.Sublist ((pre ++ (p, xp) :: rest).map Prod.fst) ((pre ++ (p, xp) :: (c, x) :: rest).map Prod.fst) :=
    (((List.sublist_cons_self _ _).cons_cons _).append_left pre).map _
  refine {
    head := fun _ => ch.head_mid ..
    hne := ch.hne
    nodup := ch.nodup.sublist hsub
    cells := cells_mid (cells_gset hp1 _ _ (cells_removeS hc1.1 hpre)) hp.ne_nil (first := fun o => ?first)
      (rest := fun o => ?rest) (cells_gset hp2.2 _ _ (cells_removeS hc2 hp.tail.tail))
    noOrphan := ?noOrphan }
  case first => exact (mem_gset_of_ne (fun e => FIRST_ne_REST e.2)).trans ((mem_removeS_of_ne hp2.1).trans (hp.first o))
  case rest => exact mem_gset_self.trans some_eq_hd_iff.symm
  case noOrphan =>
    intro s q o hm hq
    rcases mem_gset.mp hm with e | ⟨hm, _⟩
    · exact (Prod.mk.inj e).1 ▸ mem_fst_mid ..
    · obtain ⟨hm, hs⟩ := mem_removeS.mp hm
      have := ch.noOrphan _ _ _ hm hq
      simp only [List.map_append, List.map_cons, List.mem_append, List.mem_cons] at this ⊢
      exact this.imp_right (fun h => h.imp_right (fun h => h.resolve_left hs))

/-- as sets; the two lists differ in the order of their triples -/
theorem mem_removeS_gset {p q n c : Term} (hpc : p ≠ c) (t : Triple) :
    t ∈ removeS (gset g p q n) c ↔ t ∈ gset (removeS g c) p q n := by
  simp only [mem_removeS, mem_gset]
  exact ⟨fun ⟨hm, hc⟩ => hm.imp_right (fun hm => ⟨⟨hm.1, hc⟩, hm.2⟩),
    fun hm => hm.elim (fun e => ⟨Or.inl e, e ▸ hpc⟩) (fun hm => ⟨Or.inr ⟨hm.1.1, hm.2⟩, hm.1.2⟩)⟩

/-- `del c[0]` on a list with at least two items: the head takes over the member of the second cell, which is then
    deleted like any inner cell -/
theorem chain_del_head2 {rest : List Cell} {x nx xn : Term}
    (ch : Chain g h (some NIL) ((h, x) :: (nx, xn) :: rest)) :
    Chain (removeS (gset (gset g h FIRST xn) h REST (hdN rest)) nx) h (some NIL) ((h, xn) :: rest) :=
  chain_congr (chain_del_inner (pre := []) (chain_set (pre := []) ch xn))
    (mem_removeS_gset (fun e => (List.nodup_cons.mp ch.nodup).1 (e ▸ List.mem_cons_self)))

/-- A cell `n` that carries no list triple yet, put where the chain continues, becomes its new last cell; the chain
    is then open.  (`__iadd__`: the head of an empty collection, or a fresh blank node linked from the old end.) -/
theorem chain_extend {h n : Term} (ch : Chain g h (some n) ps)
    (hh : hd (some n) ps = some h) (hn1 : n ≠ NIL) (hn2 : ∀ p o, p = FIRST ∨ p = REST → (n, p, o) ∉ g)
    (hn3 : n ∉ ps.map Prod.fst) (item : Term) : Chain (add g (n, FIRST, item)) h none (ps ++ [(n, item)]) := by
  have hfst : (ps ++ [(n, item)]).map Prod.fst = ps.map Prod.fst ++ [n] := List.map_append
  refine {
    head := fun _ => (hd_append ..).trans hh
    hne := ch.hne
    nodup := ?nodup
    cells := cells_mid (cells_add hn3 ch.cells) hn1 (first := fun o => ?first) (rest := fun o => ?rest) trivial
    noOrphan := fun s p o hm hp => ?noOrphan }
  case nodup =>
    rw [hfst]
    exact List.nodup_append.mpr ⟨ch.nodup, nodup_singleton _,
      fun a ha b hb e' => hn3 (List.mem_singleton.mp hb ▸ e' ▸ ha)⟩
  case first => exact mem_add_self.trans (or_iff_left (hn2 _ _ (Or.inl rfl)))
  case rest =>
    exact (mem_add_of_ne (fun e => FIRST_ne_REST e.2.symm)).trans ⟨fun hm => absurd hm (hn2 _ _ (Or.inr rfl)), nofun⟩
  case noOrphan =>
    rw [hfst]
    exact (mem_add.mp hm).elim (fun e => List.mem_append_right _ (List.mem_singleton.mpr (Prod.mk.inj e).1))
      (fun hm => List.mem_append_left _ (ch.noOrphan _ _ _ hm hp))

theorem chain_open {tl : Option Term} {pre : List Cell} {e x : Term}
    (ch : Chain g h tl (pre ++ [(e, x)])) : Chain (removeSP g e REST) h none (pre ++ [(e, x)]) := by
  obtain ⟨he, _⟩ := nodup_split ch.nodup
  obtain ⟨hpre, hlast⟩ := cells_append.mp ch.cells
  exact {
    head := fun _ => ch.head_mid ..
    hne := ch.hne
    nodup := ch.nodup
    cells := cells_mid (cells_removeSP he _ hpre) hlast.ne_nil
      (first := fun o => (mem_removeSP_of_ne (fun e' => FIRST_ne_REST e'.2)).trans (hlast.first o))
      (rest := fun o => ⟨fun hm => absurd ⟨rfl, rfl⟩ (mem_removeSP.mp hm).2, nofun⟩) trivial
    noOrphan := fun s p o hm hp => ch.noOrphan _ _ _ (mem_removeSP.mp hm).1 hp }

theorem chain_close {pre : List Cell} {e x : Term}
    (ch : Chain g h none (pre ++ [(e, x)])) (n : Term) : Chain (add g (e, REST, n)) h (some n) (pre ++ [(e, x)]) := by
  obtain ⟨he, _⟩ := nodup_split ch.nodup
  obtain ⟨hpre, hlast⟩ := cells_append.mp ch.cells
  exact {
    head := fun _ => ch.head_mid ..
    hne := ch.hne
    nodup := ch.nodup
    cells := cells_mid (cells_add he hpre) hlast.ne_nil
      (first := fun o => (mem_add_of_ne (fun e' => FIRST_ne_REST e'.2)).trans (hlast.first o))
      (rest := fun o => mem_add_self.trans
        ((or_iff_left (fun hm => nomatch (hlast.rest o).1 hm)).trans ⟨congrArg some, Option.some.inj⟩)) trivial
    noOrphan := fun s p o hm hp => (mem_add.mp hm).elim (fun e' => (Prod.mk.inj e').1 ▸ mem_fst_mid ..)
      (fun hm => ch.noOrphan _ _ _ hm hp) }

theorem cells_lt {tl : Option Term} (hc : Cells g tl ps) {fr : Nat}
    (hlt : ∀ t ∈ g, t.1 < fr) {c : Term} (hm : c ∈ ps.map Prod.fst) : c < fr := by
  obtain ⟨t, ht, e⟩ := List.mem_map.mp (cells_subject_mem hc c hm)
  exact e ▸ hlt t ht

theorem Inv.cell_lt (inv : Inv s h ps) {c : Term}
    (hc : c ∈ ps.map Prod.fst) : c < s.fresh := cells_lt inv.chain.cells inv.fresh.subj_lt hc

theorem Inv.local (inv : Inv s h ps) : LChain s.g h ps := inv.chain.local

theorem FreshOK.of_all (f : FreshOK s h) {g' : Graph} (hg : ∀ t ∈ g', t.1 < s.fresh) :
    FreshOK ⟨g', s.fresh⟩ h := ⟨f.h_lt, f.nil_lt, hg⟩

theorem NonList.ne {t : Triple} (hn : NonList t) {s p : Term} (hp : p = FIRST ∨ p = REST) : ¬(t.1 = s ∧ t.2.1 = p) :=
  fun e => hp.elim (fun hp => hn.1 (e.2.trans hp)) (fun hp => hn.2 (e.2.trans hp))

theorem frame_of_iff {g' : Graph} (hi : ∀ t, NonList t → (t ∈ g' ↔ t ∈ g)) : Frame g g' h :=
  fun t hn => ⟨(hi t hn).1, fun hm => Or.inl ((hi t hn).2 hm)⟩

theorem frame_refl (g : Graph) (h : Term) : Frame g g h := frame_of_iff (fun _ _ => Iff.rfl)

theorem frame_trans {g1 g2 g3 : Graph} {h : Term} (a : Frame g1 g2 h) (hi : ∀ t, NonList t → (t ∈ g3 ↔ t ∈ g2)) :
    Frame g1 g3 h := by
  intro t hn
  refine ⟨fun hm => (a t hn).1 ((hi t hn).1 hm), fun hm => ?_⟩
  rcases (a t hn).2 hm with h1 | h1
  · exact Or.inl ((hi t hn).2 h1)
  · exact Or.inr h1

variable {g0 g' : Graph} {fr : Nat}

/-- What every write of a `Collection` keeps, whatever it does to the chain: no duplicates, the supply beyond every
    subject, non-list triples gone only with a discarded cell (`Frame` from `g0`).  A mutation lemma passes `Inv.kept`
    through the writes of the operation; with the new graph's chain that is frame and invariant (`Kept.frame_inv`). -/
structure Kept (h : Term) (g0 : Graph) (fr : Nat) (g' : Graph) : Prop where
  nodup : g'.Nodup
  fresh : FreshOK ⟨g', fr⟩ h
  frame : Frame g0 g' h

theorem Inv.kept (inv : Inv s h ps) : Kept h s.g s.fresh s.g := ⟨inv.nodup, inv.fresh, frame_refl _ _⟩

theorem Kept.add (k : Kept h g0 fr g') (u : Triple) (hp : u.2.1 = FIRST ∨ u.2.1 = REST) (hu : u.1 < fr) :
    Kept h g0 fr (add g' u) :=
  ⟨nodup_add k.nodup, k.fresh.of_all (all_add k.fresh.subj_lt hu), frame_trans k.frame (fun _ hn => mem_add_of_ne (hn.ne hp))⟩

theorem Kept.removeSP (k : Kept h g0 fr g') (c : Term) {p : Term} (hp : p = FIRST ∨ p = REST) :
    Kept h g0 fr (removeSP g' c p) :=
  ⟨nodup_removeSP k.nodup, k.fresh.of_all (all_filter k.fresh.subj_lt _),
    frame_trans k.frame (fun _ hn => mem_removeSP_of_ne (hn.ne hp))⟩

theorem Kept.gset (k : Kept h g0 fr g') {c p : Term} (o : Term) (hp : p = FIRST ∨ p = REST) (hc : c < fr) :
    Kept h g0 fr (gset g' c p o) := (k.removeSP c hp).add _ hp hc

theorem Kept.removeS (k : Kept h g0 fr g') {c x : Term} (hc : c ≠ h) (hx : (c, FIRST, x) ∈ g0) :
    Kept h g0 fr (removeS g' c) := by
  refine ⟨nodup_removeS k.nodup, k.fresh.of_all (all_filter k.fresh.subj_lt _),
    fun t hn => ⟨fun hm => (k.frame t hn).1 (mem_removeS.mp hm).1, fun hm => ?_⟩⟩
  by_cases e : t.1 = c
  · exact Or.inr ⟨e ▸ hc, x, e ▸ hx⟩
  · exact ((k.frame t hn).2 hm).imp_left (fun hm' => mem_removeS.mpr ⟨hm', e⟩)

theorem Kept.succ (k : Kept h g0 fr g') : Kept h g0 (fr + 1) g' :=
  ⟨k.nodup, ⟨Nat.lt_succ_of_lt k.fresh.h_lt, Nat.lt_succ_of_lt k.fresh.nil_lt,
    fun t ht => Nat.lt_succ_of_lt (k.fresh.subj_lt t ht)⟩, k.frame⟩

theorem Kept.frame_inv {ps' : List Cell} (k : Kept h g0 fr g') (c : Chain g' h (some NIL) ps') :
    Frame g0 g' h ∧ Inv ⟨g', fr⟩ h ps' := ⟨k.frame, c, k.nodup, k.fresh⟩

/-- What the lemma of a graph-valued mutation delivers to the one-step theorem: the operation succeeds with a graph
    within the frame that holds the chain of the list `L`. -/
abbrev Lands (s : St) (h : Term) (r : Except Err Graph) (L : List Term) : Prop :=
  ∃ g' ps', r = .ok g' ∧ ps'.map Prod.snd = L ∧ Frame s.g g' h ∧ Inv ⟨g', s.fresh⟩ h ps'

theorem map_snd_set (pre : List Cell) (c x v : Term) (post : List Cell) :
    ((pre ++ (c, x) :: post).map Prod.snd).set pre.length v = (pre ++ (c, v) :: post).map Prod.snd := by
  induction pre with
  | nil => rfl
  | cons q pre ih => exact congrArg (q.2 :: ·) ih

/-- `__setitem__` writes the rdf:first of whatever node `_get_container` finds: a cell, or, at `key == len(c)`, the place
    where the walk stops (C19-K1); beyond that it raises -/
theorem LChain.setItem (c : LChain g h ps) (key : Int) (v : Term) :
    setItem g h key v = match (normK ps.length key).bind (cellAt h ps) with
      | some c => .ok (gset g c FIRST v)
      | none => .error .indexError := by
  unfold RV.C19.setItem
  rw [c.normIdx]
  cases normK ps.length key with
  | none => rfl
  | some k =>
    simp only [c.container_eq, Option.bind_some]
    cases cellAt h ps k <;> rfl

theorem Inv.setItem_ok (inv : Inv s h ps) {key : Int} {k : Nat} (v : Term)
    (hk : normK ps.length key = some k) (hlt : k < ps.length) :
    Lands s h (setItem s.g h key v) ((ps.map Prod.snd).set k v) := by
  obtain ⟨pre, ⟨c, x⟩, post, rfl, rfl⟩ := split_at hlt
  exact ⟨gset s.g c FIRST v, pre ++ (c, v) :: post, by rw [inv.local.setItem, hk, Option.bind_some, cellAt_split],
    (map_snd_set ..).symm, (inv.kept.gset v (Or.inl rfl) (inv.cell_lt (mem_fst_mid ..))).frame_inv (chain_set inv.chain v)⟩

/-- `__setitem__` raises only beyond `len`: at `len` itself it writes (C19-K1, `Inv.setItem_at_len`), unlike `__delitem__` -/
theorem Inv.setItem_err (inv : Inv s h ps) {key : Int} (v : Term)
    (hk : ∀ k, normK ps.length key = some k → ps.length < k) :
    setItem s.g h key v = .error .indexError := by
  rw [inv.local.setItem]
  cases hn : normK ps.length key with
  | none => rfl
  | some k => rw [Option.bind_some, cellAt_gt h (hk k hn)]

/-- The graph `clear()` leaves: every cell of the chain without its two list triples, nothing else touched (so also on a
    graph that holds other lists). -/
def clearG (g : Graph) : List Cell → Graph
  | [] => g
  | (c, _) :: ps => clearG (removeSP (removeSP g c FIRST) c REST) ps

theorem mem_clearG {t : Triple} :
    ∀ {g : Graph}, t ∈ clearG g ps ↔ t ∈ g ∧ ¬(t.1 ∈ ps.map Prod.fst ∧ (t.2.1 = FIRST ∨ t.2.1 = REST)) := by
  induction ps with
  | nil => exact fun {g} => ⟨fun hm => ⟨hm, fun e => List.not_mem_nil e.1⟩, And.left⟩
  | cons q ps ih =>
    obtain ⟨c, x⟩ := q
    intro g
    rw [clearG, ih, mem_removeSP, mem_removeSP, List.map_cons, List.mem_cons]
    constructor
    · rintro ⟨⟨⟨hm, h1⟩, h2⟩, h3⟩
      exact ⟨hm, fun ⟨hc, hp⟩ => hc.elim (fun e => hp.elim (fun hp => h1 ⟨e, hp⟩) (fun hp => h2 ⟨e, hp⟩)) (fun hc => h3 ⟨hc, hp⟩)⟩
    · rintro ⟨hm, hn⟩
      exact ⟨⟨⟨hm, fun e => hn ⟨Or.inl e.1, Or.inl e.2⟩⟩, fun e => hn ⟨Or.inl e.1, Or.inr e.2⟩⟩, fun e => hn ⟨Or.inr e.1, e.2⟩⟩

theorem Kept.clearG {fr : Nat} {g0 : Graph} :
    ∀ (ps : List Cell) {g' : Graph}, Kept h g0 fr g' → Kept h g0 fr (clearG g' ps)
  | [], _, k => k
  | (c, _) :: ps, _, k => Kept.clearG ps ((k.removeSP c (Or.inl rfl)).removeSP c (Or.inr rfl))

theorem clearAux_none (f : Nat) (g : Graph) : clearAux f g none = .ok g := by
  cases f <;> rfl

/-- the loop of `clear()` also visits the place where the chain ends; it has no list triple to lose -/
theorem clearAux_clean {z : Term} (hz : ∀ p o, (z, p, o) ∈ g → p ≠ FIRST ∧ p ≠ REST) (f : Nat) :
    clearAux (f + 1) g (some z) = .ok g := by
  rw [clearAux, value_none_iff.mpr (fun o hm => (hz _ o hm).2 rfl), clearAux_none,
    removeSP_eq_self (fun o hm => (hz _ o hm).1 rfl), removeSP_eq_self (fun o hm => (hz _ o hm).2 rfl)]

theorem clearAux_cells :
    ∀ (todo : List Cell) (f : Nat) (g : Graph), Cells g (some NIL) todo → (todo.map Prod.fst).Nodup →
      (∀ p o, (NIL, p, o) ∈ g → p ≠ FIRST ∧ p ≠ REST) → todo.length < f →
      clearAux (f + 1) g (some (hdN todo)) = .ok (clearG g todo) := by
  intro todo
  induction todo with
  | nil => exact fun f g _ _ hnil _ => clearAux_clean hnil f
  | cons q todo ih =>
    obtain ⟨c, x⟩ := q
    intro f g hc hnd hnil hf
    obtain ⟨f, rfl⟩ := fuel_succ hf
    rw [List.map_cons, List.nodup_cons] at hnd
    show clearAux (f + 1 + 1) g (some c) = _
    rw [clearAux, cells_value_rest hc,
      ih f _ (cells_removeSP hnd.1 _ (cells_removeSP hnd.1 _ hc.tail)) hnd.2
        (fun p o hm => hnil p o (mem_removeSP.mp (mem_removeSP.mp hm).1).1) (Nat.lt_of_succ_lt_succ hf)]
    rfl

theorem LChain.clear (c : LChain g h ps) : clear g h = .ok (clearG g ps) := by
  have hz : ∀ p o, (cellAtLen h ps, p, o) ∈ g → p ≠ FIRST ∧ p ≠ REST :=
    fun p o hm => ⟨fun e => c.clean (Or.inl e) o hm, fun e => c.clean (Or.inr e) o hm⟩
  cases ps with
  | nil => exact clearAux_clean hz _
  | cons q ps =>
    rw [← c.head (List.cons_ne_nil _ _)]
    exact clearAux_cells _ _ g c.cells c.nodup hz (Nat.lt_succ_of_le c.length_le)

theorem Inv.clearG (inv : Inv s h ps) :
    Frame s.g (clearG s.g ps) h ∧ Inv ⟨clearG s.g ps, s.fresh⟩ h [] :=
  (Kept.clearG ps inv.kept).frame_inv (chain_nil inv.chain.hne
    (fun _ _ _ hm hp => (mem_clearG.mp hm).2 ⟨inv.chain.noOrphan _ _ _ (mem_clearG.mp hm).1 hp, hp⟩))

theorem Inv.delItem_head (inv : Inv s h ps) {key : Int}
    (hk : normK ps.length key = some 0) (hlt : 0 < ps.length) :
    Lands s h (delItem s.g h key) ((ps.map Prod.snd).eraseIdx 0) := by
  obtain _ | ⟨⟨c0, x0⟩, rest⟩ := ps
  · exact absurd hlt (Nat.lt_irrefl 0)
  obtain rfl : c0 = h := inv.chain.hdN_eq (List.cons_ne_nil _ _)
  have hat : getAt s.g c0 0 = .ok x0 := inv.local.getAt 0
  have hc0 : getContainer s.g (some c0) 0 = some c0 := rfl
  have hc1 : getContainer s.g (some c0) 1 = some (hdN rest) :=
    inv.local.container_split (pre := [(c0, x0)]) (List.cons_ne_nil _ _)
  have hn1 : ¬(((c0, x0) :: rest).length = 1 ∧ 0 < 0) := fun e => Nat.lt_irrefl 0 e.2
  have hcells := inv.chain.cells
  unfold RV.C19.delItem
  simp only [inv.local.normIdx, hk, hat, hc0, inv.local.len, if_neg hn1, if_true, hc1]
  cases rest with
  | nil => exact ⟨_, [], rfl, rfl, inv.clearG⟩  -- on a one-item list `del c[0]` writes what `clear()` writes
  | cons q2 rest =>
    obtain ⟨nx, xn⟩ := q2
    have hne : nx ≠ c0 := fun e => (List.nodup_cons.mp inv.chain.nodup).1 (e ▸ List.mem_cons_self)
    have hv2 : value (gset s.g c0 FIRST xn) nx REST = some (hdN rest) :=
      value_unique (fun o => (mem_gset_of_ne (fun e => hne e.1)).trans ((hcells.tail.rest o).trans some_eq_hd_iff))
    simp only [hdN, if_neg hcells.tail.ne_nil, cells_value_first hcells.tail, hv2]
    exact ⟨_, (c0, xn) :: rest, rfl, rfl,
      (((inv.kept.gset _ (Or.inl rfl) inv.fresh.h_lt).gset _ (Or.inr rfl) inv.fresh.h_lt).removeS hne
        hcells.tail.first_mem).frame_inv (chain_del_head2 inv.chain)⟩

theorem map_snd_eraseIdx_succ (pre : List Cell) (q q' : Cell) (post : List Cell) :
    ((pre ++ q :: q' :: post).map Prod.snd).eraseIdx (pre.length + 1) = (pre ++ q :: post).map Prod.snd := by
  induction pre with
  | nil => rfl
  | cons q' pre ih => exact congrArg (q'.2 :: ·) ih

/-- the control flow of `__delitem__` for a position `j + 1 ≥ 1` of a list with at least two items, given what
    the walks return -/
theorem delItem_inner_flow {key : Int} {j n : Nat} {x cur prior nx : Term}
    (hk : normIdx g h key = .ok (j + 1)) (hat : getAt g h (j + 1) = .ok x)
    (hc : getContainer g (some h) (j + 1) = some cur) (hp : getContainer g (some h) j = some prior)
    (hx : getContainer g (some h) (j + 1 + 1) = some nx) (hlen : len g h = .ok n) (hn : 1 < n) :
    delItem g h key =
      if j + 1 + 1 = n then .ok (removeS (gset g prior REST NIL) cur) else .ok (gset (removeS g cur) prior REST nx) := by
  unfold delItem
  simp only [hk, hat, hc, hlen, Nat.add_sub_cancel, hp, hx, if_neg (Nat.succ_ne_zero j),
    if_neg (fun e : n = 1 ∧ 0 < j + 1 => Nat.ne_of_gt hn e.1)]

theorem delItem_inner_result {pre rest : List Cell} {p xp c x : Term} {key : Int}
    (ch : LChain g h (pre ++ (p, xp) :: (c, x) :: rest))
    (hk : normK (pre ++ (p, xp) :: (c, x) :: rest).length key = some (pre.length + 1)) :
    delItem g h key =
      if rest = [] then .ok (removeS (gset g p REST NIL) c) else .ok (gset (removeS g c) p REST (hdN rest)) := by
  obtain ⟨_, hpc⟩ := cells_append.mp ch.cells
  have hcc := hpc.tail
  have h0 : getContainer g (some h) pre.length = some p :=
    ch.container_split (mid_ne_nil _ _ _)
  have h1 : getContainer g (some h) (pre.length + 1) = some c := by
    rw [getContainer_add, h0]; exact cells_value_rest hpc
  have h2 : getContainer g (some h) (pre.length + 1 + 1) = some (hdN rest) := by
    rw [getContainer_add, h1]; exact cells_value_rest hcc
  have hat : getAt g h (pre.length + 1) = .ok x := by simp only [RV.C19.getAt, h1, cells_value_first hcc]
  have hL : (pre ++ (p, xp) :: (c, x) :: rest).length = pre.length + 1 + 1 + rest.length := by
    simp only [List.length_append, List.length_cons, Nat.add_assoc, Nat.add_comm rest.length]
  have hkey : normIdx g h key = .ok (pre.length + 1) := by rw [ch.normIdx, hk]
  have htwo : 1 < (pre ++ (p, xp) :: (c, x) :: rest).length :=
    hL ▸ Nat.lt_add_right _ (Nat.lt_succ_of_le (Nat.le_add_left 1 _))
  rw [delItem_inner_flow hkey hat h1 h0 h2 ch.len htwo, hL]
  cases rest with
  | nil => rw [if_pos rfl, if_pos (show pre.length + 1 + 1 = pre.length + 1 + 1 + ([] : List Cell).length from rfl)]
  | cons q rest => rw [if_neg (List.cons_ne_nil _ _), if_neg (by simp only [List.length_cons]; omega)]

theorem hdN_mem_append {a : List Cell} (ha : a ≠ []) (b : List Cell) : hdN (a ++ b) ∈ a.map Prod.fst := by
  obtain _ | ⟨⟨c, x⟩, a⟩ := a
  · exact absurd rfl ha
  · exact List.mem_cons_self

theorem Inv.delItem_inner (inv : Inv s h ps) {key : Int} {j : Nat}
    (hk : normK ps.length key = some (j + 1)) (hlt : j + 1 < ps.length) :
    Lands s h (delItem s.g h key) ((ps.map Prod.snd).eraseIdx (j + 1)) := by
  obtain ⟨pre, ⟨p, xp⟩, post, rfl, rfl⟩ := split_at (Nat.lt_of_succ_lt hlt)
  obtain _ | ⟨⟨c, x⟩, rest⟩ := post
  · rw [List.length_append] at hlt; exact absurd hlt (Nat.lt_irrefl _)
  have hpc : p ≠ c := fun e => (nodup_split inv.chain.nodup).2 (e ▸ List.mem_cons_self)
  -- `h` is the first cell of the chain, so one of `pre ++ [(p, xp)]`, where `c` does not occur
  have hch : c ≠ h := by
    have hh := inv.chain.hdN_eq (mid_ne_nil _ _ _)
    rw [List.append_cons] at hh
    exact fun e => (nodup_split_next inv.chain.nodup).1
      (e ▸ hh ▸ hdN_mem_append (List.append_ne_nil_of_right_ne_nil pre (List.cons_ne_nil _ _)) _)
  have hx := (cells_append.mp inv.chain.cells).2.tail.first_mem
  have hp := inv.cell_lt (mem_fst_mid pre p xp ((c, x) :: rest))
  have ch := chain_del_inner inv.chain
  rw [delItem_inner_result inv.local hk]
  cases rest with
  | cons q rest =>
    exact ⟨_, _, if_neg (List.cons_ne_nil _ _), (map_snd_eraseIdx_succ ..).symm,
      ((inv.kept.removeS hch hx).gset _ (Or.inr rfl) hp).frame_inv ch⟩
  | nil =>
    -- for the tail the code sets `p`'s rdf:rest first and removes `c` afterwards; as a set that is the graph of `ch`
    exact ⟨_, _, if_pos rfl, (map_snd_eraseIdx_succ ..).symm,
      ((inv.kept.gset _ (Or.inr rfl) hp).removeS hch hx).frame_inv (chain_congr ch (mem_removeS_gset hpc))⟩

theorem Inv.delItem_err (inv : Inv s h ps) {key : Int}
    (hk : ∀ k, normK ps.length key = some k → ps.length ≤ k) :
    delItem s.g h key = .error .indexError := by
  unfold RV.C19.delItem
  rw [inv.local.normIdx]
  cases hn : normK ps.length key with
  | none => rfl
  | some k => simp only [inv.local.getAt k, List.getElem?_eq_none (hk k hn)]

/-- the loop invariant of `__iadd__`: an open chain whose last cell is `e` -/
structure OInv (g0 g : Graph) (fr : Nat) (h e : Term) (ps : List Cell) : Prop where
  chain : Chain g h none ps
  kept : Kept h g0 fr g
  last : (ps = [] ∧ e = h) ∨ (∃ pre x, ps = pre ++ [(e, x)])

theorem OInv.cell_lt {e : Term} (o : OInv g0 g fr h e ps) {c : Term} (hc : c ∈ ps.map Prod.fst) : c < fr :=
  cells_lt o.chain.cells o.kept.fresh.subj_lt hc

theorem iaddLoop_inv :
    ∀ (xs : List Term) (g : Graph) (fr : Nat) (e : Term) (ps : List Cell), OInv g0 g fr h e ps →
      ∃ ps', ps'.map Prod.snd = ps.map Prod.snd ++ xs ∧
        OInv g0 (iaddLoop g fr e xs).1 (iaddLoop g fr e xs).2.1 h (iaddLoop g fr e xs).2.2 ps' ∧
        fr ≤ (iaddLoop g fr e xs).2.1 := by
  intro xs
  induction xs with
  | nil => exact fun g fr e ps o => ⟨ps, (List.append_nil _).symm, o, Nat.le_refl _⟩
  | cons x xs ih =>
    intro g fr e ps o
    rcases o.last with ⟨rfl, rfl⟩ | ⟨pre, y, rfl⟩
    · -- the first item goes into the head cell
      obtain ⟨ps', h1, h2⟩ := ih (add g (e, FIRST, x)) fr e [(e, x)]
        { chain := chain_extend (chain_nil_tl o.chain) rfl o.chain.hne (fun _ _ hp => o.chain.empty_no_triple hp)
            List.not_mem_nil x
          kept := o.kept.add _ (Or.inl rfl) o.kept.fresh.h_lt
          last := Or.inr ⟨[], x, rfl⟩ }
      rw [iaddLoop, o.chain.hasSP_empty e (Or.inl rfl)]
      exact ⟨ps', h1, h2⟩
    · -- a fresh cell is linked behind the last one
      have he_lt : e < fr := o.cell_lt (mem_fst_mid ..)
      have hfr_cell : fr ∉ (pre ++ [(e, y)]).map Prod.fst := fun hm => Nat.lt_irrefl _ (o.cell_lt hm)
      have hfr_no : ∀ p o', (fr, p, o') ∉ add g (e, REST, fr) := fun p o' hm =>
        Nat.lt_irrefl _ (o.kept.fresh.subj_lt _ ((mem_add_of_ne (fun e' => Nat.ne_of_gt he_lt e'.1)).mp hm))
      obtain ⟨ps', h1, h2⟩ := ih (add (add g (e, REST, fr)) (fr, FIRST, x)) (fr + 1) fr (pre ++ [(e, y)] ++ [(fr, x)])
        { chain := chain_extend (chain_close o.chain fr) (o.chain.head_mid ..)
            (Nat.ne_of_gt o.kept.fresh.nil_lt) (fun p o' _ => hfr_no p o') hfr_cell x
          kept := (o.kept.succ.add (e, REST, fr) (Or.inr rfl) (Nat.lt_succ_of_lt he_lt)).add
            (fr, FIRST, x) (Or.inl rfl) (Nat.lt_succ_self fr)
          last := Or.inr ⟨pre ++ [(e, y)], x, rfl⟩ }
      rw [iaddLoop, cells_hasSP_first o.chain.cells]
      exact ⟨ps', by simpa using h1, h2.1, Nat.le_of_succ_le h2.2⟩

theorem Inv.iadd (inv : Inv s h ps) (xs : List Term) :
    ∃ s' ps', RV.C19.iadd s h xs = .ok s' ∧ ps'.map Prod.snd = ps.map Prod.snd ++ xs ∧
      Frame s.g s'.g h ∧ Inv s' h ps' ∧ s.fresh ≤ s'.fresh := by
  have hopen : ∃ e, endOf s.g h = .ok e ∧ e ≠ NIL ∧ OInv s.g (removeSP s.g e REST) s.fresh h e ps := by
    rcases nil_or_snoc ps with rfl | ⟨pre, e, x, rfl⟩
    · exact ⟨h, inv.local.endOf, inv.chain.hne,
        chain_nil inv.chain.hne (fun _ _ _ hm hp => inv.chain.empty_no_triple hp (mem_removeSP.mp hm).1),
        inv.kept.removeSP _ (Or.inr rfl), Or.inl ⟨rfl, rfl⟩⟩
    · exact ⟨e, lastCell_snoc h pre e x ▸ inv.local.endOf,
        (cells_append.mp inv.chain.cells).2.ne_nil, chain_open inv.chain, inv.kept.removeSP _ (Or.inr rfl), Or.inr ⟨pre, x, rfl⟩⟩
  obtain ⟨e, hend, hne, o⟩ := hopen
  obtain ⟨ps', h1, o', hle⟩ := iaddLoop_inv xs _ _ _ _ o
  unfold RV.C19.iadd
  simp only [hend, if_neg hne]
  generalize iaddLoop (removeSP s.g e REST) s.fresh e xs = r at o' hle
  obtain ⟨g1, fr1, e1⟩ := r
  refine ⟨_, ps', rfl, h1, ?_⟩
  rcases o'.last with ⟨rfl, rfl⟩ | ⟨pre, y, rfl⟩
  · simp only [o'.chain.hasSP_empty e1 (Or.inl rfl)]
    exact (o'.kept.frame_inv (chain_nil_tl o'.chain)).imp_right (⟨·, hle⟩)
  · simp only [cells_hasSP_first o'.chain.cells, if_true]
    have k := o'.kept.add (e1, REST, NIL) (Or.inr rfl) (o'.cell_lt (mem_fst_mid ..))
    exact (k.frame_inv (chain_close o'.chain NIL)).imp_right (⟨·, hle⟩)

theorem hasSP_add_self (g : Graph) (s p o : Term) : hasSP (add g (s, p, o)) s p = true :=
  hasSP_iff.mpr ⟨o, mem_add.mpr (Or.inl rfl)⟩

/-- `append` differs from `+= [item]` only in not removing the rdf:rest of the end cell before it writes the first
    item into a cell without rdf:first; that is no difference when such a cell has no rdf:rest -/
theorem append_eq_iadd (item : Term)
    (hr : ∀ e, endOf s.g h = .ok e → hasSP s.g e FIRST = false → ∀ o, (e, REST, o) ∉ s.g) :
    append s h item = iadd s h [item] := by
  unfold RV.C19.append RV.C19.iadd
  cases he : endOf s.g h with
  | error e => rfl
  | ok e =>
    cases hf : hasSP s.g e FIRST with
    | false => simp only [removeSP_eq_self (hr e he hf), iaddLoop, hf, hasSP_add_self, if_true, Bool.false_eq_true, if_false]
    | true =>
      have : hasSP (removeSP s.g e REST) e FIRST = true := by
        obtain ⟨x, hx⟩ := hasSP_iff.mp hf
        exact hasSP_iff.mpr ⟨x, (mem_removeSP_of_ne (fun e' => FIRST_ne_REST e'.2)).mpr hx⟩
      simp only [iaddLoop, hf, this, hasSP_add_self, if_true, gset]

theorem LChain.append_eq_iadd {fr : Nat} (c : LChain g h ps) (item : Term) :
    append ⟨g, fr⟩ h item = iadd ⟨g, fr⟩ h [item] := by
  refine RV.C19.append_eq_iadd item (fun e' he hf o => ?_)
  cases c.endOf.symm.trans he
  rcases nil_or_snoc ps with rfl | ⟨pre, e, x, rfl⟩
  · exact c.clean (Or.inr rfl) o
  · rw [lastCell_snoc] at hf
    exact nomatch (cells_hasSP_first c.cells).symm.trans hf

theorem LChain.step_append {s : St} (c : LChain s.g h ps) (x : Term) : step h s (.append x) = step h s (.extend [x]) :=
  congrArg (stOf s) (c.append_eq_iadd x)

theorem Inv.append {s : St} {h : Term} {ps : List Cell} (inv : Inv s h ps) (item : Term) :
    ∃ s' ps', append s h item = .ok s' ∧ ps'.map Prod.snd = ps.map Prod.snd ++ [item] ∧
      Frame s.g s'.g h ∧ Inv s' h ps' :=
  let ⟨s', ps', h1, h2, h3, h4, _⟩ := inv.iadd [item]
  ⟨s', ps', (inv.local.append_eq_iadd item).trans h1, h2, h3, h4⟩

theorem length_gset_le (g : Graph) (s p o : Term) : (gset g s p o).length ≤ g.length + 1 := by
  unfold gset add sinsert removeSP
  split
  · exact Nat.le_succ_of_le (List.length_filter_le _ _)
  · simp only [List.length_append, List.length_cons, List.length_nil]
    have := List.length_filter_le (fun t : Triple => !(t.1 == s && t.2.1 == p)) g
    omega

theorem Inv.setItem_at_len (inv : Inv s h ps) (v : Term) :
    setItem s.g h (ps.length : Int) v = .ok (gset s.g (cellAtLen h ps) FIRST v) ∧
      iter (gset s.g (cellAtLen h ps) FIRST v) h = .ok (ps.map Prod.snd ++ [v]) ∧
      ¬ ∃ ps', Chain (gset s.g (cellAtLen h ps) FIRST v) h (some NIL) ps' := by
  have hset : setItem s.g h (ps.length : Int) v = .ok (gset s.g (cellAtLen h ps) FIRST v) := by
    rw [inv.local.setItem, normK_len, Option.bind_some, cellAt_len]
  have h1 : value (gset s.g (cellAtLen h ps) FIRST v) (cellAtLen h ps) FIRST = some v :=
    value_unique (fun _ => mem_gset_self)
  have h2 : value (gset s.g (cellAtLen h ps) FIRST v) (cellAtLen h ps) REST = none :=
    value_none_iff.mpr (fun o hm => inv.local.clean (Or.inr rfl) o ((mem_gset_of_ne (fun e => FIRST_ne_REST e.2.symm)).mp hm))
  refine ⟨hset, ?_, ?_⟩
  · cases ps with
    | nil =>
      rw [cellAtLen_nil] at h1 h2 ⊢
      rw [RV.C19.iter, items, itemsAux_none h2, h1]
      rfl
    | cons q ps =>
      simp only [cellAtLen_cons] at h1 h2 ⊢
      have hcells : Cells (gset s.g NIL FIRST v) (some NIL) (q :: ps) :=
        cells_gset (cells_not_nil inv.chain.cells) _ _ inv.chain.cells
      have := items_cells h1 h2 hcells inv.chain.nodup
      rw [inv.chain.hdN_eq (List.cons_ne_nil _ _)] at this
      simp only [RV.C19.iter, this, Option.toList_some]
  · rintro ⟨ps', ch'⟩
    have hm : (cellAtLen h ps, FIRST, v) ∈ gset s.g (cellAtLen h ps) FIRST v := mem_gset_self.mpr rfl
    cases ps with
    | cons q ps => exact ch'.nil_free (Or.inl rfl) hm
    | nil =>
      obtain _ | ⟨⟨c0, x0⟩, ps'⟩ := ps'
      · exact List.not_mem_nil (ch'.noOrphan _ _ _ hm (Or.inl rfl))
      · obtain rfl : c0 = h := ch'.hdN_eq (List.cons_ne_nil _ _)
        exact value_none_iff.mp h2 _ ((ch'.cells.rest (hdN ps')).2 (hd_some_nil ps').symm)

theorem Inv.items_view (inv : Inv s h ps) {k : Nat} {c : Term}
    (hc : getContainer s.g (some h) k = some c) : items s.g c = ((ps.drop k).map Prod.snd, none) := by
  have hk : k ≤ ps.length :=
    Nat.le_of_not_lt (fun hk => nomatch ((inv.local.container_eq k).trans (cellAt_gt h hk)).symm.trans hc)
  cases ps with
  | nil =>
    obtain rfl : k = 0 := Nat.le_zero.mp hk
    cases hc
    exact inv.local.items
  | cons q ps =>
    have hne : (q :: ps).take k ++ (q :: ps).drop k ≠ [] := (List.take_append_drop k _).symm ▸ List.cons_ne_nil q ps
    have ch : LChain s.g h ((q :: ps).take k ++ (q :: ps).drop k) := (List.take_append_drop k _).symm ▸ inv.local
    have hc' := ch.container_split hne
    rw [List.length_take_of_le hk, hc] at hc'
    cases hc'
    rw [items_cells (inv.local.value_atLen (Or.inl rfl)) (inv.local.value_atLen (Or.inr rfl)) (cells_append.mp ch.cells).2
      (inv.chain.nodup.sublist ((List.drop_sublist k _).map Prod.fst)), Option.toList_none, List.append_nil]

end RV.C19

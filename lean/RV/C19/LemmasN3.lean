import RV.C19.Notions
/-
  C19: the text `Collection.n3()` produces, and that the reader of N3 list syntax (`readN3` of Model.lean,
  parametric in the term-level lexer) recovers the list from it; then two codecs that meet what is asked of one: a
  unary one (`lexOK_unary`) and rdflib's term syntax `tokR`/`lexR` (`lexOK_real`).
-/
namespace RV.C19

variable {α : Type}

/-- `" t1 t2 … tn"`: every member text preceded by one space -/
def n3Body (tok : α → List Char) : List α → List Char
  | [] => []
  | x :: xs => ' ' :: (tok x ++ n3Body tok xs)

theorem joinSp_cons (tok : α → List Char) (x : α) (xs : List α) :
    ' ' :: joinSp ((x :: xs).map tok) = n3Body tok (x :: xs) := by
  induction xs generalizing x with
  | nil => simp [joinSp, n3Body]
  | cons y ys ih =>
    have := ih y
    simp only [List.map_cons, joinSp, n3Body] at this ⊢
    rw [this]

theorem n3Text_eq (tok : α → List Char) (xs : List α) :
    n3Text tok xs = '(' :: (if xs = [] then [' '] else []) ++ (n3Body tok xs ++ [' ', ')']) := by
  cases xs with
  | nil => simp [n3Text, joinSp, n3Body]
  | cons x xs =>
    have := joinSp_cons tok x xs
    simp only [n3Text, List.cons_append, reduceCtorEq, if_false, List.nil_append]
    rw [← this]
    simp

/-- `readN3`'s fuel is the number of characters; the reader needs two rounds per member (its blank, then the term) and
    two for the end, `j` is the slack -/
theorem n3Body_length (tok : α → List Char) (xs : List α) (hne : ∀ x ∈ xs, tok x ≠ []) :
    ∃ j, (n3Body tok xs ++ [' ', ')']).length = j + 2 * xs.length + 2 := by
  induction xs with
  | nil => exact ⟨0, rfl⟩
  | cons x xs ih =>
    obtain ⟨j, hj⟩ := ih (fun y hy => hne y (List.mem_cons_of_mem _ hy))
    have : 0 < (tok x).length := List.length_pos_iff.mpr (hne x List.mem_cons_self)
    refine ⟨j + ((tok x).length - 1), ?_⟩
    simp only [n3Body, List.cons_append, List.append_assoc, List.length_cons, List.length_append] at hj ⊢
    omega

theorem readItems_item {tok : α → List Char} {lex : List Char → Option (α × List Char)} {x : α}
    (hne : tok x ≠ []) (hhd : (tok x).head? ≠ some ' ') (hlex : ∀ rest, lex (tok x ++ ' ' :: rest) = some (x, ' ' :: rest))
    (f : Nat) (rest : List Char) :
    readItems lex (f + 1 + 1) (' ' :: (tok x ++ ' ' :: rest)) = (readItems lex f (' ' :: rest)).map (x :: ·) := by
  have hl := hlex rest
  obtain ⟨a, as, ht⟩ := List.exists_cons_of_ne_nil hne
  rw [ht] at hhd hl ⊢
  have h1 : (' ' :: (a :: as ++ ' ' :: rest)) ≠ [')'] := fun e => absurd (List.cons.inj e).1 (by decide)
  have h2 : (a :: as ++ ' ' :: rest) ≠ [')'] :=
    fun e => List.append_ne_nil_of_right_ne_nil as (List.cons_ne_nil _ _) (List.cons.inj e).2
  rw [readItems, if_neg h1, List.head?_cons, if_pos rfl, List.tail_cons, readItems, if_neg h2,
    if_neg (show (a :: as ++ ' ' :: rest).head? ≠ some ' ' from hhd), hl]
  simp only []
  cases readItems lex f (' ' :: rest) <;> rfl

theorem readItems_body {P : α → Prop} {tok : α → List Char} {lex : List Char → Option (α × List Char)}
    (ok : LexOKOn P tok lex) :
    ∀ (xs : List α) (j : Nat), (∀ x ∈ xs, P x) →
      readItems lex (j + 2 * xs.length + 2) (n3Body tok xs ++ [' ', ')']) = some xs := by
  intro xs
  induction xs with
  | nil => exact fun _ _ => rfl
  | cons x xs ih =>
    intro j hP
    obtain ⟨hne, hhd, hlex⟩ := ok x (hP x List.mem_cons_self)
    obtain ⟨rest, hrest⟩ : ∃ rest, n3Body tok xs ++ [' ', ')'] = ' ' :: rest := by
      cases xs with
      | nil => exact ⟨[')'], rfl⟩
      | cons y ys => exact ⟨_, rfl⟩
    show readItems lex (j + 2 * xs.length + 2 + 1 + 1) (' ' :: (tok x ++ n3Body tok xs) ++ [' ', ')']) = _
    rw [List.cons_append, List.append_assoc, hrest, readItems_item hne hhd hlex, ← hrest,
      ih j (fun y hy => hP y (List.mem_cons_of_mem _ hy))]
    rfl

theorem readN3_n3Text_on {P : α → Prop} {tok : α → List Char} {lex : List Char → Option (α × List Char)}
    (ok : LexOKOn P tok lex) (xs : List α) (hP : ∀ x ∈ xs, P x) : readN3 lex (n3Text tok xs) = some xs := by
  rw [n3Text_eq]
  obtain ⟨j, hj⟩ := n3Body_length tok xs (fun x hx => (ok x (hP x hx)).1)
  cases xs with
  | nil => rfl
  | cons x xs =>
    rw [if_neg (List.cons_ne_nil _ _)]
    show readItems lex (n3Body tok (x :: xs) ++ [' ', ')']).length _ = _
    rw [hj]
    exact readItems_body ok _ j hP

theorem readN3_n3Text {tok : α → List Char} {lex : List Char → Option (α × List Char)}
    (ok : LexOK tok lex) (xs : List α) : readN3 lex (n3Text tok xs) = some xs :=
  readN3_n3Text_on ok xs (fun _ _ => trivial)

/-! a concrete self-delimiting codec (unary), to show `LexOK` is satisfiable -/

def tokU (x : Term) : List Char := List.replicate (x + 1) 'a'

def lexU : List Char → Option (Term × List Char)
  | 'a' :: cs =>
    match cs with
    | 'a' :: _ =>
      match lexU cs with
      | some (x, rest) => some (x + 1, rest)
      | none => none
    | _ => some (0, cs)
  | _ => none

theorem lexOK_unary : LexOK tokU lexU := by
  intro x _
  refine ⟨by simp [tokU], by simp [tokU, List.replicate_succ], ?_⟩
  intro rest
  induction x with
  | zero => simp [tokU, List.replicate_succ, lexU]
  | succ n ih =>
    simp only [tokU, List.replicate_succ, List.cons_append] at ih ⊢
    rw [lexU]
    simp only [ih]

theorem untilC_append (d : Char) (a r : List Char) (ha : d ∉ a) : untilC d (a ++ d :: r) = some (a, r) := by
  induction a with
  | nil => simp [untilC]
  | cons c a ih =>
    simp only [List.mem_cons, not_or] at ha
    have hc : c ≠ d := fun e => ha.1 e.symm
    simp only [List.cons_append, untilC, if_neg hc, ih ha.2]

theorem word_append (a r : List Char) (ha : ' ' ∉ a) : word (a ++ ' ' :: r) = (a, ' ' :: r) := by
  induction a with
  | nil => simp [word]
  | cons c a ih =>
    simp only [List.mem_cons, not_or] at ha
    have hc : c ≠ ' ' := fun e => ha.1 e.symm
    simp only [List.cons_append, word, if_neg hc, ih ha.2]

theorem unesc_esc (x r : List Char) : unesc (esc x ++ '"' :: r) = some (x, r) := by
  induction x with
  | nil =>
    show unesc ('"' :: r) = _
    rw [unesc.eq_def]
    simp
  | cons c x ih =>
    by_cases h1 : c = '\\'
    · subst h1
      simp [esc, escC, unesc, ih]
    · by_cases h2 : c = '"'
      · subst h2
        simp [esc, escC, unesc, ih]
      · by_cases h3 : c = '\r'
        · subst h3
          simp [esc, escC, unesc, ih]
        · have e : esc (c :: x) ++ '"' :: r = c :: (esc x ++ '"' :: r) := by simp [esc, escC, h1, h2, h3]
          rw [e, unesc.eq_def]
          simp [h1, h2, ih]

theorem lexOK_real : LexOKOn WFR tokR lexR := by
  intro t ht
  cases t with
  | iri u =>
    refine ⟨by simp [tokR], by simp [tokR], fun rest => ?_⟩
    have := untilC_append '>' u (' ' :: rest) ht
    simp [tokR, lexR, this]
  | bnode id =>
    refine ⟨by simp [tokR], by simp [tokR], fun rest => ?_⟩
    have := word_append id rest ht
    simp [tokR, lexR, this]
  | lit x d l =>
    cases d with
    | some d =>
      obtain ⟨_, hd, hl⟩ := ht
      subst hl
      refine ⟨by simp [tokR], by simp [tokR], fun rest => ?_⟩
      have h1 := unesc_esc x ('^' :: '^' :: '<' :: (d ++ '>' :: ' ' :: rest))
      have h2 := untilC_append '>' d (' ' :: rest) hd
      simp [tokR, lexR, h1, h2]
    | none =>
      cases l with
      | some l =>
        refine ⟨by simp [tokR], by simp [tokR], fun rest => ?_⟩
        have h1 := unesc_esc x ('@' :: (l ++ ' ' :: rest))
        have h2 := word_append l rest ht.2
        simp [tokR, lexR, h1, h2]
      | none =>
        refine ⟨by simp [tokR], by simp [tokR], fun rest => ?_⟩
        have h1 := unesc_esc x (' ' :: rest)
        simp [tokR, lexR, h1]

end RV.C19

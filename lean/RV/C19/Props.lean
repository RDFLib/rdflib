import RV.C19.LemmasSep
import RV.C19.LemmasN3
/-
  C19 — "An RDF Collection behaves like the Python list it represents."

  * `WF s h` — the graph of state `s` holds a well-formed chain for the collection named `h`:
    a simple rdf:first/rdf:rest chain from `h` to rdf:nil, every cell with exactly one rdf:first
    and exactly one rdf:rest, and no other node carrying rdf:first/rdf:rest triples (no orphaned
    cells); the empty collection is `h` without list triples (`Chain`, Notions.lean).  `WF` also
    carries the two representation assumptions: the triple list has no duplicates (it is a set)
    and the blank-node supply is beyond every subject of the graph (`BNode()` is fresh).
  * `asList g h` — the abstraction function (strict walk, Model.lean).
  * `specStep` — the specification: what a Python list does.
  Then: what `c[len(c)] = x` does (K1), `n3()` (also with rdflib's term syntax), graphs holding other list structure
  (separation, shared tails, a second collection), views on a tail cell.
-/
namespace RV.C19

/-- Python's index rule: `-n ≤ i < n` denotes a position, anything else is an IndexError -/
def pyIndex (n : Nat) (i : Int) : Option Nat :=
  if 0 ≤ i then (if i < n then some i.toNat else none)
  else if 0 ≤ i + n then some (i + n).toNat else none

def specStep (xs : List Term) : Op → List Term × Out
  | .append x => (xs ++ [x], .unit)
  | .extend ys => (xs ++ ys, .unit)
  | .setItem i x =>
    match pyIndex xs.length i with
    | some k => (xs.set k x, .unit)
    | none => (xs, .err .indexError)
  | .delItem i =>
    match pyIndex xs.length i with
    | some k => (xs.eraseIdx k, .unit)
    | none => (xs, .err .indexError)
  | .clear => ([], .unit)
  | .len => (xs, .nat xs.length)
  | .iter => (xs, .list xs)
  | .getItem i =>
    match pyIndex xs.length i with
    | some k =>
      match xs[k]? with
      | some v => (xs, .term v)
      | none => (xs, .err .indexError)
    | none => (xs, .err .indexError)
  | .index x => (xs, if x ∈ xs then .nat (xs.idxOf x) else .err .valueError)
  | .contains x => (xs, .bool (decide (x ∈ xs)))

def specRun : List Term → List Op → List Term × List Out
  | xs, [] => (xs, [])
  | xs, op :: ops => ((specRun (specStep xs op).1 ops).1, (specStep xs op).2 :: (specRun (specStep xs op).1 ops).2)

/-- Results agree when they are equal; the one tolerated difference is the *class* of the exception
    for `index()` of a missing item, which the property does not fix (it only fixes IndexError):
    on an empty collection rdflib raises `Exception("Malformed RDF Collection")`, a list ValueError. -/
def Out.agrees (model spec : Out) : Prop :=
  model = spec ∨ (spec = .err .valueError ∧ model = .err .other)

def agreeAll : List Out → List Out → Prop
  | [], [] => True
  | a :: as, b :: bs => a.agrees b ∧ agreeAll as bs
  | _, _ => False

def WF (s : St) (h : Term) : Prop := ∃ ps, Inv s h ps

/-- `c[len(c)] = x`: the one operation rdflib does not treat like a list (known finding C19-K1) -/
def isSetAtLen (n : Nat) : Op → Bool
  | .setItem i _ => i == (n : Int)
  | _ => false

/-- no operation of the history is `c[len(c)] = x` at the moment it is executed -/
def okHist : List Term → List Op → Bool
  | _, [] => true
  | xs, op :: ops => !isSetAtLen xs.length op && okHist (specStep xs op).1 ops

def isRead : Op → Bool
  | .len | .iter | .getItem _ | .index _ | .contains _ => true
  | _ => false

/-- One step: from a well-formed chain denoting `xs`, every operation answers what the list answers
    (same value, IndexError exactly where the list raises it), leaves a well-formed chain, and that
    chain denotes the list after the operation. -/
def Statement_coll_refines : Prop :=
  ∀ (s : St) (h : Term) (xs : List Term) (op : Op), WF s h → asList s.g h = .ok xs →
    ((step h s op).2).agrees (specStep xs op).2 ∧ WF (step h s op).1 h ∧
      asList (step h s op).1.g h = .ok (specStep xs op).1

/-- Every history: all answers agree with the list's, and the chain stays well-formed. -/
def Statement_history_refines : Prop :=
  ∀ (ops : List Op) (s : St) (h : Term) (xs : List Term), WF s h → asList s.g h = .ok xs →
    agreeAll (run h s ops).2 (specRun xs ops).2 ∧ WF (run h s ops).1 h ∧
      asList (run h s ops).1.g h = .ok (specRun xs ops).1

/-- Reads on ANY graph — cyclic, broken, several rdf:rest — return or raise: the fuel `|g| + 2`
    of the model's walks is never exhausted, and they leave the state alone. -/
def Statement_reads_total_on_broken : Prop :=
  ∀ (s : St) (h : Term) (op : Op), isRead op = true →
    (step h s op).2 ≠ .err .fuel ∧ (step h s op).1 = s

/-- On a chain whose rdf:rest walk never ends (a cycle), the full traversals raise ValueError. -/
def Statement_cyclic_reads_raise : Prop :=
  ∀ (s : St) (h : Term), Endless s.g h →
    (step h s .len).2 = .err .valueError ∧ (step h s .iter).2 = .err .valueError ∧
      ∀ x, x ∉ (items s.g h).1 → (step h s (.contains x)).2 = .err .valueError

/-- Statements that are not rdf:first/rdf:rest triples are never added by a Collection operation,
    and one is removed only together with a discarded cell (its subject is not the head and carried
    an rdf:first): whatever else the graph says, about the head or about anything else, is untouched. -/
def Statement_coll_frame : Prop :=
  ∀ (s : St) (h : Term) (xs : List Term) (op : Op), WF s h → asList s.g h = .ok xs →
    Frame s.g (step h s op).1.g h

/-- Python's rule is the code's `normK` followed by the bound check the code makes only when it looks for the cell -/
theorem pyIndex_eq (n : Nat) (i : Int) : pyIndex n i = (normK n i).filter (· < n) := by
  unfold pyIndex normK
  by_cases h0 : 0 ≤ i
  · simp only [if_pos h0, if_neg (Int.not_lt.mpr h0), Option.filter_some, decide_eq_true_eq, Int.toNat_lt h0]
  · rw [if_neg h0, if_pos (Int.not_le.mp h0)]
    by_cases h1 : 0 ≤ i + n
    · have : (i + n).toNat < n := (Int.toNat_lt h1).mpr (by omega)
      simp only [if_pos h1, if_neg (Int.not_lt.mpr h1), Option.filter_some, decide_eq_true_eq, if_pos this]
    · simp only [if_neg h1, if_pos (Int.not_le.mp h1), Option.filter_none]

theorem pyIndex_some {n : Nat} {i : Int} {k : Nat} (h : pyIndex n i = some k) :
    normK n i = some k ∧ k < n := by
  rw [pyIndex_eq, Option.filter_eq_some_iff] at h
  exact ⟨h.1, of_decide_eq_true h.2⟩

theorem pyIndex_none {n : Nat} {i : Int} (h : pyIndex n i = none) {k : Nat} (hk : normK n i = some k) : n ≤ k := by
  rw [pyIndex_eq, Option.filter_eq_none_iff] at h
  exact Nat.le_of_not_lt (fun hlt => h k hk (decide_eq_true hlt))

theorem normK_eq_len {n : Nat} {i : Int} (h : normK n i = some n) : i = n := by
  unfold normK at h
  by_cases h0 : i < 0
  · rw [if_pos h0] at h
    by_cases h1 : i + n < 0
    · rw [if_pos h1] at h; cases h
    · rw [if_neg h1] at h
      have := Int.toNat_of_nonneg (Int.not_lt.mp h1)
      rw [Option.some.inj h] at this
      omega
  · rw [if_neg h0] at h
    exact (Int.toNat_of_nonneg (Int.not_lt.mp h0)).symm.trans (congrArg _ (Option.some.inj h))

theorem pyIndex_none_lt {n : Nat} {i : Int} (h : pyIndex n i = none) (hne : i ≠ n) {k : Nat}
    (hk : normK n i = some k) : n < k :=
  Nat.lt_of_le_of_ne (pyIndex_none h hk) (fun e => hne (normK_eq_len (by subst e; exact hk)))

theorem agrees_unit {o : Out} (h : o.agrees .unit) : o = .unit :=
  h.elim id (fun h => nomatch h.1)

theorem asList_of_inv {s : St} {h : Term} {ps : List Cell} {xs : List Term} (inv : Inv s h ps)
    (ha : asList s.g h = .ok xs) : ps.map Prod.snd = xs :=
  Except.ok.inj (inv.chain.asList.symm.trans ha)

/-- the one-step theorem in full: `coll_refines_partial`, the frame (`coll_frame`), and the supply only grows (needed
    on graphs with foreign subjects) -/
theorem step_refines_frame :
    ∀ (s : St) (h : Term) (xs : List Term) (op : Op), WF s h → asList s.g h = .ok xs →
      isSetAtLen xs.length op = false →
      ((step h s op).2).agrees (specStep xs op).2 ∧ WF (step h s op).1 h ∧
        asList (step h s op).1.g h = .ok (specStep xs op).1 ∧ Frame s.g (step h s op).1.g h ∧
        s.fresh ≤ (step h s op).1.fresh := by
  intro s h xs op ⟨ps, inv⟩ ha hok
  obtain rfl := asList_of_inv inv ha
  rw [List.length_map] at hok
  have keep : WF s h ∧ asList s.g h = .ok (ps.map Prod.snd) ∧ Frame s.g s.g h ∧ s.fresh ≤ s.fresh :=
    ⟨⟨ps, inv⟩, ha, frame_refl _ _, Nat.le_refl _⟩
  -- the goal of a successful mutation once its result `.ok s'` is rewritten in
  have fin : ∀ {s' : St} {ps' : List Cell} {L : List Term}, ps'.map Prod.snd = L → Frame s.g s'.g h → Inv s' h ps' →
      s.fresh ≤ s'.fresh →
      Out.agrees .unit .unit ∧ WF s' h ∧ asList s'.g h = .ok L ∧ Frame s.g s'.g h ∧ s.fresh ≤ s'.fresh :=
    fun h2 hf inv' hle => ⟨Or.inl rfl, ⟨_, inv'⟩, h2 ▸ inv'.chain.asList, hf, hle⟩
  have hext : ∀ ys, ((step h s (.extend ys)).2).agrees .unit ∧ WF (step h s (.extend ys)).1 h ∧
      asList (step h s (.extend ys)).1.g h = .ok (ps.map Prod.snd ++ ys) ∧ Frame s.g (step h s (.extend ys)).1.g h ∧
      s.fresh ≤ (step h s (.extend ys)).1.fresh := by
    intro ys
    obtain ⟨s', ps', h1, h2, hf, inv', hle⟩ := inv.iadd ys
    simp only [step, h1, stOf]
    exact fin h2 hf inv' hle
  cases op with
  | append x =>
    rw [inv.local.step_append]
    exact hext [x]
  | extend ys => exact hext ys
  | setItem i x =>
    simp only [step, specStep, List.length_map]
    cases hp : pyIndex ps.length i with
    | some k =>
      obtain ⟨hk, hlt⟩ := pyIndex_some hp
      obtain ⟨g', ps', h1, h2, hf, inv'⟩ := inv.setItem_ok x hk hlt
      simp only [h1, gOf]
      exact fin h2 hf inv' (Nat.le_refl _)
    | none =>
      simp only [inv.setItem_err (key := i) x (fun k => pyIndex_none_lt hp (beq_eq_false_iff_ne.mp hok)), gOf]
      exact ⟨Or.inl rfl, keep⟩
  | delItem i =>
    simp only [step, specStep, List.length_map]
    cases hp : pyIndex ps.length i with
    | some k =>
      obtain ⟨hk, hlt⟩ := pyIndex_some hp
      obtain ⟨g', ps', h1, h2, hf, inv'⟩ : Lands s h (delItem s.g h i) ((ps.map Prod.snd).eraseIdx k) := by
        cases k with
        | zero => exact inv.delItem_head hk hlt
        | succ j => exact inv.delItem_inner hk hlt
      simp only [h1, gOf]
      exact fin h2 hf inv' (Nat.le_refl _)
    | none =>
      simp only [inv.delItem_err (key := i) (fun k hk => pyIndex_none hp hk), gOf]
      exact ⟨Or.inl rfl, keep⟩
  | clear =>
    simp only [step, inv.local.clear, gOf, specStep]
    exact fin rfl inv.clearG.1 inv.clearG.2 (Nat.le_refl _)
  | len =>
    simp only [step, specStep, inv.local.len, outOf, List.length_map]
    exact ⟨Or.inl rfl, keep⟩
  | iter =>
    simp only [step, specStep, inv.local.iter, outOf]
    exact ⟨Or.inl rfl, keep⟩
  | getItem i =>
    simp only [step, specStep, inv.local.getItem, List.length_map, pyIndex_eq]
    cases hn : normK ps.length i with
    | none => exact ⟨Or.inl rfl, keep⟩
    | some k =>
      by_cases hk : k < ps.length
      · simp only [Option.filter_some, decide_eq_true hk, if_true, List.getElem?_map]
        cases ps[k]? <;> exact ⟨Or.inl rfl, keep⟩
      · simp only [Option.filter_some, decide_eq_false hk, List.getElem?_eq_none (Nat.le_of_not_lt hk)]
        exact ⟨Or.inl rfl, keep⟩
  | index x =>
    simp only [step, specStep, inv.local.index (restOnce_of_nodup inv.nodup ps)]
    refine ⟨?_, keep⟩
    by_cases hx : x ∈ ps.map Prod.snd
    · simp only [hx, if_true, outOf]
      exact Or.inl rfl
    · simp only [hx, if_false, outOf]
      by_cases hps : ps = []
      · exact Or.inr ⟨rfl, by simp [hps]⟩
      · exact Or.inl (by simp [hps])
  | contains x =>
    simp only [step, specStep, inv.local.contains, outOf]
    exact ⟨Or.inl rfl, keep⟩

theorem coll_refines_partial :
    ∀ (s : St) (h : Term) (xs : List Term) (op : Op), WF s h → asList s.g h = .ok xs →
      isSetAtLen xs.length op = false →
      ((step h s op).2).agrees (specStep xs op).2 ∧ WF (step h s op).1 h ∧
        asList (step h s op).1.g h = .ok (specStep xs op).1 := by
  intro s h xs op wf ha hok
  obtain ⟨h1, h2, h3, _⟩ := step_refines_frame s h xs op wf ha hok
  exact ⟨h1, h2, h3⟩

theorem coll_frame : Statement_coll_frame := by
  intro s h xs op wf ha
  cases op with
  | setItem i x =>
    -- also for the unrepaired `c[len(c)] = x`: whatever cell is found, only its rdf:first is replaced
    simp only [step]
    unfold setItem
    cases hn : normIdx s.g h i with
    | error e => exact frame_refl _ _
    | ok k =>
      cases hc : getContainer s.g (some h) k with
      | none => simp only [hc, gOf]; exact frame_refl _ _
      | some c => simp only [hc, gOf]; exact frame_of_iff (fun t hn => mem_gset_of_ne (hn.ne (Or.inl rfl)))
  | _ => exact (step_refines_frame s h xs _ wf ha rfl).2.2.2.1

theorem outOf_ne_fuel {α : Type} {f : α → Out} (hf : ∀ a, f a ≠ .err .fuel) {r : Except Err α}
    (hr : r ≠ .error .fuel) : outOf f r ≠ .err .fuel := by
  cases r with
  | ok a => exact hf a
  | error e => exact fun h => hr (congrArg _ (Out.err.inj h))

theorem reads_total_on_broken : Statement_reads_total_on_broken := by
  intro s h op hr
  cases op with
  | len => exact ⟨outOf_ne_fuel nofun (len_no_fuel _ _), rfl⟩
  | iter => exact ⟨outOf_ne_fuel nofun (iter_no_fuel _ _), rfl⟩
  | getItem i => exact ⟨outOf_ne_fuel nofun (getItem_no_fuel _ _ i), rfl⟩
  | index x => exact ⟨outOf_ne_fuel nofun (index_no_fuel _ _ x), rfl⟩
  | contains x => exact ⟨outOf_ne_fuel nofun (contains_no_fuel _ _ x), rfl⟩
  | _ => cases hr

theorem cyclic_reads_raise : Statement_cyclic_reads_raise := by
  intro s h he
  have hi := items_endless he
  refine ⟨?_, ?_, ?_⟩
  · simp [step, len, hi, outOf]
  · simp [step, iter, hi, outOf]
  · intro x hx
    simp [step, contains, hi, hx, outOf]

/-- `Collection(graph, head, seq)` on a well-formed chain extends it by `seq` (`if seq: self += seq`) -/
theorem ctor_refines :
    ∀ (s : St) (h : Term) (ys xs : List Term), WF s h → asList s.g h = .ok ys →
      ∃ s', ctor s h xs = .ok s' ∧ WF s' h ∧ asList s'.g h = .ok (ys ++ xs) := by
  intro s h ys xs ⟨ps, inv⟩ ha
  obtain rfl := asList_of_inv inv ha
  cases xs with
  | nil => exact ⟨s, rfl, ⟨ps, inv⟩, by simpa using ha⟩
  | cons x xs =>
    obtain ⟨s', ps', h1, h2, _, inv', _⟩ := inv.iadd (x :: xs)
    exact ⟨s', h1, ⟨ps', inv'⟩, by rw [inv'.chain.asList, h2]⟩

/-- `c += c`: `__iadd__` reads its operand into a list before it opens the chain (fix C19-F7), so the
    operand is the list the chain denotes at that moment, and the collection doubles like a list. -/
theorem extend_self_refines :
    ∀ (s : St) (h : Term) (xs : List Term), WF s h → asList s.g h = .ok xs →
      (step h s (.extend xs)).2 = .unit ∧ WF (step h s (.extend xs)).1 h ∧
        asList (step h s (.extend xs)).1.g h = .ok (xs ++ xs) := by
  intro s h xs wf ha
  obtain ⟨h1, h2, h3⟩ := coll_refines_partial s h xs (.extend xs) wf ha rfl
  exact ⟨agrees_unit h1, h2, h3⟩

/-- lets the concrete test vectors below (equations between `Except` values) be checked by evaluation in the kernel -/
local instance {ε α : Type} [DecidableEq ε] [DecidableEq α] : DecidableEq (Except ε α)
  | .ok a, .ok b => if h : a = b then isTrue (h ▸ rfl) else isFalse (fun e => h (Except.ok.inj e))
  | .error a, .error b => if h : a = b then isTrue (h ▸ rfl) else isFalse (fun e => h (Except.error.inj e))
  | .ok _, .error _ => isFalse nofun
  | .error _, .ok _ => isFalse nofun

/-! ### The pinned `__setitem__` falsifies the full statements (known finding C19-K1) -/

def exG1 : Graph := [(100, FIRST, 10), (100, REST, NIL)]

/-- built like `+=` builds it: the first item goes into the head of the empty collection, then the chain is closed -/
theorem exG1_inv : Inv ⟨exG1, 1000⟩ 100 [(100, 10)] :=
  ⟨chain_close (pre := []) (chain_extend (g := []) (n := 100)
      (chain_nil (by decide) (fun _ _ _ hm => nomatch hm)) rfl (by decide)
      (fun _ _ _ => List.not_mem_nil) List.not_mem_nil 10) NIL,
    by decide, { h_lt := (by decide), nil_lt := (by decide), subj_lt := (by decide) }⟩

/-- `c[1] = 11` on the one-item list `[10]`: the list raises IndexError, the model (= the code) accepts -/
theorem coll_refines_witness : ¬ Statement_coll_refines :=
  fun H => absurd (H ⟨exG1, 1000⟩ 100 [10] (.setItem 1 11) ⟨_, exG1_inv⟩ (by decide +kernel)).1
    (by unfold Out.agrees; decide +kernel)

theorem exG1_history_disagrees :
    ¬ agreeAll (run 100 ⟨exG1, 1000⟩ [.setItem 1 11]).2 (specRun [10] [.setItem 1 11]).2 := by
  have h2 : (run 100 ⟨exG1, 1000⟩ [.setItem 1 11]).2 = [.unit] := by decide +kernel
  have h3 : (specRun [10] [.setItem 1 11]).2 = [.err .indexError] := by decide +kernel
  rw [h2, h3]
  exact fun h => absurd h.1 (by unfold Out.agrees; decide +kernel)

theorem history_refines_witness : ¬ Statement_history_refines :=
  fun H => exG1_history_disagrees (H [.setItem 1 11] ⟨exG1, 1000⟩ 100 [10] ⟨_, exG1_inv⟩ (by decide +kernel)).1

/-- `c[i] = x` answers what the list answers for every integer index except exactly `i = len(c)`. -/
def Statement_setitem_deviates_iff : Prop :=
  ∀ (s : St) (h : Term) (xs : List Term) (i : Int) (x : Term), WF s h → asList s.g h = .ok xs →
    (((step h s (.setItem i x)).2).agrees (specStep xs (.setItem i x)).2 ↔ i ≠ (xs.length : Int))

/-- What `c[len(c)] = x` does instead of raising: it is accepted, writes the single triple
    `(rdf:nil | the empty head) rdf:first x`, from then on the collection *reads* as `xs ++ [x]`
    (`Graph.items` walks through rdf:nil), and the graph no longer holds a well-formed chain. -/
def Statement_setitem_at_len_effect : Prop :=
  ∀ (s : St) (h : Term) (xs : List Term) (x : Term), WF s h → asList s.g h = .ok xs →
    (step h s (.setItem (xs.length : Int) x)).2 = .unit ∧
      (step h s (.setItem (xs.length : Int) x)).1.g = gset s.g (if xs = [] then h else NIL) FIRST x ∧
      iter (step h s (.setItem (xs.length : Int) x)).1.g h = .ok (xs ++ [x]) ∧
      ¬ WF (step h s (.setItem (xs.length : Int) x)).1 h

theorem setitem_at_len_effect : Statement_setitem_at_len_effect := by
  intro s h xs x ⟨ps, inv⟩ ha
  obtain rfl := asList_of_inv inv ha
  obtain ⟨h1, h2, h3⟩ := inv.setItem_at_len x
  have hc : cellAtLen h ps = if ps.map Prod.snd = [] then h else NIL := by
    cases ps <;> rfl
  simp only [List.length_map, step, h1, gOf]
  refine ⟨trivial, by rw [hc], h2, ?_⟩
  rintro ⟨ps', inv'⟩
  exact h3 ⟨ps', inv'.chain⟩

theorem setitem_deviates_iff : Statement_setitem_deviates_iff := by
  intro s h xs i x wf ha
  constructor
  · intro hag e
    subst e
    have h1 := (setitem_at_len_effect s h xs x wf ha).1
    rw [h1] at hag
    have hp : pyIndex xs.length (xs.length : Int) = none := by
      unfold pyIndex
      rw [if_pos (by omega), if_neg (by omega)]
    simp only [specStep, hp] at hag
    rcases hag with hag | ⟨hag, _⟩ <;> cases hag
  · intro hne
    exact (coll_refines_partial s h xs (.setItem i x) wf ha (by simpa [isSetAtLen] using hne)).1

/-- non-vacuity / concrete instance: `c[1] = 11` on `[10]` reads as `[10, 11]` afterwards -/
example : iter (step 100 ⟨exG1, 1000⟩ (.setItem 1 11)).1.g 100 = .ok [10, 11] := by decide +kernel

/-! ### `Collection.n3()` -/

/-- On a well-formed chain denoting `xs`, `c.n3()` is the text `"( " + " ".join(member texts) + " )"` of
    exactly the members of `xs` in order, and a reader of N3 list syntax (`readN3`: skip blanks, stop at
    `)`, otherwise lex one term) gets `xs` back from it — for every term-level codec `tok`/`lex` that is
    self-delimiting in front of a blank (`LexOK`; the members' own `n3()` is not part of this property).
    On a cyclic chain `n3()` raises ValueError like the iteration it is built on. -/
def Statement_n3_means_list : Prop :=
  ∀ (tok : Term → List Char) (lex : List Char → Option (Term × List Char)), LexOK tok lex →
    (∀ (s : St) (h : Term) (xs : List Term), WF s h → asList s.g h = .ok xs →
      n3 tok s.g h = .ok (n3Text tok xs) ∧ readN3 lex (n3Text tok xs) = some xs) ∧
    (∀ (g : Graph) (h : Term), Endless g h → n3 tok g h = .error .valueError)

theorem n3_means_list : Statement_n3_means_list := by
  intro tok lex ok
  refine ⟨?_, ?_⟩
  · intro s h xs ⟨ps, inv⟩ ha
    obtain rfl := asList_of_inv inv ha
    exact ⟨by simp only [n3, inv.local.iter], readN3_n3Text ok _⟩
  · intro g h he
    simp [n3, iter, items_endless he]

/-- non-vacuity: the unary codec is self-delimiting; `( aaa a aaa )` reads back as `[2, 0, 2]`, `(  )` as `[]` -/
example : LexOK tokU lexU := lexOK_unary
example : n3Text tokU [2, 0, 2] = "( aaa a aaa )".toList := by decide +kernel
example : readN3 lexU "( aaa a aaa )".toList = some [2, 0, 2] := by decide +kernel
example : n3Text tokU [] = "(  )".toList ∧ readN3 lexU "(  )".toList = some [] := by decide +kernel

/-- `tbl` gives every member its rdflib term (IRI, blank node, plain / typed / language-tagged literal).
    With the members' real `n3()` (`tokR`: `<…>`, `_:…`, `"…"` with `\\`, `\"`, `\r` escaped, `^^<…>`, `@…`), the
    text of `c.n3()` is `n3Text tokR` of the members' terms, and the reader with the real term lexer `lexR`
    recovers exactly those terms in order — for all members satisfying `WFR` (no `>` in an IRI, no blank in a
    blank-node id or language tag, no line feed in a lexical form). -/
def Statement_n3_real_terms : Prop :=
  ∀ (tbl : Term → RTerm) (s : St) (h : Term) (xs : List Term), (∀ x ∈ xs, WFR (tbl x)) →
    WF s h → asList s.g h = .ok xs →
    n3 (fun k => tokR (tbl k)) s.g h = .ok (n3Text tokR (xs.map tbl)) ∧
      readN3 lexR (n3Text tokR (xs.map tbl)) = some (xs.map tbl)

theorem n3_real_terms : Statement_n3_real_terms := by
  intro tbl s h xs hwf ⟨ps, inv⟩ ha
  obtain rfl := asList_of_inv inv ha
  refine ⟨?_, readN3_n3Text_on lexOK_real _ ?_⟩
  · simp only [n3, inv.local.iter, n3Text, List.map_map]
    rfl
  · intro t ht
    obtain ⟨x, hx, rfl⟩ := List.mem_map.mp ht
    exact hwf x hx

/-- `n3()` never nests: a member that is itself the head of a collection (a blank node `_:d`) is written by
    its own label and the reader returns that head; with an IRI, an escaped plain literal `a"\`, a typed and a
    language-tagged literal -/
def exTerms : List RTerm :=
  [.iri ['e'], .bnode ['d'], .lit ['a', '"', '\\'] none none, .lit ['0'] (some ['i']) none, .lit [] none (some ['e', 'n'])]

example : String.ofList (n3Text tokR exTerms) = "( <e> _:d \"a\\\"\\\\\" \"0\"^^<i> \"\"@en )" := by decide +kernel
example : readN3 lexR (n3Text tokR exTerms) = some exTerms := by decide +kernel

/-! ### Non-vacuity: a three-item list with a duplicate and a falsy member (12 = `Literal(0)`) -/

def exEmpty : St := ⟨[(7, 5, 100)], 1000⟩

theorem exEmpty_wf : WF exEmpty 100 := by
  have chain : Chain exEmpty.g 100 (some NIL) [] := by
    refine chain_nil (by decide) (fun s p o hm hp => ?_)
    simp [exEmpty] at hm
    rcases hp with e | e <;> simp [hm.2.1, FIRST, REST] at e
  refine ⟨[], chain, (by decide), { h_lt := (by decide), nil_lt := (by decide), subj_lt := ?_ }⟩
  intro t ht
  simp [exEmpty] at ht
  simp [ht, exEmpty]

def exOps : List Op :=
  [.extend [12, 10, 12], .getItem 0, .getItem (-1), .index 12, .delItem 0, .setItem (-1) 13, .append 12, .delItem 1,
   .iter, .getItem 2, .delItem (-1), .delItem 0, .len, .index 10, .clear, .index 10]

example : asList exEmpty.g 100 = .ok [] := by decide +kernel
example : okHist [] exOps = true := by decide +kernel
example : asList (run 100 exEmpty [.extend [12, 10, 12]]).1.g 100 = .ok [12, 10, 12] := by decide +kernel
example : (run 100 exEmpty exOps).2 =
    [.unit, .term 12, .term 12, .nat 0, .unit, .unit, .unit, .unit, .list [10, 12], .err .indexError, .unit, .unit,
     .nat 0, .err .other, .unit, .err .other] := by decide +kernel
example : (specRun [] exOps).2 =
    [.unit, .term 12, .term 12, .nat 0, .unit, .unit, .unit, .unit, .list [10, 12], .err .indexError, .unit, .unit,
     .nat 0, .err .valueError, .unit, .err .valueError] := by decide +kernel
/-- the unrelated triple is still there, and nothing else -/
example : (run 100 exEmpty exOps).1.g = [(7, 5, 100)] := by decide +kernel

/-! ### Separation: graphs that hold other list structure -/

/-- `F` marks *foreign* subjects: anything the collection `h` does not own — the cells of other collections,
    the private prefix of a collection sharing its tail with `h`, malformed list triples, … — provided the
    head, rdf:nil and the blank nodes still to be minted are not foreign and the part of the graph outside
    `F` (`own F g`) holds a well-formed chain for `h` (so that `WF` only has to hold for that part: the graph
    as a whole may contain any number of other lists).
    Then every operation on the whole graph answers exactly what it answers on the own part, changes the own
    part exactly as it does there, mints the same blank nodes, and leaves every foreign triple untouched. -/
def Statement_coll_separation : Prop :=
  ∀ (F : Term → Bool) (s : St) (h : Term) (op : Op),
    F h = false → F NIL = false → (∀ n, s.fresh ≤ n → F n = false) → WF ⟨own F s.g, s.fresh⟩ h →
    (step h s op).2 = (step h ⟨own F s.g, s.fresh⟩ op).2 ∧
      own F (step h s op).1.g = (step h ⟨own F s.g, s.fresh⟩ op).1.g ∧
      (step h s op).1.fresh = (step h ⟨own F s.g, s.fresh⟩ op).1.fresh ∧
      foreign F (step h s op).1.g = foreign F s.g

theorem coll_separation : Statement_coll_separation := by
  intro F s h op hh hn hfr ⟨ps, inv⟩
  exact step_sep op hh hn hfr inv

/-- Every history on a graph that also holds foreign list structure: all answers are the list's, the own part
    stays a well-formed chain denoting the list, and no foreign triple is ever added, removed or reordered. -/
def Statement_history_separation : Prop :=
  ∀ (ops : List Op) (F : Term → Bool) (s : St) (h : Term) (xs : List Term),
    F h = false → F NIL = false → (∀ n, s.fresh ≤ n → F n = false) →
    WF ⟨own F s.g, s.fresh⟩ h → asList (own F s.g) h = .ok xs →
    agreeAll (run h s ops).2 (specRun xs ops).2 ∧
      WF ⟨own F (run h s ops).1.g, (run h s ops).1.fresh⟩ h ∧
      asList (own F (run h s ops).1.g) h = .ok (specRun xs ops).1 ∧
      foreign F (run h s ops).1.g = foreign F s.g

/-- proved for the histories without `c[len(c)] = x` (C19-K1) -/
theorem history_separation_partial :
    ∀ (ops : List Op) (F : Term → Bool) (s : St) (h : Term) (xs : List Term),
      F h = false → F NIL = false → (∀ n, s.fresh ≤ n → F n = false) →
      WF ⟨own F s.g, s.fresh⟩ h → asList (own F s.g) h = .ok xs → okHist xs ops = true →
      agreeAll (run h s ops).2 (specRun xs ops).2 ∧
        WF ⟨own F (run h s ops).1.g, (run h s ops).1.fresh⟩ h ∧
        asList (own F (run h s ops).1.g) h = .ok (specRun xs ops).1 ∧
        foreign F (run h s ops).1.g = foreign F s.g := by
  intro ops
  induction ops with
  | nil => intro F s h xs _ _ _ wf ha _; exact ⟨trivial, wf, ha, rfl⟩
  | cons op ops ih =>
    intro F s h xs hh hn hfr wf ha hok
    simp only [okHist, Bool.and_eq_true, Bool.not_eq_eq_eq_not, Bool.not_true] at hok
    have sim : StepSim F s.g (step h s op) (step h ⟨own F s.g, s.fresh⟩ op) := coll_separation F s h op hh hn hfr wf
    -- refine the step on the own part, then read its state as the own part of the whole graph's step
    obtain ⟨h1, h2, h3, _, hle⟩ := step_refines_frame ⟨own F s.g, s.fresh⟩ h xs op wf ha hok.1
    rw [sim.own_state] at h2 h3 hle
    have hfr' : ∀ n, (step h s op).1.fresh ≤ n → F n = false := fun n hn => hfr n (Nat.le_trans hle hn)
    obtain ⟨h4, h5, h6, h7⟩ := ih F (step h s op).1 h _ hh hn hfr' h2 h3 hok.2
    refine ⟨⟨?_, h4⟩, h5, h6, h7.trans sim.foreign_eq⟩
    show ((step h s op).2).agrees _
    rw [sim.out_eq]
    exact h1

/-- a graph that holds nothing but the list: the case "no subject is foreign" of `history_separation_partial` -/
theorem history_refines_partial :
    ∀ (ops : List Op) (s : St) (h : Term) (xs : List Term), WF s h → asList s.g h = .ok xs →
      okHist xs ops = true →
      agreeAll (run h s ops).2 (specRun xs ops).2 ∧ WF (run h s ops).1 h ∧
        asList (run h s ops).1.g h = .ok (specRun xs ops).1 := by
  intro ops s h xs wf ha hok
  have := history_separation_partial ops (fun _ => false) s h xs rfl rfl (fun _ _ => rfl)
  simp only [own_none] at this
  exact (this wf ha hok).imp_right (fun h => ⟨h.1, h.2.1⟩)

theorem history_separation_witness : ¬ Statement_history_separation :=
  fun H => exG1_history_disagrees (H [.setItem 1 11] (fun _ => false) ⟨exG1, 1000⟩ 100 [10] rfl rfl (fun _ _ => rfl)
    ⟨_, exG1_inv⟩ (by decide +kernel)).1

/-! #### two collections sharing a tail: `c1 = [10, 11, 12]` on cells 100 → 1000 → 1001, and
    `c2 = [20, 11, 12]` whose private prefix is the one cell 200, linked to `c1`'s second cell -/

def exShared : St :=
  ⟨(run 100 exEmpty [.extend [10, 11, 12]]).1.g ++ [(200, FIRST, 20), (200, REST, 1000)], 1002⟩

def exF : Term → Bool := fun t => t == 200

theorem exF_fresh {k : Nat} (hk : 200 < k) : ∀ n, k ≤ n → exF n = false :=
  fun _ hn => beq_eq_false_iff_ne.mpr (fun e => absurd (e ▸ hn) (Nat.not_le.mpr hk))

theorem exShared_own_wf : WF ⟨own exF exShared.g, exShared.fresh⟩ 100 ∧
    asList (own exF exShared.g) 100 = .ok [10, 11, 12] := by
  have h := history_refines_partial [.extend [10, 11, 12]] exEmpty 100 [] exEmpty_wf rfl rfl
  have e : (⟨own exF exShared.g, exShared.fresh⟩ : St) = (run 100 exEmpty [.extend [10, 11, 12]]).1 := rfl
  rw [e]
  exact ⟨h.2.1, h.2.2⟩

/-- both read as lists; the frame theorem applies to every operation through `c1` (non-vacuity of
    `coll_separation` with a foreign part that is a list prefix hanging on `c1`'s chain) -/
example : iter exShared.g 100 = .ok [10, 11, 12] ∧ iter exShared.g 200 = .ok [20, 11, 12] := by decide +kernel
example : ∀ op, foreign exF (step 100 exShared op).1.g = [(200, FIRST, 20), (200, REST, 1000)] := fun op =>
  StepSim.foreign_eq (coll_separation exF exShared 100 op rfl rfl (exF_fresh (by decide)) exShared_own_wf.1)

/-- Two collections sharing a tail are NOT two independent Python lists: although the private prefix of
    `c2` is untouched (frame), what `c2` denotes follows the shared cells — and deleting the shared cell
    through `c1` cuts `c2` short without any error. -/
def Statement_shared_tail_independent : Prop :=
  ∀ (F : Term → Bool) (s : St) (h h2 : Term) (op : Op),
    F h = false → F NIL = false → (∀ n, s.fresh ≤ n → F n = false) → WF ⟨own F s.g, s.fresh⟩ h →
    F h2 = true → iter (step h s op).1.g h2 = iter s.g h2

theorem shared_tail_witness : ¬ Statement_shared_tail_independent := by
  intro H
  have := H exF exShared 100 200 (.delItem 1) rfl rfl
    (exF_fresh (by decide))
    exShared_own_wf.1 rfl
  have h1 : iter (step 100 exShared (.delItem 1)).1.g 200 = .ok [20] := by decide +kernel
  have h2 : iter exShared.g 200 = .ok [20, 11, 12] := by decide +kernel
  rw [h1, h2] at this
  simp at this

/-- what the shared list reads after writes through `c1`: writes at or beyond the shared cell are seen
    through `c2`, `c1[0] = x` is not, deleting the shared cell (or `c1[0]`, whose successor the head absorbs) truncates `c2` -/
example : iter (step 100 exShared (.append 13)).1.g 200 = .ok [20, 11, 12, 13] := by decide +kernel
example : iter (step 100 exShared (.setItem 2 14)).1.g 200 = .ok [20, 11, 14] := by decide +kernel
example : iter (step 100 exShared (.setItem 0 14)).1.g 200 = .ok [20, 11, 12] := by decide +kernel
example : iter (step 100 exShared (.delItem 1)).1.g 200 = .ok [20] := by decide +kernel
example : iter (step 100 exShared (.delItem 0)).1.g 200 = .ok [20] := by decide +kernel

/-! #### a disjoint second collection; views on a tail cell -/

/-- `h2` names another collection of the same graph whose cells are all foreign to `h` (its rdf:rest walk
    stays inside `F` until rdf:nil): whatever is done through `h`, `Graph.items(h2)` — hence `list`, `len`,
    membership, `n3()` of the other collection — yields exactly what it yielded before. -/
def Statement_disjoint_second_keeps_list : Prop :=
  ∀ (F : Term → Bool) (s : St) (h h2 : Term) (xs : List Term) (op : Op),
    F h = false → F NIL = false → (∀ n, s.fresh ≤ n → F n = false) →
    WF ⟨own F s.g, s.fresh⟩ h → asList (own F s.g) h = .ok xs →
    F h2 = true → (∀ c o, F c = true → (c, REST, o) ∈ s.g → F o = true ∨ o = NIL) →
    items (step h s op).1.g h2 = items s.g h2

/-- foreign triples are unchanged (`coll_separation`) and rdf:nil carries no list triple before or after -/
theorem agree_after_step {F : Term → Bool} {s : St} {h : Term} {xs : List Term} {op : Op}
    (hh : F h = false) (hn : F NIL = false) (hfr : ∀ n, s.fresh ≤ n → F n = false)
    (wf : WF ⟨own F s.g, s.fresh⟩ h) (ha : asList (own F s.g) h = .ok xs) (hok : isSetAtLen xs.length op = false)
    (hcl : ∀ c o, F c = true → (c, REST, o) ∈ s.g → F o = true ∨ o = NIL) :
    Agree (fun l => F l = true ∨ l = NIL) s.g (step h s op).1.g := by
  have sim : StepSim F s.g (step h s op) (step h ⟨own F s.g, s.fresh⟩ op) := coll_separation F s h op hh hn hfr wf
  obtain ⟨_, ⟨ps', inv'⟩, _⟩ := coll_refines_partial ⟨own F s.g, s.fresh⟩ h xs op wf ha hok
  obtain ⟨ps, inv⟩ := wf
  rw [sim.own_state] at inv'
  exact agree_second sim.foreign_eq (fun p hp => ⟨value_nil_of_own_inv hn inv hp, value_nil_of_own_inv hn inv' hp⟩) hcl

theorem disjoint_second_keeps_list_partial :
    ∀ (F : Term → Bool) (s : St) (h h2 : Term) (xs : List Term) (op : Op),
      F h = false → F NIL = false → (∀ n, s.fresh ≤ n → F n = false) →
      WF ⟨own F s.g, s.fresh⟩ h → asList (own F s.g) h = .ok xs → isSetAtLen xs.length op = false →
      F h2 = true → (∀ c o, F c = true → (c, REST, o) ∈ s.g → F o = true ∨ o = NIL) →
      items (step h s op).1.g h2 = items s.g h2 :=
  fun _ _ _ _ _ _ hh hn hfr wf ha hok h2F hcl => items_congr (agree_after_step hh hn hfr wf ha hok hcl) (Or.inl h2F)

/-- Like `disjoint_second_keeps_list_partial`, for everything read through the other collection's own head:
    `len(c2)`, `list(c2)`, `x in c2`, `c2[i]` (any integer index) and `c2.n3()` answer after an operation through
    `h` exactly what they answered before. -/
theorem disjoint_second_reads_partial :
    ∀ (F : Term → Bool) (s : St) (h h2 : Term) (xs : List Term) (op : Op),
      F h = false → F NIL = false → (∀ n, s.fresh ≤ n → F n = false) →
      WF ⟨own F s.g, s.fresh⟩ h → asList (own F s.g) h = .ok xs → isSetAtLen xs.length op = false →
      F h2 = true → (∀ c o, F c = true → (c, REST, o) ∈ s.g → F o = true ∨ o = NIL) →
      len (step h s op).1.g h2 = len s.g h2 ∧ iter (step h s op).1.g h2 = iter s.g h2 ∧
        (∀ x, contains (step h s op).1.g h2 x = contains s.g h2 x) ∧
        (∀ i, getItem (step h s op).1.g h2 i = getItem s.g h2 i) ∧
        ∀ tok, n3 tok (step h s op).1.g h2 = n3 tok s.g h2 := by
  intro F s h h2 xs op hh hn hfr wf ha hok h2F hcl
  have w := agree_after_step hh hn hfr wf ha hok hcl
  exact ⟨len_congr w (Or.inl h2F), iter_congr w (Or.inl h2F), contains_congr w (Or.inl h2F),
    getItem_congr w (Or.inl h2F), fun tok => by simp only [n3, iter_congr w (Or.inl h2F)]⟩

/-- `c1 = [10]`, and a disjoint `c2 = [20]` on the cell 200 -/
def exDisj : St := ⟨exG1 ++ [(200, FIRST, 20), (200, REST, NIL)], 1000⟩

/-- with `c[len(c)] = x` (C19-K1) the statement is false: `c1[1] = 11` makes the unrelated `c2` read `[20, 11]` -/
theorem disjoint_second_keeps_list_witness : ¬ Statement_disjoint_second_keeps_list := by
  intro H
  have := H exF exDisj 100 200 [10] (.setItem 1 11) rfl rfl
    (exF_fresh (by decide))
    ⟨_, exG1_inv⟩ rfl rfl
    (by
      intro c o hc hm
      have hc' : c = 200 := by simpa [exF] using hc
      subst hc'
      right
      simp [exDisj, exG1, FIRST, REST, NIL] at hm
      simpa [NIL] using hm)
  have h1 : items (step 100 exDisj (.setItem 1 11)).1.g 200 = ([20, 11], none) := by decide +kernel
  have h2 : items exDisj.g 200 = ([20], none) := by decide +kernel
  rw [h1, h2] at this
  simp at this

/-- `c'` = a Collection opened on the k-th cell of `c`'s chain: the head itself (`g.collection(c.uri)`, `k = 0`),
    a tail cell, or rdf:nil (`k = len`).  It reads `xs.drop k`; and because `__iadd__` reads its operand into a
    list before it opens the chain (fix C19-F7: snapshot semantics), `c += c'` makes the list `xs ++ xs.drop k`
    (`xs ++ xs` for a second handle on the same head) and leaves a well-formed chain — it does not chase the
    cells it is adding. -/
def Statement_extend_view_refines : Prop :=
  ∀ (s : St) (h : Term) (xs : List Term) (k : Nat) (c : Term), WF s h → asList s.g h = .ok xs →
    getContainer s.g (some h) k = some c →
    iter s.g c = .ok (xs.drop k) ∧ (step h s (.extend (xs.drop k))).2 = .unit ∧
      WF (step h s (.extend (xs.drop k))).1 h ∧
      asList (step h s (.extend (xs.drop k))).1.g h = .ok (xs ++ xs.drop k)

theorem extend_view_refines : Statement_extend_view_refines := by
  intro s h xs k c wf ha hc
  obtain ⟨h1, h2, h3⟩ := coll_refines_partial s h xs (.extend (xs.drop k)) wf ha rfl
  obtain ⟨ps, inv⟩ := wf
  obtain rfl := asList_of_inv inv ha
  refine ⟨?_, ?_, h2, h3⟩
  · simp only [iter, inv.items_view hc, List.map_drop]
  · exact agrees_unit h1

/-- on `[10, 11, 12]` (cells 100 → 1000 → 1001): a view on the second cell reads `[11, 12]` -/
example : iter (run 100 exEmpty [.extend [10, 11, 12]]).1.g 1000 = .ok [11, 12] := by decide +kernel

end RV.C19

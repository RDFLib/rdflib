import RV.C19.Notions
/-
  C19: graph primitives; `LChain`, the part of `Chain` (Notions.lean) that the walks look at; what every read
  and every walk computes on a chain, as a function of its cells; on any graph: no read exhausts its fuel, and
  on a chain that never ends (`Endless`) `Graph.items` raises.
-/
namespace RV.C19

variable {g : Graph} {h : Term} {ps : List Cell}

theorem eq_singleton {α : Type} {l : List α} {a : α} (hnd : l.Nodup) (h : ∀ b, b ∈ l ↔ b = a) : l = [a] := by
  match l, hnd, h with
  | [], _, h => exact absurd ((h a).2 rfl) List.not_mem_nil
  | [b], _, h => rw [(h b).1 List.mem_cons_self]
  | b :: c :: l, hnd, h =>
    have hb := (h b).1 List.mem_cons_self
    have hc := (h c).1 (List.mem_cons_of_mem _ List.mem_cons_self)
    exact absurd (hc ▸ hb ▸ List.mem_cons_self) (List.nodup_cons.mp hnd).1

theorem fuel_succ {n f : Nat} (hf : n < f) : ∃ f', f = f' + 1 :=
  Nat.exists_eq_add_one_of_ne_zero (Nat.ne_of_gt (Nat.zero_lt_of_lt hf))

theorem lt_add_two {n m : Nat} (h : n ≤ m) : n < m + 2 := Nat.lt_succ_of_le (Nat.le_succ_of_le h)

theorem mid_ne_nil {α : Type} (pre : List α) (q : α) (post : List α) : pre ++ q :: post ≠ [] :=
  List.append_ne_nil_of_right_ne_nil _ (List.cons_ne_nil _ _)

theorem nodup_singleton {α : Type} (a : α) : [a].Nodup := List.nodup_cons.mpr ⟨List.not_mem_nil, List.nodup_nil⟩

theorem split_at {α : Type} {ps : List α} {k : Nat} (hk : k < ps.length) :
    ∃ pre q post, ps = pre ++ q :: post ∧ pre.length = k :=
  ⟨ps.take k, ps[k], ps.drop (k + 1), by rw [← List.drop_eq_getElem_cons hk, List.take_append_drop],
    List.length_take_of_le (Nat.le_of_lt hk)⟩

theorem getElem?_split {α : Type} (pre : List α) (q : α) (post : List α) : (pre ++ q :: post)[pre.length]? = some q := by
  rw [List.getElem?_append_right (Nat.le_refl _), Nat.sub_self, List.getElem?_cons_zero]

theorem nil_or_snoc (ps : List Cell) : ps = [] ∨ ∃ pre e x, ps = pre ++ [(e, x)] := by
  rcases List.eq_nil_or_concat ps with h | ⟨l, ⟨e, x⟩, h⟩
  · exact Or.inl h
  · exact Or.inr ⟨l, e, x, by rw [h, List.concat_eq_append]⟩

/-! ### graph primitives: meaning in terms of membership

  `objects` is the primary notion (`mem_objects`); `Graph.value` is its first element. -/

theorem mem_objects {s p o : Term} : o ∈ objects g s p ↔ (s, p, o) ∈ g := by
  induction g with
  | nil => simp [objects]
  | cons t g ih =>
    obtain ⟨s', p', o'⟩ := t
    by_cases hc : s' = s ∧ p' = p
    · obtain ⟨rfl, rfl⟩ := hc
      simp only [objects, and_self, if_true, List.mem_cons, ih, Prod.mk.injEq, true_and]
    · simp only [objects, if_neg hc, List.mem_cons, ih, Prod.mk.injEq]
      exact ⟨Or.inr, fun h => h.resolve_left (fun e => hc ⟨e.1.symm, e.2.1.symm⟩)⟩

theorem value_eq_head (g : Graph) (s p : Term) : value g s p = (objects g s p).head? := by
  induction g with
  | nil => rfl
  | cons t g ih =>
    obtain ⟨s', p', o'⟩ := t
    by_cases hc : s' = s ∧ p' = p
    · simp only [value, objects, if_pos hc, List.head?_cons]
    · simp only [value, objects, if_neg hc, ih]

theorem value_some_mem {s p o : Term} (h : value g s p = some o) : (s, p, o) ∈ g :=
  mem_objects.mp (List.mem_of_head? (value_eq_head g s p ▸ h))

theorem value_none_iff {s p : Term} : value g s p = none ↔ ∀ o, (s, p, o) ∉ g := by
  simp only [value_eq_head, List.head?_eq_none_iff, List.eq_nil_iff_forall_not_mem, mem_objects]

/-- in a graph where `(s, p, ·)` has the unique object `x`, `Graph.value` answers `x`
    (whatever matching triple it picks) -/
theorem value_unique {s p x : Term} (h : ∀ o, (s, p, o) ∈ g ↔ o = x) :
    value g s p = some x := by
  cases hv : value g s p with
  | none => exact absurd ((h x).2 rfl) (value_none_iff.mp hv x)
  | some o => rw [(h o).1 (value_some_mem hv)]

theorem hasSP_iff {s p : Term} : hasSP g s p = true ↔ ∃ o, (s, p, o) ∈ g := by
  rw [hasSP, Option.isSome_iff_exists]
  exact ⟨fun ⟨o, ho⟩ => ⟨o, value_some_mem ho⟩, fun ⟨o, ho⟩ =>
    Option.isSome_iff_exists.mp (Option.isSome_iff_ne_none.mpr (fun hn => value_none_iff.mp hn o ho))⟩

theorem hasSP_false_iff {s p : Term} : hasSP g s p = false ↔ ∀ o, (s, p, o) ∉ g := by
  rw [hasSP, Option.isSome_eq_false_iff, Option.isNone_iff_eq_none, value_none_iff]

@[simp] theorem mem_removeSP {g : Graph} {s p : Term} {t : Triple} :
    t ∈ removeSP g s p ↔ t ∈ g ∧ ¬(t.1 = s ∧ t.2.1 = p) := by
  simp only [removeSP, List.mem_filter, Bool.not_eq_eq_eq_not, Bool.not_true, Bool.and_eq_false_imp,
    beq_iff_eq, beq_eq_false_iff_ne, ne_eq, not_and]

@[simp] theorem mem_removeS {g : Graph} {s : Term} {t : Triple} :
    t ∈ removeS g s ↔ t ∈ g ∧ t.1 ≠ s := by
  simp [removeS]

@[simp] theorem mem_add {g : Graph} {t u : Triple} : t ∈ add g u ↔ t = u ∨ t ∈ g := mem_sinsert

@[simp] theorem mem_gset {g : Graph} {s p o : Term} {t : Triple} :
    t ∈ gset g s p o ↔ t = (s, p, o) ∨ (t ∈ g ∧ ¬(t.1 = s ∧ t.2.1 = p)) := by
  rw [gset, mem_add, mem_removeSP]

theorem mem_gset_self {s p o o' : Term} : (s, p, o') ∈ gset g s p o ↔ o' = o := by
  rw [mem_gset]
  exact ⟨fun hm => hm.elim (fun e => (Prod.mk.inj (Prod.mk.inj e).2).2) (fun hm => absurd ⟨rfl, rfl⟩ hm.2),
    fun e => Or.inl (e ▸ rfl)⟩

theorem mem_add_of_ne {t u : Triple} (h : ¬(t.1 = u.1 ∧ t.2.1 = u.2.1)) : t ∈ add g u ↔ t ∈ g := by
  rw [mem_add]
  exact ⟨fun hm => hm.resolve_left (fun e => h (e ▸ ⟨rfl, rfl⟩)), Or.inr⟩

theorem mem_add_self {s p o o' : Term} : (s, p, o') ∈ add g (s, p, o) ↔ o' = o ∨ (s, p, o') ∈ g := by
  rw [mem_add, Prod.mk.injEq, Prod.mk.injEq]
  exact or_congr_left ⟨fun e => e.2.2, fun e => ⟨rfl, rfl, e⟩⟩

theorem mem_removeSP_of_ne {s p : Term} {t : Triple} (h : ¬(t.1 = s ∧ t.2.1 = p)) :
    t ∈ removeSP g s p ↔ t ∈ g := mem_removeSP.trans (and_iff_left h)

theorem mem_gset_of_ne {s p o : Term} {t : Triple} (h : ¬(t.1 = s ∧ t.2.1 = p)) :
    t ∈ gset g s p o ↔ t ∈ g := (mem_add_of_ne h).trans (mem_removeSP_of_ne h)

theorem removeSP_eq_self {s p : Term} (h : ∀ o, (s, p, o) ∉ g) : removeSP g s p = g := by
  refine List.filter_eq_self.mpr (fun t ht => ?_)
  simp only [Bool.not_eq_eq_eq_not, Bool.not_true, Bool.and_eq_false_imp, beq_iff_eq, beq_eq_false_iff_ne]
  exact fun e1 e2 => h t.2.2 (e1 ▸ e2 ▸ ht)

theorem mem_removeS_of_ne {s : Term} {t : Triple} (h : t.1 ≠ s) : t ∈ removeS g s ↔ t ∈ g :=
  mem_removeS.trans (and_iff_left h)

theorem nodup_add {t : Triple} (h : g.Nodup) : (add g t).Nodup := nodup_sinsert h
theorem nodup_removeSP {s p : Term} (h : g.Nodup) : (removeSP g s p).Nodup := h.filter _
theorem nodup_removeS {s : Term} (h : g.Nodup) : (removeS g s).Nodup := h.filter _
theorem nodup_gset {s p o : Term} (h : g.Nodup) : (gset g s p o).Nodup :=
  nodup_add (nodup_removeSP h)

theorem objects_nodup (hnd : g.Nodup) (s p : Term) : (objects g s p).Nodup := by
  induction g with
  | nil => exact List.nodup_nil
  | cons t g ih =>
    obtain ⟨s', p', o'⟩ := t
    rw [List.nodup_cons] at hnd
    by_cases hc : s' = s ∧ p' = p
    · obtain ⟨rfl, rfl⟩ := hc
      simp only [objects, and_self, if_true, List.nodup_cons, mem_objects]
      exact ⟨hnd.1, ih hnd.2⟩
    · simp only [objects, if_neg hc]
      exact ih hnd.2

theorem objects_unique {s p n : Term} (hnd : g.Nodup) (h : ∀ o, (s, p, o) ∈ g ↔ o = n) :
    objects g s p = [n] :=
  eq_singleton (objects_nodup hnd s p) (fun o => mem_objects.trans (h o))

theorem objects_absent {s p : Term} (h : ∀ o, (s, p, o) ∉ g) : objects g s p = [] :=
  List.eq_nil_iff_forall_not_mem.mpr (fun o hm => h o (mem_objects.mp hm))

/-! ### chains, and what each walk computes on them -/

theorem Cells.ne_nil {tl : Option Term} {c x : Term} (hc : Cells g tl ((c, x) :: ps)) : c ≠ NIL := hc.1

theorem Cells.first {tl : Option Term} {c x : Term} (hc : Cells g tl ((c, x) :: ps)) (o : Term) :
    (c, FIRST, o) ∈ g ↔ o = x := hc.2.1 o

theorem Cells.first_mem {tl : Option Term} {c x : Term} (hc : Cells g tl ((c, x) :: ps)) : (c, FIRST, x) ∈ g :=
  (hc.first x).2 rfl

theorem Cells.rest {tl : Option Term} {c x : Term} (hc : Cells g tl ((c, x) :: ps)) (o : Term) :
    (c, REST, o) ∈ g ↔ some o = hd tl ps := hc.2.2.1 o

theorem Cells.tail {tl : Option Term} {c x : Term} (hc : Cells g tl ((c, x) :: ps)) : Cells g tl ps := hc.2.2.2

theorem hd_append (tl : Option Term) (a b : List Cell) : hd tl (a ++ b) = hd (hd tl b) a := by
  cases a with
  | nil => rfl
  | cons p a => obtain ⟨c, x⟩ := p; rfl

theorem cells_append {tl : Option Term} {a b : List Cell} :
    Cells g tl (a ++ b) ↔ Cells g (hd tl b) a ∧ Cells g tl b := by
  induction a with
  | nil => simp [Cells]
  | cons p a ih =>
    obtain ⟨c, x⟩ := p
    simp only [List.cons_append, Cells, ih, hd_append, and_assoc]

theorem cells_hasSP_first {tl : Option Term} {pre post : List Cell} {c x : Term}
    (hc : Cells g tl (pre ++ (c, x) :: post)) : hasSP g c FIRST = true :=
  hasSP_iff.mpr ⟨x, (cells_append.mp hc).2.first_mem⟩

theorem cells_mid {tl : Option Term} {pre post : List Cell} {c x : Term}
    (before : Cells g (some c) pre) (ne_nil : c ≠ NIL) (first : ∀ o, (c, FIRST, o) ∈ g ↔ o = x)
    (rest : ∀ o, (c, REST, o) ∈ g ↔ some o = hd tl post) (after : Cells g tl post) :
    Cells g tl (pre ++ (c, x) :: post) :=
  cells_append.mpr ⟨before, ne_nil, first, rest, after⟩

theorem cells_congr {g' : Graph} {tl : Option Term} (h : Cells g tl ps)
    (hf : ∀ t : Triple, t.1 ∈ ps.map Prod.fst → (t ∈ g' ↔ t ∈ g)) : Cells g' tl ps := by
  induction ps with
  | nil => trivial
  | cons q ps ih =>
    obtain ⟨c, x⟩ := q
    exact ⟨h.ne_nil, fun o => (hf (c, FIRST, o) List.mem_cons_self).trans (h.first o),
      fun o => (hf (c, REST, o) List.mem_cons_self).trans (h.rest o),
      ih h.tail (fun t ht => hf t (List.mem_cons_of_mem _ ht))⟩

theorem cells_not_nil {tl : Option Term} (h : Cells g tl ps) :
    NIL ∉ ps.map Prod.fst := by
  induction ps with
  | nil => exact List.not_mem_nil
  | cons q ps ih =>
    obtain ⟨c, x⟩ := q
    exact List.not_mem_cons_of_ne_of_not_mem h.ne_nil.symm (ih h.tail)

theorem Chain.nil_free {tl : Option Term} (c : Chain g h tl ps)
    {p o : Term} (hp : p = FIRST ∨ p = REST) : (NIL, p, o) ∉ g :=
  fun hm => cells_not_nil c.cells (c.noOrphan _ _ _ hm hp)

theorem Chain.empty_no_triple {tl : Option Term} (c : Chain g h tl [])
    {s p o : Term} (hp : p = FIRST ∨ p = REST) : (s, p, o) ∉ g :=
  fun hm => List.not_mem_nil (c.noOrphan _ _ _ hm hp)

theorem Chain.hasSP_empty {tl : Option Term} (c : Chain g h tl []) (s : Term) {p : Term} (hp : p = FIRST ∨ p = REST) :
    hasSP g s p = false :=
  hasSP_false_iff.mpr (fun _ => c.empty_no_triple hp)

/-- the first cell of a closed segment as a term (rdf:nil for the empty one); `hd` also serves the open chains of `__iadd__` -/
def hdN : List Cell → Term
  | [] => NIL
  | (c, _) :: _ => c

theorem hdN_ne_nil_of_cells {g : Graph} {tl : Option Term} {q : Cell} {ps : List Cell}
    (hc : Cells g tl (q :: ps)) : hdN (q :: ps) ≠ NIL := by
  obtain ⟨c, x⟩ := q
  exact hc.ne_nil

theorem hd_some_nil (ps : List Cell) : hd (some NIL) ps = some (hdN ps) := by
  cases ps with
  | nil => rfl
  | cons q ps => obtain ⟨c, x⟩ := q; rfl

theorem some_eq_hd_iff {o : Term} {ps : List Cell} : some o = hd (some NIL) ps ↔ o = hdN ps := by
  rw [hd_some_nil]; exact ⟨Option.some.inj, congrArg some⟩

theorem Chain.hdN_eq (c : Chain g h (some NIL) ps) (hne : ps ≠ []) :
    hdN ps = h :=
  Option.some.inj ((hd_some_nil ps).symm.trans (c.head hne))

theorem cells_value_rest {c x : Term} (hc : Cells g (some NIL) ((c, x) :: ps)) :
    value g c REST = some (hdN ps) :=
  value_unique (fun o => (hc.rest o).trans some_eq_hd_iff)

theorem cells_value_first {tl : Option Term} {c x : Term} 
    (hc : Cells g tl ((c, x) :: ps)) : value g c FIRST = some x :=
  value_unique hc.first

theorem getContainer_none (g : Graph) (k : Nat) : getContainer g none k = none := by
  cases k <;> rfl

theorem getContainer_cells {pre post : List Cell} (hc : Cells g (some NIL) (pre ++ post)) :
    getContainer g (some (hdN (pre ++ post))) pre.length = some (hdN post) := by
  induction pre with
  | nil => rfl
  | cons q pre ih =>
    obtain ⟨c, x⟩ := q
    show getContainer g (value g c REST) pre.length = _
    rw [cells_value_rest hc]
    exact ih hc.tail

theorem getContainer_add (g : Graph) (oc : Option Term) (a b : Nat) :
    getContainer g oc (a + b) = getContainer g (getContainer g oc a) b := by
  induction a generalizing oc with
  | zero => rw [Nat.zero_add]; cases oc <;> rfl
  | succ a ih =>
    rw [Nat.add_right_comm]
    cases oc with
    | none => rw [getContainer_none, getContainer_none, getContainer_none]
    | some c => exact ih _

/-- the cell `c[len(c)]` names, where every walk stops: the head of an empty collection, rdf:nil otherwise -/
def cellAtLen (h : Term) (ps : List Cell) : Term := if ps = [] then h else NIL

@[simp] theorem cellAtLen_nil (h : Term) : cellAtLen h [] = h := rfl
@[simp] theorem cellAtLen_cons (h : Term) (q : Cell) (ps : List Cell) : cellAtLen h (q :: ps) = NIL := rfl

/-- The part of `Chain` that the walks look at: the cells, and no list triple where a walk stops (`cellAtLen`).  It says
    nothing about other subjects, so it also holds of a graph with other lists in it; every read and what every walk of a
    mutation finds is stated for it. -/
structure LChain (g : Graph) (h : Term) (ps : List Cell) : Prop where
  head : ps ≠ [] → hdN ps = h
  hne : h ≠ NIL
  nodup : (ps.map Prod.fst).Nodup
  cells : Cells g (some NIL) ps
  clean : ∀ {p : Term}, p = FIRST ∨ p = REST → ∀ o, (cellAtLen h ps, p, o) ∉ g

theorem Chain.local (c : Chain g h (some NIL) ps) : LChain g h ps :=
  ⟨c.hdN_eq, c.hne, c.nodup, c.cells, fun hp o hm => by
    cases ps with
    | nil => exact c.empty_no_triple hp hm
    | cons q ps => exact c.nil_free hp hm⟩

theorem LChain.value_atLen (c : LChain g h ps) {p : Term} (hp : p = FIRST ∨ p = REST) :
    value g (cellAtLen h ps) p = none := value_none_iff.mpr (c.clean hp)

theorem LChain.value_empty (c : LChain g h []) {p : Term} (hp : p = FIRST ∨ p = REST) : value g h p = none :=
  c.value_atLen hp

theorem LChain.container_split {pre post : List Cell} (c : LChain g h (pre ++ post)) (hne : pre ++ post ≠ []) :
    getContainer g (some h) pre.length = some (hdN post) :=
  c.head hne ▸ getContainer_cells c.cells

/-- the node `k` rdf:rest links after the head of the chain `ps`: its cells, then the place where the walk stops -/
def cellAt (h : Term) (ps : List Cell) (k : Nat) : Option Term := (ps.map Prod.fst ++ [cellAtLen h ps])[k]?

theorem cellAt_split (h : Term) (pre : List Cell) (c x : Term) (post : List Cell) :
    cellAt h (pre ++ (c, x) :: post) pre.length = some c := by
  rw [cellAt, List.map_append, List.append_assoc, ← List.length_map (f := Prod.fst),
    List.getElem?_append_right (Nat.le_refl _), Nat.sub_self]
  rfl

theorem cellAt_len (h : Term) (ps : List Cell) : cellAt h ps ps.length = some (cellAtLen h ps) := by
  rw [cellAt, ← List.length_map (f := Prod.fst), List.getElem?_append_right (Nat.le_refl _), Nat.sub_self]
  rfl

theorem cellAt_gt (h : Term) {k : Nat} (hk : ps.length < k) : cellAt h ps k = none :=
  List.getElem?_eq_none (by rw [List.length_append, List.length_map]; exact hk)

theorem cellAt_mem {k : Nat} {c : Term} (hc : cellAt h ps k = some c) : c ∈ ps.map Prod.fst ∨ c = h ∨ c = NIL := by
  have := List.mem_of_getElem? hc
  rw [List.mem_append, List.mem_singleton] at this
  refine this.imp_right (fun e => ?_)
  cases ps with
  | nil => exact Or.inl e
  | cons q ps => exact Or.inr e

theorem LChain.container_eq (c : LChain g h ps) (k : Nat) : getContainer g (some h) k = cellAt h ps k := by
  have hlen : getContainer g (some h) ps.length = some (cellAtLen h ps) := by
    cases ps with
    | nil => rfl
    | cons q ps =>
      exact LChain.container_split (pre := q :: ps) (post := []) (by rw [List.append_nil]; exact c) (List.cons_ne_nil _ _)
  rcases Nat.lt_trichotomy k ps.length with hk | rfl | hk
  · obtain ⟨pre, ⟨ck, xk⟩, post, rfl, rfl⟩ := split_at hk
    rw [c.container_split (mid_ne_nil _ _ _), cellAt_split]
    rfl
  · rw [hlen, cellAt_len]
  · obtain ⟨j, rfl⟩ := Nat.exists_eq_add_of_lt hk
    rw [cellAt_gt h hk, Nat.add_assoc, getContainer_add, hlen, getContainer, c.value_atLen (Or.inr rfl), getContainer_none]

theorem LChain.getAt (c : LChain g h ps) (k : Nat) :
    getAt g h k = match ps[k]? with
      | some q => .ok q.2
      | none => .error .indexError := by
  unfold RV.C19.getAt
  rw [c.container_eq]
  rcases Nat.lt_trichotomy k ps.length with hk | rfl | hk
  · obtain ⟨pre, ⟨ck, xk⟩, post, rfl, rfl⟩ := split_at hk
    rw [cellAt_split, getElem?_split]
    simp only [cells_value_first (cells_append.mp c.cells).2]
  · rw [cellAt_len, List.getElem?_eq_none (Nat.le_refl _)]
    simp only [c.value_atLen (Or.inl rfl)]
  · rw [cellAt_gt h hk, List.getElem?_eq_none (Nat.le_of_lt hk)]

theorem cells_subject_mem {tl : Option Term} (hc : Cells g tl ps) :
    ∀ c ∈ ps.map Prod.fst, c ∈ g.map (fun t => t.1) := by
  induction ps with
  | nil => exact fun _ h => absurd h List.not_mem_nil
  | cons q ps ih =>
    obtain ⟨c, x⟩ := q
    exact List.forall_mem_cons.mpr ⟨List.mem_map.mpr ⟨_, hc.first_mem, rfl⟩, ih hc.tail⟩

theorem cells_length_le {tl : Option Term} (hc : Cells g tl ps)
    (hnd : (ps.map Prod.fst).Nodup) : ps.length ≤ g.length := by
  have := hnd.length_le_of_subset (cells_subject_mem hc)
  rwa [List.length_map, List.length_map] at this

theorem LChain.length_le (c : LChain g h ps) : ps.length ≤ g.length := cells_length_le c.cells c.nodup

/-- the nodes a walk along the closed segment `ps` visits; the visited set of the cycle guard has to stay disjoint
    from the part of it that still lies ahead (`path_start`, `path_step`) -/
def path (ps : List Cell) : List Term := ps.map Prod.fst ++ [NIL]

theorem path_eq (ps : List Cell) : path ps = hdN ps :: (path ps).tail := by
  cases ps with
  | nil => rfl
  | cons q ps => obtain ⟨c, x⟩ := q; rfl

theorem path_start (hnd : (path ps).Nodup) : ∀ a ∈ (path ps).tail, a ∉ [hdN ps] := by
  rw [path_eq, List.nodup_cons] at hnd
  exact fun a ha hm => hnd.1 (List.mem_singleton.mp hm ▸ ha)

theorem path_step {c x : Term} {chain : List Term} (hnd : (path ((c, x) :: ps)).Nodup)
    (hch : ∀ a ∈ (path ((c, x) :: ps)).tail, a ∉ chain) :
    hdN ps ∉ chain ∧ (path ps).Nodup ∧ ∀ a ∈ (path ps).tail, a ∉ hdN ps :: chain := by
  have hnd' : (path ps).Nodup := (List.nodup_cons.mp hnd).2
  have hmem : hdN ps ∈ path ps := by rw [path_eq]; exact List.mem_cons_self
  refine ⟨hch _ hmem, hnd', fun a ha => ?_⟩
  exact List.not_mem_cons_of_ne_of_not_mem (fun e => path_start hnd' a ha (e ▸ List.mem_singleton_self _))
    (hch a (List.mem_of_mem_tail ha))

theorem cells_path_nodup (hc : Cells g (some NIL) ps) (hnd : (ps.map Prod.fst).Nodup) : (path ps).Nodup :=
  List.nodup_append.mpr ⟨hnd, nodup_singleton _, fun _ ha _ hb e =>
    cells_not_nil hc (List.mem_singleton.mp hb ▸ e ▸ ha)⟩

theorem itemsAux_none {l : Term} (hv : value g l REST = none) (f : Nat) (chain : List Term) :
    itemsAux g (f + 1) l chain = ((value g l FIRST).toList, none) := by
  simp only [itemsAux, hv]

theorem itemsAux_seen {l n : Term} {chain : List Term} (hv : value g l REST = some n) (hn : n ∈ chain) (f : Nat) :
    itemsAux g (f + 1) l chain = ((value g l FIRST).toList, some .valueError) := by
  simp only [itemsAux, hv, if_pos hn]

theorem itemsAux_next {l n : Term} {chain : List Term} (hv : value g l REST = some n) (hn : n ∉ chain) (f : Nat) :
    itemsAux g (f + 1) l chain =
      ((value g l FIRST).toList ++ (itemsAux g f n (n :: chain)).1, (itemsAux g f n (n :: chain)).2) := by
  simp only [itemsAux, hv, if_neg hn]

/-- `Graph.items` along a closed segment.  `vf` is what rdf:nil carries as rdf:first: nothing in a well-formed
    graph; after `c[len(c)] = v` the walk goes *through* rdf:nil and yields `v` as one more item. -/
theorem itemsAux_cells {vf : Option Term} (hnilF : value g NIL FIRST = vf)
    (hnilR : value g NIL REST = none) :
    ∀ (ps : List Cell) (f : Nat) (chain : List Term), Cells g (some NIL) ps → (path ps).Nodup →
      ps.length < f → (∀ a ∈ (path ps).tail, a ∉ chain) →
      itemsAux g f (hdN ps) chain = (ps.map Prod.snd ++ vf.toList, none) := by
  intro ps
  induction ps with
  | nil =>
    intro f chain _ _ hf _
    obtain ⟨f, rfl⟩ := fuel_succ hf
    show itemsAux g (f + 1) NIL chain = _
    rw [itemsAux_none hnilR, hnilF]
    rfl
  | cons q ps ih =>
    obtain ⟨c, x⟩ := q
    intro f chain hc hnd hf hch
    obtain ⟨f, rfl⟩ := fuel_succ hf
    obtain ⟨hnot, hnd', hch'⟩ := path_step hnd hch
    show itemsAux g (f + 1) c chain = _
    rw [itemsAux_next (cells_value_rest hc) hnot, cells_value_first hc,
      ih f (hdN ps :: chain) hc.tail hnd' (Nat.lt_of_succ_lt_succ hf) hch']
    rfl

theorem items_cells {vf : Option Term} (hnilF : value g NIL FIRST = vf) (hnilR : value g NIL REST = none)
    (hc : Cells g (some NIL) ps) (hnd : (ps.map Prod.fst).Nodup) :
    items g (hdN ps) = (ps.map Prod.snd ++ vf.toList, none) :=
  have hp := cells_path_nodup hc hnd
  itemsAux_cells hnilF hnilR ps _ _ hc hp (lt_add_two (cells_length_le hc hnd)) (path_start hp)

theorem LChain.items (c : LChain g h ps) : items g h = (ps.map Prod.snd, none) := by
  cases ps with
  | nil =>
    rw [RV.C19.items, itemsAux_none (c.value_empty (Or.inr rfl)), c.value_empty (Or.inl rfl)]
    rfl
  | cons q ps =>
    rw [← c.head (List.cons_ne_nil _ _), items_cells (c.value_atLen (Or.inl rfl)) (c.value_atLen (Or.inr rfl)) c.cells c.nodup,
      Option.toList_none, List.append_nil]

theorem LChain.len (c : LChain g h ps) : len g h = .ok ps.length := by
  simp only [RV.C19.len, c.items, List.length_map]

theorem LChain.iter (c : LChain g h ps) : iter g h = .ok (ps.map Prod.snd) := by
  simp only [RV.C19.iter, c.items]

theorem LChain.contains (c : LChain g h ps) (x : Term) :
    contains g h x = .ok (decide (x ∈ ps.map Prod.snd)) := by
  unfold RV.C19.contains
  rw [c.items]
  by_cases hx : x ∈ ps.map Prod.snd
  · rw [if_pos hx, decide_eq_true hx]
  · rw [if_neg hx, decide_eq_false hx]

theorem Chain.contains {g : Graph} {h : Term} {ps : List Cell} (c : Chain g h (some NIL) ps) (x : Term) :
    contains g h x = .ok (decide (x ∈ ps.map Prod.snd)) :=
  c.local.contains x

/-- Each cell's rdf:rest is listed once: what `index()` (`assert len(newlink) == 1`) needs of the triple *list*; true
    when the list, or its part holding the cells, has no duplicates. -/
def RestOnce (g : Graph) (ps : List Cell) : Prop := ∀ c ∈ ps.map Prod.fst, (objects g c REST).Nodup

theorem restOnce_of_nodup (hg : g.Nodup) (ps : List Cell) : RestOnce g ps := fun c _ => objects_nodup hg c REST

theorem indexAux_step {item c x : Term} (ho : RestOnce g ((c, x) :: ps))
    (hc : Cells g (some NIL) ((c, x) :: ps)) (f i : Nat) (chain : List Term) :
    indexAux g item (f + 1) c i chain =
      if item = x then .ok i
      else if hdN ps = NIL then .error .valueError
      else if hdN ps ∈ chain then .error .valueError
      else indexAux g item f (hdN ps) (i + 1) (hdN ps :: chain) := by
  simp only [indexAux, hc.first item, eq_singleton (ho c List.mem_cons_self)
    (fun o => mem_objects.trans ((hc.rest o).trans some_eq_hd_iff))]

theorem index_answer_cons (item x : Term) (l : List Term) (i : Nat) :
    (if item ∈ x :: l then .ok (i + List.idxOf item (x :: l)) else .error .valueError : Except Err Nat) =
      if item = x then .ok i else if item ∈ l then .ok (i + 1 + List.idxOf item l) else .error .valueError := by
  by_cases hx : item = x
  · simp [hx]
  · have hb : (x == item) = false := beq_eq_false_iff_ne.mpr (fun e => hx e.symm)
    simp only [List.mem_cons, hx, false_or, if_false, List.idxOf_cons, hb, cond_false, Nat.add_assoc, Nat.add_comm 1]

theorem indexAux_cells (item : Term) :
    ∀ (ps : List Cell) (c x : Term) (f i : Nat) (chain : List Term), RestOnce g ((c, x) :: ps) →
      Cells g (some NIL) ((c, x) :: ps) → (path ((c, x) :: ps)).Nodup → ps.length < f →
      (∀ a ∈ (path ((c, x) :: ps)).tail, a ∉ chain) →
      indexAux g item f c i chain =
        if item ∈ ((c, x) :: ps).map Prod.snd then .ok (i + List.idxOf item (((c, x) :: ps).map Prod.snd))
        else .error .valueError := by
  intro ps
  induction ps with
  | nil =>
    intro c x f i chain ho hc _ hf _
    obtain ⟨f, rfl⟩ := fuel_succ hf
    rw [indexAux_step ho hc, List.map_cons, index_answer_cons]
    simp only [hdN, if_true, List.map_nil, List.not_mem_nil, if_false]
  | cons q ps ih =>
    obtain ⟨c', x'⟩ := q
    intro c x f i chain ho hc hnd hf hch
    obtain ⟨f, rfl⟩ := fuel_succ hf
    obtain ⟨hnot, hnd', hch'⟩ := path_step hnd hch
    change c' ∉ chain at hnot
    rw [indexAux_step ho hc, show hdN ((c', x') :: ps) = c' from rfl, if_neg hc.tail.ne_nil, if_neg hnot,
      ih c' x' f (i + 1) (c' :: chain) (fun a ha => ho a (List.mem_cons_of_mem _ ha)) hc.tail hnd'
        (Nat.lt_of_succ_lt_succ hf) hch', List.map_cons (l := _ :: _), index_answer_cons]

theorem LChain.index (c : LChain g h ps) (ho : RestOnce g ps) (item : Term) :
    index g h item =
      if item ∈ ps.map Prod.snd then .ok (List.idxOf item (ps.map Prod.snd))
      else .error (if ps = [] then .other else .valueError) := by
  unfold RV.C19.index
  cases ps with
  | nil =>
    simp [indexAux, value_none_iff.mp (c.value_empty (Or.inl rfl)),
      objects_absent (value_none_iff.mp (c.value_empty (Or.inr rfl)))]
  | cons q ps =>
    obtain ⟨c0, x0⟩ := q
    obtain rfl : c0 = h := c.head (List.cons_ne_nil _ _)
    have hp := cells_path_nodup c.cells c.nodup
    rw [indexAux_cells item ps c0 x0 _ 0 [c0] ho c.cells hp (Nat.lt_of_succ_lt (lt_add_two c.length_le))
      (path_start hp), Nat.zero_add, if_neg (List.cons_ne_nil _ _)]

/-- what `_normalize_index` computes from the length -/
def normK (n : Nat) (key : Int) : Option Nat :=
  if key < 0 then (if key + n < 0 then none else some (key + n).toNat) else some key.toNat

theorem normK_len (n : Nat) : normK n (n : Int) = some n := by
  rw [normK, if_neg (Int.not_lt.mpr (Int.natCast_nonneg n)), Int.toNat_natCast]

theorem LChain.normIdx (c : LChain g h ps) (key : Int) :
    normIdx g h key = match normK ps.length key with
      | some k => .ok k
      | none => .error .indexError := by
  unfold RV.C19.normIdx normK
  rw [c.len]
  by_cases hk : key < 0
  · by_cases hk2 : key + (ps.length : Int) < 0 <;> simp only [hk, hk2, if_true, if_false]
  · simp only [hk, if_false]

theorem LChain.getItem (c : LChain g h ps) (key : Int) :
    getItem g h key = match normK ps.length key with
      | none => .error .indexError
      | some k => match ps[k]? with
        | some q => .ok q.2
        | none => .error .indexError := by
  unfold RV.C19.getItem
  rw [c.normIdx]
  cases normK ps.length key with
  | none => rfl
  | some k => exact c.getAt k

theorem endAux_cells (e x : Term) :
    ∀ (pre : List Cell) (f : Nat), Cells g (some NIL) (pre ++ [(e, x)]) → pre.length < f →
      endAux g f (hdN (pre ++ [(e, x)])) = .ok e := by
  intro pre
  induction pre with
  | nil =>
    intro f hc hf
    obtain ⟨f, rfl⟩ := fuel_succ hf
    show endAux g (f + 1) e = _
    simp only [endAux, cells_value_rest (ps := []) hc, hdN, if_true]
  | cons q pre ih =>
    obtain ⟨c, y⟩ := q
    intro f hc hf
    obtain ⟨f, rfl⟩ := fuel_succ hf
    have hne : hdN (pre ++ [(e, x)]) ≠ NIL := by
      cases pre with
      | nil => exact hc.tail.ne_nil
      | cons q' pre' => exact hc.tail.ne_nil
    show endAux g (f + 1) c = _
    simp only [endAux, cells_value_rest (ps := pre ++ [(e, x)]) hc, if_neg hne]
    exact ih f hc.tail (Nat.lt_of_succ_lt_succ hf)

/-- the cell `_end()` finds: the last one, the head of an empty collection -/
def lastCell (h : Term) (ps : List Cell) : Term := (ps.getLast?.map Prod.fst).getD h

theorem lastCell_snoc (h : Term) (pre : List Cell) (e x : Term) : lastCell h (pre ++ [(e, x)]) = e := by
  rw [lastCell, List.getLast?_concat]
  rfl

theorem lastCell_mem (h : Term) (ps : List Cell) : lastCell h ps ∈ ps.map Prod.fst ∨ lastCell h ps = h := by
  rcases nil_or_snoc ps with rfl | ⟨pre, e, x, rfl⟩
  · exact Or.inr rfl
  · rw [lastCell_snoc]
    exact Or.inl (List.mem_map.mpr ⟨(e, x), List.mem_append_right _ List.mem_cons_self, rfl⟩)

theorem LChain.endOf (c : LChain g h ps) : endOf g h = .ok (lastCell h ps) := by
  rcases nil_or_snoc ps with rfl | ⟨pre, e, x, rfl⟩
  · simp only [RV.C19.endOf, endAux, c.value_empty (Or.inr rfl)]
    rfl
  · have := c.length_le
    rw [List.length_append] at this
    rw [lastCell_snoc, ← c.head (mid_ne_nil _ _ _)]
    exact endAux_cells e x pre _ c.cells (lt_add_two (Nat.le_of_add_right_le this))

theorem asListAux_cells :
    ∀ (ps : List Cell) (f : Nat), Cells g (some NIL) ps → ps.length < f →
      asListAux g f (hdN ps) = .ok (ps.map Prod.snd) := by
  intro ps
  induction ps with
  | nil =>
    intro f _ hf
    obtain ⟨f, rfl⟩ := fuel_succ hf
    simp only [asListAux, hdN, if_true, List.map_nil]
  | cons q ps ih =>
    obtain ⟨c, x⟩ := q
    intro f hc hf
    obtain ⟨f, rfl⟩ := fuel_succ hf
    show asListAux g (f + 1) c = _
    simp only [asListAux, if_neg hc.ne_nil, cells_value_first hc, cells_value_rest hc,
      ih f hc.tail (Nat.lt_of_succ_lt_succ hf), List.map_cons]

theorem LChain.asList (c : LChain g h ps) : asList g h = .ok (ps.map Prod.snd) := by
  unfold RV.C19.asList
  cases ps with
  | nil =>
    rw [hasSP, hasSP, c.value_empty (Or.inl rfl), c.value_empty (Or.inr rfl)]
    rfl
  | cons q ps =>
    obtain ⟨c0, x0⟩ := q
    obtain rfl : c0 = h := c.head (List.cons_ne_nil _ _)
    rw [cells_hasSP_first (pre := []) c.cells, Bool.true_or, if_pos rfl]
    exact asListAux_cells _ _ c.cells (lt_add_two c.length_le)

theorem Chain.asList {g : Graph} {h : Term} {ps : List Cell} (c : Chain g h (some NIL) ps) :
    asList g h = .ok (ps.map Prod.snd) :=
  c.local.asList

/-! ### on ANY graph (cyclic, broken, several rdf:rest …) no read exhausts its fuel `|g| + 2`, and an endless walk raises

  The visited set of the cycle guard holds distinct nodes, each the start node or an object of the graph,
  so it can hold at most `|g| + 1` of them. -/

/-- the nodes a walk from `h` can ever put into its visited set -/
def cands (g : Graph) (h : Term) : List Term := h :: g.map (fun t => t.2.2)

/-- `chain` can be the visited set of a walk from `h` that has `f` rounds left -/
structure Visited (g : Graph) (h : Term) (f : Nat) (chain : List Term) : Prop where
  nodup : chain.Nodup
  sub : ∀ a ∈ chain, a ∈ cands g h
  room : (cands g h).length < chain.length + f

theorem Visited.init (g : Graph) (h : Term) : Visited g h (g.length + 2) [h] :=
  ⟨nodup_singleton _,
    fun _ ha => List.mem_singleton.mp ha ▸ List.mem_cons_self,
    by rw [cands, List.length_cons, List.length_map]; exact Nat.lt_of_lt_of_le (Nat.lt_succ_self _) (Nat.le_add_left _ 1)⟩

theorem Visited.pos {chain : List Term} : ∀ {f : Nat}, Visited g h f chain → f ≠ 0
  | 0, ⟨hnd, hsub, hlen⟩, _ =>
    Nat.lt_irrefl _ (Nat.lt_of_lt_of_le hlen (hnd.length_le_of_subset hsub))
  | _ + 1, _, e => by cases e

theorem Visited.step {f : Nat} {chain : List Term} (v : Visited g h (f + 1) chain)
    {s p n : Term} (hn : n ∉ chain) (hm : (s, p, n) ∈ g) : Visited g h f (n :: chain) :=
  ⟨List.nodup_cons.mpr ⟨hn, v.nodup⟩,
    List.forall_mem_cons.mpr ⟨List.mem_cons_of_mem _ (List.mem_map.mpr ⟨_, hm, rfl⟩), v.sub⟩,
    Nat.add_right_comm chain.length 1 f ▸ v.room⟩

theorem itemsAux_no_fuel :
    ∀ (f : Nat) (l : Term) (chain : List Term), Visited g h f chain → (itemsAux g f l chain).2 ≠ some .fuel := by
  intro f
  induction f with
  | zero => exact fun _ _ v => absurd rfl v.pos
  | succ f ih =>
    intro l chain v
    cases hv : value g l REST with
    | none => rw [itemsAux_none hv]; exact nofun
    | some n =>
      by_cases hn : n ∈ chain
      · rw [itemsAux_seen hv hn]; exact nofun
      · rw [itemsAux_next hv hn]
        exact ih n (n :: chain) (v.step hn (value_some_mem hv))

theorem items_no_fuel (g : Graph) (h : Term) : (items g h).2 ≠ some .fuel :=
  itemsAux_no_fuel _ _ _ (Visited.init g h)

theorem indexAux_no_fuel {h item : Term} :
    ∀ (f : Nat) (l : Term) (i : Nat) (chain : List Term), Visited g h f chain →
      indexAux g item f l i chain ≠ .error .fuel := by
  intro f
  induction f with
  | zero => exact fun _ _ _ v => absurd rfl v.pos
  | succ f ih =>
    intro l i chain v
    rw [indexAux]
    by_cases hm : (l, FIRST, item) ∈ g
    · rw [if_pos hm]; exact nofun
    · rw [if_neg hm]
      match ho : objects g l REST with
      | [] => exact nofun
      | _ :: _ :: _ => exact nofun
      | [n] =>
        by_cases h1 : n = NIL
        · simp only [if_pos h1]; exact nofun
        · by_cases h2 : n ∈ chain
          · simp only [if_neg h1, if_pos h2]; exact nofun
          · simp only [if_neg h1, if_neg h2]
            exact ih n (i + 1) (n :: chain) (v.step h2 (mem_objects.mp (ho ▸ List.mem_singleton_self n)))

theorem index_no_fuel (g : Graph) (h item : Term) : index g h item ≠ .error .fuel :=
  indexAux_no_fuel _ _ _ _ (Visited.init g h)

theorem items_reads_no_fuel (g : Graph) (h : Term) :
    len g h ≠ .error .fuel ∧ iter g h ≠ .error .fuel ∧ ∀ x, contains g h x ≠ .error .fuel := by
  have := items_no_fuel g h
  unfold len iter contains
  cases hi : (items g h).2 with
  | none => exact ⟨nofun, nofun, fun x => by split <;> exact nofun⟩
  | some e =>
    have he : ∀ {α : Type}, (.error e : Except Err α) ≠ .error .fuel :=
      fun e' => this (hi.trans (congrArg some (Except.error.inj e')))
    exact ⟨he, he, fun x => by split; exact nofun; exact he⟩

theorem len_no_fuel (g : Graph) (h : Term) : len g h ≠ .error .fuel := (items_reads_no_fuel g h).1
theorem iter_no_fuel (g : Graph) (h : Term) : iter g h ≠ .error .fuel := (items_reads_no_fuel g h).2.1
theorem contains_no_fuel (g : Graph) (h x : Term) : contains g h x ≠ .error .fuel := (items_reads_no_fuel g h).2.2 x

theorem getItem_no_fuel (g : Graph) (h : Term) (key : Int) : getItem g h key ≠ .error .fuel := by
  have hat : ∀ k, getAt g h k ≠ .error .fuel := by
    intro k
    unfold getAt
    split
    · exact nofun
    · split <;> exact nofun
  have hl := len_no_fuel g h
  unfold getItem normIdx
  by_cases hk : key < 0
  · rw [if_pos hk]
    cases hlen : len g h with
    | error e => exact fun e' => hl (hlen.trans e')
    | ok n =>
      by_cases h2 : key + n < 0
      · simp only [if_pos h2]; exact nofun
      · simp only [if_neg h2]; exact hat _
  · rw [if_neg hk]; exact hat _

theorem itemsAux_ends :
    ∀ (f : Nat) (l : Term) (chain : List Term), (∃ k, getContainer g (some l) k = none) ∨
      (itemsAux g f l chain).2 = some .fuel ∨ (itemsAux g f l chain).2 = some .valueError := by
  intro f
  induction f with
  | zero => exact fun _ _ => Or.inr (Or.inl rfl)
  | succ f ih =>
    intro l chain
    cases hv : value g l REST with
    | none => exact Or.inl ⟨1, by rw [getContainer, hv, getContainer]⟩
    | some n =>
      by_cases hn : n ∈ chain
      · rw [itemsAux_seen hv hn]; exact Or.inr (Or.inr rfl)
      · rw [itemsAux_next hv hn]
        exact (ih n (n :: chain)).imp_left (fun ⟨k, hk⟩ => ⟨k + 1, by rw [getContainer, hv]; exact hk⟩)

theorem items_endless (he : Endless g h) : (items g h).2 = some .valueError := by
  rcases itemsAux_ends (g.length + 2) h [h] with ⟨k, hk⟩ | hf | hv
  · exact absurd hk (he k)
  · exact absurd hf (items_no_fuel g h)
  · exact hv

end RV.C19

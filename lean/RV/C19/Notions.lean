import RV.C19.Model
/-
  C19: the vocabulary of the property statements in Props.lean, beyond the model itself: the chain a collection is in a
  graph (`Chain`), the state invariant (`Inv`; `WF` in Props is "some chain"), the frame for the other triples of the graph
  (`Frame`), the split of a graph by a set of foreign subjects (`own`, `foreign`), a cyclic chain (`Endless`), and what is
  asked of a term-level codec for `n3()` (`LexOK`, `WFR`).  Definitions only; the lemmas about them are in Lemmas*.lean.
-/
namespace RV.C19

/-- a cell together with the member it holds -/
abbrev Cell := Term × Term

/-- the first cell of a segment, or the segment's continuation `tl` if it is empty -/
def hd (tl : Option Term) : List Cell → Option Term
  | [] => tl
  | (c, _) :: _ => some c

/-- Every cell of the segment has exactly its `rdf:first` and exactly the `rdf:rest` leading to
    the next cell (`tl` after the last: `some NIL` = closed list, `none` = no rdf:rest at all). -/
def Cells (g : Graph) (tl : Option Term) : List Cell → Prop
  | [] => True
  | (c, x) :: ps =>
    c ≠ NIL ∧ (∀ o, (c, FIRST, o) ∈ g ↔ o = x) ∧ (∀ o, (c, REST, o) ∈ g ↔ some o = hd tl ps) ∧ Cells g tl ps

/-- `ps` is the chain of the collection named `h` in `g`:
    it starts at `h`, is simple, and no other node carries list triples (no orphaned cells).
    An empty collection is `ps = []`: no list triples at all. -/
structure Chain (g : Graph) (h : Term) (tl : Option Term) (ps : List Cell) : Prop where
  head : ps ≠ [] → hd tl ps = some h
  hne : h ≠ NIL
  nodup : (ps.map Prod.fst).Nodup
  cells : Cells g tl ps
  noOrphan : ∀ s p o, (s, p, o) ∈ g → p = FIRST ∨ p = REST → s ∈ ps.map Prod.fst

/-- following rdf:rest from `h` never reaches a node without rdf:rest -/
def Endless (g : Graph) (h : Term) : Prop := ∀ k, getContainer g (some h) k ≠ none

/-- the fresh supply is beyond every subject of the graph, the head and rdf:nil -/
structure FreshOK (s : St) (h : Term) : Prop where
  h_lt : h < s.fresh
  nil_lt : NIL < s.fresh
  subj_lt : ∀ t ∈ s.g, t.1 < s.fresh

/-- the state invariant: the graph holds the chain `ps` of the collection `h` -/
structure Inv (s : St) (h : Term) (ps : List Cell) : Prop where
  chain : Chain s.g h (some NIL) ps
  nodup : s.g.Nodup
  fresh : FreshOK s h

/-- a triple that is not an rdf:first / rdf:rest statement -/
def NonList (t : Triple) : Prop := t.2.1 ≠ FIRST ∧ t.2.1 ≠ REST

/-- Triples other than rdf:first/rdf:rest statements are never added; one is removed only together
    with a discarded cell: its subject is not the head and carried an rdf:first. -/
def Frame (g g' : Graph) (h : Term) : Prop :=
  ∀ t, NonList t → (t ∈ g' → t ∈ g) ∧ (t ∈ g → t ∈ g' ∨ (t.1 ≠ h ∧ ∃ o, (t.1, FIRST, o) ∈ g))

/-- the triples whose subject is not foreign, in their order; `foreign`: the others -/
def own (F : Term → Bool) (g : Graph) : Graph := g.filter (fun t => !F t.1)
def foreign (F : Term → Bool) (g : Graph) : Graph := g.filter (fun t => F t.1)

variable {α : Type}

/-- the term-level codec is self-delimiting in front of a blank for the terms satisfying `P`: member texts
    are non-empty, do not start with a blank, and the lexer takes exactly the member text off the front -/
def LexOKOn (P : α → Prop) (tok : α → List Char) (lex : List Char → Option (α × List Char)) : Prop :=
  ∀ x, P x → tok x ≠ [] ∧ (tok x).head? ≠ some ' ' ∧ ∀ rest, lex (tok x ++ ' ' :: rest) = some (x, ' ' :: rest)

/-- the same for every term -/
def LexOK (tok : α → List Char) (lex : List Char → Option (α × List Char)) : Prop :=
  LexOKOn (fun _ => True) tok lex

/-- the terms whose `n3()` the model writes faithfully and the lexer reads back: no `>` in IRIs, no blank in
    blank-node ids and language tags, no line feed in a lexical form (rdflib switches to `"""…"""` then),
    not both a datatype and a language -/
def WFR : RTerm → Prop
  | .iri u => '>' ∉ u
  | .bnode id => ' ' ∉ id
  | .lit x (some d) l => '\n' ∉ x ∧ '>' ∉ d ∧ l = none
  | .lit x none (some l) => '\n' ∉ x ∧ ' ' ∉ l
  | .lit x none none => '\n' ∉ x

end RV.C19

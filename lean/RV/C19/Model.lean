import RV.Base.SetList
/-
  C19 — model of `rdflib/collection.py` (class `Collection`) and of the `Graph`
  helpers it uses (`Graph.value`, `Graph.items`, `Graph.set`, `add`, `remove`,
  `objects`, `__contains__`), as the code stands after the `fix:` commits of
  branch fix-C19.

  * The graph is a finite set of triples, kept as a list (`sinsert` = `set.add`;
    `remove(pattern)` = filter).  `Graph.value(s, p, any=True)` is "the object of
    some matching triple"; the model takes the first match, the theorems only use
    that the answer is the object of *a* matching triple (unique in a well-formed chain).
  * Terms are naturals owned by the harness; `FIRST`, `REST`, `NIL` are rdf:first,
    rdf:rest, rdf:nil.  The model has no notion of truthiness: every member is an
    ordinary term.  (Cells are assumed truthy nodes, as `if c:` / `while list:` test them.)
  * `BNode()` is an explicit supply `St.fresh`.
  * Walks that are `while` loops in Python take fuel `|g| + 2`; `Lemmas.lean` shows
    it is never exhausted by `items`/`index` on *any* graph (cycle guard), and with
    `LemmasOps.lean` that it suffices for every walk on a well-formed chain.
    `Err.fuel` therefore stands for "the real loop does not terminate" (only `_end`,
    i.e. append/+= on a cyclic chain — outside the property).
  * Mutations that fail half-way on a malformed chain (Graph.set asserting on a
    `None` object …) return the error and the unchanged graph; the property does not
    speak about writes to malformed chains.
-/
namespace RV.C19

abbrev Term := Nat
abbrev Triple := Term × Term × Term
abbrev Graph := List Triple

def FIRST : Term := 0
def REST : Term := 1
def NIL : Term := 2

inductive Err
  | indexError | keyError | valueError | other | fuel
  deriving DecidableEq, Repr

/-! ### Graph primitives -/

/-- `Graph.value(s, p)`: the object of a matching triple (first match), `None` if there is none -/
def value : Graph → Term → Term → Option Term
  | [], _, _ => none
  | (s', p', o) :: g, s, p => if s' = s ∧ p' = p then some o else value g s p

/-- `list(graph.objects(s, p))` -/
def objects : Graph → Term → Term → List Term
  | [], _, _ => []
  | (s', p', o) :: g, s, p => if s' = s ∧ p' = p then o :: objects g s p else objects g s p

/-- `(s, p, None) in graph` -/
def hasSP (g : Graph) (s p : Term) : Bool := (value g s p).isSome

/-- `graph.remove((s, p, None))` -/
def removeSP (g : Graph) (s p : Term) : Graph := g.filter (fun t => !(t.1 == s && t.2.1 == p))

/-- `graph.remove((s, None, None))` -/
def removeS (g : Graph) (s : Term) : Graph := g.filter (fun t => !(t.1 == s))

/-- `graph.add(t)` -/
def add (g : Graph) (t : Triple) : Graph := sinsert g t

/-- `graph.set((s, p, o))` = remove `(s, p, None)` then add -/
def gset (g : Graph) (s p o : Term) : Graph := add (removeSP g s p) (s, p, o)

/-! ### Collection: navigation -/

/-- `_get_container(index)` for `index ≥ 0`: follow `index` rdf:rest links from the head -/
def getContainer (g : Graph) : Option Term → Nat → Option Term
  | c, 0 => c
  | none, _ + 1 => none
  | some c, k + 1 => getContainer g (value g c REST) k

/-- `Graph.items(list)`: the items yielded so far and how the generator ended
    (`none` = exhausted normally, `some e` = raised `e` after yielding them).
    `chain` is the visited set of the cycle guard. -/
def itemsAux (g : Graph) : Nat → Term → List Term → List Term × Option Err
  | 0, _, _ => ([], some .fuel)
  | f + 1, l, chain =>
    match value g l REST with
    | none => ((value g l FIRST).toList, none)
    | some n =>
      if n ∈ chain then ((value g l FIRST).toList, some .valueError)
      else ((value g l FIRST).toList ++ (itemsAux g f n (n :: chain)).1, (itemsAux g f n (n :: chain)).2)

def items (g : Graph) (h : Term) : List Term × Option Err := itemsAux g (g.length + 2) h [h]

/-- `len(c)` = `len(list(graph.items(uri)))` -/
def len (g : Graph) (h : Term) : Except Err Nat :=
  match (items g h).2 with
  | none => .ok (items g h).1.length
  | some e => .error e

/-- `list(c)` -/
def iter (g : Graph) (h : Term) : Except Err (List Term) :=
  match (items g h).2 with
  | none => .ok (items g h).1
  | some e => .error e

/-- `x in c` (no `__contains__`: Python iterates and stops at the first hit) -/
def contains (g : Graph) (h x : Term) : Except Err Bool :=
  if x ∈ (items g h).1 then .ok true
  else match (items g h).2 with
    | none => .ok false
    | some e => .error e

/-- `Collection.index(item)` (with the visited set added by the fix) -/
def indexAux (g : Graph) (item : Term) : Nat → Term → Nat → List Term → Except Err Nat
  | 0, _, _, _ => .error .fuel
  | f + 1, l, i, chain =>
    if (l, FIRST, item) ∈ g then .ok i
    else match objects g l REST with
      | [] => .error .other                      -- Exception("Malformed RDF Collection")
      | [n] =>
        if n = NIL then .error .valueError       -- "… is not in …"
        else if n ∈ chain then .error .valueError -- recursive rdf:rest reference
        else indexAux g item f n (i + 1) (n :: chain)
      | _ :: _ :: _ => .error .other             -- assert len(newlink) == 1

def index (g : Graph) (h item : Term) : Except Err Nat := indexAux g item (g.length + 2) h 0 [h]

/-- `_normalize_index(key)` -/
def normIdx (g : Graph) (h : Term) (key : Int) : Except Err Nat :=
  if key < 0 then
    match len g h with
    | .error e => .error e
    | .ok n => if key + n < 0 then .error .indexError else .ok (key + n).toNat
  else .ok key.toNat

/-- `__getitem__` after normalisation -/
def getAt (g : Graph) (h : Term) (k : Nat) : Except Err Term :=
  match getContainer g (some h) k with
  | none => .error .indexError
  | some c =>
    match value g c FIRST with
    | some v => .ok v
    | none => .error .indexError

def getItem (g : Graph) (h : Term) (key : Int) : Except Err Term :=
  match normIdx g h key with
  | .error e => .error e
  | .ok k => getAt g h k

/-! ### Collection: mutation -/

/-- `__setitem__`: NOT repaired for `key == len(c)` (an rdflib test depends on it):
    the cell found there is rdf:nil (or the empty head) and gets an rdf:first. -/
def setItem (g : Graph) (h : Term) (key : Int) (v : Term) : Except Err Graph :=
  match normIdx g h key with
  | .error e => .error e
  | .ok k =>
    match getContainer g (some h) k with
    | some c => .ok (gset g c FIRST v)
    | none => .error .indexError

def delItem (g : Graph) (h : Term) (key : Int) : Except Err Graph :=
  match normIdx g h key with
  | .error e => .error e
  | .ok k =>
    match getAt g h k with                           -- self[key]
    | .error e => .error e
    | .ok _ =>
      match getContainer g (some h) k with
      | none => .error .other                        -- assert current
      | some cur =>
        match len g h with
        | .error e => .error e
        | .ok n =>
          if n = 1 ∧ 0 < k then .ok g
          else if k = 0 then
            -- the head cell stays and takes over the second cell (fix)
            match getContainer g (some h) 1 with
            | none => .error .other
            | some nx =>
              if nx = NIL then .ok (removeSP (removeSP g cur FIRST) cur REST)
              else
                match value g nx FIRST with
                | none => .error .other
                | some f =>
                  match value (gset g cur FIRST f) nx REST with
                  | none => .error .other
                  | some r => .ok (removeS (gset (gset g cur FIRST f) cur REST r) nx)
          else if k + 1 = n then
            -- the tail
            match getContainer g (some h) (k - 1) with
            | none => .error .other
            | some prior => .ok (removeS (gset g prior REST NIL) cur)
          else
            match getContainer g (some h) (k + 1), getContainer g (some h) (k - 1) with
            | some nx, some prior => .ok (gset (removeS g cur) prior REST nx)
            | _, _ => .error .other

/-- `_end()`: the last cell (no cycle guard in the code: fuel exhaustion = the loop never ends) -/
def endAux (g : Graph) : Nat → Term → Except Err Term
  | 0, _ => .error .fuel
  | f + 1, c =>
    match value g c REST with
    | none => .ok c
    | some r => if r = NIL then .ok c else endAux g f r

def endOf (g : Graph) (h : Term) : Except Err Term := endAux g (g.length + 2) h

structure St where
  g : Graph
  fresh : Nat

def append (s : St) (h item : Term) : Except Err St :=
  match endOf s.g h with
  | .error e => .error e
  | .ok e =>
    if e = NIL then .error .valueError
    else if hasSP s.g e FIRST then
      .ok ⟨add (add (gset s.g e REST s.fresh) (s.fresh, FIRST, item)) (s.fresh, REST, NIL), s.fresh + 1⟩
    else .ok ⟨add (add s.g (e, FIRST, item)) (e, REST, NIL), s.fresh⟩

/-- the `for item in other` loop of `__iadd__`: graph, fresh supply, current end cell -/
def iaddLoop : Graph → Nat → Term → List Term → Graph × Nat × Term
  | g, fr, e, [] => (g, fr, e)
  | g, fr, e, x :: xs =>
    if hasSP g e FIRST then iaddLoop (add (add g (e, REST, fr)) (fr, FIRST, x)) (fr + 1) fr xs
    else iaddLoop (add g (e, FIRST, x)) fr e xs

/-- `__iadd__`: the operand is read into a list first (`other = list(other)`, fix C19-F7), so it is a plain
    list here whatever iterable it was — also when it was the collection itself (`c += c`). -/
def iadd (s : St) (h : Term) (xs : List Term) : Except Err St :=
  match endOf s.g h with
  | .error e => .error e
  | .ok e =>
    if e = NIL then .error .valueError
    else
      let r := iaddLoop (removeSP s.g e REST) s.fresh e xs
      .ok ⟨if hasSP r.1 r.2.2 FIRST then add r.1 (r.2.2, REST, NIL) else r.1, r.2.1⟩

/-- `Collection(graph, uri, seq)`: `if seq: self += seq` -/
def ctor (s : St) (h : Term) (xs : List Term) : Except Err St :=
  match xs with
  | [] => .ok s
  | _ :: _ => iadd s h xs

def clearAux : Nat → Graph → Option Term → Except Err Graph
  | _, g, none => .ok g
  | 0, _, some _ => .error .fuel
  | f + 1, g, some c => clearAux f (removeSP (removeSP g c FIRST) c REST) (value g c REST)

def clear (g : Graph) (h : Term) : Except Err Graph := clearAux (g.length + 2) g (some h)

/-! ### `Collection.n3()` -/

/-- `" ".join(ws)` -/
def joinSp : List (List Char) → List Char
  | [] => []
  | w :: ws =>
    match ws with
    | [] => w
    | _ :: _ => w ++ ' ' :: joinSp ws

/-- `"( %s )" % " ".join(ws)` -/
def n3Text {α : Type} (tok : α → List Char) (xs : List α) : List Char :=
  '(' :: ' ' :: (joinSp (xs.map tok) ++ [' ', ')'])

/-- `Collection.n3()`: `"( %s )" % (" ".join([i.n3() for i in self]))`; `tok` is the members' own `n3()`.
    A member that is itself the head of a list is rendered by its own `n3()` (a blank-node label), not nested. -/
def n3 (tok : Term → List Char) (g : Graph) (h : Term) : Except Err (List Char) :=
  match iter g h with
  | .ok xs => .ok (n3Text tok xs)
  | .error e => .error e

/-! ### rdflib's term syntax for the members (`URIRef.n3()`, `BNode.n3()`, `Literal.n3()` without a namespace
    manager), and a reader of N3 list syntax -/

/-- the terms a collection holds: IRI, blank node, literal (lexical form, datatype IRI, language tag) -/
inductive RTerm
  | iri (u : List Char)
  | bnode (id : List Char)
  | lit (lex : List Char) (dt : Option (List Char)) (lang : Option (List Char))
  deriving DecidableEq, Repr

/-- `Literal._quote_literal` for a lexical form without a line feed:
    `.replace("\\", "\\\\").replace('"', '\\"').replace("\r", "\\r")` -/
def escC (c : Char) : List Char :=
  if c = '\\' then ['\\', '\\'] else if c = '"' then ['\\', '"'] else if c = '\r' then ['\\', 'r'] else [c]

def esc : List Char → List Char
  | [] => []
  | c :: cs => escC c ++ esc cs

/-- `term.n3()` -/
def tokR : RTerm → List Char
  | .iri u => '<' :: (u ++ ['>'])
  | .bnode id => '_' :: ':' :: id
  | .lit x (some d) _ => '"' :: (esc x ++ '"' :: '^' :: '^' :: '<' :: (d ++ ['>']))
  | .lit x none (some l) => '"' :: (esc x ++ '"' :: '@' :: l)
  | .lit x none none => '"' :: (esc x ++ ['"'])

/-- split at the first `d`: what is before it, what is after it -/
def untilC (d : Char) : List Char → Option (List Char × List Char)
  | [] => none
  | c :: cs =>
    if c = d then some ([], cs)
    else match untilC d cs with
      | some (a, r) => some (c :: a, r)
      | none => none

/-- the characters up to the first blank, and the rest (starting with that blank) -/
def word : List Char → List Char × List Char
  | [] => ([], [])
  | c :: cs => if c = ' ' then ([], c :: cs) else (c :: (word cs).1, (word cs).2)

/-- read an escaped string body up to its closing quote -/
def unesc : List Char → Option (List Char × List Char)
  | [] => none
  | c :: cs =>
    if c = '"' then some ([], cs)
    else if c = '\\' then
      match cs with
      | [] => none
      | e :: cs' =>
        match unesc cs' with
        | some (a, r) => some ((if e = 'r' then '\r' else e) :: a, r)
        | none => none
    else match unesc cs with
      | some (a, r) => some (c :: a, r)
      | none => none

/-- the term-level lexer: one IRI `<…>`, blank node `_:…`, or literal `"…"`, `"…"^^<…>`, `"…"@…` off the front -/
def lexR : List Char → Option (RTerm × List Char)
  | '<' :: cs =>
    match untilC '>' cs with
    | some (u, r) => some (.iri u, r)
    | none => none
  | '_' :: ':' :: cs => some (.bnode (word cs).1, (word cs).2)
  | '"' :: cs =>
    match unesc cs with
    | none => none
    | some (x, r) =>
      match r with
      | '^' :: '^' :: '<' :: r' =>
        match untilC '>' r' with
        | some (d, r'') => some (.lit x (some d) none, r'')
        | none => none
      | '@' :: r' => some (.lit x none (some (word r').1), (word r').2)
      | _ => some (.lit x none none, r)
  | _ => none

/-- A reader of the inside of an N3 list `( … )`: skips blanks, stops at the closing parenthesis, and
    otherwise lets the term-level lexer `lex` take one term off the front.  Fuel = characters left. -/
def readItems {α : Type} (lex : List Char → Option (α × List Char)) : Nat → List Char → Option (List α)
  | 0, _ => none
  | f + 1, cs =>
    if cs = [')'] then some []
    else if cs.head? = some ' ' then readItems lex f cs.tail
    else
      match lex cs with
      | none => none
      | some (x, rest) =>
        match readItems lex f rest with
        | some xs => some (x :: xs)
        | none => none

def readN3 {α : Type} (lex : List Char → Option (α × List Char)) : List Char → Option (List α)
  | '(' :: cs => readItems lex cs.length cs
  | _ => none

/-! ### The abstraction function: the list a chain denotes (strict walk) -/

def asListAux (g : Graph) : Nat → Term → Except Err (List Term)
  | 0, _ => .error .fuel
  | f + 1, c =>
    if c = NIL then .ok []
    else
      match value g c FIRST, value g c REST with
      | some x, some r =>
        match asListAux g f r with
        | .ok xs => .ok (x :: xs)
        | .error e => .error e
      | _, _ => .error .other

/-- an empty collection is a head without list triples -/
def asList (g : Graph) (h : Term) : Except Err (List Term) :=
  if hasSP g h FIRST || hasSP g h REST then asListAux g (g.length + 2) h else .ok []

/-! ### One step of a history -/

inductive Op
  | append (x : Term)
  | extend (xs : List Term)
  | setItem (i : Int) (x : Term)
  | delItem (i : Int)
  | clear
  | len
  | iter
  | getItem (i : Int)
  | index (x : Term)
  | contains (x : Term)
  deriving DecidableEq, Repr

inductive Out
  | unit
  | nat (n : Nat)
  | term (t : Term)
  | list (xs : List Term)
  | bool (b : Bool)
  | err (e : Err)
  deriving DecidableEq, Repr

def outOf {α} (f : α → Out) : Except Err α → Out
  | .ok a => f a
  | .error e => .err e

def stOf (s : St) : Except Err St → St × Out
  | .ok s' => (s', .unit)
  | .error e => (s, .err e)

def gOf (s : St) : Except Err Graph → St × Out
  | .ok g => (⟨g, s.fresh⟩, .unit)
  | .error e => (s, .err e)

def step (h : Term) (s : St) : Op → St × Out
  | .append x => stOf s (append s h x)
  | .extend xs => stOf s (iadd s h xs)
  | .setItem i x => gOf s (setItem s.g h i x)
  | .delItem i => gOf s (delItem s.g h i)
  | .clear => gOf s (clear s.g h)
  | .len => (s, outOf .nat (len s.g h))
  | .iter => (s, outOf .list (iter s.g h))
  | .getItem i => (s, outOf .term (getItem s.g h i))
  | .index x => (s, outOf .nat (index s.g h x))
  | .contains x => (s, outOf .bool (contains s.g h x))

def run (h : Term) : St → List Op → St × List Out
  | s, [] => (s, [])
  | s, op :: ops => ((run h (step h s op).1 ops).1, (step h s op).2 :: (run h (step h s op).1 ops).2)

end RV.C19

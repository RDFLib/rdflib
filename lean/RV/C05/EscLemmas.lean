import RV.C05.NtParser
/- C05 — escapes.  The grammar of what stands inside IRIREF and the string forms (`Item`, `Body`) and the step equations
   (`Machine`, `Unescaper`) that relate `readIri` and `readStr` to it.  A run of hex digits has the value `Py.hexN` gives
   it (a function of the parser model, `int(…, 16)`): the grammar serves both sides. -/
namespace RV.C05
open Py

theorem ofCode_toNat (c : Char) : ofCode c.toNat = some c := by
  unfold ofCode
  have h : c.toNat.isValidChar := c.valid
  simp only [h, dite_true]
  rfl

theorem ofCode_val {n : Nat} {ch : Char} (h : ofCode n = some ch) : ch.toNat = n ∧ n ≤ 0x10FFFF := by
  unfold ofCode at h
  split at h
  · rename_i hv
    injection h with h
    subst h
    refine ⟨rfl, ?_⟩
    simp only [Nat.isValidChar] at hv
    omega
  · cases h

theorem hexDigit_ok : ∀ (u : Bool) (n : Nat), n < 16 →
    hexVal (hexDigit u n) = n ∧ isHex (hexDigit u n) = true := by decide +kernel

theorem hexN_hexDigit (u : Bool) {d : Nat} (n acc : Nat) (cs : Str) (hd : d < 16) :
    hexN (n + 1) acc (hexDigit u d :: cs) = hexN n (acc * 16 + d) cs := by
  have ⟨h1, h2⟩ := hexDigit_ok u d hd
  rw [hexN, if_pos h2, h1]

theorem hexN_hex4 (u : Bool) (n acc : Nat) {m : Nat} (cs : Str) (hm : m < 65536) :
    hexN (n + 4) acc (hex4 u m ++ cs) = hexN n (acc * 65536 + m) cs := by
  have horner (a b c d : Nat) :
      (((acc * 16 + a) * 16 + b) * 16 + c) * 16 + d = acc * 65536 + (((a * 16 + b) * 16 + c) * 16 + d) := by omega
  have hd {k : Nat} : k % 16 < 16 := Nat.mod_lt _ (by decide)
  simp only [hex4, List.cons_append, List.nil_append]
  -- the digits' value by Horner; that it is `m`: three times `k / 16 * 16 + k % 16 = k`
  rw [hexN_hexDigit u _ _ _ hd, hexN_hexDigit u _ _ _ hd, hexN_hexDigit u _ _ _ hd, hexN_hexDigit u _ _ _ hd, horner,
    Nat.mod_eq_of_lt ((Nat.div_lt_iff_lt_mul (by decide)).mpr hm), ← Nat.div_div_eq_div_mul m 256 16,
    ← Nat.div_div_eq_div_mul m 16 16, Nat.div_add_mod', Nat.div_add_mod', Nat.div_add_mod']

theorem hexN_some : ∀ (n acc : Nat) (cs : Str) (v : Nat), hexN n acc cs = some v →
    ∃ hs tl, cs = hs ++ tl ∧ hs.length = n ∧ hs.all isHex = true ∧ ∀ tl', hexN n acc (hs ++ tl') = some v
  | 0, _, cs, _, h => ⟨[], cs, rfl, rfl, rfl, fun _ => h⟩
  | _ + 1, _, [], _, h => nomatch h
  | n + 1, acc, c :: cs, v, h => by
    rw [hexN] at h
    by_cases hc : isHex c = true
    · rw [if_pos hc] at h
      obtain ⟨hs, tl, rfl, hl, hall, hv⟩ := hexN_some n _ cs v h
      exact ⟨c :: hs, tl, rfl, by rw [List.length_cons, hl], by rw [List.all_cons, hc, hall]; rfl,
        fun tl' => by rw [List.cons_append, hexN, if_pos hc, hv]⟩
    · rw [if_neg hc] at h
      cases h

theorem hex4_isHex (u : Bool) (n : Nat) : (hex4 u n).all isHex = true := by
  have hd {k : Nat} : k % 16 < 16 := Nat.mod_lt _ (by decide)
  simp [hex4, (hexDigit_ok u _ hd).2]

/-- One character as IRIREF [8] or a string body [22]–[25] spells it: itself (allowed by `ok`, neither the closing
    delimiter nor a backslash), an ECHAR of the table `ech`, or a UCHAR of four or eight hex digits. -/
inductive Item (close : Char) (ok : Char → Bool) (ech : Char → Option Char) : Str → Char → Prop
  | plain {c : Char} (hc : c ≠ close) (hb : c ≠ '\\') (hok : ok c = true) : Item close ok ech [c] c
  | byTable {d e : Char} (h : ech d = some e) : Item close ok ech ['\\', d] e
  | uch {d : Char} {n : Nat} {hs : Str} {v : Nat} {c : Char} (hd : d = 'u' ∧ n = 4 ∨ d = 'U' ∧ n = 8)
      (hl : hs.length = n) (hall : hs.all isHex = true) (hv : ∀ tl, hexN n 0 (hs ++ tl) = some v)
      (hc : ofCode v = some c) : Item close ok ech ('\\' :: d :: hs) c

/-- A sequence of items, and the characters it spells. -/
inductive Body (close : Char) (ok : Char → Bool) (ech : Char → Option Char) : Str → Str → Prop
  | nil : Body close ok ech [] []
  | cons {w raw i : Str} {c : Char} (hi : Item close ok ech w c) (hb : Body close ok ech raw i) :
      Body close ok ech (w ++ raw) (c :: i)

/-- What `readIri` and `readStr` (all four forms) have in common: away from the closing delimiter, the same step per
    character. -/
structure Machine (f : St → Str → Option (Str × Str)) (close : Char) (ok : Char → Bool) (ech : Char → Option Char) :
    Prop where
  bs : close ≠ '\\'
  echu : ech 'u' = none ∧ ech 'U' = none
  nil : ∀ st, f st [] = none
  norm : ∀ c cs, c ≠ close → f .norm (c :: cs) =
    if c = '\\' then f .esc cs else if ok c then push c (f .norm cs) else none
  esc : ∀ c cs, f .esc (c :: cs) =
    if c = 'u' then f (.hex 4 0) cs else if c = 'U' then f (.hex 8 0) cs
    else match ech c with
      | some e => push e (f .norm cs)
      | none => none
  hex : ∀ n acc c cs, f (.hex n acc) (c :: cs) =
    if isHex c then
      if n ≤ 1 then
        match ofCode (acc * 16 + hexVal c) with
        | some ch => push ch (f .norm cs)
        | none => none
      else f (.hex (n - 1) (acc * 16 + hexVal c)) cs
    else none

/-- IRIREF and the short string forms: the closing delimiter ends the body wherever it stands. -/
structure Unescaper (f : St → Str → Option (Str × Str)) (close : Char) (ok : Char → Bool) (ech : Char → Option Char) :
    Prop extends Machine f close ok ech where
  closes : ∀ cs, f .norm (close :: cs) = some ([], cs)

variable {f : St → Str → Option (Str × Str)} {close : Char} {ok : Char → Bool} {ech : Char → Option Char}

theorem Item.head (hb : close ≠ '\\') {w : Str} {c : Char} (h : Item close ok ech w c) : ∃ a t, w = a :: t ∧ a ≠ close := by
  cases h with
  | plain hc => exact ⟨_, _, rfl, hc⟩
  | byTable => exact ⟨_, _, rfl, hb.symm⟩
  | uch => exact ⟨_, _, rfl, hb.symm⟩

/-- `0 < n`: state `.hex 0 acc` still consumes a digit (the model tests `n ≤ 1`), `hexN 0` consumes none -/
theorem Machine.hex_hexN (M : Machine f close ok ech) : ∀ (n acc : Nat) (cs : Str), 0 < n → f (.hex n acc) cs =
    (hexN n acc cs).bind fun v => (ofCode v).bind fun ch => push ch (f .norm (cs.drop n))
  | 0, _, _, h => nomatch h
  | _ + 1, _, [], _ => by rw [M.nil]; rfl
  | 0 + 1, acc, c :: cs, _ => by
    rw [M.hex, hexN]
    by_cases hc : isHex c = true
    · rw [if_pos hc, if_pos hc, if_pos (Nat.le_refl 1), hexN, Option.bind_some]
      cases ofCode (acc * 16 + hexVal c) <;> rfl
    · rw [if_neg hc, if_neg hc]; rfl
  | n + 2, acc, c :: cs, _ => by
    rw [M.hex, hexN]
    by_cases hc : isHex c = true
    · have hn : ¬ n + 2 ≤ 1 := Nat.not_succ_le_zero _ ∘ Nat.le_of_succ_le_succ
      rw [if_pos hc, if_pos hc, if_neg hn, show n + 2 - 1 = n + 1 from rfl, M.hex_hexN (n + 1) _ _ (Nat.succ_pos n)]
      rfl
    · rw [if_neg hc, if_neg hc]; rfl

theorem Machine.item (M : Machine f close ok ech) {w : Str} {c : Char} (h : Item close ok ech w c) (X : Str) :
    f .norm (w ++ X) = push c (f .norm X) := by
  have hbs (d : Char) (Y : Str) : f .norm ('\\' :: d :: Y) = f .esc (d :: Y) := by
    rw [M.norm _ _ M.bs.symm, if_pos rfl]
  cases h with
  | plain hc hb hok => rw [List.cons_append, List.nil_append, M.norm _ _ hc, if_neg hb, if_pos hok]
  | @byTable d e h =>
    have hu : d ≠ 'u' := fun e' => by rw [e', M.echu.1] at h; cases h
    have hU : d ≠ 'U' := fun e' => by rw [e', M.echu.2] at h; cases h
    rw [List.cons_append, List.cons_append, List.nil_append, hbs, M.esc, if_neg hu, if_neg hU, h]
  | @uch d n hs v c hd hl _ hv hc =>
    have hn : 0 < n := by rcases hd with ⟨_, rfl⟩ | ⟨_, rfl⟩ <;> decide
    have : f .esc (d :: (hs ++ X)) = f (.hex n 0) (hs ++ X) := by
      rcases hd with ⟨rfl, rfl⟩ | ⟨rfl, rfl⟩
      · rw [M.esc, if_pos rfl]
      · rw [M.esc, if_neg (by decide), if_pos rfl]
    rw [List.cons_append, List.cons_append, hbs, this, M.hex_hexN n 0 _ hn, hv, Option.bind_some, hc, Option.bind_some, ← hl,
      List.drop_left]

theorem Unescaper.read (R : Unescaper f close ok ech) {raw i : Str} (h : Body close ok ech raw i) (rest : Str) :
    f .norm (raw ++ close :: rest) = some (i, rest) := by
  induction h with
  | nil => exact R.closes rest
  | cons hi _ ih => rw [List.append_assoc, R.item hi, ih]; rfl

theorem Machine.item_inv (M : Machine f close ok ech) {c : Char} {cs : Str} {r : Str × Str} (hc : c ≠ close)
    (h : f .norm (c :: cs) = some r) :
    ∃ w e tl, Item close ok ech w e ∧ c :: cs = w ++ tl ∧ push e (f .norm tl) = some r := by
  have hexItem (d : Char) (n : Nat) (hd : d = 'u' ∧ n = 4 ∨ d = 'U' ∧ n = 8) (cs2 : Str) (h : f (.hex n 0) cs2 = some r) :
      ∃ w e tl, Item close ok ech w e ∧ '\\' :: d :: cs2 = w ++ tl ∧ push e (f .norm tl) = some r := by
    rw [M.hex_hexN n 0 _ (by omega)] at h
    obtain ⟨v, hv, h⟩ := Option.bind_eq_some_iff.mp h
    obtain ⟨ch, hch, h⟩ := Option.bind_eq_some_iff.mp h
    obtain ⟨hs, tl, rfl, hl, hall, hv'⟩ := hexN_some _ _ _ _ hv
    rw [← hl, List.drop_left] at h
    exact ⟨_, ch, tl, .uch hd hl hall hv' hch, rfl, h⟩
  rw [M.norm _ _ hc] at h
  by_cases h2 : c = '\\'
  · rw [if_pos h2] at h
    subst h2
    cases cs with
    | nil => rw [M.nil] at h; cases h
    | cons d cs2 =>
      rw [M.esc] at h
      by_cases hu : d = 'u'
      · rw [if_pos hu] at h
        exact hexItem d 4 (Or.inl ⟨hu, rfl⟩) cs2 h
      rw [if_neg hu] at h
      by_cases hU : d = 'U'
      · rw [if_pos hU] at h
        exact hexItem d 8 (Or.inr ⟨hU, rfl⟩) cs2 h
      rw [if_neg hU] at h
      cases he : ech d with
      | none => rw [he] at h; cases h
      | some e => rw [he] at h; exact ⟨_, e, cs2, .byTable he, rfl, h⟩
  rw [if_neg h2] at h
  by_cases h3 : ok c = true
  · rw [if_pos h3] at h; exact ⟨_, c, cs, .plain hc h2 h3, rfl, h⟩
  · rw [if_neg h3] at h
    cases h

theorem Unescaper.body (R : Unescaper f close ok ech) (rest : Str) :
    ∀ (cs i : Str), f .norm cs = some (i, rest) → ∃ raw, cs = raw ++ close :: rest ∧ Body close ok ech raw i
  | [], _, h => by rw [R.nil] at h; cases h
  | c :: cs, i, h => by
    by_cases h1 : c = close
    · rw [h1, R.closes] at h
      cases h
      exact ⟨[], by rw [h1]; rfl, .nil⟩
    obtain ⟨w, e, tl, hi, hw, h⟩ := R.item_inv h1 h
    obtain ⟨⟨i', r⟩, hr, he⟩ := Option.map_eq_some_iff.mp h
    obtain ⟨rfl, rfl⟩ : e :: i' = i ∧ r = rest := by simpa using he
    have hl : tl.length < (c :: cs).length := by
      obtain ⟨a, t, rfl, _⟩ := hi.head R.bs
      rw [hw, List.cons_append, List.length_cons, List.length_append]
      omega
    obtain ⟨raw, rfl, hB⟩ := Unescaper.body R r tl i' hr
    exact ⟨w ++ raw, by rw [hw, List.append_assoc], .cons hi hB⟩
termination_by cs => cs.length
decreasing_by exact hl

theorem readIri_unescaper : Unescaper readIri '>' iriChar (fun _ => none) where
  bs := by decide
  echu := ⟨rfl, rfl⟩
  nil st := by cases st <;> rfl
  norm c cs h := by simp only [readIri, h, if_false]
  esc _ _ := rfl
  hex _ _ _ _ := rfl
  closes _ := rfl

/-- what may stand for itself in a string: anything in the long forms, no line end in the short ones -/
def strOk (long : Bool) (c : Char) : Bool := long || !(c == '\n' || c == '\r')

theorem strOk_of_ne {long : Bool} {c : Char} (hn : c ≠ '\n') (hr : c ≠ '\r') : strOk long c = true := by
  simp [strOk, hn, hr]

theorem readStr_machine (q : Char) (long : Bool) (hq : q ≠ '\\') : Machine (readStr q long) q (strOk long) echar where
  bs := hq
  echu := ⟨rfl, rfl⟩
  nil st := by cases st <;> rfl
  norm c cs h := by cases long <;> cases h' : (c == '\n' || c == '\r') <;> simp [readStr, h, h', strOk]
  esc _ _ := rfl
  hex _ _ _ _ := rfl

theorem readStr_unescaper (q : Char) (hq : q ≠ '\\') : Unescaper (readStr q false) q (strOk false) echar where
  toMachine := readStr_machine q false hq
  closes _ := by simp [readStr]

theorem readStr_item {q : Char} (hq : q ≠ '\\') {long : Bool} {w : Str} {c : Char} (h : Item q (strOk long) echar w c)
    (X : Str) : readStr q long .norm (w ++ X) = push c (readStr q long .norm X) :=
  (readStr_machine q long hq).item h X

theorem uchar_item (small u : Bool) (c : Char) : Item close ok ech (uchar small u c) c := by
  have hv := (ofCode_val (ofCode_toNat c)).2
  unfold uchar
  split
  · next h =>
    refine .uch (Or.inl ⟨rfl, rfl⟩) rfl (hex4_isHex u _) (fun tl => ?_) (ofCode_toNat c)
    rw [hexN_hex4 u 0 0 tl h.2, Nat.zero_mul, Nat.zero_add]; rfl
  · refine .uch (Or.inr ⟨rfl, rfl⟩) rfl (by simp [hex8, hex4_isHex]) (fun tl => ?_) (ofCode_toNat c)
    rw [hex8, List.append_assoc, hexN_hex4 u 4 0 _ (show c.toNat / 65536 < 65536 by omega),
      hexN_hex4 u 0 _ tl (Nat.mod_lt _ (by decide)), Nat.zero_mul, Nat.zero_add, Nat.div_add_mod']; rfl

end RV.C05

import RV.C05.EscLemmas
/- C05 — first what this file and NtParserLemmas need of the tokenisers (ECHAR, `spanP`, `unDot`, labels, language tags,
   `skipWs`); then: rdflib's N-Triples / N-Quads writer (Model part B) only writes what the strict reader (part A) accepts. -/
namespace RV.C05

theorem iriChar_ne {c : Char} (h : iriChar c = true) : c ≠ '>' ∧ c ≠ '\\' :=
  ⟨fun e => by subst e; exact absurd h (by decide), fun e => by subst e; exact absurd h (by decide)⟩

theorem all_imp {p q : Char → Bool} (hpq : ∀ c, p c = true → q c = true) :
    ∀ (s : Str), s.all p = true → s.all q = true :=
  fun _ h => List.all_eq_true.mpr fun c hc => hpq c (List.all_eq_true.mp h c hc)

/-! ECHAR [153s]: an `if` chain is `none` outside its finite domain; on the domain every fact is a finite check -/

def echarDom : List Char := ['t', 'b', 'n', 'r', 'f', '"', '\'', '\\']
theorem echar_dom {d e : Char} (h : echar d = some e) : d ∈ echarDom := by
  apply Decidable.byContradiction
  intro hn
  simp only [echarDom, List.mem_cons, List.not_mem_nil, or_false, not_or] at hn
  simp only [echar, hn, if_false] at h
  cases h

@[simp] theorem push_some (c : Char) (s r : Str) : push c (some (s, r)) = some (c :: s, r) := rfl

theorem spanP_append (p : Char → Bool) : ∀ (l rest : Str), l.all p = true →
    (∀ c r, rest = c :: r → p c = false) → spanP p (l ++ rest) = (l, rest)
  | [], rest, _, h => by
    cases rest with
    | nil => simp [spanP]
    | cons c r => simp [spanP, h c r rfl]
  | c :: cs, rest, hl, h => by
    simp only [List.all_cons, Bool.and_eq_true] at hl
    simp [spanP, hl.1, spanP_append p cs rest hl.2 h]

theorem spanP_spec {p : Char → Bool} : ∀ {cs a b : Str}, spanP p cs = (a, b) →
    a ++ b = cs ∧ a.all p = true ∧ ∀ c r, b = c :: r → p c = false
  | [], _, _, h => by cases h; exact ⟨rfl, rfl, nofun⟩
  | c :: cs, _, _, h => by
    unfold spanP at h
    split at h
    · next hc =>
      cases h
      have ⟨h1, h2, h3⟩ := spanP_spec (p := p) (cs := cs) rfl
      exact ⟨congrArg _ h1, by rw [List.all_cons, hc, h2]; rfl, h3⟩
    · next hc =>
      cases h
      exact ⟨rfl, rfl, fun _ _ e => by cases e; simpa using hc⟩

theorem unDot_id (l rest : Str) (h : l.getLast? ≠ some '.') : unDot (l, rest) = (l, rest) := by
  unfold unDot
  rw [← List.head?_reverse] at h
  cases hr : l.reverse with
  | nil =>
    have : l = [] := by simpa using hr
    simp [this]
  | cons x xs =>
    rw [hr] at h
    have hx : x ≠ '.' := by simpa using h
    have hl : l = (x :: xs).reverse := by rw [← hr]; simp
    have hb : (x == '.') = false := by simpa using hx
    simp only [hr, List.takeWhile, List.dropWhile, hb]
    simp [hl]

theorem unDot_split (tok r l rest : Str) (h : unDot (tok, r) = (l, rest)) :
    ∃ d, tok = l ++ d.reverse ∧ rest = d ++ r := by
  simp only [unDot, Prod.mk.injEq] at h
  refine ⟨tok.reverse.takeWhile (· == '.'), ?_, h.2.symm⟩
  rw [← h.1, ← List.reverse_append, List.takeWhile_append_dropWhile, List.reverse_reverse]

theorem labelChar_of_first {c : Char} (h : (pnCharsU c || isDigit c) = true) : labelChar c = true := by
  rcases Bool.or_eq_true _ _ ▸ h with h | h <;> simp [labelChar, pnChars, h]

theorem legalLabel_spec {l : Str} (h : legalLabel l = true) :
    l.all labelChar = true ∧ l.getLast? ≠ some '.' ∧ l ≠ [] := by
  cases l with
  | nil => simp [legalLabel] at h
  | cons c cs =>
    simp only [legalLabel, Bool.and_eq_true, bne_iff_ne, ne_eq] at h
    refine ⟨?_, h.2, by simp⟩
    simp only [List.all_cons, Bool.and_eq_true]
    exact ⟨labelChar_of_first h.1.1, h.1.2⟩

/-- one induction for both sides: a legal tag is all `langChar`, and rdflib's greedy automaton takes exactly it -/
theorem legalLang_scan : ∀ (tag : Str) (first : Bool) (n : Nat) (rest : Str), legalLangAux first n tag = true →
    tag.all langChar = true ∧
      ((∀ c r, rest = c :: r → langChar c = false) → Py.langScan first (tag ++ rest) = (tag, rest))
  | [], first, _, rest, _ => by
    refine ⟨rfl, fun hr => ?_⟩
    cases rest with
    | nil => rfl
    | cons c r =>
      have hc := hr c r rfl
      simp only [langChar, Bool.or_eq_false_iff, beq_eq_false_iff_ne, isAlnum] at hc
      simp [Py.langScan, hc.2, hc.1, isAlnum]
  | c :: cs, first, n, rest, h => by
    rw [legalLangAux] at h
    by_cases hc : c = '-'
    · -- after `-` the grammar restarts with `n = 0`: an alphanumeric must follow, which is the look-ahead `langScan` makes
      subst hc
      rw [if_pos rfl, Bool.and_eq_true] at h
      have ⟨ih1, ih2⟩ := legalLang_scan cs false 0 rest h.2
      refine ⟨by rw [List.all_cons, ih1]; rfl, fun hr => ?_⟩
      cases cs with
      | nil => cases h.2
      | cons d r =>
        have hd : isAlnum d = true := by
          have := h.2; rw [legalLangAux] at this
          split at this
          · cases this
          · simp only [Bool.false_eq_true, if_false, Bool.and_eq_true] at this; exact this.1
        rw [List.cons_append, List.cons_append, Py.langScan, if_pos rfl]
        simp only [hd, if_true, Py.consFst, ← List.cons_append, ih2 hr]
    · rw [if_neg hc] at h
      have hk : (if first = true then isAlpha c else isAlnum c) = true ∧ legalLangAux first (n + 1) cs = true := by
        cases first <;> simpa using h
      have ⟨ih1, ih2⟩ := legalLang_scan cs first (n + 1) rest hk.2
      have hl : langChar c = true := by
        cases first
        · simp [langChar, show isAlnum c = true from hk.1]
        · simp [langChar, isAlnum, show isAlpha c = true from hk.1]
      refine ⟨by rw [List.all_cons, ih1, hl]; rfl, fun hr => ?_⟩
      simp only [List.cons_append, Py.langScan, if_neg hc, hk.1, if_true, Py.consFst, ih2 hr]

theorem langChar_of_legal {s : Str} (h : legalLang s = true) : s.all langChar = true :=
  (legalLang_scan s true 0 [] h).1

theorem skipWs_subset : ∀ (cs : Str), skipWs cs ⊆ cs
  | [] => by simp [skipWs]
  | c :: cs => by
    unfold skipWs
    split
    · exact List.subset_cons_of_subset c (skipWs_subset cs)
    · exact List.Subset.refl _

theorem skipWs_idem : ∀ (cs : Str), skipWs (skipWs cs) = skipWs cs
  | [] => rfl
  | c :: cs => by
    by_cases h : c = ' ' ∨ c = '\t'
    · simp only [skipWs, h, if_true]; exact skipWs_idem cs
    · simp only [skipWs, h, if_false]

theorem readIri_raw (i rest : Str) (h : i.all iriChar = true) : readIri .norm (i ++ '>' :: rest) = some (i, rest) := by
  refine readIri_unescaper.read ?_ rest
  induction i with
  | nil => exact .nil
  | cons c cs ih =>
    rw [List.all_cons, Bool.and_eq_true] at h
    exact .cons (.plain (iriChar_ne h.1).1 (iriChar_ne h.1).2 h.1) (ih h.2)

theorem replaceChar_cons_ne {c x : Char} {r xs : Str} (h : x ≠ c) :
    replaceChar c r (x :: xs) = x :: replaceChar c r xs := by simp [replaceChar, h]

theorem replaceChar_cons_eq {c : Char} {r xs : Str} :
    replaceChar c r (c :: xs) = r ++ replaceChar c r xs := by simp [replaceChar]

theorem escChar_spec (c : Char) :
    (∃ e, escChar c = ['\\', e] ∧ echar e = some c) ∨
      (escChar c = [c] ∧ c ≠ '\\' ∧ c ≠ '\n' ∧ c ≠ '"' ∧ c ≠ '\r') := by
  by_cases h1 : c = '\\'
  · subst h1; exact Or.inl ⟨'\\', rfl, rfl⟩
  by_cases h2 : c = '\n'
  · subst h2; exact Or.inl ⟨'n', rfl, rfl⟩
  by_cases h3 : c = '"'
  · subst h3; exact Or.inl ⟨'"', rfl, rfl⟩
  by_cases h4 : c = '\r'
  · subst h4; exact Or.inl ⟨'r', rfl, rfl⟩
  · exact Or.inr ⟨by simp only [escChar, h1, h2, h3, h4, if_false], h1, h2, h3, h4⟩

theorem replaces_eq_escBody : ∀ (l : Str),
    replaceChar '\r' ['\\', 'r'] (replaceChar '"' ['\\', '"']
      (replaceChar '\n' ['\\', 'n'] (replaceChar '\\' ['\\', '\\'] l))) = escBody l
  | [] => rfl
  | c :: cs => by
    rw [escBody, ← replaces_eq_escBody cs]
    -- the `replace` that meets its character puts the ECHAR in; the others pass every character on
    by_cases h1 : c = '\\'
    · subst h1; simp [replaceChar_cons_eq, replaceChar_cons_ne, escChar]
    by_cases h2 : c = '\n'
    · subst h2; simp [replaceChar_cons_eq, replaceChar_cons_ne, escChar]
    by_cases h3 : c = '"'
    · subst h3; simp [replaceChar_cons_eq, replaceChar_cons_ne, escChar]
    by_cases h4 : c = '\r'
    · subst h4; simp [replaceChar_cons_eq, replaceChar_cons_ne, escChar]
    · simp [replaceChar_cons_ne, escChar, h1, h2, h3, h4]

theorem quoteEncode_eq (l : Str) : quoteEncode l = '"' :: (escBody l ++ ['"']) := by
  simp [quoteEncode, replaces_eq_escBody]

theorem escBody_body : ∀ (s : Str), Body '"' (strOk false) echar (escBody s) s
  | [] => .nil
  | c :: cs => by
    rw [escBody]
    refine .cons ?_ (escBody_body cs)
    rcases escChar_spec c with ⟨e, he, hec⟩ | ⟨he, h1, h2, h3, h4⟩
    · rw [he]; exact .byTable hec
    · rw [he]; exact .plain h3 h1 (strOk_of_ne h2 h4)

theorem readStr_escBody (s rest : Str) : readStr '"' false .norm (escBody s ++ '"' :: rest) = some (s, rest) :=
  (readStr_unescaper '"' (by decide)).read (escBody_body s) rest

theorem readTerm_termN3 (pos : Pos) (t : Term) (r : Str) (hl : legalTerm t = true)
    (hp : pos = .pred → isIri t = true) (hobj : isNode t = false → pos = .obj) :
    readTerm pos (termN3 t ++ ' ' :: r) = some (t, ' ' :: r) := by
  have hiri {i : Str} (h : legalIri i = true) : readIri .norm (i ++ '>' :: ' ' :: r) = some (i, ' ' :: r) ∧
      hasScheme i = true := by
    simp only [legalIri, Bool.and_eq_true] at h
    exact ⟨readIri_raw i _ h.1, h.2⟩
  cases t with
  | iri i => simp [termN3, readTerm, readIriTerm, hiri hl]
  | bnode l =>
    have hpp : pos ≠ .pred := fun e => by cases hp e
    have hs := legalLabel_spec hl
    have h1 : spanP labelChar (l ++ ' ' :: r) = (l, ' ' :: r) :=
      spanP_append labelChar l (' ' :: r) hs.1 (by intro c r' e; cases e; decide)
    simp [termN3, readTerm, hpp, readLabelTerm, h1, unDot_id l (' ' :: r) hs.2.1, show legalLabel l = true from hl]
  | plain lex => simp [termN3, quoteEncode_eq, readTerm, readLiteral, readStr_escBody, hobj rfl]
  | lang lex tag =>
    have hl' : legalLang tag = true := hl
    have h1 : spanP langChar (tag ++ ' ' :: r) = (tag, ' ' :: r) :=
      spanP_append langChar tag (' ' :: r) (langChar_of_legal hl') (by intro c r' e; cases e; decide)
    simp [termN3, quoteEncode_eq, readTerm, readLiteral, readStr_escBody, h1, hl', hobj rfl]
  | typed lex dt => simp [termN3, quoteEncode_eq, readTerm, readLiteral, readStr_escBody, hiri hl, hobj rfl]

theorem termN3_head (t : Term) : ∃ c r, termN3 t = c :: r ∧ c ≠ ' ' ∧ c ≠ '\t' ∧ c ≠ '#' ∧ c ≠ '.' := by
  cases t <;> exact ⟨_, _, rfl, by decide⟩

theorem skipWs_termN3 (t : Term) (x : Str) : skipWs (termN3 t ++ x) = termN3 t ++ x := by
  obtain ⟨c, r, e, h1, h2, _⟩ := termN3_head t
  simp [e, skipWs, h1, h2]

theorem isBlank_termN3 (t : Term) (x : Str) : isBlank (termN3 t ++ x) = false := by
  obtain ⟨c, r, e, _, _, h3, _⟩ := termN3_head t
  simp [e, isBlank, h3]

theorem skipWs_space (x : Str) : skipWs (' ' :: x) = skipWs x := by simp [skipWs]

theorem endOfStatement_dot : endOfStatement [' ', '.'] = true := by decide

theorem endOfStatement_dot2 : endOfStatement [' ', ' ', '.'] = true := by decide

theorem endOfStatement_term (t : Term) (x : Str) : endOfStatement (' ' :: (termN3 t ++ x)) = false := by
  obtain ⟨c, r, e, _, _, _, h4⟩ := termN3_head t
  rw [endOfStatement, skipWs_space, skipWs_termN3, e]
  simp [h4]

theorem isNode_of_isIri {t : Term} (h : isIri t = true) : isNode t = true := by
  cases t <;> first | rfl | cases h

theorem legalTriple_spec {s p o : Term} (h : legalTriple (s, p, o) = true) :
    isNode s = true ∧ legalTerm s = true ∧ isIri p = true ∧ legalTerm p = true ∧ legalTerm o = true := by
  simpa [legalTriple, and_assoc] using h

theorem parseLine_ntRow : ∀ (t : Triple), legalTriple t = true → NT.parseLine (ntRow t) = some (some t)
  | (s, p, o), h => by
    obtain ⟨hs1, hs2, hp1, hp2, ho⟩ := legalTriple_spec h
    simp [NT.parseLine, ntRow, skipWs_termN3, isBlank_termN3, skipWs_space, readTerm_termN3, endOfStatement_dot,
      hs1, hs2, hp1, isNode_of_isIri hp1, hp2, ho]

theorem parseLine_nqRow : ∀ (q : Quad), legalQuad q = true → NQ.parseLine (nqRow q) = some (some q)
  | (s, p, o, g), h => by
    simp only [legalQuad, Bool.and_eq_true] at h
    obtain ⟨ht, hg⟩ := h
    obtain ⟨hs1, hs2, hp1, hp2, ho⟩ := legalTriple_spec ht
    cases g with
    | none =>
      simp [NQ.parseLine, nqRow, skipWs_termN3, isBlank_termN3, skipWs_space, readTerm_termN3, endOfStatement_dot2,
        hs1, hs2, hp1, isNode_of_isIri hp1, hp2, ho]
    | some g =>
      simp only [Bool.and_eq_true] at hg
      simp [NQ.parseLine, nqRow, skipWs_termN3, isBlank_termN3, skipWs_space, readTerm_termN3, endOfStatement_dot,
        endOfStatement_term, hs1, hs2, hp1, isNode_of_isIri hp1, hp2, ho, hg.1, hg.2]

/-- no LF, no CR: one line for [7] EOL -/
def noEol (s : Str) : Bool := s.all (fun c => !(c == '\n' || c == '\r'))

@[simp] theorem noEol_nil : noEol [] = true := rfl
@[simp] theorem noEol_append (a b : Str) : noEol (a ++ b) = (noEol a && noEol b) := by simp [noEol]
@[simp] theorem noEol_cons (c : Char) (a : Str) : noEol (c :: a) = (!(c == '\n' || c == '\r') && noEol a) := by simp [noEol]

theorem noEol_cons_true {c : Char} {a : Str} (h : noEol (c :: a) = true) : c ≠ '\n' ∧ c ≠ '\r' ∧ noEol a = true := by
  simpa [and_assoc] using h

theorem lf_not_mem_of_noEol {l : Str} (h : noEol l = true) : '\n' ∉ l :=
  fun hm => by simpa using List.all_eq_true.mp h '\n' hm

theorem noEol_of_all {p : Char → Bool} (hn : p '\n' = false) (hr : p '\r' = false) {s : Str}
    (h : s.all p = true) : noEol s = true :=
  all_imp (fun c hc => by
    by_cases h1 : c = '\n'
    · rw [h1, hn] at hc; cases hc
    · by_cases h2 : c = '\r'
      · rw [h2, hr] at hc; cases hc
      · simp [h1, h2]) s h

/-- `_quote_encode` leaves no raw line end in the output — this is why it must escape both LF and CR -/
theorem noEol_escBody : ∀ (s : Str), noEol (escBody s) = true
  | [] => rfl
  | c :: cs => by
    have : ∀ e ∈ echarDom, e ≠ '\n' ∧ e ≠ '\r' := by decide +kernel
    rw [escBody, noEol_append, noEol_escBody cs]
    rcases escChar_spec c with ⟨e, he, hec⟩ | ⟨he, _, h2, _, h4⟩
    · simp [he, noEol, this e (echar_dom hec)]
    · simp [he, noEol, h2, h4]

theorem noEol_termN3 (t : Term) (h : legalTerm t = true) : noEol (termN3 t) = true := by
  have hq (lex : Str) : noEol (quoteEncode lex) = true := by
    simp [quoteEncode_eq, noEol_escBody]
  have hi {i : Str} (h : legalIri i = true) : noEol i = true := by
    simp only [legalIri, Bool.and_eq_true] at h
    exact noEol_of_all (by decide) (by decide) h.1
  cases t with
  | iri i => simp [termN3, hi h]
  | bnode l => simp [termN3, noEol_of_all (by decide) (by decide) (legalLabel_spec h).1]
  | plain lex => exact hq lex
  | lang lex tag =>
    simp [termN3, hq, noEol_of_all (by decide) (by decide) (langChar_of_legal h)]
  | typed lex dt => simp [termN3, hq, hi h]

theorem splitLines_eol : ∀ (pre : Str) (e : Char) (rest : Str), noEol pre = true → (e = '\n' ∨ e = '\r') →
    splitLines (pre ++ e :: rest) = pre :: splitLines rest
  | [], e, rest, _, he => by simp [splitLines, he]
  | c :: pre, e, rest, h, he => by
    have ⟨h1, h2, h3⟩ := noEol_cons_true h
    simp [splitLines, h1, h2, splitLines_eol pre e rest h3 he]

theorem noEol_ntRow : ∀ (t : Triple), legalTriple t = true → noEol (ntRow t) = true
  | (s, p, o), h => by
    obtain ⟨_, hs2, _, hp2, ho⟩ := legalTriple_spec h
    simp [ntRow, noEol_termN3 s hs2, noEol_termN3 p hp2, noEol_termN3 o ho]

theorem parseDoc_ntDoc : ∀ (ts : List Triple), (∀ t ∈ ts, legalTriple t = true) →
    NT.parseDoc (ntDoc ts) = some ts
  | [], _ => by simp [NT.parseDoc, ntDoc, splitLines, collect, NT.parseLine, skipWs, isBlank]
  | t :: ts, h => by
    have ht : legalTriple t = true := h _ (by simp)
    have ih := parseDoc_ntDoc ts (fun t m => h t (by simp [m]))
    unfold NT.parseDoc at ih ⊢
    simp only [ntDoc]
    rw [splitLines_eol _ _ _ (noEol_ntRow t ht) (Or.inl rfl)]
    simp [collect, parseLine_ntRow t ht, ih]

end RV.C05

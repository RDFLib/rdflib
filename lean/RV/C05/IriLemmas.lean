import RV.C05.Notions
/- C05 — PN_LOCAL escapes (Model part D: the first two lemmas), then RFC 3986 §5.2 (part E): `rds` on the path shapes
   `relativize` produces, `resolve` on each form of reference. -/
namespace RV.C05

theorem pnRawOk_backslash (a b : Bool) : pnRawOk a b '\\' = false := by
  cases a <;> cases b <;> decide

theorem pnLocal_roundtrip_aux : ∀ (s : Str) (first : Bool) (ks : List Nat),
    pnExpressibleAux first s = true → pnLocalUnesc (pnLocalAux first ks s) = s
  | [], _, _, _ => by simp [pnLocalAux, pnLocalUnesc]
  | c :: cs, first, ks, h => by
    simp only [pnExpressibleAux, Bool.and_eq_true] at h
    have hc : c ≠ '\\' := by
      rintro rfl
      simp [show pnEscapable '\\' = false by decide, pnRawHere, pnRawOk_backslash] at h
    have ih := pnLocal_roundtrip_aux cs false ks.tail h.2
    simp only [pnLocalAux]
    split
    · simp [pnLocalUnesc, ih]
    · have e : pnLocalUnesc (c :: pnLocalAux false ks.tail cs) = c :: pnLocalUnesc (pnLocalAux false ks.tail cs) := by
        conv => lhs; unfold pnLocalUnesc
        simp [hc]
      simpa [ih] using e

theorem dotdot_ne_dot : dotdot ≠ dot := by decide
theorem dot_ne_nil : dot ≠ [] := by decide

theorem noDots_cons {s : Str} {p : List Str} (h : noDots (s :: p) = true) :
    s ≠ dot ∧ s ≠ dotdot ∧ noDots p = true := by
  simp only [noDots, List.all_cons, Bool.and_eq_true, isDotSeg, Bool.not_eq_true', Bool.or_eq_false_iff,
    beq_eq_false_iff_ne, ne_eq] at h
  exact ⟨h.1.1, h.1.2, by simpa [noDots, isDotSeg] using h.2⟩

theorem rds_noDots : ∀ (p : List Str) (stk : List Str), noDots p = true → p ≠ [] →
    rds stk p = stk.reverse ++ p
  | [], _, _, h => absurd rfl h
  | [s], stk, hd, _ => by
    obtain ⟨h1, h2, _⟩ := noDots_cons hd
    simp [rds, h1, h2]
  | s :: t :: ss, stk, hd, _ => by
    obtain ⟨h1, h2, h3⟩ := noDots_cons hd
    have ih := rds_noDots (t :: ss) (s :: stk) h3 (by simp)
    simp [rds, h1, h2, ih]

theorem rds_append_noDots : ∀ (p q stk : List Str), noDots p = true → q ≠ [] →
    rds stk (p ++ q) = rds (p.reverse ++ stk) q
  | [], q, stk, _, _ => by simp
  | s :: p, q, stk, hd, hq => by
    obtain ⟨h1, h2, h3⟩ := noDots_cons hd
    have ih := rds_append_noDots p q (s :: stk) h3 hq
    cases hpq : p ++ q with
    | nil => simp at hpq; exact absurd hpq.2 hq
    | cons t ss =>
      rw [hpq] at ih
      simp only [List.cons_append, hpq, rds, h1, h2, if_false, ih]
      simp

theorem rds_dot (stk q : List Str) (hq : q ≠ []) : rds stk (dot :: q) = rds stk q := by
  cases q with
  | nil => exact absurd rfl hq
  | cons t ss => simp [rds]

theorem rds_ups : ∀ (m : Nat) (stk q : List Str), q ≠ [] →
    rds stk (List.replicate m dotdot ++ q) = rds (stk.drop m) q
  | 0, stk, q, _ => by simp
  | m + 1, stk, q, hq => by
    have ih := rds_ups m stk.tail q hq
    cases hpq : List.replicate m dotdot ++ q with
    | nil => simp at hpq; exact absurd hpq.2 hq
    | cons t ss =>
      rw [hpq] at ih
      simp only [List.replicate_succ, List.cons_append, hpq, rds, dotdot_ne_dot, if_false, if_true, ih]
      cases stk <;> simp

theorem removeDots_noDots (p : List Str) (h : noDots p = true) : removeDots p = p := by
  cases p with
  | nil => rfl
  | cons s rest =>
    simp only [removeDots]
    split
    · next hc =>
      have hr : rest ≠ [] := by
        intro e; simp [e] at hc
      obtain ⟨_, _, h3⟩ := noDots_cons h
      simp [rds_noDots rest [] h3 hr, hc.1]
    · simp [rds_noDots (s :: rest) [] h (by simp)]

theorem commonLen_le : ∀ (a b : List Str), commonLen a b ≤ a.length ∧ commonLen a b ≤ b.length
  | [], _ => by simp [commonLen]
  | _ :: _, [] => by simp [commonLen]
  | x :: a, y :: b => by
    have := commonLen_le a b
    simp only [commonLen]
    split <;> simp <;> omega

theorem commonLen_take : ∀ (a b : List Str), a.take (commonLen a b) = b.take (commonLen a b)
  | [], _ => by simp [commonLen]
  | _ :: _, [] => by simp [commonLen]
  | x :: a, y :: b => by
    simp only [commonLen]
    split
    · next h => simp [h, commonLen_take a b]
    · simp

theorem commonLen_pos (a b : List Str) (x : Str) : 1 ≤ commonLen (x :: a) (x :: b) := by
  simp [commonLen]

theorem absPath_spec {p : List Str} (h : absPath p = true) : ∃ x xs, p = [] :: x :: xs := by
  cases p with
  | nil => simp [absPath] at h
  | cons a rest =>
    cases rest with
    | nil => simp [absPath] at h
    | cons x xs =>
      simp [absPath] at h
      exact ⟨x, xs, by rw [h]⟩

theorem commonLen_dropLast (b y : List Str) (hy : y ≠ []) :
    commonLen b y.dropLast ≤ b.length ∧ commonLen b y.dropLast < y.length ∧
      b.take (commonLen b y.dropLast) = y.take (commonLen b y.dropLast) := by
  have ⟨h1, h2⟩ := commonLen_le b y.dropLast
  have e := commonLen_take b y.dropLast
  have hl : y.dropLast.length = y.length - 1 := List.length_dropLast
  have hpos : 0 < y.length := List.length_pos_iff.mpr hy
  generalize commonLen b y.dropLast = n at h1 h2 e ⊢
  refine ⟨h1, by omega, ?_⟩
  rw [e, List.dropLast_eq_take, List.take_take, Nat.min_eq_left (by omega)]

theorem noDots_sub {p q : List Str} (hsub : ∀ s ∈ q, s ∈ p) (h : noDots p = true) : noDots q = true := by
  simp only [noDots, List.all_eq_true] at h ⊢
  exact fun s hs => h s (hsub s hs)

/-- climbing out of the directory `b` down to a common prefix of length `n` and descending again along `y` gives `y`
    (`pre`: behind the "./" guard of `relativize`) -/
theorem rds_climb (b y : List Str) (n : Nat) (hnb : n ≤ b.length) (hny : n < y.length) (hbn : b.take n = y.take n)
    (hbd : noDots b = true) (hyd : noDots y = true) (pre : Bool) :
    rds [] (b ++ ((if pre then [dot] else []) ++ (List.replicate (b.length - n) dotdot ++ y.drop n))) = y := by
  have hq : y.drop n ≠ [] := fun e => by rw [List.drop_eq_nil_iff] at e; omega
  have hne : List.replicate (b.length - n) dotdot ++ y.drop n ≠ [] := by simp [hq]
  rw [rds_append_noDots b _ [] hbd (by cases pre <;> simp [hne]), List.append_nil]
  have hskip : rds b.reverse ((if pre then [dot] else []) ++ (List.replicate (b.length - n) dotdot ++ y.drop n)) =
      rds b.reverse (List.replicate (b.length - n) dotdot ++ y.drop n) := by
    cases pre
    · rfl
    · exact rds_dot _ _ hne
  rw [hskip, rds_ups _ _ _ hq, rds_noDots _ _ (noDots_sub (fun _ => List.mem_of_mem_drop) hyd) hq, List.drop_reverse,
    List.reverse_reverse, Nat.sub_sub_self hnb, hbn, List.take_append_drop]

theorem resolve_abs (base t : Ref) (hs : t.scheme.isSome = true) (hd : noDots t.path = true) :
    resolve base t = t := by
  obtain ⟨ts, ta, tp, tq, tf⟩ := t
  cases ts with
  | none => simp at hs
  | some x => simp [resolve, removeDots_noDots tp hd]

theorem resolve_net (base t : Ref) (a : Str) (ha : t.auth = some a) (hsc : t.scheme = base.scheme)
    (hd : noDots t.path = true) : resolve base { t with scheme := none } = t := by
  obtain ⟨ts, ta, tp, tq, tf⟩ := t
  simp only at ha hsc hd
  subst ha
  simp [resolve, removeDots_noDots tp hd, hsc]

/-- `R`, `pre`: `relativize`'s own terms, given by equations that the caller closes by `rfl` -/
theorem resolve_pathRel (ts : Option Str) (a : Str) (bq bf tq tf : Option Str) {bp tp : List Str}
    (hbp : absPath bp = true) (htp : absPath tp = true) (hbd : noDots bp = true) (htd : noDots tp = true) (pre : Bool)
    (R : List Str) (hR : R = List.replicate (bp.dropLast.length - commonLen bp.dropLast tp.dropLast) dotdot ++
      tp.drop (commonLen bp.dropLast tp.dropLast))
    (hpre : pre = (R.head?.map (fun (s : Str) => s.isEmpty || s.contains ':')).getD true) :
    resolve ⟨ts, some a, bp, bq, bf⟩ ⟨none, none, if pre = true then dot :: R else R, tq, tf⟩ =
      ⟨ts, some a, tp, tq, tf⟩ := by
  obtain ⟨y0, ys, rfl⟩ := absPath_spec htp
  obtain ⟨x0, xs, rfl⟩ := absPath_spec hbp
  -- what the "./" guard is for
  have ⟨hne, hhd⟩ : (if pre = true then dot :: R else R) ≠ [[]] ∧
      (if pre = true then dot :: R else R).head? ≠ some [] := by
    cases pre
    · cases R with
      | nil => simp at hpre
      | cons s r =>
        have hs : s ≠ [] := by intro e; simp [e] at hpre
        simp [hs]
    · simp [dot_ne_nil]
  have ⟨hn1, hn2, hn3⟩ := commonLen_dropLast (x0 :: xs).dropLast (y0 :: ys) (List.cons_ne_nil _ _)
  have key := rds_climb (x0 :: xs).dropLast (y0 :: ys) _ hn1 hn2 hn3
    (noDots_sub (fun s hs => List.mem_cons_of_mem _ (List.dropLast_subset _ hs)) hbd)
    (noDots_sub (fun _ => List.mem_cons_of_mem _) htd) pre
  -- both paths start with "": `commonLen` steps over it, and `R` is what `rds_climb` is about
  simp only [List.dropLast_cons_cons, commonLen, if_true, List.length_cons, Nat.add_sub_add_right,
    List.drop_succ_cons] at hR
  rw [← hR] at key
  have hrel : (if pre = true then dot :: R else R) = (if pre = true then [dot] else []) ++ R := by
    cases pre <;> rfl
  rw [hrel] at hne hhd ⊢
  simp only [resolve, hne, hhd, if_false, mergePaths, List.dropLast_cons_cons, List.cons_append, removeDots]
  -- `removeDots` strips the leading "" of the merged path
  generalize (x0 :: xs).dropLast ++ ((if pre = true then [dot] else []) ++ R) = rest at key
  cases rest with
  | nil => cases key
  | cons r rs => simp [key]

theorem resolve_if {c : Prop} [Decidable c] {base a b t : Ref} (h1 : c → resolve base a = t)
    (h2 : ¬ c → resolve base b = t) : resolve base (if c then a else b) = t := by
  by_cases h : c
  · rw [if_pos h]; exact h1 h
  · rw [if_neg h]; exact h2 h

end RV.C05

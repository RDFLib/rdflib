import RV.C05.EscLemmas
/-
  C05 — the four Turtle string forms: reading what `escapeWith` wrote gives the string back.
-/
namespace RV.C05

theorem echar_echarOf {c e : Char} (h : echarOf c = some e) : echar e = some c := by
  -- on the domain of `echarOf` a finite check; outside it the `if` chain is `none`
  have : ∀ c ∈ ['\t', Char.ofNat 8, '\n', '\r', Char.ofNat 12, '"', '\'', '\\'], (echarOf c).bind echar = some c := by
    decide +kernel
  have := this c (Decidable.byContradiction fun hn => by
    simp only [List.mem_cons, List.not_mem_nil, or_false, not_or] at hn
    simp only [echarOf, hn, if_false] at h
    cases h)
  rwa [h] at this

/-- what `spellChar` can write for `c`, with the new count of raw delimiters: a raw delimiter (long forms only), or
    an item of the string grammar -/
inductive Spelled (f : Form) (run : Nat) (more : Bool) (c : Char) : Str × Nat → Prop
  | delim (hc : c = f.q) (hl : f.long = true) (hr : run < 2) (hm : more = true) : Spelled f run more c ([c], run + 1)
  | item {w : Str} (h : Item f.q (strOk f.long) echar w c) : Spelled f run more c (w, 0)

theorem rawOk_spelled {f : Form} {run : Nat} {more : Bool} {c : Char} (h : rawOk f run more c = true) :
    Spelled f run more c ([c], if c = f.q then run + 1 else 0) := by
  unfold rawOk at h
  by_cases hb : c = '\\'
  · simp [hb] at h
  by_cases hc : c = f.q
  · subst hc
    simp only [hb, if_false, if_true, Bool.and_eq_true, decide_eq_true_eq] at h
    rw [if_pos rfl]
    exact .delim rfl h.1.1 h.1.2 h.2
  · simp only [hb, hc, if_false] at h
    rw [if_neg hc]
    refine .item (.plain hc hb ?_)
    by_cases he : c = '\n' ∨ c = '\r'
    · simp [strOk, show f.long = true by simpa [he] using h]
    · exact strOk_of_ne (not_or.mp he).1 (not_or.mp he).2

theorem spellChar_spelled (f : Form) (run : Nat) (more : Bool) (k : Nat) (c : Char) :
    Spelled f run more c (spellChar f run more k c) := by
  unfold spellChar
  simp only
  by_cases h0 : k % 4 = 0 ∧ rawOk f run more c = true
  · rw [if_pos h0]; exact rawOk_spelled h0.2
  rw [if_neg h0]
  by_cases h1 : k % 4 ≤ 1
  · rw [if_pos h1]
    cases he : echarOf c with
    | some e => exact .item (.byTable (echar_echarOf he))
    | none =>
      by_cases hr : rawOk f run more c = true
      · simp only [hr, if_true]; exact rawOk_spelled hr
      · simp only [hr]; exact .item (uchar_item _ _ _)
  · rw [if_neg h1]; exact .item (uchar_item _ _ _)

theorem delim_ne_backslash {q : Char} (hq : q = '"' ∨ q = '\'') : q ≠ '\\' := by
  rcases hq with h | h <;> subst h <;> decide

theorem escapeAux_cons (f : Form) (run : Nat) (ks : List Nat) (c : Char) (cs : Str) :
    escapeAux f run ks (c :: cs) =
      (spellChar f run (!cs.isEmpty) (ks.headD 0) c).1 ++
        escapeAux f (spellChar f run (!cs.isEmpty) (ks.headD 0) c).2 ks.tail cs := by
  simp [escapeAux]

/-- after a raw delimiter (`1 ≤ r`) the text does not go on with two more: after a second one `run = 2`, `rawOk` refuses
    the delimiter, and what is written is an item, which does not start with it -/
theorem lookahead_not_closer (f : Form) (hq : f.q ≠ '\\') (r : Nat) (hr : 1 ≤ r) (ks : List Nat) (s : Str) (y : Char)
    (Y : Str) (hs : s ≠ []) : ∃ a b t, escapeAux f r ks s ++ y :: Y = a :: b :: t ∧ ¬ (a = f.q ∧ b = f.q) := by
  have first (r : Nat) (ks : List Nat) (s : Str) (hs : s ≠ []) : ∃ a t, escapeAux f r ks s ++ y :: Y = a :: (t ++ y :: Y) ∧
      (a = f.q → r < 2 ∧ ∃ ks' s', s' ≠ [] ∧ t = escapeAux f (r + 1) ks' s') := by
    cases s with
    | nil => exact absurd rfl hs
    | cons c cs =>
      have hsp := spellChar_spelled f r (!cs.isEmpty) (ks.headD 0) c
      rw [escapeAux_cons]
      generalize spellChar f r (!cs.isEmpty) (ks.headD 0) c = p at hsp
      cases hsp with
      | delim hc _ hr hm => exact ⟨c, _, rfl, fun _ => ⟨hr, ks.tail, cs, by intro e0; simp [e0] at hm, rfl⟩⟩
      | item h =>
        obtain ⟨a, t, e, ha⟩ := h.head hq
        exact ⟨a, t ++ _, by rw [e, List.cons_append, List.cons_append, List.append_assoc], fun e' => absurd e' ha⟩
  obtain ⟨a, t, e, ha⟩ := first r ks s hs
  by_cases haq : a = f.q
  · obtain ⟨_, ks', s', hs', rfl⟩ := ha haq
    obtain ⟨b, t', e', hb⟩ := first (r + 1) ks' s' hs'
    exact ⟨a, b, t' ++ y :: Y, by rw [e, e'], fun h => by have := (hb h.2).1; omega⟩
  · cases t with
    | nil => exact ⟨a, y, Y, e, fun h => haq h.1⟩
    | cons b t' => exact ⟨a, b, t' ++ y :: Y, e, fun h => haq h.1⟩

theorem readStr_escapeAux (f : Form) (hq : f.q ≠ '\\') (rest : Str) :
    ∀ (s : Str) (run : Nat) (ks : List Nat),
      readStr f.q f.long .norm (escapeAux f run ks s ++ (closer f ++ rest)) = some (s, rest)
  | [], run, ks => by
    unfold closer
    cases h : f.long <;> simp [escapeAux, readStr]
  | c :: cs, run, ks => by
    have ih := readStr_escapeAux f hq rest cs
    rw [escapeAux_cons, List.append_assoc]
    have hsp := spellChar_spelled f run (!cs.isEmpty) (ks.headD 0) c
    generalize spellChar f run (!cs.isEmpty) (ks.headD 0) c = r at hsp
    cases hsp with
    | delim hc hl hr hm =>
      -- the reader looks two characters ahead, and does not find the closing delimiter there
      obtain ⟨Y, hY⟩ : ∃ Y, closer f ++ rest = f.q :: Y := by unfold closer; split <;> exact ⟨_, rfl⟩
      have ih := ih (run + 1) ks.tail
      rw [hY] at ih ⊢
      obtain ⟨x, y, t, hxy, hn⟩ := lookahead_not_closer f hq (run + 1) (by omega) ks.tail cs f.q Y (by intro e; simp [e] at hm)
      have : readStr f.q f.long .norm (f.q :: x :: y :: t) = push f.q (readStr f.q f.long .norm (x :: y :: t)) := by
        rw [readStr, if_pos rfl, if_pos hl]
        simp only [hn, if_false]
      rw [hxy] at ih ⊢
      rw [hc, List.cons_append, List.nil_append, this, ih]
      rfl
    | item h => rw [readStr_item hq h, ih 0 _]; rfl

end RV.C05

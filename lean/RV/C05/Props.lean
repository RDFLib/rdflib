import RV.C05.Lemmas
import RV.C05.StrLemmas
import RV.C05.IriLemmas
import RV.C05.Tables
import RV.C05.Utf8Lemmas
import RV.C05.NtParserLemmas
/-
  C05 — property statements (the general ones as `def Statement_… : Prop`, at full strength) and theorems, by topic.

  "Parsers read every legal spelling of a graph; N-Triples/N-Quads output is valid."

  Reference artefacts (DESIGN §1): a strict reader of the W3C N-Triples / N-Quads grammar, the codecs of the
  independent randomised writer, a UTF-8 codec with the input routes.  Models of rdflib code: the N-Triples /
  N-Quads writer, the escape table, the N-Triples / N-Quads parser.
-/
namespace RV.C05

/-! ### rdflib's N-Triples / N-Quads output is valid and means the same graph -/

/-- `_quote_encode` (four chained `str.replace`) then the grammar's STRING_LITERAL_QUOTE reader:
    identity on every string — `unescape (escape s) = s` — whatever follows the closing quote. -/
def Statement_unescape_escape : Prop :=
  ∀ (s rest : Str), ∃ body, quoteEncode s = '"' :: body ∧
    readStr '"' false .norm (body ++ rest) = some (s, rest)

/-- every line `_nt_row` writes for a triple over grammar-legal IRIs, labels and language tags is
    accepted by the strict reader and means that triple -/
def Statement_nt_output_valid : Prop :=
  ∀ (t : Triple), legalTriple t = true → NT.parseLine (ntRow t) = some (some t)

/-- the same for `_nq_row`: the graph label is present iff the quad is not in the default graph -/
def Statement_nq_output_valid : Prop :=
  ∀ (q : Quad), legalQuad q = true → NQ.parseLine (nqRow q) = some (some q)

/-- whole documents: the concatenated rows (each ended by "\n") are split into exactly those lines —
    no literal content can break a line, because LF *and* CR are escaped — and mean the triples
    in order -/
def Statement_nt_doc_valid : Prop :=
  ∀ (ts : List Triple), (∀ t ∈ ts, legalTriple t = true) → NT.parseDoc (ntDoc ts) = some ts

theorem unescape_escape : Statement_unescape_escape := by
  intro s rest
  refine ⟨escBody s ++ ['"'], quoteEncode_eq s, ?_⟩
  have := readStr_escBody s rest
  simpa using this

theorem nt_output_valid : Statement_nt_output_valid := parseLine_ntRow

theorem nq_output_valid : Statement_nq_output_valid := parseLine_nqRow

theorem nt_doc_valid : Statement_nt_doc_valid := parseDoc_ntDoc

/-- why CR must be escaped: a writer that escaped only `\`, LF and `"` would emit a raw CR, and
    the reader (CR is an EOL) would see two broken lines — the statement fails on this instance -/
def ntRowNoCr (lex : Str) : Str :=
  "<http://a/s> <http://a/p> \"".toList ++
    replaceChar '"' ['\\', '"'] (replaceChar '\n' ['\\', 'n'] (replaceChar '\\' ['\\', '\\'] lex)) ++
    "\" .".toList

theorem unescaped_cr_breaks_the_line : NT.parseDoc (ntRowNoCr ['a', '\r', 'b'] ++ ['\n']) = none := by
  -- a literal is `String.ofList` of its characters: with `"…".toList` rewritten to that list, here and in the test
  -- vectors below, the kernel evaluates the model only and not the UTF-8 decoder behind `String.toList`
  unfold ntRowNoCr
  repeat rw [String.toList_ofList]
  decide +kernel

/-! ### tables regenerated from rdflib's source on every run (RV/C05/Tables.lean) -/

/-- `rdflib.compat._string_escape_map` (used by the N-Triples and Turtle escape decoders) is exactly the
    grammar's ECHAR table [153s] -/
def Statement_escape_table_is_echar : Prop :=
  (∀ p ∈ Tables.stringEscapeMap, echar p.1 = some p.2) ∧
  (∀ c ∈ ['t', 'b', 'n', 'r', 'f', '"', '\'', '\\'], (Tables.stringEscapeMap.lookup c) = echar c)

theorem escape_table_is_echar : Statement_escape_table_is_echar := by
  unfold Statement_escape_table_is_echar
  decide

/-! ### the randomised writer's string forms -/

/-- the four quotings of Turtle: `"…"`, `'…'`, `"""…"""`, `'''…'''` -/
def turtleForm (f : Form) : Prop := f.q = '"' ∨ f.q = '\''

/-- for every form, every choice stream and every string: the token the writer produces is read
    back by the grammar's reader as that string, and the reader stops exactly after the token -/
def Statement_unescape_escapeWith : Prop :=
  ∀ (f : Form) (ks : List Nat) (s rest : Str), turtleForm f →
    readStringToken f (stringToken f ks s ++ rest) = some (s, rest)

theorem unescape_escapeWith : Statement_unescape_escapeWith := by
  intro f ks s rest hf
  have h := readStr_escapeAux f (delim_ne_backslash hf) rest s 0 ks
  unfold readStringToken stringToken escapeWith
  cases hl : f.long
  · simp [closer, hl] at h ⊢
    exact h
  · simp [closer, hl] at h ⊢
    exact h

/-- non-vacuity: a long string whose content has quotes, a backslash and line ends, under a
    non-trivial choice stream, and the token really is what one expects -/
example : stringToken ⟨'"', true⟩ [0, 0, 0, 1, 2, 7] ['a', '"', '"', '\n', 'é', '"'] =
    "\"\"\"a\"\"\\n\\u00e9\\U00000022\"\"\"".toList := by
  repeat rw [String.toList_ofList]
  decide +kernel

example : readStringToken ⟨'\'', true⟩ ("'''it''s\\''''".toList ++ [' ', '.']) =
    some ("it''s'".toList, [' ', '.']) := by
  repeat rw [String.toList_ofList]
  decide +kernel

/-! ### PN_LOCAL escapes -/

/-- every expressible local name, under every choice stream, un-escapes to itself -/
def Statement_pnlocal_roundtrip : Prop :=
  ∀ (ks : List Nat) (s : Str), pnExpressible s = true → pnLocalUnesc (pnLocalEsc ks s) = s

theorem pnlocal_roundtrip : Statement_pnlocal_roundtrip := by
  intro ks s h
  exact pnLocal_roundtrip_aux s true ks h

example : pnLocalEsc [0, 1, 0, 0] "a.b~".toList = "a\\.b\\~".toList := by
  repeat rw [String.toList_ofList]
  decide +kernel
example : pnExpressible "a b".toList = false := by
  repeat rw [String.toList_ofList]
  decide +kernel

/-! ### relative IRI references (RFC 3986 §5.2) -/

/-- For a base with authority and an absolute path, and a target IRI, both without dot segments:
    whichever relative form the choice `k` selects (absolute, network-path `//…`, absolute-path `/…`,
    path-relative with as many `../` as needed, same-document `?…`/`#…`), resolving it against the
    base gives the target back.  (`okBase`, `okTarget` are decidable; the generator satisfies them.) -/
def Statement_resolve_relativize : Prop :=
  ∀ (base t : Ref) (k : Nat), okBase base = true → okTarget t = true →
    resolve base (relativize base t k) = t

theorem resolve_relativize : Statement_resolve_relativize := by
  rintro ⟨bs, ba, bp, bq, bf⟩ ⟨ts, ta, tp, tq, tf⟩ k hb ht
  simp only [okBase, okTarget, Bool.and_eq_true] at hb ht
  obtain ⟨⟨_, hbp⟩, hbd⟩ := hb
  obtain ⟨hts, htd⟩ := ht
  unfold relativize
  simp only []
  -- one goal per form of reference, in the order of `relativize`'s tests
  refine resolve_if (fun _ => resolve_abs _ _ hts htd) fun h1 => ?_
  simp only [not_or, Bool.not_eq_true', Bool.and_eq_false_iff, decide_eq_false_iff_not, Bool.not_eq_false] at h1
  -- h1: k ≠ 0, same scheme, the target has an authority
  obtain ⟨_, ⟨hsame, _⟩, hta⟩ := h1
  have hsame : ts = bs := Decidable.not_not.mp hsame
  obtain ⟨a, rfl⟩ : ∃ a, ta = some a := by
    cases ta with
    | none => exact absurd rfl hta
    | some a => exact ⟨a, rfl⟩
  refine resolve_if (fun _ => resolve_net _ ⟨ts, some a, tp, tq, tf⟩ a rfl hsame htd) fun h2 => ?_
  simp only [not_or, Bool.not_eq_true', Bool.not_eq_false, Bool.and_eq_true, decide_eq_true_eq] at h2
  -- h2: k ≠ 1, same authority, both paths absolute
  obtain ⟨_, ⟨_, hauth⟩, htp, _⟩ := h2
  subst hsame hauth
  obtain ⟨y0, ys, rfl⟩ := absPath_spec htp
  refine resolve_if (fun _ => ?_) fun _ => resolve_if (fun h4 => ?_) fun _ => ?_
  · simp [resolve, removeDots_noDots _ htd]   -- absolute-path form
  · obtain ⟨_, hp, hqq⟩ := h4   -- same-document form
    cases hp
    cases tq with
    | some q => simp [resolve]
    | none =>
      simp at hqq
      simp [resolve, hqq]
  · exact resolve_pathRel ts a bq bf tq tf hbp htp hbd htd _ _ rfl rfl   -- path-relative form

/-- non-vacuity, at string level (parseRef / showRef are executed, not covered by the theorem) -/
example : okBase (parseRef "http://example.org/base/doc".toList) = true ∧
    okTarget (parseRef "http://example.org/other/x?q#f".toList) = true := by
  repeat rw [String.toList_ofList]
  decide +kernel

example : showRef (relativize (parseRef "http://example.org/base/sub/doc".toList)
    (parseRef "http://example.org/other/x?q#f".toList) 3) = "../../other/x?q#f".toList := by
  repeat rw [String.toList_ofList]
  decide +kernel

/-- what the reference says on the witness of finding C05-F8 (rdflib's `join` before the fix gave
    `…/base/?q=1`, `#a:b` unresolved, and kept the dot segments) -/
example : showRef (resolve (parseRef "http://example.org/base/doc?x=1#f".toList) (parseRef "?q=1".toList))
    = "http://example.org/base/doc?q=1".toList := by
  repeat rw [String.toList_ofList]
  decide +kernel
example : showRef (resolve (parseRef "http://example.org/base/doc?x=1#f".toList) (parseRef "#a:b".toList))
    = "http://example.org/base/doc?x=1#a:b".toList := by
  repeat rw [String.toList_ofList]
  decide +kernel
example : showRef (resolve (parseRef "http://example.org/base/doc".toList) (parseRef "c/./d/../e".toList))
    = "http://example.org/base/c/e".toList := by
  repeat rw [String.toList_ofList]
  decide +kernel
example : showRef (resolve (parseRef "http://example.org/base/doc".toList) (parseRef "/../g".toList))
    = "http://example.org/g".toList := by
  repeat rw [String.toList_ofList]
  decide +kernel

/-! ### input sources: the same characters reach the reader on every route (RV/C05/Utf8.lean) -/

/-- UTF-8 as written by `str.encode`, read by the strict decoder the input sources use: identity on scalar values -/
def Statement_utf8_decode_encode : Prop :=
  ∀ (cps : List Nat), (∀ c ∈ cps, Utf8.scalar c = true) → Utf8.decode (Utf8.encode cps) = some cps

/-- the decoder accepts only canonical encodings of scalar values (no overlong forms, no surrogates, nothing above
    10FFFF, no truncated or stray bytes): whatever it accepts is exactly what `encode` writes for the result -/
def Statement_utf8_encode_decode : Prop :=
  ∀ (bs cps : List Nat), Utf8.decode bs = some cps →
    Utf8.encode cps = bs ∧ ∀ c ∈ cps, Utf8.scalar c = true

/-- Whichever way the document is handed over — the str itself, its UTF-8 bytes as data=, or a byte stream
    (file=, path, BytesIO) — the reader of each syntax receives the same code points: the document itself for
    N-Triples / N-Quads (a leading U+FEFF included), the document minus one leading U+FEFF for Turtle / TriG. -/
def Statement_input_source_equiv : Prop :=
  ∀ (sx : Utf8.Syntax) (r : Utf8.Route) (doc : List Nat), (∀ c ∈ doc, Utf8.scalar c = true) →
    Utf8.handed sx r doc = some (if Utf8.turtleFamily sx then Utf8.skipBom doc else doc)

theorem utf8_decode_encode : Statement_utf8_decode_encode := Utf8.decode_encode

theorem utf8_encode_decode : Statement_utf8_encode_decode :=
  fun bs cps h => Utf8.encode_decodeS bs.length bs cps (Nat.le_refl _) h

theorem input_source_equiv : Statement_input_source_equiv := by
  intro sx r doc h
  have hd := Utf8.decode_encode doc h
  cases r <;> cases hsx : Utf8.turtleFamily sx <;> simp [Utf8.handed, hd, hsx]

/-- finding C05-F14: before the fix the same bytes (BOM, then `<`) reached the Turtle reader with the mark when given
    as data=bytes and without it when given as file= -/
theorem bom_routes_differed_before_F14 :
    Utf8.handedBeforeF14 .turtle .bytes [0xFEFF, 0x3C] ≠ Utf8.handedBeforeF14 .turtle .file [0xFEFF, 0x3C] := by
  decide

/-- non-vacuity / boundaries: the encodings of U+007F, U+0080, U+07FF, U+0800, U+FFFF, U+10000, U+10FFFF, and what
    the decoder refuses (overlong C0 80, E0 80 80, surrogate ED A0 80, F4 90 80 80 > 10FFFF, truncation, stray 80) -/
example : Utf8.encode [0x7F, 0x80, 0x7FF, 0x800, 0xFFFF, 0x10000, 0x10FFFF] =
    [0x7F, 0xC2, 0x80, 0xDF, 0xBF, 0xE0, 0xA0, 0x80, 0xEF, 0xBF, 0xBF, 0xF0, 0x90, 0x80, 0x80, 0xF4, 0x8F, 0xBF, 0xBF] := by
  decide +kernel
example : [[0xC0, 0x80], [0xE0, 0x80, 0x80], [0xED, 0xA0, 0x80], [0xF4, 0x90, 0x80, 0x80], [0xE2, 0x82], [0x80],
    [0xF0, 0x80, 0x80, 0x80], [0xC1, 0xBF], [0xF5, 0x80, 0x80, 0x80], [256]].all (fun bs => Utf8.decode bs == none) = true := by
  decide +kernel
example : Utf8.handed .nt .file [0xFEFF, 0x3C] = some [0xFEFF, 0x3C] ∧
    Utf8.handed .trig .bytes [0xFEFF, 0x3C] = some [0x3C] := by decide +kernel

/-! ### rdflib's N-Triples / N-Quads parser (RV/C05/NtParser.lean = ntriples.py `W3CNTriplesParser`, nquads.py `parseline`,
    compat.py `decodeUnicodeEscape`) -/

/-- Every line the strict reader of the W3C N-Triples grammar accepts — as a triple, or as an empty / comment line — the
    model of rdflib's `parseline` reads the same way: same triple (IRIs and strings unescaped to the same code points,
    same blank-node label, same language tag / datatype), nothing raised.  (`'\n' ∉ line`: `readline` never returns a
    line containing LF, and `.` in `r_tail`'s comment does not match one.) -/
def Statement_ntparser_refines_reference : Prop :=
  ∀ (line : Str) (r : Option Triple), '\n' ∉ line → NT.parseLine line = some r →
    Py.ntParseline line = .ok (r.map codeTriple)

/-- the same for N-Quads: graph label read as the same term, absent iff the statement has none -/
def Statement_nqparser_refines_reference : Prop :=
  ∀ (line : Str) (r : Option Quad), '\n' ∉ line → NQ.parseLine line = some r →
    Py.nqParseline line = .ok (r.map codeQuad)

theorem ntparser_refines_reference : Statement_ntparser_refines_reference := ntParseline_refines

theorem nqparser_refines_reference : Statement_nqparser_refines_reference := nqParseline_refines

/-- Whole documents, no side condition: whatever document the strict reader accepts ([1] ntriplesDoc, lines cut at every
    CR / LF [7]), the model of `W3CNTriplesParser.parse` — `readline` cutting at CR LF | CR | LF, parsing a last line without
    line end, dropping one that is white space only, then `parseline` per line — hands the same triples to the sink, in order. -/
def Statement_ntparser_doc_refines_reference : Prop :=
  ∀ (doc : Str) (ts : List Triple), NT.parseDoc doc = some ts → Py.ntParse doc = .ok (ts.map codeTriple)

def Statement_nqparser_doc_refines_reference : Prop :=
  ∀ (doc : Str) (qs : List Quad), NQ.parseDoc doc = some qs → Py.nqParse doc = .ok (qs.map codeQuad)

theorem ntparser_doc_refines_reference : Statement_ntparser_doc_refines_reference := fun doc ts h =>
  (pyLines_thin doc [] rfl).refines ntParseline_refines (by decide) nt_statement_not_space ts h

theorem nqparser_doc_refines_reference : Statement_nqparser_doc_refines_reference := fun doc qs h =>
  (pyLines_thin doc [] rfl).refines nqParseline_refines (by decide) nq_statement_not_space qs h

/-- writer and parser of rdflib, both as modelled, composed: the document `_nt_row` writes for any list of legal triples
    (every literal content) is read back by `parse()` as exactly those triples -/
def Statement_nt_write_parse_roundtrip : Prop :=
  ∀ (ts : List Triple), (∀ t ∈ ts, legalTriple t = true) → Py.ntParse (ntDoc ts) = .ok (ts.map codeTriple)

theorem nt_write_parse_roundtrip : Statement_nt_write_parse_roundtrip :=
  fun ts h => ntparser_doc_refines_reference (ntDoc ts) ts (nt_doc_valid ts h)

/-- document-level leniency: a last line without line end that `str.isspace()` (here U+00A0, U+3000) is dropped by
    `readline`; the grammar has no such line.  CR LF, by contrast, is read alike (one line end / an empty line in between). -/
def Statement_ntparser_doc_lenient : Prop :=
  NT.parseDoc ("<a:s> <a:p> <a:o> .\r\n".toList ++ [Char.ofNat 0xA0, Char.ofNat 0x3000]) = none ∧
  Py.ntParse ("<a:s> <a:p> <a:o> .\r\n".toList ++ [Char.ofNat 0xA0, Char.ofNat 0x3000]) =
    .ok [(.iri (Py.code "a:s".toList), .iri (Py.code "a:p".toList), .iri (Py.code "a:o".toList))] ∧
  Py.ntParse ("<a:s> <a:p> <a:o> .\r\n".toList ++ [Char.ofNat 0xA0, '\n']) = .error .parse

theorem ntparser_doc_lenient : Statement_ntparser_doc_lenient := by
  unfold Statement_ntparser_doc_lenient
  repeat rw [String.toList_ofList]
  exact ⟨by decide +kernel, by decide +kernel, by decide +kernel⟩

/-- non-vacuity: one legal line with UCHAR in the IRI, ECHAR + `\u` + `\U` in the string, a language tag with subtags,
    a dotted blank-node label as graph name, no white space where none is needed, and a comment -/
example :
    NQ.parseLine "<http://a/\\u00e9>\t<a:p>\"x\\n\\\"\\u00E9\\U0001F600\"@en-Latn-1 _:b.1.# c".toList =
      some (some (.iri "http://a/é".toList, .iri "a:p".toList, .lang "x\n\"é😀".toList "en-Latn-1".toList,
        some (.bnode "b.1".toList))) ∧
    Py.nqParseline "<http://a/\\u00e9>\t<a:p>\"x\\n\\\"\\u00E9\\U0001F600\"@en-Latn-1 _:b.1.# c".toList =
      .ok (some (.iri (Py.code "http://a/é".toList), .iri (Py.code "a:p".toList),
        .lit (Py.code "x\n\"é😀".toList) (some (Py.code "en-Latn-1".toList)) none,
        some (.bnode (Py.code "b.1".toList)))) := by
  repeat rw [String.toList_ofList]
  exact ⟨by decide +kernel, by decide +kernel⟩

/-- What rdflib's parser accepts BEYOND the grammar (the strict reader rejects each of these lines, the model of
    `parseline` — like the code — hands a triple to the sink).  All of it is token-level:
    1 IRIREF may contain `{ } | ^ backquote` raw (the regular expression only excludes #x00-#x20 `< > "`);
    2 ECHAR escapes are decoded inside IRIs too (`\n` gives an IRI containing a line feed);
    3 a backslash that starts no ECHAR / UCHAR stays, with what follows it (`\x`, `\u12`, a last `\` before `>`), in IRIs
      and in strings;
    4 "absolute" means "contains a colon" (`<:a>`), not "starts with a scheme";
    5 `\uD800`: a lone surrogate is accepted (the term then is no RDF term);
    6 the empty datatype `^^<>` is dropped: a plain literal.
    The line structure (white space, final dot, comment), blank-node labels and language tags are exactly the grammar's. -/
def lenientForms : List (String × Py.PTriple) :=
  let s := Py.PTerm.iri (Py.code "a:s".toList)
  let p := Py.PTerm.iri (Py.code "a:p".toList)
  [ ("<a:s> <a:p> <http://a/{b}|^`> .", (s, p, .iri (Py.code "http://a/{b}|^`".toList))),
    ("<a:s> <a:p> <http://a/\\n\\t> .", (s, p, .iri (Py.code "http://a/\n\t".toList))),
    ("<a:s> <a:p> <http://a/\\x\\u12\\> .", (s, p, .iri (Py.code "http://a/\\x\\u12\\".toList))),
    ("<a:s> <a:p> \"\\x\\U0000004\\ \" .", (s, p, .lit (Py.code "\\x\\U0000004\\ ".toList) none none)),
    ("<a:s> <a:p> <:a> .", (s, p, .iri (Py.code ":a".toList))),
    ("<a:s> <a:p> \"\\uD800\" .", (s, p, .lit [0xD800] none none)),
    ("<a:s> <a:p> \"x\"^^<> .", (s, p, .lit (Py.code "x".toList) none none)) ]

/-- class 1 in general: the IRIREF token rdflib's parser eats is exactly a run of characters other than #x00-#x20 `<` `>` `"`
    up to the next `>` — [8] IRIREF without its exclusion of `{ } | ^ backquote` and with the backslash as an ordinary character
    (what `unquote` then makes of it is `Py.decodeAux`) -/
def Statement_ntparser_iriref_token : Prop :=
  ∀ (cs u rest : Str), Py.matchUriref ('<' :: cs) = some (u, rest) ↔ (u.all Py.uriChar = true ∧ cs = u ++ '>' :: rest)

theorem ntparser_iriref_token : Statement_ntparser_iriref_token := matchUriref_iff

def Statement_ntparser_lenient_forms : Prop :=
  ∀ e ∈ lenientForms, NT.parseLine e.1.toList = none ∧ Py.ntParseline e.1.toList = .ok (some e.2)

theorem ntparser_lenient_forms : Statement_ntparser_lenient_forms := by
  intro e he
  have h : ((lenientForms.map fun e => (e.1.toList, e.2)).all fun e =>
      decide (NT.parseLine e.1 = none) && decide (Py.ntParseline e.1 = .ok (some e.2))) = true := by
    simp only [lenientForms, List.map_cons, List.map_nil]
    repeat rw [String.toList_ofList]
    decide +kernel
  simpa using List.all_eq_true.mp h _ (List.mem_map.mpr ⟨e, he, rfl⟩)

/-- What the parser refuses in another way than by `ParseError`: `chr()` of a `\U` escape above 10FFFF raises ValueError,
    above 7FFFFFFF OverflowError — neither is caught by `parse()`, which wraps only `ParseError` — while a malformed
    line proper raises `ParseError` (here: relative IRI, dangling `@`, a second dot after `_:o.` = label `o` + the final dot) -/
def Statement_ntparser_error_kinds : Prop :=
  Py.ntParseline "<a:s> <a:p> \"\\U00110000\" .".toList = .error .value ∧
  Py.ntParseline "<a:s> <a:p> <http://a/\\UFFFFFFFF> .".toList = .error .overflow ∧
  Py.ntParseline "<a:s> <a:p> <rel> .".toList = .error .parse ∧
  Py.ntParseline "<a:s> <a:p> \"x\"@ .".toList = .error .parse ∧
  Py.ntParseline "<a:s> <a:p> _:o. .".toList = .error .parse ∧
  Py.ntParseline "<a:s> _:p <a:o> .".toList = .error .parse

theorem ntparser_error_kinds : Statement_ntparser_error_kinds := by
  unfold Statement_ntparser_error_kinds
  repeat rw [String.toList_ofList]
  exact ⟨by decide +kernel, by decide +kernel, by decide +kernel, by decide +kernel, by decide +kernel,
    by decide +kernel⟩

end RV.C05

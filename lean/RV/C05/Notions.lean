import RV.C05.NtParser
/- C05 — what the statements of Props.lean are written in beside the models. -/
namespace RV.C05
open Py

def isDotSeg (s : Str) : Bool := s == dot || s == dotdot
/-- no piece is "." or ".." -/
def noDots (p : List Str) : Bool := p.all (fun s => !isDotSeg s)

/-- the bases the writer relativizes against: scheme, authority, absolute path without dot segments -/
def okBase (b : Ref) : Bool := b.scheme.isSome && b.auth.isSome && absPath b.path && noDots b.path
/-- its targets: IRIs without dot segments -/
def okTarget (t : Ref) : Bool := t.scheme.isSome && noDots t.path

/-- the reference reader's term, as the arguments rdflib's parser hands to `URIRef` / `BNode` / `Literal` -/
def codeTerm : Term → PTerm
  | .iri i => .iri (code i)
  | .bnode l => .bnode (code l)
  | .plain x => .lit (code x) none none
  | .lang x t => .lit (code x) (some (code t)) none
  | .typed x d => .lit (code x) none (some (code d))

def codeTriple (t : Triple) : PTriple := (codeTerm t.1, codeTerm t.2.1, codeTerm t.2.2)
def codeQuad (q : Quad) : PQuad := (codeTerm q.1, codeTerm q.2.1, codeTerm q.2.2.1, q.2.2.2.map codeTerm)

end RV.C05

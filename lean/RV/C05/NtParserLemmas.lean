import RV.C05.Lemmas
import RV.C05.Notions
/- C05 — the model of rdflib's N-Triples / N-Quads parser (NtParser.lean) refines the strict reader (Model part A):
   tokens (`_decomp`: input = raw token ++ rest, `unquote` of it = what the reader returned), terms and lines (`_model`:
   `eat` returns the coded term and the same rest), documents.  `rest ⊆ cs` in the `_model` lemmas only carries
   `'\n' ∉ line` to `finish_ok` (the comment of `r_tail` stops at a line feed). -/
namespace RV.C05
open Py

theorem isHex_uriChar {c : Char} (h : isHex c = true) : uriChar c = true ∧ c ≠ '"' ∧ c ≠ '\\' := by
  simp only [isHex, isDigit, inR, Bool.or_eq_true, Bool.and_eq_true, decide_eq_true_eq] at h
  -- `c` is none of the characters `"` `<` `>` `\`, whose codes lie outside the three ranges of HEX
  have ne (d : Char) (hd : ¬ (48 ≤ d.toNat ∧ d.toNat ≤ 57 ∨ 65 ≤ d.toNat ∧ d.toNat ≤ 70 ∨
      97 ≤ d.toNat ∧ d.toNat ≤ 102)) : c ≠ d := fun hc => hd (hc ▸ (or_assoc.mp h))
  refine ⟨?_, ne '"' (by decide), ne '\\' (by decide)⟩
  simp only [uriChar, Bool.not_eq_true', Bool.or_eq_false_iff, decide_eq_false_iff_not, beq_eq_false_iff_ne, ne_eq]
  exact ⟨⟨⟨by omega, ne '"' (by decide)⟩, ne '<' (by decide)⟩, ne '>' (by decide)⟩

theorem iriChar_uriChar {c : Char} (h : iriChar c = true) : uriChar c = true := by
  apply Decidable.byContradiction
  intro hn
  simp only [uriChar, Bool.not_eq_true, Bool.not_eq_false', Bool.or_eq_true, decide_eq_true_eq, beq_iff_eq] at hn
  rcases hn with ((h1 | h1) | h1) | h1 <;> simp [iriChar, h1] at h

/-- ECHAR against `_turtle_escape_pattern`, `_string_escape_map`, and `\\.` of `r_literal` (no line feed) -/
theorem echar_class {d e : Char} (h : echar d = some e) :
    escClass d = true ∧ Tables.stringEscapeMap.lookup d = some e ∧ d ≠ '\n' := by
  have : ∀ d ∈ echarDom,
      escClass d = true ∧ Tables.stringEscapeMap.lookup d = echar d ∧ d ≠ '\n' := by decide +kernel
  exact h ▸ this d (echar_dom h)

theorem decodeAux_skip : ∀ (xs ys : Str), decodeAux xs.length (xs ++ ys) = decodeAux 0 ys
  | [], ys => rfl
  | x :: xs, ys => by
    simp only [List.length_cons, List.cons_append, decodeAux]
    exact decodeAux_skip xs ys

theorem decodeAux_plain {c : Char} (s : Str) (h : c ≠ '\\') :
    decodeAux 0 (c :: s) = consOk c.toNat (decodeAux 0 s) := by
  simp [decodeAux, h]

theorem decodeAux_noBackslash : ∀ (s : Str), '\\' ∉ s → decodeAux 0 s = .ok (code s)
  | [], _ => rfl
  | c :: s, h => by
    simp only [List.mem_cons, not_or] at h
    rw [decodeAux_plain s (fun e => h.1 e.symm), decodeAux_noBackslash s h.2]
    rfl

theorem unquote_eq (s : Str) : unquote s = decodeAux 0 s := by
  unfold unquote
  split
  · rfl
  · rename_i h
    rw [decodeAux_noBackslash s (by simpa using h)]

theorem Item.decode {close ok ech} (hech : ∀ d e, ech d = some e → echar d = some e) {w : Str} {c : Char}
    (h : Item close ok ech w c) (raw : Str) : decodeAux 0 (w ++ raw) = consOk c.toNat (decodeAux 0 raw) := by
  cases h with
  | plain _ hb _ => exact decodeAux_plain raw hb
  | byTable h =>
    obtain ⟨h1, h2, _⟩ := echar_class (hech _ _ h)
    simp only [List.cons_append, List.nil_append, decodeAux, if_true, h1, h2]
  | @uch d n hs v c hd hl _ hv hc =>
    have ⟨e, hle⟩ := ofCode_val hc
    have hskip := decodeAux_skip (d :: hs) raw
    rw [List.length_cons, hl] at hskip
    rcases hd with ⟨rfl, rfl⟩ | ⟨rfl, rfl⟩
    · have e1 : escClass 'u' = false := by decide
      simp only [List.cons_append, decodeAux, if_true, e1, Bool.false_eq_true, if_false, hv raw, e]
      exact congrArg _ hskip
    · have e1 : escClass 'U' = false := by decide
      have e2 : ('U' = 'u') = False := by decide
      simp only [List.cons_append, decodeAux, if_true, e1, Bool.false_eq_true, if_false, e2, hv raw, hle, e]
      exact congrArg _ hskip

theorem Body.decode {close ok ech} (hech : ∀ d e, ech d = some e → echar d = some e) {raw i : Str}
    (h : Body close ok ech raw i) : decodeAux 0 raw = .ok (code i) := by
  induction h with
  | nil => rfl
  | cons hi _ ih => rw [hi.decode hech, ih]; rfl

theorem readIri_decomp (cs i rest : Str) (h : readIri .norm cs = some (i, rest)) :
    ∃ raw, cs = raw ++ '>' :: rest ∧ raw.all uriChar = true ∧ decodeAux 0 raw = .ok (code i) := by
  obtain ⟨raw, e, hB⟩ := readIri_unescaper.body rest cs i h
  refine ⟨raw, e, ?_, hB.decode (fun _ _ h => by cases h)⟩
  clear e h
  -- every item of an IRIREF is made of characters `r_uriref` admits
  induction hB with
  | nil => rfl
  | cons hi _ ih =>
    rw [List.all_append, ih, Bool.and_true]
    cases hi with
    | plain _ _ hok => rw [List.all_cons, iriChar_uriChar hok]; rfl
    | byTable h => cases h
    | @uch d _ _ _ _ hd _ hall =>
      have hs := all_imp (fun c hc => (isHex_uriChar hc).1) _ hall
      have hd' : uriChar d = true := by rcases hd with ⟨rfl, _⟩ | ⟨rfl, _⟩ <;> decide
      rw [List.all_cons, List.all_cons, hs, hd']
      decide

theorem litBody_quote (cs : Str) : litBody ('"' :: cs) = some ([], cs) := by
  rw [litBody.eq_def]; simp
theorem litBody_bs (d : Char) (ds : Str) (h : d ≠ '\n') :
    litBody ('\\' :: d :: ds) = (litBody ds).map (fun p => ('\\' :: d :: p.1, p.2)) := by
  rw [litBody.eq_def]
  have e2 : ('\\' = '"') = False := by decide
  simp [e2, h]
theorem litBody_other (c : Char) (cs : Str) (h1 : c ≠ '"') (h2 : c ≠ '\\') :
    litBody (c :: cs) = (litBody cs).map (fun p => (c :: p.1, p.2)) := by
  rw [litBody.eq_def]; simp [h1, h2]

theorem litBody_hex : ∀ (hs cs : Str), hs.all isHex = true →
    litBody (hs ++ cs) = (litBody cs).map (fun p => (hs ++ p.1, p.2))
  | [], cs, _ => by cases h : litBody cs <;> simp [h]
  | c :: hs, cs, h => by
    rw [List.all_cons, Bool.and_eq_true] at h
    have hc := isHex_uriChar h.1
    rw [List.cons_append, litBody_other c _ hc.2.1 hc.2.2, litBody_hex hs cs h.2]
    cases litBody cs <;> simp

theorem readStr_decomp (cs lex rest : Str) (h : readStr '"' false .norm cs = some (lex, rest)) :
    ∃ raw, cs = raw ++ '"' :: rest ∧ litBody (raw ++ '"' :: rest) = some (raw, rest) ∧ decodeAux 0 raw = .ok (code lex) := by
  obtain ⟨raw, e, hB⟩ := (readStr_unescaper '"' (by decide)).body rest cs lex h
  refine ⟨raw, e, ?_, hB.decode (fun _ _ h => h)⟩
  clear e h
  -- `r_literal` passes over every item of the body and stops at the quote after it
  induction hB with
  | nil => exact litBody_quote rest
  | cons hi _ ih =>
    rw [List.append_assoc]
    cases hi with
    | plain h1 h2 => rw [List.cons_append, List.nil_append, litBody_other _ _ h1 h2, ih]; rfl
    | byTable h => rw [List.cons_append, List.cons_append, List.nil_append, litBody_bs _ _ (echar_class h).2.2, ih]; rfl
    | @uch d _ hs _ _ hd _ hall =>
      have hnl : d ≠ '\n' := by rcases hd with ⟨rfl, _⟩ | ⟨rfl, _⟩ <;> decide
      rw [List.cons_append, List.cons_append, litBody_bs d _ hnl, litBody_hex hs _ hall, ih]; rfl

theorem readLabelTerm_model (cs : Str) (t : Term) (rest : Str) (h : readLabelTerm cs = some (t, rest)) :
    ∃ l, t = .bnode l ∧ matchNodeid ('_' :: ':' :: cs) = some (l, rest) ∧ rest ⊆ cs := by
  unfold readLabelTerm at h
  split at h
  rename_i l r hu
  split at h
  · rename_i hl
    cases h
    -- `l` starts the input and `rest` is part of it: `cs = l ++ dots ++ r`, `rest = dots ++ r`
    obtain ⟨d, htok, rfl⟩ := unDot_split _ _ l rest hu
    have hcs := (spanP_spec (p := labelChar) (cs := cs) rfl).1
    rw [htok] at hcs
    refine ⟨l, rfl, ?_, fun x hx => by rw [← hcs]; simpa [or_assoc] using Or.inr hx⟩
    cases l with
    | nil => cases hl
    | cons c l' =>
      have hfirst : nodeidFirst c = true := by
        simp only [legalLabel, Bool.and_eq_true] at hl
        exact hl.1.1
      obtain ⟨x, hx⟩ : ∃ x, cs = c :: x := ⟨_, hcs.symm⟩
      subst hx
      simp only [matchNodeid, hfirst, if_true, hu]
  · cases h

theorem matchLang_eq (r tag r' : Str) (hs : spanP langChar r = (tag, r')) (hl : legalLang tag = true) :
    matchLang r = some (tag, r') := by
  obtain ⟨rfl, -, hst⟩ := spanP_spec hs
  cases tag with
  | nil => cases hl
  | cons c t =>
    have hc : isAlpha c = true := by
      rw [legalLang, legalLangAux] at hl
      split at hl
      · cases hl
      · simp only [if_true, Bool.and_eq_true] at hl; exact hl.1
    rw [List.cons_append, matchLang, if_pos hc, ← List.cons_append, (legalLang_scan _ true 0 r' hl).2 hst]

theorem hasSchemeAux_colon : ∀ (s : Str), hasSchemeAux s = true → ':' ∈ s
  | [], h => by simp [hasSchemeAux] at h
  | c :: cs, h => by
    unfold hasSchemeAux at h
    split at h
    · rename_i hc; simp [hc]
    · split at h
      · exact List.mem_cons_of_mem _ (hasSchemeAux_colon cs h)
      · cases h

theorem hasScheme_colon {s : Str} (h : hasScheme s = true) : ':' ∈ s := by
  cases s with
  | nil => simp [hasScheme] at h
  | cons c cs =>
    simp only [hasScheme, Bool.and_eq_true] at h
    exact List.mem_cons_of_mem _ (hasSchemeAux_colon cs h.2)

theorem absolute_code {s : Str} (h : hasScheme s = true) : absolute (code s) = .ok (code s) := by
  have : 58 ∈ code s := by
    simp only [code, List.mem_map]
    exact ⟨':', hasScheme_colon h, rfl⟩
  simp [absolute, this]

theorem matchUriref_iff (cs u rest : Str) :
    matchUriref ('<' :: cs) = some (u, rest) ↔ (u.all uriChar = true ∧ cs = u ++ '>' :: rest) := by
  constructor
  · intro h
    simp only [matchUriref] at h
    split at h
    · rename_i u' rest' hs
      simp only [Option.some.injEq, Prod.mk.injEq] at h
      have ⟨h2, h1, _⟩ := spanP_spec hs
      exact ⟨h.1 ▸ h1, by rw [← h2, h.1, h.2]⟩
    · cases h
  · rintro ⟨hall, hcs⟩
    have hsp : spanP uriChar (u ++ '>' :: rest) = (u, '>' :: rest) :=
      spanP_append uriChar u _ hall (fun c r hc => by
        simp only [List.cons.injEq] at hc
        rw [← hc.1]; decide)
    simp only [matchUriref, hcs, hsp]

theorem readIri_model (cs i rest : Str) (h : readIri .norm cs = some (i, rest)) (hs : hasScheme i = true) :
    ∃ raw, matchUriref ('<' :: cs) = some (raw, rest) ∧ iriOf raw = .ok (code i) ∧ rest ⊆ cs := by
  obtain ⟨raw, rfl, hall, hdec⟩ := readIri_decomp cs i rest h
  exact ⟨raw, (matchUriref_iff _ _ _).mpr ⟨hall, rfl⟩, by simp only [iriOf, unquote_eq, hdec, absolute_code hs],
    fun x hx => by simp [hx]⟩

theorem readLiteral_model (cs : Str) (t : Term) (rest : Str) (h : readLiteral cs = some (t, rest)) :
    literal ('"' :: cs) = .ok (some (codeTerm t), rest) ∧ rest ⊆ cs := by
  unfold readLiteral at h
  split at h
  · cases h
  · rename_i lex r0 hstr
    obtain ⟨raw, hcs, hbody, hdec⟩ := readStr_decomp cs lex r0 hstr
    rw [← hcs] at hbody
    have hsub0 : r0 ⊆ cs := by
      rw [hcs]; intro x hx; simp [hx]
    split at h
    · -- typed
      rename_i r
      split at h
      · rename_i dt r' hiri
        split at h
        · rename_i hsch
          cases h
          obtain ⟨rawdt, hm, hi, hsub⟩ := readIri_model r dt rest hiri hsch
          refine ⟨?_, fun x hx => hsub0 (by simp [hsub hx])⟩
          cases rawdt with
          | nil => cases hi   -- `literal` drops an empty datatype, but `iriOf []` has no colon and fails
          | cons c0 rd => simp only [literal, hbody, litInfo, hm, hi, unquote_eq, hdec, codeTerm, Option.map_none]
        · cases h
      · cases h
    · -- language-tagged
      rename_i r
      split at h
      rename_i tag r' hspan
      split at h
      · rename_i hleg
        cases h
        exact ⟨by simp only [literal, hbody, litInfo, matchLang_eq r tag rest hspan hleg, unquote_eq, hdec, codeTerm,
          Option.map_some], fun x hx => hsub0 (by rw [← (spanP_spec hspan).1]; simp [hx])⟩
      · cases h
    · -- plain
      rename_i hnoDatatype hnoLang
      cases h
      have hinfo : litInfo rest = (none, none, rest) := by
        unfold litInfo
        split
        · rename_i r; exact absurd rfl (hnoLang r)
        · rename_i r
          cases r with
          | nil => rfl
          | cons c x => simp [matchUriref, show c ≠ '<' from fun e => hnoDatatype x (e ▸ rfl)]
        · rfl
      exact ⟨by simp only [literal, hbody, hinfo, unquote_eq, hdec, codeTerm, Option.map_none], hsub0⟩

theorem readTerm_model (pos : Pos) (cs : Str) (t : Term) (rest : Str) (h : readTerm pos cs = some (t, rest)) :
    rest ⊆ cs ∧
      match pos with
      | .subj => subject cs = .ok (codeTerm t, rest)
      | .pred => predicate cs = .ok (codeTerm t, rest)
      | .obj => object cs = .ok (codeTerm t, rest)
      | .graph => context cs = .ok (some (codeTerm t), rest) := by
  unfold readTerm at h
  split at h
  · -- IRIREF
    rename_i cs'
    unfold readIriTerm at h
    split at h
    · rename_i i r hiri
      split at h
      · rename_i hsch
        cases h
        obtain ⟨raw, hm, hi, hsub⟩ := readIri_model cs' i rest hiri hsch
        have hu : uriref ('<' :: cs') = .ok (some (.iri (code i)), rest) := by simp only [uriref, hm, hi]
        refine ⟨fun x hx => by simp [hsub hx], ?_⟩
        cases pos <;> simp only [subject, predicate, object, context, hu, codeTerm]
      · cases h
    · cases h
  · -- BLANK_NODE_LABEL
    rename_i cs'
    split at h
    · cases h
    · rename_i hpos
      obtain ⟨l, rfl, hm, hsub⟩ := readLabelTerm_model cs' t rest h
      have hu : uriref ('_' :: ':' :: cs') = .ok (none, '_' :: ':' :: cs') := rfl
      have hn : nodeid ('_' :: ':' :: cs') = .ok (some (.bnode (code l)), rest) := by simp only [nodeid, hm]
      refine ⟨fun x hx => by simp [hsub hx], ?_⟩
      cases pos <;> first | exact absurd rfl hpos | simp only [subject, object, context, hu, hn, codeTerm]
  · -- literal
    rename_i cs'
    split at h
    · rename_i hpos
      obtain ⟨hl, hsub⟩ := readLiteral_model cs' t rest h
      subst hpos
      have hu : uriref ('"' :: cs') = .ok (none, '"' :: cs') := rfl
      have hn : nodeid ('"' :: cs') = .ok (none, '"' :: cs') := rfl
      exact ⟨fun x hx => by simp [hsub hx], by simp only [object, hu, hn, hl]⟩
    · cases h
  · cases h

theorem dropWhile_all (p : Char → Bool) : ∀ (l : Str), (∀ c ∈ l, p c = true) → l.dropWhile p = []
  | [], _ => rfl
  | c :: l, h => by
    simp only [List.dropWhile, h c (by simp)]
    exact dropWhile_all p l (fun x hx => h x (by simp [hx]))

theorem finish_ok {α} (x : α) (r : Str) (h : endOfStatement r = true) (hnl : '\n' ∉ r) :
    finish x r = .ok (some x) := by
  unfold endOfStatement at h
  split at h
  · rename_i r' hs
    have hsub : r' ⊆ r := fun c hc => skipWs_subset r (by rw [hs]; simp [hc])
    unfold lineEnd at h
    split at h
    · rename_i hs2
      simp only [finish, eatTail, hs, hs2]
    · rename_i c r'' hs2
      have hc : c = '#' := by simpa using h
      subst hc
      have hsub2 : r'' ⊆ r' := fun c hc => skipWs_subset r' (by rw [hs2]; simp [hc])
      have hd : r''.dropWhile (fun c => c != '\n') = [] := by
        apply dropWhile_all
        intro c hc
        have : c ≠ '\n' := fun e => hnl (e ▸ hsub (hsub2 hc))
        simpa using this
      simp only [finish, eatTail, hs, hs2, hd]
  · cases h

theorem finish_skipWs {α} (x : α) (r : Str) : finish x (skipWs r) = finish x r := by
  simp only [finish, eatTail, skipWs_idem]

theorem spo_model {line r1 r2 r3 : Str} {s p o : Term} (h1 : readTerm .subj (skipWs line) = some (s, r1))
    (h2 : readTerm .pred (skipWs r1) = some (p, r2)) (h3 : readTerm .obj (skipWs r2) = some (o, r3)) :
    subject (skipWs line) = .ok (codeTerm s, r1) ∧ predicate (skipWs r1) = .ok (codeTerm p, r2) ∧
      object (skipWs r2) = .ok (codeTerm o, r3) ∧ r3 ⊆ line :=
  have ⟨s1, hs⟩ := readTerm_model .subj _ s r1 h1
  have ⟨s2, hp⟩ := readTerm_model .pred _ p r2 h2
  have ⟨s3, ho⟩ := readTerm_model .obj _ o r3 h3
  ⟨hs, hp, ho, fun _ hc => skipWs_subset line (s1 (skipWs_subset r1 (s2 (skipWs_subset r2 (s3 hc)))))⟩

theorem NT.parseLine_some {line : Str} {r : Option Triple} (h : NT.parseLine line = some r) :
    (isBlank (skipWs line) = true ∧ r = none) ∨ (isBlank (skipWs line) = false ∧ ∃ s p o r1 r2 r3,
      readTerm .subj (skipWs line) = some (s, r1) ∧ readTerm .pred (skipWs r1) = some (p, r2) ∧
      readTerm .obj (skipWs r2) = some (o, r3) ∧ endOfStatement r3 = true ∧ r = some (s, p, o)) := by
  unfold NT.parseLine at h
  split at h
  · rename_i hb
    cases h
    exact Or.inl ⟨hb, rfl⟩
  · rename_i hb
    split at h
    · cases h
    · rename_i s r1 h1
      split at h
      · cases h
      · rename_i p r2 h2
        split at h
        · cases h
        · rename_i o r3 h3
          split at h
          · rename_i he
            cases h
            exact Or.inr ⟨by simpa using hb, s, p, o, r1, r2, r3, h1, h2, h3, he, rfl⟩
          · cases h

theorem NQ.parseLine_some {line : Str} {r : Option Quad} (h : NQ.parseLine line = some r) :
    (isBlank (skipWs line) = true ∧ r = none) ∨ (isBlank (skipWs line) = false ∧ ∃ s p o r1 r2 r3,
      readTerm .subj (skipWs line) = some (s, r1) ∧ readTerm .pred (skipWs r1) = some (p, r2) ∧
      readTerm .obj (skipWs r2) = some (o, r3) ∧
      ((endOfStatement r3 = true ∧ r = some (s, p, o, none)) ∨ (endOfStatement r3 = false ∧ ∃ g r4,
        readTerm .graph (skipWs r3) = some (g, r4) ∧ endOfStatement r4 = true ∧ r = some (s, p, o, some g)))) := by
  unfold NQ.parseLine at h
  split at h
  · rename_i hb
    cases h
    exact Or.inl ⟨hb, rfl⟩
  · rename_i hb
    split at h
    · cases h
    · rename_i s r1 h1
      split at h
      · cases h
      · rename_i p r2 h2
        split at h
        · cases h
        · rename_i o r3 h3
          refine Or.inr ⟨by simpa using hb, s, p, o, r1, r2, r3, h1, h2, h3, ?_⟩
          split at h
          · rename_i he
            cases h
            exact Or.inl ⟨he, rfl⟩
          · rename_i he
            split at h
            · cases h
            · rename_i g r4 h4
              split at h
              · rename_i he4
                cases h
                exact Or.inr ⟨by simpa using he, g, r4, h4, he4, rfl⟩
              · cases h

theorem ntParseline_refines (line : Str) (r : Option Triple) (hnl : '\n' ∉ line)
    (h : NT.parseLine line = some r) : ntParseline line = .ok (r.map codeTriple) := by
  rcases NT.parseLine_some h with ⟨hb, rfl⟩ | ⟨hb, s, p, o, r1, r2, r3, h1, h2, h3, he, rfl⟩
  · simp [ntParseline, hb]
  · obtain ⟨hs, hp, ho, hsub⟩ := spo_model h1 h2 h3
    simp only [ntParseline, hb, Bool.false_eq_true, if_false, hs, hp, ho]
    exact finish_ok _ r3 he (fun hc => hnl (hsub hc))

theorem nqParseline_refines (line : Str) (r : Option Quad) (hnl : '\n' ∉ line)
    (h : NQ.parseLine line = some r) : nqParseline line = .ok (r.map codeQuad) := by
  rcases NQ.parseLine_some h with ⟨hb, rfl⟩ | ⟨hb, s, p, o, r1, r2, r3, h1, h2, h3, hg⟩
  · simp [nqParseline, hb]
  obtain ⟨hs, hp, ho, hsub⟩ := spo_model h1 h2 h3
  rcases hg with ⟨he, rfl⟩ | ⟨_, g, r4, h4, he, rfl⟩
  · -- no graph label: `context` sees the final dot and reads nothing
    obtain ⟨r', hr'⟩ : ∃ r', skipWs r3 = '.' :: r' := by
      unfold endOfStatement at he
      split at he
      · rename_i r' hr; exact ⟨r', hr⟩
      · cases he
    have hc : context ('.' :: r') = .ok (none, '.' :: r') := by simp [context, uriref, nodeid]
    simp only [nqParseline, hb, Bool.false_eq_true, if_false, hs, hp, ho, hr', hc]
    rw [← hr', finish_skipWs]
    exact finish_ok _ r3 he (fun hc => hnl (hsub hc))
  · have ⟨s4, hg⟩ := readTerm_model .graph _ g r4 h4
    simp only [nqParseline, hb, Bool.false_eq_true, if_false, hs, hp, ho, hg]
    exact finish_ok _ r4 he (fun hc => hnl (hsub (skipWs_subset r3 (s4 hc))))

theorem not_space_of_subj {line : Str} {x : Term × Str} (h : readTerm .subj (skipWs line) = some x) :
    line.all pyIsSpace = false := by
  have key (c : Char) (r : Str) (hs : skipWs line = c :: r) (hc : pyIsSpace c = false) : line.all pyIsSpace = false :=
    List.all_eq_false.mpr ⟨c, skipWs_subset line (by rw [hs]; simp), by simp [hc]⟩
  unfold readTerm at h
  -- a term starts with `<`, `_` or `"`, none of which `str.isspace()` counts as white space
  split at h <;> first | cases h | exact key _ _ ‹_› (by decide)

theorem nt_statement_not_space (line : Str) (t : Triple) (h : NT.parseLine line = some (some t)) :
    line.all pyIsSpace = false := by
  rcases NT.parseLine_some h with ⟨_, hr⟩ | ⟨_, _, _, _, _, _, _, h1, _⟩
  · cases hr
  · exact not_space_of_subj h1

theorem nq_statement_not_space (line : Str) (t : Quad) (h : NQ.parseLine line = some (some t)) :
    line.all pyIsSpace = false := by
  rcases NQ.parseLine_some h with ⟨_, hr⟩ | ⟨_, _, _, _, _, _, _, h1, _⟩
  · cases hr
  · exact not_space_of_subj h1

theorem splitLines_pre : ∀ (pre : Str), noEol pre = true → splitLines pre = [pre]
  | [], _ => rfl
  | c :: pre, h => by
    have ⟨h1, h2, h3⟩ := noEol_cons_true h
    simp [splitLines, h1, h2, splitLines_pre pre h3]

/-- How the lines `readline` returns (`L'`) relate to the lines [7] EOL cuts (`L`): the same lines in order, none with a
    line end inside, except that empty lines may be left out and so may a last line that is white space only. -/
inductive Thin : List Str → List Str → Prop
  | nil : Thin [] []
  | keep {l L L'} (hl : noEol l = true) (h : Thin L L') : Thin (l :: L) (l :: L')
  | skip {L L'} (h : Thin L L') : Thin ([] :: L) L'
  | last {l} (hl : l.all pyIsSpace = true) : Thin [l] []

theorem pyLines_thin : ∀ (doc cur : Str), noEol cur = true → Thin (splitLines (cur.reverse ++ doc)) (pyLinesAux cur doc)
  | [], cur, hcur => by
    have hrev : noEol cur.reverse = true := by simpa [noEol] using hcur
    rw [List.append_nil, splitLines_pre _ hrev, pyLinesAux]
    split
    · next hdrop =>
      refine .last ?_
      rw [List.all_reverse]
      cases cur with
      | nil => rfl
      | cons => simpa using hdrop
    · exact .keep hrev .nil
  | c :: cs, cur, hcur => by
    have hrev : noEol cur.reverse = true := by simpa [noEol] using hcur
    have eol (he : c = '\n' ∨ c = '\r') {L'} (hL : Thin (splitLines cs) L') :
        Thin (splitLines (cur.reverse ++ c :: cs)) (cur.reverse :: L') := by
      rw [splitLines_eol _ _ _ hrev he]
      exact .keep hrev hL
    by_cases hr : c = '\r'
    · subst hr
      match cs with
      | [] => exact eol (Or.inr rfl) (pyLines_thin [] [] rfl)
      | d :: cs' =>
        by_cases hd : d = '\n'
        · -- CR LF: the grammar's empty line between the two is the one left out
          subst hd
          exact eol (Or.inr rfl) (.skip (pyLines_thin cs' [] rfl))
        · have e : pyLinesAux cur ('\r' :: d :: cs') = cur.reverse :: pyLinesAux [] (d :: cs') := by
            simp [pyLinesAux, hd]
          rw [e]
          exact eol (Or.inr rfl) (pyLines_thin (d :: cs') [] rfl)
    · by_cases hn : c = '\n'
      · subst hn
        exact eol (Or.inl rfl) (pyLines_thin cs [] rfl)
      · have := pyLines_thin cs (c :: cur) (by simp [hcur, hr, hn])
        simpa [pyLinesAux, hr, hn] using this

theorem Thin.refines {α β} {f : Str → Option (Option α)} {g : Str → Except Err (Option β)} {cd : α → β}
    (hfg : ∀ line r, '\n' ∉ line → f line = some r → g line = .ok (r.map cd))
    (hblank : f [] = some none)
    (hspace : ∀ line t, f line = some (some t) → line.all pyIsSpace = false) {L L' : List Str} (h : Thin L L') :
    ∀ ts, collect f L = some ts → parseAll g L' = .ok (ts.map cd) := by
  induction h with
  | nil => intro ts h; cases h; rfl
  | skip _ ih => intro ts h; rw [collect, hblank] at h; exact ih ts h
  | @keep l _ _ hl _ ih =>
    intro ts h
    rw [collect] at h
    cases hf : f l with
    | none => rw [hf] at h; cases h
    | some r =>
      have hg := hfg l r (lf_not_mem_of_noEol hl) hf
      rw [hf] at h
      cases r with
      | none => simp [parseAll, hg, ih ts h]
      | some t =>
        obtain ⟨ts', hc, rfl⟩ := Option.map_eq_some_iff.mp h
        simp [parseAll, hg, ih ts' hc]
  | @last l hl =>
    intro ts h
    rw [collect] at h
    cases hf : f l with
    | none => rw [hf] at h; cases h
    | some r =>
      cases r with
      | none => rw [hf] at h; cases h; rfl
      | some t => rw [hspace _ t hf] at hl; cases hl

/-- not in core; the test vectors of Props decide equalities of parser results -/
instance instDecEqExcept {ε α} [DecidableEq ε] [DecidableEq α] : DecidableEq (Except ε α)
  | .ok a, .ok b => decidable_of_iff (a = b) ⟨congrArg _, Except.ok.inj⟩
  | .error a, .error b => decidable_of_iff (a = b) ⟨congrArg _, Except.error.inj⟩
  | .ok _, .error _ => isFalse nofun
  | .error _, .ok _ => isFalse nofun

end RV.C05

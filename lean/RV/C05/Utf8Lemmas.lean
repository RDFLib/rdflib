import RV.C05.Utf8
/- C05 — the UTF-8 codec of the input routes, both round trips. -/
namespace RV.C05.Utf8

theorem scalar_iff {n : Nat} : scalar n = true ↔ n < 0xD800 ∨ (0xE000 ≤ n ∧ n < 0x110000) := by
  simp [scalar]

/-! A lead byte is written `0xE0 + a`, a continuation byte `0x80 + x` with `x < 64`, a code point as the polynomial
    `((a * 64 + x) * 64 + y) * 64 + z`: encoder and decoder are related digit by digit, without subtraction or division. -/

theorem div_64 {a x : Nat} (hx : x < 64) : (a * 64 + x) / 64 = a := by
  rw [Nat.mul_comm, Nat.mul_add_div (by decide), Nat.div_eq_of_lt hx]; rfl

theorem mod_64 {a x : Nat} (hx : x < 64) : (a * 64 + x) % 64 = x := by
  rw [Nat.mul_comm, Nat.mul_add_mod, Nat.mod_eq_of_lt hx]

theorem exists_mul_64_add (n : Nat) : ∃ a x, x < 64 ∧ n = a * 64 + x :=
  ⟨n / 64, n % 64, Nat.mod_lt _ (by decide), (Nat.div_add_mod' n 64).symm⟩

theorem encodeCp2 {a x : Nat} (hx : x < 64) (hlo : 0x80 ≤ a * 64 + x) (hhi : a * 64 + x < 0x800) :
    encodeCp (a * 64 + x) = [0xC0 + a, 0x80 + x] := by
  rw [encodeCp, if_neg (Nat.not_lt.mpr hlo), if_pos hhi, div_64 hx, mod_64 hx]

theorem encodeCp3 {a x y : Nat} (hx : x < 64) (hy : y < 64) (hlo : 0x800 ≤ (a * 64 + x) * 64 + y)
    (hhi : (a * 64 + x) * 64 + y < 0x10000) :
    encodeCp ((a * 64 + x) * 64 + y) = [0xE0 + a, 0x80 + x, 0x80 + y] := by
  have h (c : Nat) (hc : c ≤ 0x800) : ¬ (a * 64 + x) * 64 + y < c := Nat.not_lt.mpr (Nat.le_trans hc hlo)
  rw [encodeCp, if_neg (h _ (by decide)), if_neg (h _ (by decide)), if_pos hhi, ← Nat.div_div_eq_div_mul _ 64 64,
    div_64 hy, mod_64 hy, div_64 hx, mod_64 hx]

theorem encodeCp4 {a x y z : Nat} (hx : x < 64) (hy : y < 64) (hz : z < 64)
    (hlo : 0x10000 ≤ ((a * 64 + x) * 64 + y) * 64 + z) :
    encodeCp (((a * 64 + x) * 64 + y) * 64 + z) = [0xF0 + a, 0x80 + x, 0x80 + y, 0x80 + z] := by
  have h (c : Nat) (hc : c ≤ 0x10000) : ¬ ((a * 64 + x) * 64 + y) * 64 + z < c := Nat.not_lt.mpr (Nat.le_trans hc hlo)
  rw [encodeCp, if_neg (h _ (by decide)), if_neg (h _ (by decide)), if_neg (h _ (by decide)),
    ← Nat.div_div_eq_div_mul _ 4096 64, ← Nat.div_div_eq_div_mul _ 64 64, div_64 hz, mod_64 hz,
    div_64 hy, mod_64 hy, div_64 hx, mod_64 hx]

theorem lead2 {a : Nat} {bs : List Nat} (h1 : 2 ≤ a) (h2 : a < 32) :
    decodeS .start ((0xC0 + a) :: bs) = decodeS (.more 1 a 0x80) bs := by
  rw [decodeS, if_neg (by omega), if_pos ⟨by omega, by omega⟩, Nat.add_sub_cancel_left]

theorem lead3 {a : Nat} {bs : List Nat} (h : a < 16) :
    decodeS .start ((0xE0 + a) :: bs) = decodeS (.more 2 a 0x800) bs := by
  rw [decodeS, if_neg (by omega), if_neg (by omega), if_pos ⟨by omega, by omega⟩, Nat.add_sub_cancel_left]

theorem lead4 {a : Nat} {bs : List Nat} (h : a < 5) :
    decodeS .start ((0xF0 + a) :: bs) = decodeS (.more 3 a 0x10000) bs := by
  rw [decodeS, if_neg (by omega), if_neg (by omega), if_neg (by omega), if_pos ⟨by omega, by omega⟩,
    Nat.add_sub_cancel_left]

theorem more_cons {x k acc lo : Nat} {bs : List Nat} (hx : x < 64) :
    decodeS (.more k acc lo) ((0x80 + x) :: bs) =
      if k ≤ 1 then
        if lo ≤ acc * 64 + x ∧ scalar (acc * 64 + x) = true then consOpt (acc * 64 + x) (decodeS .start bs) else none
      else decodeS (.more (k - 1) (acc * 64 + x) lo) bs := by
  have hc : cont (0x80 + x) = true := by simp [cont]; omega
  rw [decodeS, if_pos hc, Nat.add_sub_cancel_left]

theorem more_some {k acc lo : Nat} {bs cps : List Nat} (h : decodeS (.more k acc lo) bs = some cps) :
    ∃ x t, x < 64 ∧ bs = (0x80 + x) :: t := by
  cases bs with
  | nil => cases h
  | cons b t =>
    rw [decodeS] at h
    by_cases hc : cont b = true
    · have hc : 0x80 ≤ b ∧ b < 0xC0 := by simpa [cont] using hc
      exact ⟨b - 0x80, t, by omega, by rw [Nat.add_sub_cancel' hc.1]⟩
    · rw [if_neg hc] at h
      cases h

theorem more_step {k acc lo : Nat} {bs cps : List Nat} (h : decodeS (.more (k + 2) acc lo) bs = some cps) :
    ∃ x t, x < 64 ∧ bs = (0x80 + x) :: t ∧ decodeS (.more (k + 1) (acc * 64 + x) lo) t = some cps := by
  obtain ⟨x, t, hx, rfl⟩ := more_some h
  rw [more_cons hx, if_neg (by omega)] at h
  exact ⟨x, t, hx, rfl, h⟩

theorem more_last {acc lo : Nat} {bs cps : List Nat} (h : decodeS (.more 1 acc lo) bs = some cps) :
    ∃ x t, x < 64 ∧ bs = (0x80 + x) :: t ∧ lo ≤ acc * 64 + x ∧ scalar (acc * 64 + x) = true ∧
      consOpt (acc * 64 + x) (decodeS .start t) = some cps := by
  obtain ⟨x, t, hx, rfl⟩ := more_some h
  rw [more_cons hx, if_pos (Nat.le_refl 1)] at h
  split at h
  · next hv => exact ⟨x, t, hx, rfl, hv.1, hv.2, h⟩
  · cases h

theorem decode_encodeCp (n : Nat) (rest : List Nat) (h : scalar n = true) :
    decodeS .start (encodeCp n ++ rest) = consOpt n (decodeS .start rest) := by
  have hs := scalar_iff.mp h
  by_cases h1 : n < 0x80
  · simp [encodeCp, decodeS, h1]
  obtain ⟨n, z, hz, rfl⟩ := exists_mul_64_add n
  by_cases h2 : n * 64 + z < 0x800
  · simp [encodeCp2 hz (Nat.le_of_not_lt h1) h2, lead2 (show 2 ≤ n by omega) (show n < 32 by omega),
      more_cons hz, Nat.le_of_not_lt h1, h]
  obtain ⟨n, y, hy, rfl⟩ := exists_mul_64_add n
  by_cases h3 : (n * 64 + y) * 64 + z < 0x10000
  · simp [encodeCp3 hy hz (Nat.le_of_not_lt h2) h3, lead3 (show n < 16 by omega), more_cons hy,
      more_cons hz, Nat.le_of_not_lt h2, h]
  obtain ⟨n, x, hx, rfl⟩ := exists_mul_64_add n
  simp [encodeCp4 hx hy hz (Nat.le_of_not_lt h3), lead4 (show n < 5 by omega), more_cons hx,
    more_cons hy, more_cons hz, Nat.le_of_not_lt h3, h]

theorem decode_encode : ∀ (cps : List Nat), (∀ c ∈ cps, scalar c = true) → decode (encode cps) = some cps
  | [], _ => rfl
  | c :: cs, h => by
    have ih := decode_encode cs (fun x hx => h x (List.mem_cons_of_mem _ hx))
    unfold decode at ih ⊢
    rw [encode, decode_encodeCp c _ (h c List.mem_cons_self), ih]
    rfl

/-- the last step of each branch of `encode_decodeS` (`ih`: its induction hypothesis for the rest `t`) -/
theorem encode_of_consOpt {v : Nat} {pre t cps : List Nat}
    (ih : ∀ cps', decodeS .start t = some cps' → encode cps' = t ∧ ∀ c ∈ cps', scalar c = true)
    (h : consOpt v (decodeS .start t) = some cps) (he : encodeCp v = pre) (hs : scalar v = true) :
    encode cps = pre ++ t ∧ ∀ c ∈ cps, scalar c = true := by
  cases hd : decodeS .start t with
  | none => rw [hd] at h; cases h
  | some cps' =>
    rw [hd] at h
    cases h
    have ⟨e, hall⟩ := ih cps' hd
    exact ⟨by rw [encode, he, e], List.forall_mem_cons.mpr ⟨hs, hall⟩⟩

theorem encode_decodeS : ∀ (n : Nat) (bs cps : List Nat), bs.length ≤ n → decodeS .start bs = some cps →
    encode cps = bs ∧ ∀ c ∈ cps, scalar c = true
  | _, [], cps, _, h => by cases h; exact ⟨rfl, fun _ hc => nomatch hc⟩
  | 0, _ :: _, _, hl, _ => nomatch hl
  | n + 1, b :: bs, cps, hl, h => by
    -- `n` bounds the length: the recursive calls are on what follows a whole sequence
    have ih (pre t : List Nat) (e : bs = pre ++ t) (cps' : List Nat) :=
      encode_decodeS n t cps' (by rw [e, List.length_cons, List.length_append] at hl; omega)
    rw [decodeS] at h
    by_cases h1 : b < 0x80
    · rw [if_pos h1] at h
      exact encode_of_consOpt (ih [] bs rfl) h (by rw [encodeCp, if_pos h1]) (scalar_iff.mpr (Or.inl (by omega)))
    rw [if_neg h1] at h
    by_cases h2 : 0xC2 ≤ b ∧ b < 0xE0
    · obtain ⟨a, rfl⟩ := Nat.exists_eq_add_of_le (Nat.le_trans (by decide : 0xC0 ≤ 0xC2) h2.1)
      rw [if_pos h2, Nat.add_sub_cancel_left] at h
      obtain ⟨x, t, hx, rfl, hlo, hs, hd⟩ := more_last h
      exact encode_of_consOpt (ih [_] t rfl) hd (encodeCp2 hx hlo (by omega)) hs
    rw [if_neg h2] at h
    by_cases h3 : 0xE0 ≤ b ∧ b < 0xF0
    · obtain ⟨a, rfl⟩ := Nat.exists_eq_add_of_le h3.1
      rw [if_pos h3, Nat.add_sub_cancel_left] at h
      obtain ⟨x, t, hx, rfl, hm⟩ := more_step h
      obtain ⟨y, t, hy, rfl, hlo, hs, hd⟩ := more_last hm
      exact encode_of_consOpt (ih [_, _] t rfl) hd (encodeCp3 hx hy hlo (by omega)) hs
    rw [if_neg h3] at h
    by_cases h4 : 0xF0 ≤ b ∧ b < 0xF5
    · obtain ⟨a, rfl⟩ := Nat.exists_eq_add_of_le h4.1
      rw [if_pos h4, Nat.add_sub_cancel_left] at h
      obtain ⟨x, t, hx, rfl, hm⟩ := more_step h
      obtain ⟨y, t, hy, rfl, hn⟩ := more_step hm
      obtain ⟨z, t, hz, rfl, hlo, hs, hd⟩ := more_last hn
      exact encode_of_consOpt (ih [_, _, _] t rfl) hd (encodeCp4 hx hy hz hlo) hs
    rw [if_neg h4] at h
    cases h

end RV.C05.Utf8

import RV.C20.TextQuery
/-
  C20 — the LIMIT / OFFSET / "ORDER BY" injection of `SPARQLStore.triples`.
-/
namespace RV.C20

/-- The query sent for `triples(pattern, context)` when the context graph carries any combination of the attributes
    `LIMIT`, `OFFSET`, `"ORDER BY"` reads back as: that pattern, ordered by the variable `sliceOrder` chose, with exactly
    that LIMIT and OFFSET (any numbers).  Without attributes nothing is appended; with any attribute and an unbound
    position the ordering variable is the FIRST selected variable (the `"ORDER BY"` attribute is only consulted for a fully
    bound pattern — the docstring says otherwise, see design notes). -/
def Statement_slice_query_means_pattern : Prop :=
  ∀ (p : TPatT) (a : SliceAttrs) (txt : Str), PatOK p = true → wSliceQuery p a = some txt →
    readQuery txt = some (.triples p (sliceOrder p a) a.limit a.offset) ∧
    (a.limit = none → a.offset = none → a.orderBy = none → sliceOrder p a = none) ∧
    ((a.limit.isSome ∨ a.offset.isSome ∨ a.orderBy.isSome) →
      ∀ v vs, selVars (shapeOf p) = v :: vs → sliceOrder p a = some v) ∧
    (selVars (shapeOf p) = [] → sliceOrder p a = a.orderBy.join)

theorem slice_query_means_pattern : Statement_slice_query_means_pattern := by
  intro p a txt hok h
  refine ⟨readQuery_triples_mods p _ _ _ txt hok h, ?_, ?_, ?_⟩
  · intro h1 h2 h3
    simp [sliceOrder, sliceOrderS, h1, h2, h3]
  · intro hany v vs hv
    have hc : (a.limit.isSome || a.offset.isSome || a.orderBy.isSome) = true := by
      rcases hany with h | h | h <;> simp [h]
    -- the first unbound position is the first selected variable
    obtain ⟨x, y, z⟩ := p
    cases x with
    | none => simp [shapeOf, selVars] at hv; simp [sliceOrder, sliceOrderS, hc, ← hv.1]
    | some x =>
      cases y with
      | none => simp [shapeOf, selVars] at hv; simp [sliceOrder, sliceOrderS, hc, ← hv.1]
      | some y =>
        cases z with
        | none => simp [shapeOf, selVars] at hv; simp [sliceOrder, sliceOrderS, hc, ← hv.1]
        | some z => simp [shapeOf, selVars] at hv
  · intro hv
    -- no selected variable: all three positions are bound
    match p, hv with
    | (some x, some y, some z), _ =>
      simp only [sliceOrder, sliceOrderS, Option.isNone_some, Bool.false_eq_true, if_false]
      cases a.limit <;> cases a.offset <;> cases a.orderBy <;> simp

/-! non-vacuity: a page of a predicate scan, and a fully bound pattern under a LIMIT with an ORDER BY attribute -/

example : (wSliceQuery (none, some (.iri "http://e/p".toList), none) ⟨some 10, some 20, some none⟩).map String.ofList =
    some "SELECT ?s ?o  { ?s <http://e/p> ?o } ORDER BY ?s LIMIT 10 OFFSET 20" := by decide +kernel

example : (wSliceQuery (some (.iri "u:s".toList), some (.iri "u:p".toList), some (.lit "x".toList none none))
      ⟨some 1, none, some (some .o)⟩).map String.ofList =
    some "ASK { <u:s> <u:p> \"x\" } ORDER BY ?o LIMIT 1" := by decide +kernel

end RV.C20

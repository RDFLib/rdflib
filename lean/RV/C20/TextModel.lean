import RV.C20.TextReq
import RV.C20.Refine
/-
  C20 text layer: the strings the store appends to `_edits`, as a function of the write
  call (through a vocabulary: term ids → text-level terms), read back as the operations of the
  state-machine model; the text sent by `commit` reads back as the queue, in order.
-/
namespace RV.C20

structure Vocab where
  term : Nat → TTerm
  graph : Nat → Str

def Vocab.triple (V : Vocab) (t : Triple) : TTriple := (V.term t.1, V.term t.2.1, V.term t.2.2)
def Vocab.pat (V : Vocab) (p : TPat) : TPatT := (p.1.map V.term, p.2.1.map V.term, p.2.2.map V.term)
def Vocab.g (V : Vocab) (g : GName) : Option Str := g.map V.graph

def UOp.toText (V : Vocab) : UOp → TUOp
  | .insertData g ts => .insertData (V.g g) (ts.map V.triple)
  | .deleteData g ts => .deleteData (V.g g) (ts.map V.triple)
  | .deleteWhere g p => .deleteWhere (V.g g) (V.pat p)
  | .deleteNamed p => .deleteNamed (V.pat p)
  | .dropGraph g => .dropGraph (V.g g)
  | .createGraph n => .createGraph (V.graph n)

/-- every id stands for a term the store can send; prefixes of the PREFIX block are names -/
structure VocabOK (V : Vocab) (ns : List (Str × Str)) : Prop where
  term : ∀ n, TermOK (V.term n) = true
  graph : ∀ n, iriOK (V.graph n) = true
  ns : ∀ kv ∈ ns, PrefixOK kv = true

/-- the strings one write call appends to `_edits` (`none`: `node_to_sparql` raised, or the text
    is the caller's own — `update()` — and not modelled) -/
def writeEdits (V : Vocab) (ns : List (Str × Str)) (hook : Bool) : Write → Option (List Str)
  | .add t g => (encTriple hook t).bind fun t' => (wAdd (V.g g) (V.triple t')).map ([·])
  | .addN qs => (encQuads hook qs).bind fun qs' =>
      optAll ((groups qs').map fun gt => wAddN (V.g gt.1) (gt.2.map V.triple))
  | .remove p (.one g) => (encPat hook p).bind fun p' => (wRemoveOne (V.g g) (V.pat p')).map ([·])
  | .remove p .all => (encPat hook p).bind fun p' => (wRemoveAll (V.pat p')).map ([·])
  | .removeGraph g => (wDrop ns (V.g g)).map ([·])
  | .addGraph n => (wCreate ns (V.graph n)).map ([·])
  | .update _ _ => none

def Write.textual : Write → Bool
  | .update _ _ => false
  | _ => true

/-- the texts in `_edits` after a list of write calls (refused calls queue nothing) -/
def queueTexts (V : Vocab) (ns : List (Str × Str)) (hook : Bool) : List Write → Option (List Str)
  | [] => some []
  | w :: ws =>
    match compileWrite hook w with
    | none => queueTexts V ns hook ws
    | some _ => (writeEdits V ns hook w).bind fun a => (queueTexts V ns hook ws).map (a ++ ·)

theorem vocab_patOK (V : Vocab) (ns : List (Str × Str)) (hV : VocabOK V ns) (p : TPat) : PatOK (V.pat p) = true := by
  obtain ⟨a, b, c⟩ := p
  cases a <;> cases b <;> cases c <;> simp [PatOK, PosOK, Vocab.pat, hV.term]

theorem vocab_tripleOK (V : Vocab) (ns : List (Str × Str)) (hV : VocabOK V ns) (t : Triple) :
    TripleOK (V.triple t) = true := by
  simp [TripleOK, Vocab.triple, hV.term]

theorem vocab_graphOK (V : Vocab) (ns : List (Str × Str)) (hV : VocabOK V ns) (g : GName) : GraphOK (V.g g) = true := by
  cases g with
  | none => rfl
  | some n => exact hV.graph n

theorem wIri_ok (g : Str) (h : iriOK g = true) : wIri g = some ('<' :: g ++ ['>']) := wTerm_iri g h

theorem wAdd_eq (g : Option Str) (t : TTriple) (hg : GraphOK g = true) (ht : TripleOK t = true) :
    wAdd g t = some (insertT g (tripleT t) []) := by
  cases g with
  | none => simp [wAdd, wTripleDot_eq ht, insertT, gsel, blockT]
  | some gn => simp [wAdd, wTripleDot_eq ht, wIri_ok gn hg, insertT, gsel, blockT]

theorem wAddN_eq (g : Option Str) (ts : List TTriple) (hg : GraphOK g = true) (hts : ∀ t ∈ ts, TripleOK t = true) :
    wAddN g ts = some (insertT g (triplesT ts) ['\n']) := by
  cases g with
  | none => simp [wAddN, wTripleDots_eq hts, insertT, gsel, blockT, triplesT]
  | some gn => simp [wAddN, wTripleDots_eq hts, wIri_ok gn hg, insertT, gsel, blockT, triplesT]

theorem wRemoveOne_none (p : TPatT) (hp : PatOK p = true) :
    wRemoveOne none p = some (deleteT .dflt (patDotT p) [' ']) := by
  simp [wRemoveOne, wPatDot_eq hp, deleteT, blockT]

theorem wRemoveOne_some (g : Str) (p : TPatT) (hg : iriOK g = true) (hp : PatOK p = true) :
    wRemoveOne (some g) p = some (withT g (patDotT p)) := by
  simp [wRemoveOne, wPatDot_eq hp, wIri_ok g hg, withT, deleteT, blockT]

theorem wRemoveAll_eq (p : TPatT) (hp : PatOK p = true) :
    wRemoveAll p = some (deleteT .dflt (patDotT p) [' '] ++ sep ++ deleteT (.anyNamed ['G']) (patDotT p) [' ']) := by
  simp [wRemoveAll, wPatDot_eq hp, deleteT, blockT, sep]

theorem wDrop_eq (ns : List (Str × Str)) (g : Option Str) (hg : GraphOK g = true) :
    wDrop ns g = some (wPrologue ns ++ match g with | none => dropDefaultT | some gn => dropT gn) := by
  cases g with
  | none => simp [wDrop, dropDefaultT]
  | some gn => simp [wDrop, wIri_ok gn hg, dropT]

theorem wCreate_eq (ns : List (Str × Str)) (g : Str) (hg : iriOK g = true) :
    wCreate ns g = some (wPrologue ns ++ createT g) := by
  simp [wCreate, wIri_ok g hg, createT]

/-- the strings a write call queues, edit by edit -/
inductive EditTexts (V : Vocab) : List Str → List (List UOp) → Prop
  | nil : EditTexts V [] []
  | cons {txt es txts ess} : EditText txt (es.map (UOp.toText V)) → EditTexts V txts ess →
      EditTexts V (txt :: txts) (es :: ess)

theorem EditTexts.append {V : Vocab} {a b : List Str} {x y : List (List UOp)} (h : EditTexts V a x)
    (h' : EditTexts V b y) : EditTexts V (a ++ b) (x ++ y) := by
  induction h with
  | nil => exact h'
  | cons h1 _ ih => exact .cons h1 ih

theorem EditTexts.zip {V : Vocab} {txts : List Str} {ess : List (List UOp)} (h : EditTexts V txts ess) :
    txts.length = ess.length ∧ ∀ pr ∈ txts.zip ess, EditText pr.1 (pr.2.map (UOp.toText V)) := by
  induction h with
  | nil => exact ⟨rfl, by simp⟩
  | cons h1 _ ih =>
    refine ⟨by simp [ih.1], fun pr hpr => ?_⟩
    rcases List.mem_cons.mp hpr with rfl | hpr
    · exact h1
    · exact ih.2 pr hpr

theorem EditTexts.joined {V : Vocab} {txts : List Str} {ess : List (List UOp)} (h : EditTexts V txts ess)
    (hne : txts ≠ []) : EditText (joinEdits txts) (ess.flatten.map (UOp.toText V)) := by
  induction h with
  | nil => exact absurd rfl hne
  | @cons txt es txts ess h1 h2 ih =>
    cases h2 with
    | nil => simpa [joinEdits, joinWith] using h1
    | cons g1 g2 =>
      have := h1.join (ih (by simp))
      simpa [joinEdits, joinWith, sep, List.append_assoc] using this

theorem addN_groups (V : Vocab) (ns : List (Str × Str)) (hV : VocabOK V ns) :
    ∀ (gs : List (GName × List Triple)), (∀ gt ∈ gs, gt.2 ≠ []) →
    ∃ txts, optAll (gs.map fun gt => wAddN (V.g gt.1) (gt.2.map V.triple)) = some txts ∧
      EditTexts V txts (gs.map fun gt => [UOp.insertData gt.1 gt.2])
  | [], _ => ⟨[], rfl, .nil⟩
  | gt :: gs, hne => by
    obtain ⟨txts, h1, h2⟩ := addN_groups V ns hV gs (fun x hx => hne x (List.mem_cons_of_mem _ hx))
    have hts : ∀ t ∈ gt.2.map V.triple, TripleOK t = true := by
      intro t ht
      obtain ⟨x, _, rfl⟩ := List.mem_map.mp ht
      exact vocab_tripleOK V ns hV x
    have hg := vocab_graphOK V ns hV gt.1
    have hgt : gt.2.map V.triple ≠ [] := by simpa using hne gt (List.mem_cons_self ..)
    exact ⟨_ :: txts, by simp only [List.map_cons, optAll, wAddN_eq _ _ hg hts, h1],
      .cons (insertT_edit (V.g gt.1) _ ['\n'] hgt hg hts allWs_nl) h2⟩

theorem one_edit {V : Vocab} {o : Option Str} {txt : Str} {es : List UOp} (ho : o = some txt)
    (h : EditText txt (es.map (UOp.toText V))) : ∃ txts, o.map ([·]) = some txts ∧ EditTexts V txts [es] :=
  ⟨[txt], by rw [ho]; rfl, .cons h .nil⟩

theorem writeEdits_correct (V : Vocab) (ns : List (Str × Str)) (hV : VocabOK V ns) (hook : Bool) (w : Write)
    (hw : w.textual = true) (es : List (List UOp)) (hc : compileWrite hook w = some es) :
    ∃ txts, writeEdits V ns hook w = some txts ∧ EditTexts V txts es := by
  cases w with
  | add t g =>
    obtain ⟨t', ht', rfl⟩ := Option.map_eq_some_iff.mp hc
    have hg := vocab_graphOK V ns hV g
    have ht := vocab_tripleOK V ns hV t'
    simp only [writeEdits, ht', Option.bind_some]
    exact one_edit (wAdd_eq _ _ hg ht) (insertT_edit (V.g g) [V.triple t'] [] (by simp) hg (by simpa using ht) allWs_nil)
  | addN qs =>
    obtain ⟨qs', hq', rfl⟩ := Option.map_eq_some_iff.mp hc
    simp only [writeEdits, hq', Option.bind_some]
    exact addN_groups V ns hV (groups qs') (groups_nonempty qs')
  | remove p sel =>
    cases sel with
    | all =>
      obtain ⟨p', hp', rfl⟩ := Option.map_eq_some_iff.mp hc
      have hp := vocab_patOK V ns hV p'
      simp only [writeEdits, hp', Option.bind_some]
      exact one_edit (wRemoveAll_eq _ hp)
        ((deleteT_edit .dflt _ rfl hp).join (deleteT_edit (.anyNamed ['G']) _ rfl hp))
    | one g =>
      obtain ⟨p', hp', rfl⟩ := Option.map_eq_some_iff.mp hc
      have hp := vocab_patOK V ns hV p'
      simp only [writeEdits, hp', Option.bind_some]
      cases g with
      | none => exact one_edit (wRemoveOne_none _ hp) (deleteT_edit .dflt _ rfl hp)
      | some n => exact one_edit (wRemoveOne_some _ _ (hV.graph n) hp) (withT_edit _ _ (hV.graph n) hp)
  | removeGraph g =>
    obtain rfl := Option.some.inj hc
    cases g with
    | none => exact one_edit (wDrop_eq ns none rfl) (prologue_edit ns 'D' hV.ns (by decide +kernel) dropDefaultT_reads)
    | some n =>
      exact one_edit (wDrop_eq ns (some _) (hV.graph n))
        (prologue_edit ns 'D' hV.ns (by decide +kernel) (dropT_reads _ (hV.graph n)))
  | addGraph n =>
    obtain rfl := Option.some.inj hc
    exact one_edit (wCreate_eq ns _ (hV.graph n))
      (prologue_edit ns 'C' hV.ns (by decide +kernel) (createT_reads _ (hV.graph n)))
  | update g us => simp [Write.textual] at hw

theorem queueTexts_correct (V : Vocab) (ns : List (Str × Str)) (hV : VocabOK V ns) (hook : Bool) :
    ∀ (ws : List Write), (∀ w ∈ ws, w.textual = true) →
    ∃ txts, queueTexts V ns hook ws = some txts ∧ EditTexts V txts (ws.flatMap (queuedBy hook))
  | [], _ => ⟨[], rfl, .nil⟩
  | w :: ws, h => by
    obtain ⟨txts, h1, h2⟩ := queueTexts_correct V ns hV hook ws (fun x hx => h x (List.mem_cons_of_mem _ hx))
    cases hc : compileWrite hook w with
    | none => exact ⟨txts, by simp [queueTexts, hc, h1], by simpa [List.flatMap_cons, queuedBy, hc] using h2⟩
    | some es =>
      obtain ⟨a, g1, g2⟩ := writeEdits_correct V ns hV hook w (h w (List.mem_cons_self ..)) es hc
      exact ⟨a ++ txts, by simp [queueTexts, hc, g1, h1], by
        simpa [List.flatMap_cons, queuedBy, hc] using g2.append h2⟩

end RV.C20

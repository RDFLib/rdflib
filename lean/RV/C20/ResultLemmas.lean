import RV.C20.Result
/-
  C20 — lemmas for result decoding: the parsers read back the W3C documents `wireJson` / `wireXml`.
-/
namespace RV.C20.Res

/-! ### the key comparisons the JSON parser makes (finite table, by evaluation) -/

theorem key_facts :
    kValue ≠ kType ∧ kDatatype ≠ kType ∧ kDatatype ≠ kValue ∧ kXmlLang ≠ kType ∧ kXmlLang ≠ kValue
    ∧ kXmlLang ≠ kDatatype ∧ kDatatype ≠ kXmlLang
    ∧ kLiteral ≠ kUri ∧ kBnode ≠ kUri ∧ kBnode ≠ kLiteral ∧ kBnode ≠ kTypedLiteral
    ∧ kHead ≠ kBoolean ∧ kResults ≠ kBoolean ∧ kHead ≠ kResults ∧ kResults ≠ kHead ∧ kBoolean ≠ kHead := by decide +kernel

theorem validLang_ne_nil {l : Str} (h : validLang l = true) : l ≠ [] := by
  intro e; subst e; revert h; decide

theorem mkLiteral_lang {s l : Str} (h : validLang l = true) : mkLiteral s none (some l) = .ok (.lang s l) := by
  cases l with
  | nil => exact absurd rfl (validLang_ne_nil h)
  | cons c cs => simp [mkLiteral, h]

@[simp] theorem mkLiteral_plain (s : Str) : mkLiteral s none none = .ok (.plain s) := rfl
@[simp] theorem mkLiteral_typed (s d : Str) : mkLiteral s (some d) none = .ok (.typed s d) := rfl

theorem parse_termToJson {t : Term} (h : langOk t = true) : parseJsonTerm (termToJson t) = .ok t := by
  -- the keys of a term object differ (each `alookup` finds its own entry), and so do the values of `type`
  obtain ⟨hVT, hDT, hDV, hLT, hLV, hLD, hDL, hLitUri, hBnUri, hBnLit, hBnTyped, _⟩ := key_facts
  have keys : kType ≠ kValue ∧ kType ≠ kDatatype ∧ kValue ≠ kDatatype ∧ kType ≠ kXmlLang ∧ kValue ≠ kXmlLang :=
    ⟨hVT.symm, hDT.symm, hDV.symm, hLT.symm, hLV.symm⟩
  cases t with
  | lang s l =>
    simp [keys, hLD, hLitUri, termToJson, parseJsonTerm, alookup, jStr, jOptStr,
      mkLiteral_lang (show validLang l = true from h)]
  | _ =>
    simp [keys, hDL, hLitUri, hBnUri, hBnLit, hBnTyped, termToJson, parseJsonTerm, alookup, jStr, jOptStr, Except.map]

def rowAll (p : Term → Bool) : Row → Bool
  | [] => true
  | none :: r => rowAll p r
  | some t :: r => p t && rowAll p r

theorem rowAll_iff {p : Term → Bool} : ∀ {r : Row}, rowAll p r = true ↔ ∀ t, some t ∈ r → p t = true
  | [] => by simp [rowAll]
  | none :: r => by simp only [rowAll, rowAll_iff (r := r), List.mem_cons, reduceCtorEq, false_or]
  | some t :: r => by
    simp only [rowAll, Bool.and_eq_true, rowAll_iff (r := r), List.mem_cons, Option.some.injEq, forall_eq_or_imp]

/-- both documents list the bound cells of a row: `bindingPairs`, term by term -/
theorem bindingTo_eq (vars : List Str) (row : Row) :
    bindingToJson vars row = (bindingPairs vars row).map (fun vt => (vt.1, termToJson vt.2)) ∧
    bindingToXml vars row = (bindingPairs vars row).map (fun vt => .node tBinding [(aName, vt.1)] [] [termToXml vt.2]) := by
  induction vars generalizing row with
  | nil => cases row <;> exact ⟨rfl, rfl⟩
  | cons v vs ih =>
    match row with
    | [] => exact ⟨rfl, rfl⟩
    | none :: cs => exact ih cs
    | some t :: cs => simp [bindingToJson, bindingToXml, bindingPairs, ih cs]

theorem rowAll_pairs {p : Term → Bool} (vars : List Str) (row : Row) (h : rowAll p row = true) :
    ∀ vt ∈ bindingPairs vars row, p vt.2 = true := by
  induction vars generalizing row with
  | nil => cases row <;> simp [bindingPairs]
  | cons v vs ih =>
    match row, h with
    | [], _ => simp [bindingPairs]
    | none :: cs, h => exact ih cs h
    | some t :: cs, h =>
      simp only [rowAll, Bool.and_eq_true] at h
      simp only [bindingPairs, List.mem_cons, forall_eq_or_imp]
      exact ⟨h.1, ih cs h.2⟩

theorem parseJsonBinding_map : ∀ (d : List (Str × Term)), (∀ vt ∈ d, langOk vt.2 = true) →
    parseJsonBinding (d.map (fun vt => (vt.1, termToJson vt.2))) = .ok d
  | [], _ => rfl
  | vt :: d, h => by
    simp [parseJsonBinding, parse_termToJson (h vt (List.mem_cons_self ..)),
      parseJsonBinding_map d (fun x hx => h x (List.mem_cons_of_mem _ hx))]

theorem parseJsonRows_map (vars : List Str) (rows : List Row) (h : ∀ r ∈ rows, rowAll langOk r = true) :
    parseJsonRows (rows.map (fun r => .obj (bindingToJson vars r))) = .ok (rows.map (bindingPairs vars)) := by
  induction rows with
  | nil => rfl
  | cons r rs ih =>
    simp [parseJsonRows, (bindingTo_eq vars r).1, parseJsonBinding_map _ (rowAll_pairs vars r (h r (by simp))),
      ih (fun x hx => h x (by simp [hx]))]

theorem jStrs_map (vars : List Str) : jStrs (vars.map .str) = .ok vars := by
  induction vars with
  | nil => rfl
  | cons v vs ih => simp [jStrs, jStr, ih]

theorem alookup_bindingPairs_notin {v : Str} {vs : List Str} (h : v ∉ vs) (cs : Row) :
    alookup v (bindingPairs vs cs) = none := by
  induction vs generalizing cs with
  | nil => cases cs <;> simp [bindingPairs, alookup]
  | cons w ws ih =>
    have hw : w ≠ v := fun e => h (by simp [e])
    have hws : v ∉ ws := fun e => h (by simp [e])
    cases cs with
    | nil => simp [bindingPairs, alookup]
    | cons c cs =>
      cases c with
      | none => simpa [bindingPairs] using ih hws cs
      | some t => simp [bindingPairs, alookup, hw, ih hws cs]

theorem alignDict_cons_notin {v : Str} {vs : List Str} (h : v ∉ vs) (t : Term) (d : List (Str × Term)) :
    alignDict vs ((v, t) :: d) = alignDict vs d := by
  unfold alignDict
  apply List.map_congr_left
  intro w hw
  have : v ≠ w := fun e => h (e ▸ hw)
  simp [alookup, this]

theorem alignDict_bindingPairs {vars : List Str} (hnd : vars.Nodup) (row : Row) (hlen : row.length = vars.length) :
    alignDict vars (bindingPairs vars row) = row := by
  induction vars generalizing row with
  | nil => cases row with
    | nil => rfl
    | cons c cs => simp at hlen
  | cons v vs ih =>
    cases row with
    | nil => simp at hlen
    | cons c cs =>
      have hv : v ∉ vs := (List.nodup_cons.mp hnd).1
      have hvs : vs.Nodup := (List.nodup_cons.mp hnd).2
      have hl : cs.length = vs.length := by simpa using hlen
      cases c with
      | none =>
        have := ih hvs cs hl
        simp only [bindingPairs]
        simp only [alignDict, List.map_cons, alookup_bindingPairs_notin hv cs]
        simpa [alignDict] using this
      | some t =>
        have := ih hvs cs hl
        simp only [bindingPairs]
        have e := alignDict_cons_notin hv t (bindingPairs vs cs)
        show alookup v ((v, t) :: bindingPairs vs cs) :: alignDict vs ((v, t) :: bindingPairs vs cs) = some t :: cs
        rw [e, this]
        simp [alookup]

/-- the result as rdflib can hold it and the model represents it: distinct variables, rows aligned -/
structure Aligned (vars : List Str) (rows : List Row) : Prop where
  nodup : vars.Nodup
  len : ∀ r ∈ rows, r.length = vars.length

theorem map_align {vars : List Str} {rows : List Row} (h : Aligned vars rows) :
    (rows.map (bindingPairs vars)).map (alignDict vars) = rows := by
  rw [List.map_map]
  conv => rhs; rw [← List.map_id rows]
  apply List.map_congr_left
  intro r hr
  simpa using alignDict_bindingPairs h.nodup r (h.len r hr)

theorem doc_keys : kHead ≠ kBoolean ∧ kResults ≠ kBoolean ∧ kHead ≠ kResults ∧ kResults ≠ kHead ∧ kBoolean ≠ kHead :=
  by decide +kernel

theorem ofJson_wireJson_select {vars : List Str} {rows : List Row} (h : Aligned vars rows)
    (hl : ∀ r ∈ rows, rowAll langOk r = true) :
    ofJson (wireJson (.select vars rows)) = .ok (.select vars rows) := by
  simp [doc_keys, wireJson, ofJson, alookup, parseJsonRows_map vars rows hl, jStrs_map, map_align h]

theorem ofJson_wireJson_ask (b : Bool) : ofJson (wireJson (.ask b)) = .ok (.ask b) := by
  simp [wireJson, ofJson, alookup, doc_keys.1]

theorem term_tags : tUri ≠ tLiteral ∧ tBnode ≠ tLiteral ∧ tBnode ≠ tUri ∧ aXmlLang ≠ aDatatype := by decide +kernel

theorem doc_tags : tHead ≠ tBoolean ∧ tResults ≠ tBoolean ∧ tHead ≠ tResults ∧ tResults ≠ tHead := by decide +kernel

theorem truthy_cons (c : Char) (cs : Str) : truthy (some (c :: cs)) = some (c :: cs) := rfl

theorem parse_termToXml {t : Term} (h : xmlTermOk t = true) : parseXmlTerm (termToXml t) = .ok t := by
  obtain ⟨h1, h2, h3, h4⟩ := term_tags
  cases t with
  | iri s =>
    cases s with
    | nil => simp [xmlTermOk] at h
    | cons c cs => simp [*, termToXml, parseXmlTerm, Xml.tag, Xml.text]
  | bnode s =>
    cases s with
    | nil => simp [xmlTermOk] at h
    | cons c cs => simp [*, termToXml, parseXmlTerm, Xml.tag, Xml.text]
  | plain s => simp [termToXml, parseXmlTerm, Xml.tag, Xml.text, Xml.attrs, alookup, truthy]
  | typed s d =>
    cases d with
    | nil => simp [xmlTermOk] at h
    | cons c cs => simp [termToXml, parseXmlTerm, Xml.tag, Xml.text, Xml.attrs, alookup, truthy]
  | lang s l =>
    have hl : validLang l = true := h
    cases l with
    | nil => exact absurd rfl (validLang_ne_nil hl)
    | cons c cs => simp [h4, termToXml, parseXmlTerm, Xml.tag, Xml.text, Xml.attrs, alookup, truthy, mkLiteral_lang hl]

theorem parseXmlBindings_map : ∀ (d : List (Str × Term)), (∀ vt ∈ d, xmlTermOk vt.2 = true) →
    parseXmlBindings (d.map (fun vt => .node tBinding [(aName, vt.1)] [] [termToXml vt.2])) = .ok d
  | [], _ => rfl
  | vt :: d, h => by
    simp [parseXmlBindings, Xml.tag, Xml.attrs, Xml.kids, alookup, parse_termToXml (h vt (List.mem_cons_self ..)),
      parseXmlBindings_map d (fun x hx => h x (List.mem_cons_of_mem _ hx))]

theorem parseXmlResults_map (vars : List Str) (rows : List Row) (h : ∀ r ∈ rows, rowAll xmlTermOk r = true) :
    parseXmlResults (rows.map (fun r => .node tResult [] [] (bindingToXml vars r)))
      = .ok (rows.map (bindingPairs vars)) := by
  induction rows with
  | nil => rfl
  | cons r rs ih =>
    simp [parseXmlResults, Xml.tag, Xml.kids, (bindingTo_eq vars r).2,
      parseXmlBindings_map _ (rowAll_pairs vars r (h r (by simp))), ih (fun x hx => h x (by simp [hx]))]

theorem headVars_map (vars : List Str) :
    headVars (vars.map (fun v => Xml.node tVariable [(aName, v)] [] [])) = .ok vars := by
  induction vars with
  | nil => rfl
  | cons v vs ih => simp [headVars, Xml.tag, Xml.attrs, alookup, ih]

theorem ofXml_wireXml_select {vars : List Str} {rows : List Row} (h : Aligned vars rows)
    (hl : ∀ r ∈ rows, rowAll xmlTermOk r = true) :
    ofXml (wireXml (.select vars rows)) = .ok (.select vars rows) := by
  obtain ⟨h5, h6, h7, h8⟩ := doc_tags
  simp [*, wireXml, ofXml, headXml, findTag, allHeadVars, Xml.tag, Xml.kids, headVars_map,
    parseXmlResults_map vars rows hl, map_align h]

theorem ofXml_wireXml_ask (b : Bool) : ofXml (wireXml (.ask b)) = .ok (.ask b) := by
  cases b <;> rfl

end RV.C20.Res

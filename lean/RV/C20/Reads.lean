import RV.C20.Pattern
import RV.C20.Refine
/-
  C20 — reads answer exactly from the endpoint's content; the endpoint never holds a quad twice
  (so `len` counts every triple of the graph once).
-/
namespace RV.C20

theorem nodup_insertAll (g : GName) : ∀ (ts : List Triple) (qs : List Quad), qs.Nodup →
    (insertAll qs g ts).Nodup
  | [], _, h => h
  | _ :: ts, _, h => nodup_insertAll g ts _ (nodup_sinsert h)

theorem nodup_removeAll (g : GName) : ∀ (ts : List Triple) (qs : List Quad), qs.Nodup →
    (removeAll qs g ts).Nodup
  | [], _, h => h
  | _ :: ts, _, h => nodup_removeAll g ts _ (nodup_sremove h)

theorem nodup_apply (d : DS) (u : UOp) (h : d.quads.Nodup) : (u.apply d).quads.Nodup := by
  cases u with
  | insertData g ts => exact nodup_insertAll g ts _ h
  | deleteData g ts => exact nodup_removeAll g ts _ h
  | deleteWhere g p => exact h.filter _
  | deleteNamed p => exact h.filter _
  | dropGraph g => cases g <;> exact h.filter _
  | createGraph n => exact h

theorem nodup_commit (r : Remote) (h : r.ep.quads.Nodup) : r.commit.ep.quads.Nodup := by
  rw [commit_ep]
  exact foldl_inv (fun d us hd => foldl_inv (fun d u hd => nodup_apply d u hd) us d hd) _ _ h

theorem nodup_run (ops : List Op) (r : Remote) (h : r.ep.quads.Nodup) : (r.run ops).ep.quads.Nodup := by
  refine run_inv (I := fun r => r.ep.quads.Nodup) (fun r h => nodup_commit r h) (fun r h => h) ?_ ops r h
  intro r es h
  unfold Remote.enqueue
  split
  · exact nodup_commit _ h
  · exact h

theorem nodup_graphTriples (g : GName) (qs : List Quad) (h : qs.Nodup) :
    ((qs.filter (fun q => q.2 == g)).map (·.1)).Nodup :=
  -- two quads kept by the filter have the same graph, so equal triples would make them equal
  List.pairwise_map.mpr <| (List.Pairwise.filter _ h).imp_of_mem fun ha hb hne e =>
    hne (Prod.ext e ((beq_iff_eq.mp (List.mem_filter.mp ha).2).trans (beq_iff_eq.mp (List.mem_filter.mp hb).2).symm))

theorem contains_exact (hook : Bool) (d : DS) (g : GName) (p : TPat) (hp : p.plain = true) :
    ∃ b, readOut hook d (.contains p g) = .bool b ∧
      (b = true ↔ ∃ t, (t, g) ∈ d.quads ∧ p.matches t = true) := by
  refine ⟨!(triplesOut d g p p).isEmpty, by simp [readOut, encPat_plain hp], ?_⟩
  simp only [Bool.not_eq_true', List.isEmpty_eq_false_iff_exists_mem, mem_triplesOut]

theorem triples_exact (hook : Bool) (d : DS) (g : GName) (p : TPat) (hp : p.plain = true) :
    ∃ ts, readOut hook d (.triples p g) = .triples ts ∧
      ∀ t, t ∈ ts ↔ ((t, g) ∈ d.quads ∧ p.matches t = true) :=
  ⟨triplesOut d g p p, by simp [readOut, encPat_plain hp], mem_triplesOut d g p⟩

theorem contexts_exact (hook : Bool) (d : DS) (t : Triple) (ht : t.plain = true) :
    ∃ ns, readOut hook d (.contexts (some t)) = .names ns ∧
      ∀ n, n ∈ ns ↔ (n ∈ d.graphs ∧ (t, some n) ∈ d.quads) := by
  refine ⟨d.graphs.filter (fun n => (t, some n) ∈ d.quads), by simp [readOut, encTriple_plain ht], ?_⟩
  intro n
  simp [List.mem_filter]

end RV.C20

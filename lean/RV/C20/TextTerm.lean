import RV.C20.TextLong
/-
  C20 text layer: terms, variables, triple patterns.
-/
namespace RV.C20

def tagOK (l : Str) : Bool := !l.isEmpty && l.all isTagChar

/-- the terms the store can send: IRIs in the IRIREF alphabet; literals with ANY lexical form,
    optionally a datatype IRI or a language tag (not both) -/
def TermOK : TTerm → Bool
  | .iri s => iriOK s
  | .lit _ none none => true
  | .lit _ (some d) none => iriOK d
  | .lit _ none (some l) => tagOK l
  | .lit _ (some _) (some _) => false

theorem spanTag_append : ∀ (l r : Str), l.all isTagChar = true → spanTag (l ++ ' ' :: r) = (l, ' ' :: r)
  | [], r, _ => by simp [spanTag, isTagChar, isAlpha, isDigit]
  | c :: l, r, h => by
    simp only [List.all_cons, Bool.and_eq_true] at h
    simp [spanTag, h.1, spanTag_append l r h.2]

theorem readLitRaw_short (body : Str) (h : ∀ r, body ≠ '"' :: '"' :: r) :
    readLitRaw ('"' :: body) =
      match readShort body with
      | some (lex, rest) => readSuffix lex rest
      | none => none := by
  rw [readLitRaw.eq_def]
  split
  · next r hr => injection hr with _ hr; exact absurd hr (h _)
  · next r hr => injection hr with _ hr; subst hr; rfl
  · next h3 h4 => exact absurd rfl (h4 body)

theorem readLitRaw_quoteEncode (x sfx : Str) (hs : sfx.head? ≠ some '"') :
    readLitRaw (quoteEncode x ++ sfx) = readSuffix x sfx := by
  unfold quoteEncode
  split
  · simp only [q3, List.cons_append, List.nil_append, List.append_assoc, readLitRaw]
    have := readLong_enc x sfx
    simp only [q3, List.cons_append, List.nil_append, List.append_assoc] at this
    rw [this]
  · next hn =>
    simp only [List.cons_append, List.append_assoc, List.nil_append]
    rw [readLitRaw_short _ (shortEncode_not_long x hn sfx hs), readShort_enc x sfx hn]

/-- what follows the closing quote of a written literal -/
def litSuffix : Option Str → Option Str → Str
  | _, some l => '@' :: l
  | some d, none => '^' :: '^' :: '<' :: d ++ ['>']
  | none, none => []

/-- the text `n3()` writes for a term the store can send -/
def termT : TTerm → Str
  | .iri s => '<' :: s ++ ['>']
  | .lit x dt lg => quoteEncode x ++ litSuffix dt lg

theorem wTerm_eq {t : TTerm} (h : TermOK t = true) : wTerm t = some (termT t) := by
  match t, h with
  | .iri s, h => exact wTerm_iri s h
  | .lit x dt lg, _ => cases dt <;> cases lg <;> simp [wTerm, termT, litSuffix]

theorem quoteEncode_head (x : Str) : ∃ r, quoteEncode x = '"' :: r := by
  unfold quoteEncode; split <;> simp [q3]

theorem termT_head (t : TTerm) : ∃ c r, termT t = c :: r ∧ (c = '<' ∨ c = '"') := by
  cases t with
  | iri s => exact ⟨'<', _, rfl, Or.inl rfl⟩
  | lit x dt lg =>
    obtain ⟨q, hq⟩ := quoteEncode_head x
    exact ⟨'"', _, by rw [termT, hq]; rfl, Or.inr rfl⟩

theorem litSuffix_head {x : Str} (dt lg : Option Str) (r : Str) (hok : TermOK (.lit x dt lg) = true) :
    (litSuffix dt lg ++ ' ' :: r).head? ≠ some '"' := by
  match dt, lg, hok with
  | none, none, _ | none, some _, _ | some _, none, _ => simp [litSuffix]

theorem readSuffix_lit (x : Str) (dt lg : Option Str) (r : Str) (hok : TermOK (.lit x dt lg) = true) :
    readSuffix x (litSuffix dt lg ++ ' ' :: r) = some (.lit x dt lg, ' ' :: r) := by
  match dt, lg, hok with
  | none, none, _ => simp [readSuffix, litSuffix]
  | none, some l, hok =>
    simp only [TermOK, tagOK, Bool.and_eq_true, Bool.not_eq_true', List.isEmpty_eq_false_iff] at hok
    simp only [litSuffix, readSuffix, List.cons_append, spanTag_append l r hok.2]
    cases l with
    | nil => exact absurd rfl hok.1
    | cons c l => rfl
  | some d, none, hok =>
    simp only [litSuffix, List.cons_append, List.append_assoc, List.nil_append, readSuffix]
    rw [readIriRaw_write d _ (by simpa [TermOK] using hok)]

theorem readNode_sp (s : Str) : readNode (' ' :: s) = readNode s := by simp [readNode, ws_sp]
theorem readNode_ws {c : Char} (h : isWs c = true) (s : Str) : readNode (c :: s) = readNode s := by simp [readNode, ws_isWs h]

theorem readNode_term (t : TTerm) (r : Str) (hok : TermOK t = true) :
    readNode (termT t ++ ' ' :: r) = some (.term t, ' ' :: r) := by
  match t, hok with
  | .iri s, hok =>
    simp only [termT, readNode, List.cons_append, ws_lt, List.append_assoc, List.nil_append]
    rw [readIriRaw_write s _ hok]; rfl
  | .lit x dt lg, hok =>
    obtain ⟨q, hq⟩ := quoteEncode_head x
    have : readNode (quoteEncode x ++ litSuffix dt lg ++ ' ' :: r) =
        (readLitRaw (quoteEncode x ++ (litSuffix dt lg ++ ' ' :: r))).map (fun y => (.term y.1, y.2)) := by
      rw [List.append_assoc, hq]; simp [readNode, ws_dq]
    rw [termT, this, readLitRaw_quoteEncode x _ (litSuffix_head dt lg r hok), readSuffix_lit x dt lg r hok]; rfl

theorem nameChar_S : isNameChar 'S' = true := by decide
theorem nameChar_P : isNameChar 'P' = true := by decide
theorem nameChar_O : isNameChar 'O' = true := by decide
theorem nameChar_s : isNameChar 's' = true := by decide
theorem nameChar_p : isNameChar 'p' = true := by decide
theorem nameChar_o : isNameChar 'o' = true := by decide
theorem nameChar_G : isNameChar 'G' = true := by decide
theorem nameChar_sp : isNameChar ' ' = false := by decide

theorem readNode_var1 (c : Char) (r : Str) (hc : isNameChar c = true) :
    readNode ('?' :: c :: ' ' :: r) = some (.var [c], ' ' :: r) := by
  simp [readNode, ws_qm, spanName, hc, nameChar_sp]

def posName (upper : Bool) : Pos → Char
  | .s => if upper then 'S' else 's'
  | .p => if upper then 'P' else 'p'
  | .o => if upper then 'O' else 'o'

def posVar (upper : Bool) : Pos → Str := if upper then posVarUpper else posVarLower

theorem posVar_eq (upper : Bool) (pos : Pos) : posVar upper pos = ['?', posName upper pos] := by
  cases upper <;> cases pos <;> rfl

theorem posVarLower_eq (pos : Pos) : posVarLower pos = ['?', posName false pos] := posVar_eq false pos

theorem posName_nameChar (upper : Bool) (pos : Pos) : isNameChar (posName upper pos) = true := by
  cases upper <;> cases pos <;> decide

/-- the node a pattern position reads back as -/
def nodeOf (upper : Bool) (pos : Pos) : Option TTerm → Node
  | some t => .term t
  | none => .var [posName upper pos]

def PosOK : Option TTerm → Bool
  | none => true
  | some t => TermOK t

def nodeT (upper : Bool) (pos : Pos) : Option TTerm → Str
  | some t => termT t
  | none => ['?', posName upper pos]

theorem wNode_eq (upper : Bool) (pos : Pos) {x : Option TTerm} (h : PosOK x = true) :
    wNode (posVar upper) pos x = some (nodeT upper pos x) := by
  cases x with
  | none => exact congrArg some (posVar_eq upper pos)
  | some t => exact wTerm_eq h

theorem readNode_nodeT (upper : Bool) (pos : Pos) (x : Option TTerm) (r : Str) (hok : PosOK x = true) :
    readNode (nodeT upper pos x ++ ' ' :: r) = some (nodeOf upper pos x, ' ' :: r) := by
  cases x with
  | none => exact readNode_var1 _ r (posName_nameChar upper pos)
  | some t => exact readNode_term t r hok

def PatOK (p : TPatT) : Bool := PosOK p.1 && PosOK p.2.1 && PosOK p.2.2

def nodesOf (upper : Bool) (p : TPatT) : NodeTriple :=
  (nodeOf upper .s p.1, nodeOf upper .p p.2.1, nodeOf upper .o p.2.2)

/-- `"%s %s %s"` of a pattern -/
def patT (upper : Bool) (p : TPatT) : Str :=
  nodeT upper .s p.1 ++ ' ' :: (nodeT upper .p p.2.1 ++ ' ' :: nodeT upper .o p.2.2)

theorem wPatBody_eq (upper : Bool) {p : TPatT} (h : PatOK p = true) :
    wPatBody (posVar upper) p = some (patT upper p) := by
  simp only [PatOK, Bool.and_eq_true] at h
  simp [wPatBody, wNode_eq upper _ h.1.1, wNode_eq upper _ h.1.2, wNode_eq upper _ h.2, patT]

theorem wPatBody_upper {p : TPatT} (h : PatOK p = true) : wPatBody posVarUpper p = some (patT true p) := wPatBody_eq true h
theorem wPatBody_lower {p : TPatT} (h : PatOK p = true) : wPatBody posVarLower p = some (patT false p) := wPatBody_eq false h

theorem readNodes_patT (upper : Bool) (p : TPatT) (r : Str) (hok : PatOK p = true) :
    ∃ r1 r2, readNode (patT upper p ++ ' ' :: r) = some (nodeOf upper .s p.1, r1) ∧
      readNode r1 = some (nodeOf upper .p p.2.1, r2) ∧
      readNode r2 = some (nodeOf upper .o p.2.2, ' ' :: r) := by
  simp only [PatOK, Bool.and_eq_true] at hok
  refine ⟨' ' :: (nodeT upper .p p.2.1 ++ ' ' :: (nodeT upper .o p.2.2 ++ ' ' :: r)), ' ' :: (nodeT upper .o p.2.2 ++ ' ' :: r),
    ?_, ?_, ?_⟩
  · simpa [patT, List.append_assoc] using readNode_nodeT upper .s p.1 _ hok.1.1
  · rw [readNode_sp]; exact readNode_nodeT upper .p p.2.1 _ hok.1.2
  · rw [readNode_sp]; exact readNode_nodeT upper .o p.2.2 r hok.2

theorem nodeVar_nodup (upper : Bool) (p : TPatT) :
    (nodeVar (nodeOf upper .s p.1) ++ nodeVar (nodeOf upper .p p.2.1) ++ nodeVar (nodeOf upper .o p.2.2)).Nodup := by
  obtain ⟨a, b, c⟩ := p
  cases a <;> cases b <;> cases c <;> cases upper <;> simp [nodeOf, nodeVar, posName]

theorem patOf_nodesOf (upper : Bool) (p : TPatT) : patOf [] (nodesOf upper p) = p := by
  obtain ⟨a, b, c⟩ := p
  cases a <;> cases b <;> cases c <;> simp [patOf, nodesOf, nodeOf, nodeVal, lookupVar]

theorem optDot_dot (r : Str) : optDot (' ' :: '.' :: r) = r := by
  simp [optDot, sym, ws_sp, ws_cons '.' r rfl]

theorem readPat_write (upper : Bool) (p : TPatT) (r : Str) (hok : PatOK p = true) :
    readPat (patT upper p ++ ' ' :: '.' :: r) = some (nodesOf upper p, r) := by
  obtain ⟨r1, r2, h1, h2, h3⟩ := readNodes_patT upper p ('.' :: r) hok
  simp only [readPat, h1, h2, h3, nodeVar_nodup upper p, if_true, optDot_dot, nodesOf]

end RV.C20

import RV.C20.Lemmas
/-
  C20 — the client state machine refines the visibility specification `SpecD`
  (simulation, by induction over histories).
-/
namespace RV.C20

theorem commit_eq (r : Remote) :
    r.commit = { r with ep := applyEdits r.ep r.edits, edits := [] } := by
  unfold Remote.commit
  split
  · next h =>
    have he : r.edits = [] := List.isEmpty_iff.mp h
    cases r
    simp_all
  · rfl

@[simp] theorem commit_ep (r : Remote) : r.commit.ep = applyEdits r.ep r.edits := by rw [commit_eq]
@[simp] theorem commit_edits (r : Remote) : r.commit.edits = [] := by rw [commit_eq]
@[simp] theorem commit_autocommit (r : Remote) : r.commit.autocommit = r.autocommit := by rw [commit_eq]
@[simp] theorem commit_dirtyReads (r : Remote) : r.commit.dirtyReads = r.dirtyReads := by rw [commit_eq]
@[simp] theorem commit_hook (r : Remote) : r.commit.hook = r.hook := by rw [commit_eq]
@[simp] theorem commit_readOnly (r : Remote) : r.commit.readOnly = r.readOnly := by rw [commit_eq]

theorem commit_of_empty (r : Remote) (h : r.edits = []) : r.commit = r := by
  unfold Remote.commit
  simp [h]

theorem step_write_ok {r : Remote} {w : Write} {es : List (List UOp)} (hro : r.readOnly = false)
    (hc : compileWrite r.hook w = some es) : r.step (.write w) = (r.enqueue es, .ok) := by
  simp [Remote.step, hro, hc]

theorem step_inv {I : Remote → Prop} (hc : ∀ r, I r → I r.commit) (hr : ∀ r, I r → I r.rollback)
    (hq : ∀ r es, I r → I (r.enqueue es)) (r : Remote) (op : Op) (h : I r) : I (r.step op).1 := by
  cases op with
  | write w =>
    simp only [Remote.step]
    split
    · exact h
    · split
      · exact h
      · exact hq _ _ h
  | commit =>
    simp only [Remote.step]
    split
    · exact h
    · exact hc _ h
  | rollback =>
    simp only [Remote.step]
    split
    · exact h
    · exact hr _ h
  | read rd =>
    simp only [Remote.step, Remote.preRead]
    split
    · exact h
    · split
      · exact hc _ h
      · exact h

theorem run_inv {I : Remote → Prop} (hc : ∀ r, I r → I r.commit) (hr : ∀ r, I r → I r.rollback)
    (hq : ∀ r es, I r → I (r.enqueue es)) (ops : List Op) (r : Remote) (h : I r) : I (r.run ops) :=
  foldl_inv (fun r op => step_inv hc hr hq r op) ops r h

structure SameFlags (a b : Remote) : Prop where
  ac : a.autocommit = b.autocommit
  dr : a.dirtyReads = b.dirtyReads
  hk : a.hook = b.hook
  ro : a.readOnly = b.readOnly

theorem sameFlags_step (r : Remote) (op : Op) : SameFlags (r.step op).1 r := by
  refine step_inv (I := fun r' => SameFlags r' r) ?_ ?_ ?_ r op ⟨rfl, rfl, rfl, rfl⟩
  · intro r' h; exact ⟨by simp [h.ac], by simp [h.dr], by simp [h.hk], by simp [h.ro]⟩
  · intro r' h; exact ⟨h.ac, h.dr, h.hk, h.ro⟩
  · intro r' es h
    unfold Remote.enqueue
    split
    · exact ⟨by simp [h.ac], by simp [h.dr], by simp [h.hk], by simp [h.ro]⟩
    · exact ⟨h.ac, h.dr, h.hk, h.ro⟩

/-- the client refines the visibility specification: the endpoint is the visible dataset, and the queued requests
    mean the pending writes.  `pend` speaks of EVERY pair of equal datasets, not of `r.ep`: so it survives a commit
    and composes when a write is appended. -/
structure Sim (r : Remote) (s : SpecD) : Prop where
  vis : DS.Equiv r.ep s.visible
  pend : ∀ a b, DS.Equiv a b → DS.Equiv (applyEdits a r.edits) (Spec.runWrites b s.pending)

theorem sim_commit {r : Remote} {s : SpecD} (h : Sim r s) : Sim r.commit s.flush := by
  constructor
  · rw [commit_ep]; exact h.pend _ _ h.vis
  · intro a b hab
    simpa [SpecD.flush] using hab

theorem sim_rollback {r : Remote} {s : SpecD} (h : Sim r s) : Sim r.rollback ⟨s.visible, []⟩ := by
  constructor
  · exact h.vis
  · intro a b hab
    simpa [Remote.rollback] using hab

theorem sim_append {r : Remote} {s : SpecD} (h : Sim r s) {w : Write} {es : List (List UOp)}
    (hes : ∀ a b, DS.Equiv a b → DS.Equiv (applyEdits a es) (Spec.applyWrite b w)) :
    Sim { r with edits := r.edits ++ es } ⟨s.visible, s.pending ++ [w]⟩ := by
  constructor
  · exact h.vis
  · intro a b hab
    simp only [applyEdits_append, Spec.runWrites, List.foldl_append, List.foldl_cons, List.foldl_nil]
    exact hes _ _ (h.pend a b hab)

theorem sim_step {r : Remote} {s : SpecD} (h : Sim r s) (hro : r.readOnly = false) (op : Op)
    (hp : op.plain = true) : Sim (r.step op).1 (s.step r.autocommit r.dirtyReads op) := by
  cases op with
  | write w =>
    obtain ⟨es, hc, hes⟩ := compile_correct r.hook w hp
    rw [step_write_ok hro hc]
    simp only [SpecD.step, Remote.enqueue]
    have h1 := sim_append h hes
    split
    · exact sim_commit h1
    · exact h1
  | commit =>
    simp only [Remote.step, hro, Bool.false_eq_true, if_false, SpecD.step]
    exact sim_commit h
  | rollback =>
    simp only [Remote.step, hro, Bool.false_eq_true, if_false, SpecD.step]
    exact sim_rollback h
  | read rd =>
    simp only [Remote.step, hro, Bool.false_eq_true, if_false, SpecD.step, Remote.preRead]
    split
    · exact sim_commit h
    · exact h

theorem sim_run (ops : List Op) : ∀ (r : Remote) (s : SpecD), Sim r s → r.readOnly = false →
    (∀ op ∈ ops, op.plain = true) →
    Sim (r.run ops) (SpecD.run r.autocommit r.dirtyReads s ops) := by
  induction ops with
  | nil => intro r s h _ _; exact h
  | cons op ops ih =>
    intro r s h hro hp
    have hf := sameFlags_step r op
    have := ih (r.step op).1 (s.step r.autocommit r.dirtyReads op)
      (sim_step h hro op (hp op (List.mem_cons_self ..))) (hf.ro.trans hro)
      (fun o ho => hp o (List.mem_cons_of_mem _ ho))
    rw [hf.ac, hf.dr] at this
    exact this

theorem sim_init (d : DS) (ac dr hk : Bool) : Sim (Remote.init d ac dr hk false) ⟨d, []⟩ := by
  constructor
  · exact DS.Equiv.refl _
  · intro a b hab
    simpa [Remote.init] using hab

/-! ### autocommit: nothing is ever pending -/

theorem specD_autocommit (dr : Bool) (ops : List Op) : ∀ (d : DS),
    SpecD.run true dr ⟨d, []⟩ ops = ⟨Spec.runWrites d (writesOf ops), []⟩ := by
  induction ops with
  | nil => intro d; rfl
  | cons op ops ih =>
    intro d
    cases op with
    | write w =>
      simp only [SpecD.run, List.foldl_cons, SpecD.step, SpecD.flush, List.nil_append, if_true,
        writesOf]
      exact ih _
    | commit =>
      simp only [SpecD.run, List.foldl_cons, SpecD.step, SpecD.flush, writesOf]
      exact ih _
    | rollback =>
      simp only [SpecD.run, List.foldl_cons, SpecD.step, writesOf]
      exact ih _
    | read rd =>
      simp only [SpecD.run, List.foldl_cons, SpecD.step, Bool.not_true, Bool.false_and,
        Bool.false_eq_true, if_false, writesOf]
      exact ih _

theorem run_autocommit_edits (ops : List Op) (r : Remote) (hac : r.autocommit = true) (he : r.edits = []) :
    (r.run ops).edits = [] := by
  refine (run_inv (I := fun r => r.autocommit = true ∧ r.edits = []) ?_ ?_ ?_ ops r ⟨hac, he⟩).2
  · intro r h; simp [h.1]
  · intro r h; exact ⟨h.1, rfl⟩
  · intro r es h; simp [Remote.enqueue, h.1]

/-- the request strings one write call appends to `_edits` (nothing when `node_to_sparql` raised) -/
def queuedBy (hook : Bool) (w : Write) : List (List UOp) :=
  match compileWrite hook w with
  | some es => es
  | none => []

/-- autocommit off, writable store: the client is a queue machine -/
theorem step_queue (r : Remote) (hac : r.autocommit = false) (hro : r.readOnly = false) (op : Op) :
    (r.step op).1 = match op with
      | .write w => { r with edits := r.edits ++ queuedBy r.hook w }
      | .commit => { r with ep := applyEdits r.ep r.edits, edits := [] }
      | .rollback => { r with edits := [] }
      | .read _ => if r.dirtyReads then r else { r with ep := applyEdits r.ep r.edits, edits := [] } := by
  cases op with
  | write w =>
    cases hc : compileWrite r.hook w with
    | none => cases r; simp_all [Remote.step, queuedBy]
    | some es => simp [step_write_ok hro hc, Remote.enqueue, hac, queuedBy, hc]
  | commit => simp [Remote.step, hro, commit_eq]
  | rollback => simp [Remote.step, hro, Remote.rollback]
  | read rd => cases hd : r.dirtyReads <;> simp [Remote.step, hro, Remote.preRead, hac, hd, commit_eq]

theorem run_cons (r : Remote) (op : Op) (ops : List Op) : r.run (op :: ops) = (r.step op).1.run ops := rfl

theorem run_append (r : Remote) (a b : List Op) : r.run (a ++ b) = (r.run a).run b := by
  simp [Remote.run, List.foldl_append]

theorem run_writes_edits (ws : List Write) : ∀ (r : Remote), r.autocommit = false → r.readOnly = false →
    r.run (ws.map Op.write) = { r with edits := r.edits ++ ws.flatMap (queuedBy r.hook) } := by
  induction ws with
  | nil => intro r _ _; simp [Remote.run]
  | cons w ws ih =>
    intro r hac hro
    have h : (r.step (.write w)).1 = { r with edits := r.edits ++ queuedBy r.hook w } := step_queue r hac hro _
    rw [List.map_cons, run_cons, h, ih { r with edits := r.edits ++ queuedBy r.hook w } hac hro]
    simp [List.append_assoc]

end RV.C20

import RV.C20.Spec
/-
  C20 — helper lemmas: membership meaning of every endpoint operation, congruence of the operations
  and of the specification w.r.t. set equality of datasets, and the per-write meaning lemma `compile_correct`.
-/
namespace RV.C20

/-! ### plain (blank-node free) inputs: `node_to_sparql` is the identity on them -/

theorem nts_plain {hook : Bool} {t : Term} (h : isBNode t = false) : nts hook t = some t := by
  simp [nts, h]

theorem encTriple_plain {hook : Bool} {t : Triple} (h : t.plain = true) : encTriple hook t = some t := by
  obtain ⟨a, b, c⟩ := t
  simp only [Triple.plain, Bool.and_eq_true, Bool.not_eq_true'] at h
  simp [encTriple, nts_plain h.1.1, nts_plain h.1.2, nts_plain h.2]

theorem encPos_plain {hook : Bool} {x : Option Term} (h : plainPos x = true) : encPos hook x = some x := by
  cases x with
  | none => rfl
  | some t =>
    simp only [plainPos, Bool.not_eq_true'] at h
    simp [encPos, nts_plain h]

theorem encPat_plain {hook : Bool} {p : TPat} (h : p.plain = true) : encPat hook p = some p := by
  obtain ⟨a, b, c⟩ := p
  simp only [TPat.plain, Bool.and_eq_true] at h
  simp [encPat, encPos_plain h.1.1, encPos_plain h.1.2, encPos_plain h.2]

theorem encQuads_plain {hook : Bool} : ∀ {qs : List Quad}, qs.all (fun q => Triple.plain q.1) = true →
    encQuads hook qs = some qs
  | [], _ => rfl
  | q :: qs, h => by
    simp only [List.all_cons, Bool.and_eq_true] at h
    obtain ⟨t, g⟩ := q
    simp [encQuads, encTriple_plain h.1, encQuads_plain h.2]

theorem mem_regGraph {gs : List Nat} {g : GName} {n : Nat} :
    n ∈ regGraph gs g ↔ n ∈ gs ∨ g = some n := by
  cases g with
  | none => simp [regGraph]
  | some m => simp only [regGraph, mem_sinsert, Option.some.injEq, or_comm, eq_comm]

theorem mem_insertAll {g : GName} : ∀ {ts : List Triple} {qs : List Quad} {x : Quad},
    x ∈ insertAll qs g ts ↔ x ∈ qs ∨ (x.2 = g ∧ x.1 ∈ ts)
  | [], qs, x => by simp [insertAll]
  | t :: ts, qs, x => by
    simp only [insertAll, mem_insertAll (ts := ts), mem_sinsert, List.mem_cons, Prod.ext_iff]
    grind

theorem mem_removeAll {g : GName} : ∀ {ts : List Triple} {qs : List Quad} {x : Quad},
    x ∈ removeAll qs g ts ↔ x ∈ qs ∧ ¬ (x.2 = g ∧ x.1 ∈ ts)
  | [], qs, x => by simp [removeAll]
  | t :: ts, qs, x => by
    simp only [removeAll, mem_removeAll (ts := ts), mem_sremove, List.mem_cons, ne_eq, Prod.ext_iff]
    grind

theorem filter_congr {a b : DS} (h : DS.Equiv a b) (f : Quad → Bool) :
    DS.Equiv { a with quads := a.quads.filter f } { b with quads := b.quads.filter f } :=
  ⟨fun x => by simp only [List.mem_filter, h.1 x], h.2⟩

theorem apply_congr {a b : DS} (h : DS.Equiv a b) (u : UOp) : DS.Equiv (u.apply a) (u.apply b) := by
  cases u with
  | insertData g ts =>
    refine ⟨fun x => by simp only [UOp.apply, mem_insertAll, h.1 x], fun n => ?_⟩
    simp only [UOp.apply]
    split
    · exact h.2 n
    · simp only [mem_regGraph, h.2 n]
  | deleteData g ts => exact ⟨fun x => by simp only [UOp.apply, mem_removeAll, h.1 x], h.2⟩
  | deleteWhere g p => exact filter_congr h _
  | deleteNamed p => exact filter_congr h _
  | dropGraph g =>
    cases g with
    | none => exact filter_congr h _
    | some n => exact ⟨(filter_congr h _).1, fun m => by simp only [UOp.apply, mem_sremove, h.2 m]⟩
  | createGraph n => exact ⟨h.1, fun m => by simp only [UOp.apply, mem_sinsert, h.2 m]⟩

theorem foldl_inv {α β : Type} {P : β → Prop} {f : β → α → β} (h : ∀ b a, P b → P (f b a)) :
    ∀ (l : List α) (b : β), P b → P (l.foldl f b)
  | [], _, hb => hb
  | a :: l, b, hb => foldl_inv h l _ (h b a hb)

theorem foldl_congr {α : Type} {f : DS → α → DS}
    (hf : ∀ {a b : DS}, DS.Equiv a b → ∀ x, DS.Equiv (f a x) (f b x)) (xs : List α) :
    ∀ {a b : DS}, DS.Equiv a b → DS.Equiv (xs.foldl f a) (xs.foldl f b) := by
  induction xs with
  | nil => intro a b h; exact h
  | cons x xs ih => intro a b h; exact ih (hf h x)

theorem applyOps_congr {a b : DS} (h : DS.Equiv a b) (us : List UOp) : DS.Equiv (applyOps a us) (applyOps b us) :=
  foldl_congr apply_congr us h

theorem applyEdits_congr (es : List (List UOp)) {a b : DS} (h : DS.Equiv a b) :
    DS.Equiv (applyEdits a es) (applyEdits b es) :=
  foldl_congr applyOps_congr es h

@[simp] theorem applyEdits_nil (d : DS) : applyEdits d [] = d := rfl
@[simp] theorem applyEdits_cons (d : DS) (e : List UOp) (es : List (List UOp)) :
    applyEdits d (e :: es) = applyEdits (applyOps d e) es := rfl
@[simp] theorem runWrites_nil (d : DS) : Spec.runWrites d [] = d := rfl

theorem applyEdits_append (d : DS) (es es' : List (List UOp)) :
    applyEdits d (es ++ es') = applyEdits (applyEdits d es) es' := by
  simp [applyEdits, List.foldl_append]

theorem addQuad_congr {a b : DS} (h : DS.Equiv a b) (q : Quad) :
    DS.Equiv (Spec.addQuad a q) (Spec.addQuad b q) := by
  constructor
  · intro x; simp only [Spec.addQuad, mem_sinsert, h.1 x]
  · intro n; simp only [Spec.addQuad, mem_regGraph, h.2 n]

theorem delQuad_congr {a b : DS} (h : DS.Equiv a b) (q : Quad) :
    DS.Equiv (Spec.delQuad a q) (Spec.delQuad b q) := by
  constructor
  · intro x; simp only [Spec.delQuad, mem_sremove, h.1 x]
  · intro n; simp only [Spec.delQuad, h.2 n]

theorem applyLocal_congr (g : GName) {a b : DS} (h : DS.Equiv a b) (l : LOp) :
    DS.Equiv (Spec.applyLocal g a l) (Spec.applyLocal g b l) := by
  cases l with
  | ins ts => exact foldl_congr (fun h t => addQuad_congr h (t, g)) ts h
  | deld ts => exact foldl_congr (fun h t => delQuad_congr h (t, g)) ts h
  | delw p => exact filter_congr h _

theorem applyWrite_congr {a b : DS} (h : DS.Equiv a b) (w : Write) :
    DS.Equiv (Spec.applyWrite a w) (Spec.applyWrite b w) := by
  cases w with
  | add t g => exact addQuad_congr h _
  | addN qs => exact foldl_congr addQuad_congr qs h
  | remove p sel =>
    cases sel with
    | all => exact filter_congr h _
    | one g => exact filter_congr h _
  | removeGraph g =>
    cases g with
    | none => exact filter_congr h _
    | some n =>
      refine ⟨(filter_congr h _).1, ?_⟩
      intro m; simp only [Spec.applyWrite, mem_sremove, h.2 m]
  | addGraph n =>
    refine ⟨h.1, ?_⟩
    intro m; simp only [Spec.applyWrite, mem_sinsert, h.2 m]
  | update g us => exact foldl_congr (applyLocal_congr g) us h

theorem runWrites_congr (ws : List Write) {a b : DS} (h : DS.Equiv a b) :
    DS.Equiv (Spec.runWrites a ws) (Spec.runWrites b ws) :=
  foldl_congr applyWrite_congr ws h

/-- a fold whose every step only adds (`Q (f d x) y ↔ Q d y ∨ P x y`) holds what it held at the start and what any
    step added: membership after `addN`, `INSERT DATA` groups, `update()` insertions -/
theorem foldl_or {α β γ : Type} (Q : β → γ → Prop) {f : β → α → β} {P : α → γ → Prop}
    (hf : ∀ d x y, Q (f d x) y ↔ Q d y ∨ P x y) (xs : List α) :
    ∀ d y, Q (xs.foldl f d) y ↔ Q d y ∨ ∃ x ∈ xs, P x y := by
  induction xs with
  | nil => intro d y; simp
  | cons x xs ih => intro d y; simp only [List.foldl_cons, ih, hf, List.mem_cons, exists_eq_or_imp, or_assoc]

theorem mem_addQuad_quads (d : DS) (q x : Quad) : x ∈ (Spec.addQuad d q).quads ↔ x ∈ d.quads ∨ x = q := by
  simp only [Spec.addQuad, mem_sinsert, or_comm]

theorem mem_addQuad_graphs (d : DS) (q : Quad) (n : Nat) :
    n ∈ (Spec.addQuad d q).graphs ↔ n ∈ d.graphs ∨ q.2 = some n := mem_regGraph

theorem mem_insertData_quads (d : DS) (g : GName) (ts : List Triple) (x : Quad) :
    x ∈ ((UOp.insertData g ts).apply d).quads ↔ x ∈ d.quads ∨ (x.2 = g ∧ x.1 ∈ ts) := mem_insertAll

theorem mem_insertData_graphs (d : DS) (g : GName) (ts : List Triple) (n : Nat) :
    n ∈ ((UOp.insertData g ts).apply d).graphs ↔ n ∈ d.graphs ∨ (ts ≠ [] ∧ g = some n) := by
  cases ts <;> simp [UOp.apply, mem_regGraph]

/-- the quad `x` is held by one of the groups -/
def inGroups (gs : List (GName × List Triple)) (x : Quad) : Prop := ∃ gt ∈ gs, x.2 = gt.1 ∧ x.1 ∈ gt.2

theorem inGroups_cons (gt : GName × List Triple) (gs : List (GName × List Triple)) (x : Quad) :
    inGroups (gt :: gs) x ↔ (x.2 = gt.1 ∧ x.1 ∈ gt.2) ∨ inGroups gs x := by
  simp [inGroups]

theorem inGroups_groupAdd : ∀ (acc : List (GName × List Triple)) (q x : Quad),
    inGroups (groupAdd acc q) x ↔ inGroups acc x ∨ x = q
  | [], q, x => by
    rw [groupAdd, inGroups_cons, List.mem_singleton, Prod.ext_iff (x := x), and_comm]
    simp [inGroups]
  | (g, ts) :: rest, q, x => by
    unfold groupAdd
    split
    · next hg =>
      have hx : x = q ↔ (x.2 = g ∧ x.1 = q.1) := by rw [hg, Prod.ext_iff, and_comm]
      simp only [inGroups_cons, List.mem_append, List.mem_singleton, hx, and_or_left, or_right_comm]
    · rw [inGroups_cons, inGroups_cons, inGroups_groupAdd rest q x, or_assoc]

theorem mem_groups (qs : List Quad) (x : Quad) : inGroups (groups qs) x ↔ x ∈ qs := by
  rw [groups, foldl_or inGroups (P := fun q x => x = q) inGroups_groupAdd]
  simp [inGroups]

/-- no group is empty (so every `INSERT DATA` of `addN` records its graph) -/
theorem groupAdd_nonempty : ∀ {acc : List (GName × List Triple)} {q : Quad},
    (∀ gt ∈ acc, gt.2 ≠ []) → ∀ gt ∈ groupAdd acc q, gt.2 ≠ []
  | [], q, _ => by simp [groupAdd]
  | (g, ts) :: rest, q, h => by
    unfold groupAdd
    split
    · intro gt hgt
      rcases List.mem_cons.mp hgt with rfl | hgt
      · simp
      · exact h gt (List.mem_cons_of_mem _ hgt)
    · intro gt hgt
      rcases List.mem_cons.mp hgt with rfl | hgt
      · exact h _ (List.mem_cons_self ..)
      · exact groupAdd_nonempty (fun gt' h' => h gt' (List.mem_cons_of_mem _ h')) gt hgt

theorem groups_nonempty (qs : List Quad) : ∀ gt ∈ groups qs, gt.2 ≠ [] :=
  foldl_inv (P := fun acc : List (GName × List Triple) => ∀ gt ∈ acc, gt.2 ≠ []) (f := groupAdd)
    (fun _ _ h => groupAdd_nonempty h) qs [] (by simp)

theorem addN_correct (qs : List Quad) (d : DS) :
    DS.Equiv (applyEdits d ((groups qs).map (fun gt => [UOp.insertData gt.1 gt.2]))) (qs.foldl Spec.addQuad d) := by
  have e : applyEdits d ((groups qs).map (fun gt => [UOp.insertData gt.1 gt.2])) =
      (groups qs).foldl (fun d gt => (UOp.insertData gt.1 gt.2).apply d) d := by
    simp [applyEdits, List.foldl_map, applyOps]
  rw [e]
  constructor
  · intro x
    rw [foldl_or (fun (d : DS) x => x ∈ d.quads) fun d gt => mem_insertData_quads d gt.1 gt.2,
      foldl_or (fun (d : DS) x => x ∈ d.quads) mem_addQuad_quads]
    refine or_congr_right ?_
    rw [show (∃ gt ∈ groups qs, x.2 = gt.1 ∧ x.1 ∈ gt.2) ↔ x ∈ qs from mem_groups qs x]
    simp
  · intro n
    rw [foldl_or (fun (d : DS) n => n ∈ d.graphs) fun d gt => mem_insertData_graphs d gt.1 gt.2,
      foldl_or (fun (d : DS) n => n ∈ d.graphs) mem_addQuad_graphs]
    -- `insertData` records its graph only for a non-empty group; no group of `groups` is empty, as it holds a quad
    refine or_congr_right ⟨?_, ?_⟩
    · rintro ⟨gt, hgt, hne, hg⟩
      obtain ⟨t, ts, hts⟩ := List.exists_cons_of_ne_nil hne
      exact ⟨(t, gt.1), (mem_groups qs _).mp ⟨gt, hgt, rfl, by simp [hts]⟩, hg⟩
    · rintro ⟨q, hq, hg⟩
      obtain ⟨gt, hgt, h1, h2⟩ := (mem_groups qs q).mpr hq
      exact ⟨gt, hgt, List.ne_nil_of_mem h2, h1.symm.trans hg⟩

/-! ### `update()`: one wrapped local operation means what the local operation does -/

theorem removeAll_eq_foldl (g : GName) : ∀ (ts : List Triple) (d : DS),
    ts.foldl (fun d t => Spec.delQuad d (t, g)) d = { d with quads := removeAll d.quads g ts }
  | [], d => rfl
  | t :: ts, d => by
    simp only [List.foldl_cons, removeAll]
    rw [removeAll_eq_foldl g ts (Spec.delQuad d (t, g))]
    rfl

theorem wrap_correct (g : GName) (d : DS) (l : LOp) :
    DS.Equiv ((l.wrap g).apply d) (Spec.applyLocal g d l) := by
  cases l with
  | ins ts =>
    constructor
    · intro x
      rw [LOp.wrap, mem_insertData_quads, Spec.applyLocal,
        foldl_or (fun (d : DS) x => x ∈ d.quads) fun d t => mem_addQuad_quads d (t, g)]
      refine or_congr_right ⟨fun ⟨h1, h2⟩ => ⟨x.1, h2, Prod.ext rfl h1⟩, ?_⟩
      rintro ⟨t, ht, rfl⟩
      exact ⟨rfl, ht⟩
    · intro n
      rw [LOp.wrap, mem_insertData_graphs, Spec.applyLocal,
        foldl_or (fun (d : DS) n => n ∈ d.graphs) fun d t => mem_addQuad_graphs d (t, g)]
      cases ts <;> simp
  | deld ts =>
    simp only [LOp.wrap, UOp.apply, Spec.applyLocal, removeAll_eq_foldl]
    exact DS.Equiv.refl _
  | delw p => exact DS.Equiv.refl _

theorem update_correct (g : GName) (us : List LOp) : ∀ (a b : DS), DS.Equiv a b →
    DS.Equiv (applyOps a (us.map (LOp.wrap g))) (us.foldl (Spec.applyLocal g) b) := by
  induction us with
  | nil => intro a b h; exact h
  | cons l us ih =>
    intro a b h
    simp only [List.map_cons, applyOps, List.foldl_cons]
    exact ih _ _ ((apply_congr h (l.wrap g)).trans (wrap_correct g b l))

theorem compile_correct (hook : Bool) (w : Write) (hw : w.plain = true) :
    ∃ es, compileWrite hook w = some es ∧
      ∀ a b, DS.Equiv a b → DS.Equiv (applyEdits a es) (Spec.applyWrite b w) := by
  -- where one queued operation is literally the write (`add`, `remove` in one graph, `add_graph`, `remove_graph`),
  -- `applyEdits b [[op]]` unfolds to `Spec.applyWrite b w` and congruence is all there is to show
  cases w with
  | add t g =>
    refine ⟨[[.insertData g [t]]], by simp [compileWrite, encTriple_plain (show t.plain = true from hw)], ?_⟩
    exact fun a b h => applyEdits_congr _ h
  | addN qs =>
    refine ⟨(groups qs).map (fun gt => [.insertData gt.1 gt.2]), ?_, ?_⟩
    · simp [compileWrite, encQuads_plain (show qs.all (fun q => Triple.plain q.1) = true from hw)]
    · exact fun a b h => (applyEdits_congr _ h).trans (addN_correct qs b)
  | remove p sel =>
    have hp : encPat hook p = some p := encPat_plain hw
    cases sel with
    | one g => exact ⟨[[.deleteWhere g p]], by simp [compileWrite, hp], fun a b h => applyEdits_congr _ h⟩
    | all =>
      refine ⟨[[.deleteWhere none p, .deleteNamed p]], by simp [compileWrite, hp], fun a b h => ?_⟩
      refine (applyEdits_congr _ h).trans ⟨fun x => ?_, SetEq.refl _⟩
      obtain ⟨xt, xg⟩ := x
      simp only [applyEdits_cons, applyEdits_nil, applyOps, List.foldl_cons, List.foldl_nil, UOp.apply, Spec.applyWrite, List.mem_filter]
      cases xg <;> simp
  | removeGraph g =>
    refine ⟨[[.dropGraph g]], rfl, fun a b h => (applyEdits_congr _ h).trans ?_⟩
    cases g <;> exact DS.Equiv.refl _
  | addGraph n => exact ⟨[[.createGraph n]], rfl, fun a b h => applyEdits_congr _ h⟩
  | update g us =>
    refine ⟨[us.map (LOp.wrap g)], rfl, fun a b h => ?_⟩
    simp only [applyEdits_cons, applyEdits_nil, Spec.applyWrite]
    exact update_correct g us a b h

end RV.C20

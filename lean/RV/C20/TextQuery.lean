import RV.C20.TextOps
/-
  C20 text layer: the SELECT / ASK text of `SPARQLStore.triples` with the solution modifiers
  the store appends (attributes `LIMIT`, `OFFSET`, `"ORDER BY"` of the context graph), the texts of
  `__len__` and `contexts`, read back as the query they stand for.  The query text is spelled character
  by character (`queryT`, followed by what comes next), so that `readQuery` and `readQueryB` (the same
  query with a `VALUES` tail) are read off the same spelling.
-/
namespace RV.C20

/-- the text appended after the `}` of the pattern query -/
def ordT : Option Pos → Str
  | some pos => ' ' :: 'O' :: 'R' :: 'D' :: 'E' :: 'R' :: ' ' :: 'B' :: 'Y' :: ' ' :: posVarLower pos
  | none => []

def limT : Option Nat → Str
  | some n => ' ' :: 'L' :: 'I' :: 'M' :: 'I' :: 'T' :: ' ' :: natText n
  | none => []

def offT : Option Nat → Str
  | some n => ' ' :: 'O' :: 'F' :: 'F' :: 'S' :: 'E' :: 'T' :: ' ' :: natText n
  | none => []

def modsText (ord : Option Pos) (lim off : Option Nat) : Str := ordT ord ++ (limT lim ++ offT off)

theorem ordT_step (q : Str) (ord : Option Pos) :
    (match ord with | some pos => q ++ " ORDER BY ".toList ++ posVarLower pos | none => q) = q ++ ordT ord := by
  have h : " ORDER BY ".toList = [' ', 'O', 'R', 'D', 'E', 'R', ' ', 'B', 'Y', ' '] := by decide +kernel
  cases ord <;> simp only [h, ordT, List.append_assoc, List.cons_append, List.nil_append, List.append_nil]

theorem limT_step (q : Str) (lim : Option Nat) :
    (match lim with | some n => q ++ " LIMIT ".toList ++ natText n | none => q) = q ++ limT lim := by
  have h : " LIMIT ".toList = [' ', 'L', 'I', 'M', 'I', 'T', ' '] := by decide +kernel
  cases lim <;> simp only [h, limT, List.append_assoc, List.cons_append, List.nil_append, List.append_nil]

theorem offT_step (q : Str) (off : Option Nat) :
    (match off with | some n => q ++ " OFFSET ".toList ++ natText n | none => q) = q ++ offT off := by
  have h : " OFFSET ".toList = [' ', 'O', 'F', 'F', 'S', 'E', 'T', ' '] := by decide +kernel
  cases off <;> simp only [h, offT, List.append_assoc, List.cons_append, List.nil_append, List.append_nil]

theorem mods_append (q : Str) (ord : Option Pos) (lim off : Option Nat) :
    (let q := match ord with
        | some pos => q ++ " ORDER BY ".toList ++ posVarLower pos
        | none => q
      let q := match lim with
        | some n => q ++ " LIMIT ".toList ++ natText n
        | none => q
      match off with
      | some n => q ++ " OFFSET ".toList ++ natText n
      | none => q) = q ++ modsText ord lim off := by
  simp only [ordT_step, limT_step, offT_step]
  simp only [modsText, List.append_assoc]

theorem wTriplesQuery_mods (p : TPatT) (ord : Option Pos) (lim off : Option Nat) :
    wTriplesQuery p ord lim off = (wTriplesQuery p none none none).map (· ++ modsText ord lim off) := by
  unfold wTriplesQuery
  cases wPatBody posVarLower p with
  | none => rfl
  | some body => exact congrArg some (mods_append _ ord lim off)

/-- where a number / a variable ends: at the end of the text or before a blank -/
def EndOK (rest : Str) : Prop := rest = [] ∨ ∃ r, rest = ' ' :: r

theorem natText_eq (n : Nat) : natText n = Nat.toDigits 10 n := by
  show (Nat.repr n).toList = _
  rw [Nat.repr, String.toList_ofList]

theorem isDigit_of_charIsDigit {c : Char} (h : c.isDigit = true) : isDigit c = true := by
  simp only [Char.isDigit, Bool.and_eq_true, decide_eq_true_eq] at h
  simp only [isDigit, Bool.and_eq_true, decide_eq_true_eq]
  exact ⟨by rw [Char.le_def]; exact h.1, by rw [Char.le_def]; exact h.2⟩

theorem span_loop_digits (ds rest : Str) (hd : ∀ c ∈ ds, isDigit c = true) (hr : EndOK rest) :
    ∀ acc, List.span.loop isDigit (ds ++ rest) acc = (acc.reverse ++ ds, rest) := by
  induction ds with
  | nil =>
    intro acc
    rcases hr with rfl | ⟨r, rfl⟩
    · simp [List.span.loop]
    · have : isDigit ' ' = false := by decide
      simp [List.span.loop, this]
  | cons c cs ih =>
    intro acc
    have h1 := hd c (by simp)
    simp [List.span.loop, h1, ih (fun x hx => hd x (by simp [hx]))]

theorem span_digits (ds rest : Str) (hd : ∀ c ∈ ds, isDigit c = true) (hr : EndOK rest) :
    (ds ++ rest).span isDigit = (ds, rest) := by
  simpa [List.span] using span_loop_digits ds rest hd hr []

theorem readNat_natText (n : Nat) (rest : Str) (hr : EndOK rest) :
    readNat (' ' :: (natText n ++ rest)) = some (n, rest) := by
  have hd : ∀ c ∈ natText n, isDigit c = true := by
    intro c hc
    rw [natText_eq] at hc
    exact isDigit_of_charIsDigit (Nat.isDigit_of_mem_toDigits (by decide) (by decide) hc)
  have hne : natText n ≠ [] := by rw [natText_eq]; exact Nat.toDigits_ne_nil
  obtain ⟨d, ds, hds⟩ : ∃ d ds, natText n = d :: ds := by
    cases h : natText n with
    | nil => exact absurd h hne
    | cons d ds => exact ⟨d, ds, rfl⟩
  have hdd : isDigit d = true := hd d (by simp [hds])
  have hws : ws (' ' :: (natText n ++ rest)) = natText n ++ rest := by
    rw [ws_sp, hds, List.cons_append]
    have hn := nameChar_facts (c := d) (by simp [isNameChar, hdd])
    exact ws_cons _ _ hn.1
  have hval : (natText n).foldl (fun n c => 10 * n + (c.toNat - 48)) 0 = n := by
    rw [natText_eq]
    exact Nat.ofDigitChars_ten_toDigits
  simp only [readNat, hws, span_digits _ _ hd hr]
  rw [hds] at hval ⊢
  simp only [hval]

/-- the three stages of `readModifiersR`, each giving what it read (`none`: malformed) and the rest -/
def stOrder (s : Str) : Option (Option Pos) × Str :=
  match kw "ORDER" s with
  | some r =>
    match kw "BY" r with
    | some r1 =>
      match readVarsAux 1 r1 with
      | ([v], r2) => ((varPos v).map some, r2)
      | _ => (none, r1)
    | none => (none, r)
  | none => (some none, s)

def stNum (k : String) (s : Str) : Option (Option Nat) × Str :=
  match kw k s with
  | some r => match readNat r with | some (n, r1) => (some (some n), r1) | none => (none, r)
  | none => (some none, s)

/- `readModifiersR` is these three stages, written with its `let`s unfolded (definitional) -/
theorem readModifiersR_eq (s : Str) : readModifiersR s =
    let (order, s1) := stOrder s
    match order with
    | none => none
    | some ord =>
      let (limit, s2) := stNum "LIMIT" s1
      match limit with
      | none => none
      | some lim =>
        let (offset, s3) := stNum "OFFSET" s2
        match offset with
        | none => none
        | some off => some ((ord, lim, off), s3) := by rfl

theorem stOrder_hit (pos : Pos) (rest : Str) (hr : EndOK rest) :
    stOrder (' ' :: 'O' :: 'R' :: 'D' :: 'E' :: 'R' :: ' ' :: 'B' :: 'Y' :: ' ' :: (posVarLower pos ++ rest)) =
      (some (some pos), rest) := by
  have hp := posVarLower_eq pos
  have hV : readVarsAux 1 (' ' :: '?' :: posName false pos :: rest) = ([[posName false pos]], rest) := by
    rcases hr with rfl | ⟨r, rfl⟩ <;>
      simp [readVarsAux, ws_sp, ws_qm, spanName, posName_nameChar false pos, nameChar_sp]
  have hv : varPos [posName false pos] = some pos := by cases pos <;> decide
  simp only [stOrder, kw_sp, kw_ORDER, kw_BY, hp, List.cons_append, List.nil_append, hV, hv, Option.map_some]

theorem stNum_hit (k : String) (ks : Str) (hk : ∀ r, kw k (ks ++ ' ' :: r) = some (' ' :: r)) (n : Nat) (rest : Str)
    (hr : EndOK rest) : stNum k (' ' :: (ks ++ ' ' :: (natText n ++ rest))) = (some (some n), rest) := by
  simp only [stNum, kw_sp, hk, readNat_natText n rest hr]

theorem stNum_miss (k : String) (s : Str) (h : kw k s = none) : stNum k s = (some none, s) := by
  simp only [stNum, h]

theorem kwORDER_nil : kw "ORDER" [] = none := kw_nil _ (by decide +kernel)

theorem endOK_sp (r : Str) : EndOK (' ' :: r) := Or.inr ⟨r, rfl⟩

theorem endOK_offT : ∀ off, EndOK (offT off)
  | none => Or.inl rfl
  | some _ => endOK_sp _

theorem endOK_limT_offT : ∀ lim off, EndOK (limT lim ++ offT off)
  | none, off => endOK_offT off
  | some _, _ => endOK_sp _

theorem stNum_offT : ∀ off, stNum "OFFSET" (offT off) = (some off, [])
  | none => stNum_miss _ _ (kw_nil _ (by decide +kernel))
  | some m => by simpa [offT] using stNum_hit "OFFSET" ['O', 'F', 'F', 'S', 'E', 'T'] kw_OFFSET m [] (Or.inl rfl)

theorem stNum_limT : ∀ lim off, stNum "LIMIT" (limT lim ++ offT off) = (some lim, offT off)
  | some n, off => stNum_hit "LIMIT" ['L', 'I', 'M', 'I', 'T'] kw_LIMIT n _ (endOK_offT off)
  | none, none => stNum_miss _ _ (kw_nil _ (by decide +kernel))
  | none, some m => stNum_miss _ _ (by rw [limT, List.nil_append, offT, kw_sp]; exact kw_miss _ _ (by decide +kernel) _)

/-- `ORDER` is not recognised at the start of ` OFFSET …` although both start with `O` -/
theorem stOrder_ordT : ∀ ord lim off, stOrder (modsText ord lim off) = (some ord, limT lim ++ offT off)
  | some pos, lim, off => stOrder_hit pos _ (endOK_limT_offT lim off)
  | none, some n, off => by
    simp only [stOrder, modsText, ordT, limT, List.nil_append, List.cons_append, kw_sp,
      kw_miss "ORDER" 'L' (by decide +kernel)]
  | none, none, none => by simp only [stOrder, modsText, ordT, limT, offT, List.append_nil, kwORDER_nil]
  | none, none, some m => by
    have : ∀ r, kw "ORDER" ('O' :: 'F' :: r) = none := by intro r; simp [kw, stripCI, ws, skip, isWs, upperChar]
    simp only [stOrder, modsText, ordT, limT, offT, List.nil_append, kw_sp, this]

theorem readModifiers_modsText (ord : Option Pos) (lim off : Option Nat) :
    readModifiers (modsText ord lim off) = some (ord, lim, off) := by
  simp only [readModifiers, readModifiersR_eq, stOrder_ordT, stNum_limT, stNum_offT, Option.bind_some, ws_nil, if_true]

def varNames (p : TPatT) : List Str :=
  nodeVar (nodeOf false .s p.1) ++ nodeVar (nodeOf false .p p.2.1) ++ nodeVar (nodeOf false .o p.2.2)

def shapeOf (p : TPatT) : TPat := (p.1.map (fun _ => 0), p.2.1.map (fun _ => 0), p.2.2.map (fun _ => 0))

theorem varNames_eq (p : TPatT) : varNames p = (selVars (shapeOf p)).map (fun pos => [posName false pos]) := by
  obtain ⟨a, b, c⟩ := p
  cases a <;> cases b <;> cases c <;> simp [varNames, shapeOf, selVars, nodeOf, nodeVar, posName]

theorem patVarsOK_nodes (p : TPatT) :
    patVarsOK (nodeOf false .s p.1) (nodeOf false .p p.2.1) (nodeOf false .o p.2.2) = true := by
  obtain ⟨a, b, c⟩ := p
  cases a <;> cases b <;> cases c <;> simp [patVarsOK, nodeOf, posName]

theorem nodePat_nodes (p : TPatT) :
    (nodePat (nodeOf false .s p.1), nodePat (nodeOf false .p p.2.1), nodePat (nodeOf false .o p.2.2)) = p := by
  obtain ⟨a, b, c⟩ := p
  cases a <;> cases b <;> cases c <;> simp [nodePat, nodeOf]

theorem readQPat_write (p : TPatT) (tail : Str) (hok : PatOK p = true) :
    readQPat (' ' :: (patT false p ++ ' ' :: tail)) = some (p, varNames p, ' ' :: tail) := by
  obtain ⟨r1, r2, h1, h2, h3⟩ := readNodes_patT false p tail hok
  simp only [readQPat, readNode_sp, h1, h2, h3, patVarsOK_nodes, if_true, nodePat_nodes, varNames]

def nameOK (v : Str) : Bool := !v.isEmpty && v.all isNameChar

theorem spanName_append : ∀ (v r : Str), v.all isNameChar = true → spanName (v ++ ' ' :: r) = (v, ' ' :: r)
  | [], r, _ => by simp [spanName, nameChar_sp]
  | c :: v, r, h => by
    simp only [List.all_cons, Bool.and_eq_true] at h
    simp [spanName, h.1, spanName_append v r h.2]

/- third hypothesis: what follows the names is not another variable -/
theorem readVars_names : ∀ (ns : List Str) (n : Nat) (r : Str), ns.length ≤ n → (∀ v ∈ ns, nameOK v = true) →
    (∃ c r', ws r = c :: r' ∧ c ≠ '?') →
    readVarsAux n (ns.flatMap (fun v => ' ' :: '?' :: v) ++ ' ' :: r) = (ns, ' ' :: r)
  | [], n, r, _, _, ⟨c, r', hc, hq⟩ => by
    cases n with
    | zero => rfl
    | succ n =>
      simp only [List.flatMap_nil, List.nil_append, readVarsAux, ws_sp, hc]
      split
      · next h => exact absurd (List.cons.inj h).1 hq
      · rfl
  | v :: ns, n, r, h, hok, hr => by
    obtain ⟨m, rfl⟩ : ∃ m, n = m + 1 := ⟨n - 1, by simp at h; omega⟩
    have ih := readVars_names ns m r (by simp at h; omega) (fun x hx => hok x (List.mem_cons_of_mem _ hx)) hr
    have hv := hok v (List.mem_cons_self ..)
    simp only [nameOK, Bool.and_eq_true, Bool.not_eq_true', List.isEmpty_eq_false_iff] at hv
    obtain ⟨tl, htl⟩ : ∃ tl, ns.flatMap (fun v => ' ' :: '?' :: v) ++ ' ' :: r = ' ' :: tl := by
      cases ns with
      | nil => exact ⟨_, rfl⟩
      | cons v2 ns2 => exact ⟨_, rfl⟩
    have e : (v :: ns).flatMap (fun v => ' ' :: '?' :: v) ++ ' ' :: r = ' ' :: '?' :: (v ++ ' ' :: tl) := by
      simp only [List.flatMap_cons, List.cons_append, List.append_assoc, htl]
    rw [e]
    have hs := spanName_append v tl hv.2
    rw [htl] at ih
    match v, hv, hs with
    | c :: v', _, hs =>
      simp only [readVarsAux, ws_sp, ws_qm, hs, ih]

theorem readVars_written (ps : List Pos) (n : Nat) (r : Str) (h : ps.length ≤ n) :
    readVarsAux n (ps.flatMap (fun pos => ' ' :: posVarLower pos) ++ ' ' :: ' ' :: '{' :: r) =
      (ps.map (fun pos => [posName false pos]), ' ' :: ' ' :: '{' :: r) := by
  have hv := posVarLower_eq
  have := readVars_names (ps.map (fun pos => [posName false pos])) n (' ' :: '{' :: r) (by simpa using h)
    (by simp [nameOK, posName_nameChar]) ⟨'{', r, by rw [ws_sp]; exact ws_cons _ _ rfl, by decide⟩
  simpa [List.flatMap_map, hv] using this

theorem sp_joinWith (vs : List Str) (h : vs ≠ []) : ' ' :: joinWith [' '] vs = vs.flatMap (fun v => ' ' :: v) := by
  cases vs with
  | nil => exact absurd rfl h
  | cons v vs => simp [joinWith_cons]

/-- `ASK { body }` / `SELECT ?v …  { body }`, and what follows -/
def queryT : List Pos → Str → Str → Str
  | [], body, k => 'A' :: 'S' :: 'K' :: ' ' :: '{' :: ' ' :: (body ++ ' ' :: '}' :: k)
  | vars, body, k =>
    'S' :: 'E' :: 'L' :: 'E' :: 'C' :: 'T' ::
      (vars.flatMap (fun pos => ' ' :: posVarLower pos) ++ ' ' :: ' ' :: '{' :: ' ' :: (body ++ ' ' :: '}' :: k))

theorem queryT_append (vars : List Pos) (body k r : Str) : queryT vars body k ++ r = queryT vars body (k ++ r) := by
  cases vars <;> simp [queryT]

theorem wTriplesQuery_eq (p : TPatT) (ord : Option Pos) (lim off : Option Nat) (hok : PatOK p = true) :
    wTriplesQuery p ord lim off = some (queryT (selVars (shapeOf p)) (patT false p) (modsText ord lim off)) := by
  rw [wTriplesQuery_mods]
  simp only [wTriplesQuery, wPatBody_lower hok]
  cases hv : selVars (shapeOf p) with
  | nil => simp [shapeOf] at hv; simp [hv, queryT]
  | cons v vs =>
    have hne : (v :: vs).map posVarLower ≠ [] := by simp
    have := sp_joinWith _ hne
    simp only [List.flatMap_map] at this
    simp only [shapeOf] at hv
    simp [hv, queryT, ← this]

theorem lenQueryText_head : lenQueryText.take 8 = ['S', 'E', 'L', 'E', 'C', 'T', ' ', '('] := by decide +kernel

theorem ne_lenQueryText (r : Str) :
    'A' :: r ≠ lenQueryText ∧ 'S' :: 'E' :: 'L' :: 'E' :: 'C' :: 'T' :: ' ' :: '?' :: r ≠ lenQueryText := by
  -- the texts differ within their first eight characters
  have h : ∀ s : Str, s.take 8 ≠ lenQueryText.take 8 → s ≠ lenQueryText := fun s hs e => hs (e ▸ rfl)
  rw [lenQueryText_head] at h
  exact ⟨h _ (by simp), h _ (by simp)⟩

theorem queryT_ne_len (vars : List Pos) (body k : Str) : queryT vars body k ≠ lenQueryText := by
  match vars with
  | [] => exact (ne_lenQueryText _).1
  | v :: vs =>
    have hp := posVarLower_eq v
    simp only [queryT, List.flatMap_cons, hp, List.cons_append, List.nil_append]
    exact (ne_lenQueryText _).2

theorem optDot_brace (T : Str) : optDot (' ' :: '}' :: T) = ' ' :: '}' :: T := by
  simp [optDot, sym, ws_sp, ws_cons '}' T rfl]

theorem vars_check (vs : List Str) (h : vs ≠ []) :
    (vs.all (vs.contains ·) && vs.all (vs.contains ·) && !vs.isEmpty) = true := by
  cases vs with
  | nil => exact absurd rfl h
  | cons v vs => simp only [Bool.and_self, List.isEmpty_cons, Bool.not_false, Bool.and_true, List.all_eq_true,
      List.contains_eq_mem, decide_eq_true_eq]; exact fun x hx => hx

theorem selVars_len (p : TPatT) : (selVars (shapeOf p)).length ≤ 4 := by
  obtain ⟨a, b, c⟩ := p
  cases a <;> cases b <;> cases c <;> simp [shapeOf, selVars]

theorem names_ne (v : Pos) (vs : List Pos) :
    (v :: vs).map (fun pos => [posName false pos]) ≠ [['n', 'a', 'm', 'e']] := by
  cases v <;> simp [posName]

theorem kw_SELECT_vars (v : Pos) (vs : List Pos) (k : Str) :
    kw "SELECT" ('S' :: 'E' :: 'L' :: 'E' :: 'C' :: 'T' :: ((v :: vs).flatMap (fun pos => ' ' :: posVarLower pos) ++ k)) =
      some ((v :: vs).flatMap (fun pos => ' ' :: posVarLower pos) ++ k) := by
  simp only [List.flatMap_cons, List.cons_append]; exact kw_SELECT _

theorem readQuery_queryT (p : TPatT) (k : Str) (hok : PatOK p = true) :
    readQuery (queryT (selVars (shapeOf p)) (patT false p) k) = (readModifiers k).map fun m => .triples p m.1 m.2.1 m.2.2 := by
  have hq := readQPat_write p ('}' :: k) hok
  have hvn := varNames_eq p
  rw [readQuery, if_neg (queryT_ne_len _ _ _)]
  cases hv : selVars (shapeOf p) with
  | nil =>
    rw [hv] at hvn
    simp only [queryT, kw_ASK, sym_lbrace, Option.bind_some, hq, hvn, List.map_nil, if_true, optDot_brace, sym_sp,
      sym_rbrace]
  | cons v vs =>
    rw [hv] at hvn
    have hrv := readVars_written (v :: vs) 4 (' ' :: (patT false p ++ ' ' :: '}' :: k)) (hv ▸ selVars_len p)
    simp only [queryT, kw_miss "ASK" 'S' (by decide +kernel), kw_SELECT_vars, hrv, names_ne, sym_sp,
      sym_lbrace, Option.bind_some, hq, hvn, optDot_brace, sym_rbrace]
    exact if_pos (vars_check _ (by simp))

theorem readQueryB_queryT (p : TPatT) (k : Str) (hok : PatOK p = true) :
    readQueryB (queryT (selVars (shapeOf p)) (patT false p) k) =
      (readTailB k).map fun t => (.triples p t.1.1 t.1.2.1 t.1.2.2, t.2) := by
  have hq := readQPat_write p ('}' :: k) hok
  have hvn := varNames_eq p
  cases hv : selVars (shapeOf p) with
  | nil =>
    rw [hv] at hvn
    simp only [queryT, readQueryB, skipPrologue_miss 'A' (by decide +kernel), kw_ASK,
      kw_sp, kw_miss "WHERE" '{' (by decide +kernel), sym_sp, sym_lbrace,
      Option.bind_some, hq, hvn, List.map_nil, List.isEmpty_nil, if_true, optDot_brace,
      sym_rbrace]
  | cons v vs =>
    rw [hv] at hvn
    have hrv := readVars_written (v :: vs) 4 (' ' :: (patT false p ++ ' ' :: '}' :: k)) (hv ▸ selVars_len p)
    simp only [queryT, readQueryB, skipPrologue_miss 'S' (by decide +kernel),
      kw_miss "ASK" 'S' (by decide +kernel), kw_SELECT_vars, hrv, kw_sp,
      kw_miss "WHERE" '{' (by decide +kernel), sym_sp, sym_lbrace,
      Option.bind_some, hq, hvn, optDot_brace, sym_rbrace]
    exact if_pos (vars_check _ (by simp))

theorem readQuery_triples_mods (p : TPatT) (ord : Option Pos) (lim off : Option Nat) (txt : Str) (hok : PatOK p = true)
    (h : wTriplesQuery p ord lim off = some txt) : readQuery txt = some (.triples p ord lim off) := by
  obtain rfl := Option.some.inj ((wTriplesQuery_eq p ord lim off hok).symm.trans h)
  rw [readQuery_queryT p _ hok, readModifiers_modsText]; rfl

theorem readQuery_len : readQuery lenQueryText = some .len := by simp [readQuery]

theorem kw_spWHERE' (r : Str) : kw "WHERE" (' ' :: 'W' :: 'H' :: 'E' :: 'R' :: 'E' :: ' ' :: r) = some (' ' :: r) := by
  rw [kw_sp, kw_WHERE]

theorem readQuery_contexts_all : readQuery "SELECT ?name WHERE { GRAPH ?name {} }".toList = some (.contexts none) := by
  decide +kernel

/-- `contexts(triple)`: `SELECT ?name WHERE { GRAPH ?name { s p o }}` -/
theorem readQuery_contexts (p : TPatT) (txt : Str) (hok : PatOK p = true) (h : wContexts (some p) = some txt) :
    readQuery txt = some (.contexts (some p)) := by
  simp only [wContexts, wPatBody_lower hok, Option.map_some,
    Option.some.injEq] at h
  subst h
  have hq := readQPat_write p ['}', '}'] hok
  obtain ⟨c0, r0, hh, hs⟩ := patT_head false p
  have hc0 := isNodeStart_tok hs
  have e : "SELECT ?name WHERE { GRAPH ?name { ".toList ++ patT false p ++ " }}".toList =
      'S' :: 'E' :: 'L' :: 'E' :: 'C' :: 'T' :: ' ' :: '?' :: 'n' :: 'a' :: 'm' :: 'e' :: ' ' :: 'W' :: 'H' :: 'E' :: 'R' :: 'E' ::
        ' ' :: '{' :: ' ' :: 'G' :: 'R' :: 'A' :: 'P' :: 'H' :: ' ' :: '?' :: 'n' :: 'a' :: 'm' :: 'e' :: ' ' :: '{' :: ' ' ::
        (patT false p ++ [' ', '}', '}']) := by simp
  rw [e]
  have hrv : ∀ n r c, 1 ≤ n → tokStart c = true → c ≠ '?' →
      readVarsAux n (' ' :: '?' :: 'n' :: 'a' :: 'm' :: 'e' :: ' ' :: c :: r) = ([['n', 'a', 'm', 'e']], ' ' :: c :: r) :=
    fun n r c hn h1 h3 => readVars_names [['n', 'a', 'm', 'e']] n (c :: r) hn (by decide) ⟨c, r, ws_cons c r h1, h3⟩
  have hsym : sym '}' (' ' :: (patT false p ++ [' ', '}', '}'])) = none := by
    rw [sym_sp, hh]; simp [sym, ws_cons c0 _ hc0.1, hc0.2]
  simp only [readQuery, (ne_lenQueryText _).2, if_false,
    kw_miss "ASK" 'S' (by decide +kernel), kw_SELECT,
    hrv 4 _ 'W' (by decide) rfl (by decide), if_true, kw_sp, kw_WHERE, sym_sp,
    sym_lbrace, Option.bind_some, kw_GRAPH, hrv 1 _ '{' (by decide) rfl (by decide), hsym, hq, optDot_brace,
    sym_rbrace]
  simp

end RV.C20

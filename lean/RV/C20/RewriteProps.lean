import RV.C20.RewriteLemmas
import RV.C20.TextModel
/-
  C20 — `_insert_named_graph` on the update texts of the fragment: for `INSERT DATA` the rewritten text
  IS the text the store writes for the named graph; in every case decoding it gives the operation moved to graph `g`.
-/
namespace RV.C20

section
variable {opn cls : Str}

theorem copies_patDot (p : TPatT) (hok : PatOK p = true) : Copies opn cls (patDotT p) := by
  intro l w rest
  have e : patDotT p ++ rest = patT true p ++ ' ' :: ('.' :: rest) := by simp [patDotT]
  have h1 := copies_plains (opn := opn) (cls := cls) [' ', '.'] (by decide) l w rest
  simp only [List.cons_append, List.nil_append] at h1
  rw [e, copiesSp_pat true p hok, h1]
  simp [patDotT]

theorem copies_joinNl : ∀ (tts : List Str), (∀ tt ∈ tts, Copies opn cls tt) → Copies opn cls (joinWith ['\n'] tts)
  | [], _ => copies_nil
  | [a], h => by simpa [joinWith] using h a (List.mem_cons_self ..)
  | a :: b :: r, h => by
    have ih := copies_joinNl (b :: r) (fun x hx => h x (List.mem_cons_of_mem _ hx))
    have := copies_append (h a (List.mem_cons_self ..))
      (copies_append (A := ['\n']) (copies_plain '\n' (by decide)) ih)
    simpa [joinWith] using this

theorem copies_triples (ts : List TTriple) (hok : ∀ t ∈ ts, TripleOK t = true) : Copies opn cls (triplesT ts) :=
  copies_joinNl _ fun tt htt => by
    obtain ⟨t, ht, rfl⟩ := List.mem_map.mp htt
    exact copies_patDot _ (tripleOK_pat (hok t ht))

theorem rw_block (B tail : Str) (hB : Copies opn cls B) (c : Char) (r : Str) (hc : B = c :: r)
    (h1 : isPySpace c = false) (h2 : c ≠ '}') :
    rwGo opn cls .top 0 false ('{' :: ' ' :: (B ++ ' ' :: '}' :: tail)) =
      '{' :: (opn ++ ' ' :: (B ++ ' ' :: (cls ++ '}' :: rwGo opn cls .top 0 false tail))) := by
  have hbl : blankBlock (' ' :: (B ++ ' ' :: '}' :: tail)) = false := by
    rw [hc]; simp [blankBlock, h1, h2, show isPySpace ' ' = true by decide]
  have hcl : rwGo opn cls .top 1 true ('}' :: tail) = cls ++ '}' :: rwGo opn cls .top 0 false tail := by
    simp [rwGo]
  have hop : rwGo opn cls .top 0 false ('{' :: ' ' :: (B ++ ' ' :: '}' :: tail)) =
      '{' :: (opn ++ rwGo opn cls .top 1 true (' ' :: (B ++ ' ' :: '}' :: tail))) := by
    rw [rwGo]; simp [hbl]
  rw [hop, rw_plain ' ' (by decide), hB, rw_plain ' ' (by decide), hcl]

end

theorem isNodeStart_noSpace {c : Char} (h : isNodeStart c = true) : isPySpace c = false ∧ c ≠ '}' := by
  simp only [isNodeStart, Bool.or_eq_true, decide_eq_true_eq] at h
  rcases h with (rfl | rfl) | rfl <;> decide

/-- what `_insert_named_graph(text, <g>)` puts behind the `{` and before the `}` of a top-level block -/
def opnG (g : Str) : Str := ' ' :: 'G' :: 'R' :: 'A' :: 'P' :: 'H' :: ' ' :: '<' :: (g ++ ['>', ' ', '{'])
def clsG : Str := ['}', ' ']

/-- the rewrite `_insert_named_graph(text, <g>)` performs -/
def rwG (g : Str) : Str → Str := rwGo (opnG g) clsG .top 0 false

theorem insertNamedGraph_eq (g q : Str) : insertNamedGraph ('<' :: g ++ ['>']) q = rwG g q := by
  have h : " GRAPH ".toList ++ ('<' :: g ++ ['>']) ++ " {".toList = opnG g := by simp [opnG]
  have h' : "} ".toList = clsG := by decide +kernel
  rw [insertNamedGraph, h, h', rwG]

theorem rwG_cons (g : Str) (c : Char) (h : plainTop c = true) (r : Str) : rwG g (c :: r) = c :: rwG g r :=
  rw_plain c h 0 false r

theorem rwG_block (g B k : Str) (hB : Copies (opnG g) clsG B) (c : Char) (r : Str)
    (hc : B = c :: r) (hs : isNodeStart c = true) : rwG g (blockT .dflt B k) = blockT (.named g) B (rwG g k) := by
  obtain ⟨h1, h2⟩ := isNodeStart_noSpace hs
  simp only [rwG, blockT, rw_block B k hB c r hc h1 h2]
  simp [opnG, clsG]

theorem rwG_insertT (g : Str) (ts : List TTriple) (nl : Str) (hne : ts ≠ [])
    (hok : ∀ t ∈ ts, TripleOK t = true) (hnl : nl.all plainTop = true) :
    rwG g (insertT none (triplesT ts) nl) = insertT (some g) (triplesT ts) nl := by
  obtain ⟨c0, r0, hh, hs⟩ := triplesT_head ts hne
  have hnlc : rwG g nl = nl := by
    have := copies_plains (opn := opnG g) (cls := clsG) nl hnl 0 false []
    rwa [show rwGo _ _ Mode.top 0 false [] = [] from rfl, List.append_nil] at this
  -- the keyword characters are stepped over by `rwG_cons`, `decide` checking each to be plain
  simp (disch := decide) only [insertT, gsel, rwG_cons,
    rwG_block g _ _ (copies_triples ts hok) c0 r0 hh (by rcases hs with rfl | rfl <;> decide), hnlc]

theorem rwG_deleteT (g : Str) (p : TPatT) (hok : PatOK p = true) :
    rwG g (deleteT .dflt (patDotT p) [' ']) = deleteT (.named g) (patDotT p) [' '] := by
  obtain ⟨c0, r0, hh, hs⟩ := patT_head true p
  have hh' : patDotT p = c0 :: (r0 ++ [' ', '.']) := by rw [patDotT, hh]; rfl
  have hnil : rwG g [' '] = [' '] := rfl
  simp (disch := decide) only [deleteT, rwG_cons, rwG_block g _ _ (copies_patDot p hok) c0 _ hh' hs, hnil]

def TUOp.moveTo (g : Str) : TUOp → TUOp
  | .insertData none ts => .insertData (some g) ts
  | .deleteData none ts => .deleteData (some g) ts
  | .deleteWhere none p => .deleteWhere (some g) p
  | u => u

/-- `_insert_named_graph(text, <g>)` on the update fragment the reader covers, in the store's own
    spelling (`INSERT DATA { … }` with one or several triples, `DELETE { t } WHERE { t } `):
    (1) what `_quote_encode` wrote — short or long-quoted, WHATEVER the lexical form holds: braces,
        quotes, hashes, backslashes, newlines — is copied verbatim, from top mode at any level and flag, so no brace
        inside a literal is ever taken for a block delimiter; the same for a written IRI;
    (2) for `INSERT DATA` the rewritten text is exactly the text the store itself writes for the named graph; in every
        case decoding it gives the decoded operation with its data / template and pattern moved to `g`. -/
def Statement_named_graph_rewrite_means_move : Prop :=
  ∀ (g : Str), iriOK g = true →
    let gi : Str := '<' :: g ++ ['>']
    (∀ (opn cls x tail : Str) (l : Int) (w : Bool), tail.head? ≠ some '"' →
        rwGo opn cls .top l w (quoteEncode x ++ tail) = quoteEncode x ++ rwGo opn cls .top l w tail) ∧
    (∀ (opn cls s tail : Str) (l : Int) (w : Bool), iriOK s = true →
        rwGo opn cls .top l w (('<' :: s ++ ['>']) ++ tail) = ('<' :: s ++ ['>']) ++ rwGo opn cls .top l w tail) ∧
    (∀ (t : TTriple) (txt : Str), TripleOK t = true → wAdd none t = some txt →
        wAdd (some g) t = some (insertNamedGraph gi txt) ∧
        readRequest (insertNamedGraph gi txt) = (readRequest txt).map (fun us => us.map (TUOp.moveTo g))) ∧
    (∀ (ts : List TTriple) (txt : Str), ts ≠ [] → (∀ t ∈ ts, TripleOK t = true) → wAddN none ts = some txt →
        wAddN (some g) ts = some (insertNamedGraph gi txt) ∧
        readRequest (insertNamedGraph gi txt) = (readRequest txt).map (fun us => us.map (TUOp.moveTo g))) ∧
    (∀ (p : TPatT) (txt : Str), PatOK p = true → wRemoveOne none p = some txt →
        readRequest (insertNamedGraph gi txt) = some [.deleteWhere (some g) p] ∧
        readRequest (insertNamedGraph gi txt) = (readRequest txt).map (fun us => us.map (TUOp.moveTo g)))

theorem insert_moved (g : Str) (hg : iriOK g = true) (ts : List TTriple) (nl : Str) (hne : ts ≠ [])
    (hok : ∀ t ∈ ts, TripleOK t = true) (hnl : nl.all plainTop = true) (hws : AllWs nl) :
    insertNamedGraph ('<' :: g ++ ['>']) (insertT none (triplesT ts) nl) = insertT (some g) (triplesT ts) nl ∧
    readRequest (insertT (some g) (triplesT ts) nl) =
      (readRequest (insertT none (triplesT ts) nl)).map (fun us => us.map (TUOp.moveTo g)) := by
  refine ⟨(insertNamedGraph_eq g _).trans (rwG_insertT g ts nl hne hok hnl), ?_⟩
  rw [readRequest_edit (insertT_edit (some g) ts nl hne hg hok hws),
    readRequest_edit (insertT_edit none ts nl hne rfl hok hws)]
  rfl

theorem named_graph_rewrite_means_move : Statement_named_graph_rewrite_means_move := by
  intro g hg
  refine ⟨fun opn cls x tail l w ht => rw_quoteEncode l w x tail ht,
    fun opn cls s tail l w hs => copies_iri s hs l w tail, ?_, ?_, ?_⟩
  · intro t txt ht h
    obtain rfl := Option.some.inj ((wAdd_eq none t rfl ht).symm.trans h)
    obtain ⟨h1, h2⟩ := insert_moved g hg [t] [] (by simp) (by simpa using ht) rfl allWs_nil
    rw [triplesT_single] at h1 h2
    exact ⟨by rw [wAdd_eq (some g) t hg ht]; exact congrArg some h1.symm, by rw [h1]; exact h2⟩
  · intro ts txt hne hts h
    obtain rfl := Option.some.inj ((wAddN_eq none ts rfl hts).symm.trans h)
    obtain ⟨h1, h2⟩ := insert_moved g hg ts ['\n'] hne hts (by decide) allWs_nl
    exact ⟨by rw [wAddN_eq (some g) ts hg hts]; exact congrArg some h1.symm, by rw [h1]; exact h2⟩
  · intro p txt hp h
    obtain rfl := Option.some.inj ((wRemoveOne_none p hp).symm.trans h)
    rw [(insertNamedGraph_eq g _).trans (rwG_deleteT g p hp), readRequest_edit (deleteT_edit (.named g) p hg hp),
      readRequest_edit (deleteT_edit .dflt p rfl hp)]
    exact ⟨rfl, rfl⟩

end RV.C20

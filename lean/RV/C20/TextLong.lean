import RV.C20.TextLex
/-
  C20 text layer: the long-quoted branch of `_quote_encode` is read back by a scanner
  that stops at the first unescaped `\"\"\"`.

  `LS e l` : `e` spells `l` with the units  `\\` `\"` `\r`  and raw characters, and never has three
  raw quotes in a row (open form: it may still END in raw quotes);
  `LC e l` : the same, and `e` does not end in a raw quote (closed form: safe in front of `\"\"\"`).
  `.replace("\\","\\\\")` followed by `.replace('\"\"\"', …)` (or by nothing, when there is no `\"\"\"`) gives an `LS`,
  the final-quote step an `LC`, `.replace("\r", "\\r")` keeps it, and the scanner reads every `LC`.
-/
namespace RV.C20

/-- number of raw quotes at the front -/
def fq : Str → Nat
  | '"' :: r => fq r + 1
  | _ => 0

theorem fq_cons_ne (c : Char) (r : Str) (h : c ≠ '"') : fq (c :: r) = 0 := by
  rw [fq]; intro r' hc; injection hc with h1 _; exact h h1

@[simp] theorem fq_nil : fq [] = 0 := rfl
@[simp] theorem fq_q (r : Str) : fq ('"' :: r) = fq r + 1 := rfl

inductive LS : Str → Str → Prop
  | nil : LS [] []
  | bs {e l} : LS e l → LS ('\\' :: '\\' :: e) ('\\' :: l)
  | quote {e l} : LS e l → LS ('\\' :: '"' :: e) ('"' :: l)
  | cr {e l} : LS e l → LS ('\\' :: 'r' :: e) ('\r' :: l)
  | plain {e l} (c : Char) : c ≠ '\\' → c ≠ '"' → LS e l → LS (c :: e) (c :: l)
  | q {e l} : LS e l → fq e < 2 → LS ('"' :: e) ('"' :: l)

inductive LC : Str → Str → Prop
  | nil : LC [] []
  | bs {e l} : LC e l → LC ('\\' :: '\\' :: e) ('\\' :: l)
  | quote {e l} : LC e l → LC ('\\' :: '"' :: e) ('"' :: l)
  | cr {e l} : LC e l → LC ('\\' :: 'r' :: e) ('\r' :: l)
  | plain {e l} (c : Char) : c ≠ '\\' → c ≠ '"' → LC e l → LC (c :: e) (c :: l)
  | q {e l} : LC e l → fq e < 2 → e ≠ [] → LC ('"' :: e) ('"' :: l)

/-- `.replace("\\", "\\\\")` -/
abbrev dbl (s : Str) : Str := replaceChar '\\' ['\\', '\\'] s

theorem dbl_cons (c : Char) (s : Str) : dbl (c :: s) = (if c = '\\' then ['\\', '\\'] else [c]) ++ dbl s :=
  replaceChar_cons ..

theorem fq_replaceChar {c d : Char} (rep : Str) (hc : c ≠ '"') (hd : d ≠ '"') :
    ∀ s : Str, fq (replaceChar c (d :: rep) s) = fq s
  | [] => rfl
  | x :: s => by
    rw [replaceChar_cons]
    by_cases hx : x = c
    · subst hx; simp [fq_cons_ne _ _ hc, fq_cons_ne _ _ hd]
    · by_cases hq : x = '"'
      · subst hq; simp [hx, fq_replaceChar rep hc hd s]
      · simp [hx, fq_cons_ne x _ hq]

theorem fq_dbl (s : Str) : fq (dbl s) = fq s := fq_replaceChar _ (by decide) (by decide) s

theorem fq_lt_two {s : Str} (h : ∀ r, s ≠ '"' :: '"' :: r) : fq s < 2 := by
  match s with
  | [] => simp
  | [c] => by_cases hc : c = '"' <;> simp [hc, fq_cons_ne]
  | c :: d :: r =>
    by_cases hc : c = '"'
    · by_cases hd : d = '"'
      · subst hc; subst hd; exact absurd rfl (h r)
      · subst hc; simp [fq_cons_ne d _ hd]
    · simp [fq_cons_ne c _ hc]

/-- the doubled string after `.replace('"""', …)`, by recursion on the lexical form: both replacements work
    through it from the left, and doubling neither makes nor breaks a run of quotes -/
theorem ls_replTriple (s : Str) : LS (replTriple (dbl s)) s ∧ fq (replTriple (dbl s)) ≤ fq s := by
  fun_induction replTriple s with
  | case1 s ih =>
    simp only [dbl_cons, show ('"' = '\\') = False by decide, if_false, List.cons_append, List.nil_append, replTriple]
    exact ⟨.quote (.quote (.quote ih.1)), by simp [fq_cons_ne]⟩
  | case2 c s hn ih =>
    rw [dbl_cons]
    by_cases hb : c = '\\'
    · subst hb
      simp only [if_true, List.cons_append, List.nil_append]
      rw [replTriple, replTriple]
      · exact ⟨.bs ih.1, by simp [fq_cons_ne]⟩
      · intro s' h; cases h
      · intro s' h; cases h
    · simp only [hb, if_false, List.cons_append, List.nil_append]
      by_cases hq : c = '"'
      · subst hq
        have hf : fq s < 2 := fq_lt_two fun r e => hn r rfl e
        rw [replTriple]
        · exact ⟨.q ih.1 (Nat.lt_of_le_of_lt ih.2 hf), by simp [ih.2]⟩
        · intro s' _ h
          have := fq_dbl s
          rw [h] at this
          simp at this; omega
      · rw [replTriple]
        · exact ⟨.plain c hb hq ih.1, by simp [fq_cons_ne c _ hq]⟩
        · intro s' h; exact absurd h hq
  | case3 => exact ⟨.nil, Nat.le_refl _⟩

theorem hasTriple_cons {c : Char} {l : Str} (h : hasTriple (c :: l) = false) :
    hasTriple l = false ∧ (c = '"' → fq l < 2) := by
  constructor
  · rw [hasTriple.eq_def] at h
    split at h
    · cases h
    · next heq => obtain ⟨_, rfl⟩ := List.cons.inj heq; exact h
    · next heq => cases heq
  · rintro rfl
    exact fq_lt_two fun r e => by simp [e, hasTriple] at h

/-- without a `"""` the replacement is skipped: the doubled string is safe as it is -/
theorem ls_dbl : ∀ s : Str, hasTriple s = false → LS (dbl s) s
  | [], _ => .nil
  | c :: s, h => by
    obtain ⟨h2, h3⟩ := hasTriple_cons h
    rw [dbl_cons]
    by_cases hb : c = '\\'
    · subst hb; exact .bs (ls_dbl s h2)
    · by_cases hq : c = '"'
      · subst hq; exact .q (ls_dbl s h2) (by rw [fq_dbl]; exact h3 rfl : fq (dbl s) < 2)
      · simpa [hb] using LS.plain c hb hq (ls_dbl s h2)

theorem ls_tripleStep (s : Str) : LS (if hasTriple s then replTriple (dbl s) else dbl s) s := by
  split
  · exact (ls_replTriple s).1
  · next h => exact ls_dbl s (by simpa using h)

def trailBs (b : Str) : Nat := b.length - (rstripBs b).length

theorem rstripBs_cons (c : Char) (s : Str) :
    rstripBs (c :: s) = if rstripBs s = [] then (if c = '\\' then [] else [c]) else c :: rstripBs s := by
  simp only [rstripBs]
  cases rstripBs s <;> simp

theorem trailBs_cons_ne (c : Char) (b : Str) (h : c ≠ '\\') : trailBs (c :: b) = trailBs b := by
  simp only [trailBs, rstripBs_cons]
  by_cases hr : rstripBs b = []
  · simp [hr, h]
  · simp [hr]

theorem trailBs_bs_cons (b : Str) :
    trailBs ('\\' :: b) = if rstripBs b = [] then b.length + 1 else trailBs b := by
  simp only [trailBs, rstripBs_cons]
  by_cases hr : rstripBs b = []
  · simp [hr]
  · simp [hr]

theorem rstripBs_cons_ne_nil (c : Char) (b : Str) (h : c ≠ '\\') : rstripBs (c :: b) ≠ [] := by
  rw [rstripBs_cons]
  by_cases hr : rstripBs b = [] <;> simp [hr, h]

theorem trailBs_bs_bs (b : Str) : trailBs ('\\' :: '\\' :: b) % 2 = trailBs b % 2 := by
  rw [trailBs_bs_cons]
  by_cases h : rstripBs b = []
  · have h2 : rstripBs ('\\' :: b) = [] := by simp [rstripBs_cons, h]
    have h3 : trailBs b = b.length := by simp [trailBs, h]
    simp [h2, h3]; omega
  · have h2 : rstripBs ('\\' :: b) ≠ [] := by simp [rstripBs_cons, h]
    rw [if_neg h2, trailBs_bs_cons, if_neg h]

theorem trailBs_bs_ne (c : Char) (b : Str) (h : c ≠ '\\') : trailBs ('\\' :: c :: b) = trailBs b := by
  rw [trailBs_bs_cons, if_neg (rstripBs_cons_ne_nil c b h), trailBs_cons_ne c b h]

/-- in front of a non-empty text, a prefix that keeps the parity of the trailing backslashes is left alone -/
theorem fixTrail_prefix (p e : Str) (he : e ≠ []) (hp : ∀ b, trailBs (p ++ b) % 2 = trailBs b % 2) :
    fixTrail (p ++ e) = p ++ fixTrail e := by
  have h := hp e.dropLast
  have hl : (p ++ e).getLast? = e.getLast? := by
    rw [List.getLast?_append, List.getLast?_eq_some_getLast he]; rfl
  simp only [trailBs] at h
  simp only [fixTrail, hl, List.dropLast_append_of_ne_nil he, h]
  split
  · split
    · rw [List.append_assoc]
    · rfl
  · rfl

theorem fixTrail_cons (c : Char) (e : Str) (hc : c ≠ '\\') (he : e ≠ []) : fixTrail (c :: e) = c :: fixTrail e :=
  fixTrail_prefix [c] e he (fun b => congrArg (· % 2) (trailBs_cons_ne c b hc))

theorem fixTrail_bs (c : Char) (e : Str) (he : e ≠ []) : fixTrail ('\\' :: c :: e) = '\\' :: c :: fixTrail e :=
  fixTrail_prefix ['\\', c] e he (fun b => by
    by_cases hc : c = '\\'
    · subst hc; exact trailBs_bs_bs b
    · exact congrArg (· % 2) (trailBs_bs_ne c b hc))

theorem fixTrail_ne_nil {e : Str} (he : e ≠ []) : fixTrail e ≠ [] := by
  simp only [fixTrail]
  split
  · split
    · simp
    · exact he
  · exact he

/-- the final-quote step closes an open spelling: unit by unit the text is left alone, up to a last raw quote
    (an even number of backslashes before it: whole `\\\\` units), which gets its backslash; an escaped last
    quote (odd) stays.  The number of raw quotes at the front does not grow. -/
theorem lc_fq_fixTrail {e l : Str} (h : LS e l) : LC (fixTrail e) l ∧ fq (fixTrail e) ≤ fq e := by
  induction h with
  | nil => exact ⟨.nil, Nat.le_refl _⟩
  | @bs e1 l1 h1 ih | @quote e1 l1 h1 ih | @cr e1 l1 h1 ih =>
    by_cases he : e1 = []
    · subst he; cases h1; exact ⟨by constructor; exact .nil, Nat.le_refl _⟩
    · rw [fixTrail_bs _ _ he]; exact ⟨by constructor; exact ih.1, Nat.le_refl _⟩
  | @plain e1 l1 c hc hq h1 ih =>
    by_cases he : e1 = []
    · subst he; cases h1
      have : fixTrail [c] = [c] := by simp [fixTrail, hq]
      rw [this]; exact ⟨.plain c hc hq .nil, Nat.le_refl _⟩
    · rw [fixTrail_cons c _ hc he, fq_cons_ne c _ hq]; exact ⟨.plain c hc hq ih.1, Nat.zero_le _⟩
  | @q e1 l1 h1 hf ih =>
    by_cases he : e1 = []
    · subst he; cases h1; exact ⟨.quote .nil, by decide⟩
    · rw [fixTrail_cons _ _ (by decide) he]
      exact ⟨.q ih.1 (Nat.lt_of_le_of_lt ih.2 hf) (fixTrail_ne_nil he), Nat.succ_le_succ ih.2⟩

theorem replCR_ne_nil (e : Str) (h : e ≠ []) : replaceChar '\r' ['\\', 'r'] e ≠ [] := by
  cases e with
  | nil => exact absurd rfl h
  | cons c e =>
    rw [replaceChar_cons]
    by_cases hc : c = '\r' <;> simp [hc]

theorem lc_replCR {e l : Str} (h : LC e l) : LC (replaceChar '\r' ['\\', 'r'] e) l := by
  induction h with
  | nil => exact .nil
  | bs _ ih =>
    rw [replaceChar_cons, replaceChar_cons]
    simpa using LC.bs ih
  | quote _ ih =>
    rw [replaceChar_cons, replaceChar_cons]
    simpa using LC.quote ih
  | cr _ ih =>
    rw [replaceChar_cons, replaceChar_cons]
    simpa using LC.cr ih
  | plain c hc hq _ ih =>
    rw [replaceChar_cons]
    by_cases hr : c = '\r'
    · subst hr; simpa using LC.cr ih
    · simpa [hr] using LC.plain c hc hq ih
  | @q e1 l1 _ hf hne ih =>
    rw [replaceChar_cons]
    simpa using LC.q ih (by rw [fq_replaceChar _ (by decide) (by decide)]; exact hf) (replCR_ne_nil e1 hne)

theorem lc_longEncode (s : Str) : LC (longEncode s) s := by
  unfold longEncode
  exact lc_replCR (lc_fq_fixTrail (ls_tripleStep s)).1

/-! ### the scanner reads every closed safe spelling -/

theorem readLong_plain (c : Char) (r : Str) (h1 : c ≠ '"') (h2 : c ≠ '\\') :
    readLong (c :: r) = (readLong r).map (fun br => (c :: br.1, br.2)) := by
  rw [readLong.eq_def]
  split
  · next h => cases h
  · next h => injection h with h _; exact absurd h h1
  · next h => injection h with h _; exact absurd h h2
  · next c' r' _ _ h =>
    injection h with ha hb
    subst ha; subst hb
    simp [h2]

theorem readLong_q (r : Str) (h : ∀ r', r ≠ '"' :: '"' :: r') :
    readLong ('"' :: r) = (readLong r).map (fun br => ('"' :: br.1, br.2)) := by
  rw [readLong.eq_def]
  split
  · next h' => cases h'
  · next r' h' => exact absurd (List.cons.inj h').2 (h r')
  · next h' => exact absurd (List.cons.inj h').1 (by decide)
  · next c' r' _ _ h' =>
    obtain ⟨rfl, rfl⟩ := List.cons.inj h'
    simp

/- the one use of `e ≠ []` in `LC.q`: a lone raw quote in front of the closing quotes would end the string one character early -/
theorem lc_no_qq {e l : Str} (h : LC e l) (hne : e ≠ []) (hf : fq e < 2) (rest r' : Str) :
    e ++ q3 ++ rest ≠ '"' :: '"' :: r' := by
  match e, h, hne, hf with
  | c :: e2, h, _, hf =>
    by_cases hq : c = '"'
    · subst hq
      cases h with
      | plain _ _ hq _ => exact absurd rfl hq
      | q _ _ hne =>
        match e2, hne, hf with
        | c3 :: e3, _, hf =>
          have hq3 : c3 ≠ '"' := by intro e; subst e; simp at hf; omega
          simp [hq3]
    · simp [hq]

theorem readLong_lc {e l : Str} (h : LC e l) (rest : Str) :
    readLong (e ++ q3 ++ rest) = some (l, rest) := by
  induction h with
  | nil => simp [q3, readLong]
  | bs _ ih | quote _ ih | cr _ ih =>
    simp only [List.cons_append, List.append_assoc] at ih ⊢
    simp [readLong, unesc, ih]
  | plain c hc hq _ ih =>
    simp only [List.cons_append, List.append_assoc] at ih ⊢
    rw [readLong_plain c _ hq hc, ih]
    rfl
  | @q e1 l1 h1 hf hne ih =>
    rw [List.cons_append, List.cons_append, readLong_q _ (lc_no_qq h1 hne hf rest), ih]
    rfl

theorem readLong_enc (s rest : Str) : readLong (longEncode s ++ q3 ++ rest) = some (s, rest) :=
  readLong_lc (lc_longEncode s) rest

end RV.C20

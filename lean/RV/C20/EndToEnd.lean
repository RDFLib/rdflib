import RV.C20.TextProps
import RV.C20.ConnProps
/-
  C20 — the layers composed: API call → request text (Text.lean) → HTTP request (Conn.lean) → what a SPARQL 1.1
  Protocol server reads → what the text means (the reader of Text.lean).
-/
namespace RV.C20

/-- WRITE PATH.  After any sequence of (textual) write calls, the request `commit()` hands to `urlopen` is read by the
    server as an UPDATE, posted directly to the UPDATE endpoint, whose text means exactly the queue of the state machine:
    every operation of every call, in call order, with multiplicity — for every connector configuration (method, caller
    params / headers). -/
def Statement_commit_reaches_endpoint_as_operations : Prop :=
  ∀ (V : Vocab) (ns : List (Str × Str)) (hook : Bool) (ws : List Write) (c : Conn),
    VocabOK V ns → (∀ w ∈ ws, w.textual = true) → ConnOK c → c.updateEndpoint ≠ [] →
    ∃ txts, queueTexts V ns hook ws = some txts ∧
      (txts ≠ [] → ∃ r p, c.update (joinEdits txts) none none = .ok r ∧ serverRead r = some p ∧
        p.kind = .update ∧ p.via = .direct ∧ p.path = c.updateEndpoint ∧
        readRequest p.text = some ((ws.flatMap (queuedBy hook)).flatten.map (UOp.toText V)))

theorem commit_reaches_endpoint_as_operations : Statement_commit_reaches_endpoint_as_operations := by
  intro V ns hook ws c hV hw ok hne
  obtain ⟨txts, h1, _, h3⟩ := commit_text_is_sequence V ns hook ws hV hw
  refine ⟨txts, h1, fun hn => ?_⟩
  obtain ⟨r, hr, hs⟩ := request_assembly_means_op.2.1 c (joinEdits txts) none none ok hne
  exact ⟨r, _, hr, hs, rfl, rfl, rfl, h3 hn⟩

/-- READ PATH.  The request `triples(pattern, context)` hands to `urlopen` is read by the server as a QUERY on the QUERY
    endpoint whose text means exactly that pattern, and it names the graph (`default-graph-uri`) exactly when
    `_is_contextual` says so — for every method, caller params / headers, `context_aware` setting and graph argument.
    (What comes back is `answer_comes_back`.) -/
def Statement_pattern_read_reaches_endpoint : Prop :=
  ∀ (c : Conn) (ca : Bool) (a : CtxArg) (p : TPatT) (txt : Str), ConnOK c → c.queryEndpoint ≠ [] → PatOK p = true →
    wTriplesQuery p none none none = some txt →
    ∃ r pr, c.query txt (storeDG ca a) = .ok r ∧ serverRead r = some pr ∧
      pr.kind = .query ∧ pr.via = viaOf c.method ∧ pr.path = c.queryEndpoint ∧
      readQuery pr.text = some (.triples p none none none) ∧
      (isContextual ca a = true → dget pr.params sDefaultGraphUri = a.ident) ∧
      (isContextual ca a = false → pr.params = queryParams c .none)

theorem pattern_read_reaches_endpoint : Statement_pattern_read_reaches_endpoint := by
  intro c ca a p txt ok hne hp hw
  obtain ⟨r, h1, h2, _⟩ := request_assembly_means_op.1 c txt (storeDG ca a) ok hne
  exact ⟨r, _, h1, h2, rfl, rfl, rfl, query_text_means_pattern.1 p txt hp hw, (context_params c ca a).1,
    (context_params c ca a).2⟩

end RV.C20

import RV.C20.TextOps
/-
  C20 text layer: every edit string the store queues reads back as its operation, and a
  request joined by `\n;\n` reads back as the sequence.  The edit strings are spelled here character
  by character (`insertT`, `deleteT`, `withT`, `dropDefaultT`, `dropT`, `createT`); TextModel shows that the
  writers of Text.lean produce these spellings.
-/
namespace RV.C20

/-- what may follow an operation text: the end, or something that is not a name character -/
def RestOK (rest : Str) : Prop := ∀ c r, rest = c :: r → isNameChar c = false

def AllWs (t : Str) : Prop := ∀ c ∈ t, isWs c = true

/-- `txt` is the text of exactly the operation `u` for the reader, with any fuel from the length of the text on
    (the fuel of `readRequest` is the length of the whole request) -/
structure OpText (txt : Str) (u : TUOp) : Prop where
  /-- reading stops after the operation; only trailing blanks of the text itself are left over -/
  reads : ∃ trail, AllWs trail ∧
    ∀ F rest, txt.length + 1 ≤ F → RestOK rest → readOp F (txt ++ rest) = some (u, trail ++ rest)
  head : ∃ c r, txt = c :: r ∧ tokStart c = true

def sep : Str := ['\n', ';', '\n']

/-- `txt` is an edit string denoting the operations `us`: operation texts joined by `\n;\n` -/
inductive EditText : Str → List TUOp → Prop
  | one {txt u} : OpText txt u → EditText txt [u]
  | cons {a b u vs} : OpText a u → EditText b vs → EditText (a ++ sep ++ b) (u :: vs)

theorem ws_trail : ∀ (trail s : Str), AllWs trail → ws (trail ++ s) = ws s
  | [], s, _ => rfl
  | c :: t, s, h => by
    have hc : isWs c = true := h c (List.mem_cons_self ..)
    have ht : AllWs t := fun x hx => h x (List.mem_cons_of_mem _ hx)
    rw [List.cons_append, ws_isWs hc, ws_trail t s ht]

theorem allWs_nil : AllWs [] := fun _ h => nomatch h
theorem allWs_cons {c : Char} {t : Str} (hc : isWs c = true) (ht : AllWs t) : AllWs (c :: t) := by
  intro x hx
  rcases List.mem_cons.mp hx with rfl | hx
  · exact hc
  · exact ht x hx

theorem allWs_sp : AllWs [' '] := allWs_cons rfl allWs_nil
theorem allWs_nl : AllWs ['\n'] := allWs_cons rfl allWs_nil

theorem length_joinWith_ge (sp : Str) : ∀ (xs : List Str), (∀ x ∈ xs, 1 ≤ x.length) → xs.length ≤ (joinWith sp xs).length
  | [], _ => by simp [joinWith]
  | [a], h => by simpa [joinWith] using h a (List.mem_cons_self ..)
  | a :: b :: r, h => by
    have ih := length_joinWith_ge sp (b :: r) (fun x hx => h x (List.mem_cons_of_mem _ hx))
    have ha := h a (List.mem_cons_self ..)
    simp only [joinWith, List.length_append, List.length_cons] at ih ⊢
    omega

/-- `INSERT DATA { J }nl` / `INSERT DATA { GRAPH <g> { J } }nl` -/
def insertT (g : Option Str) (J nl : Str) : Str :=
  'I' :: 'N' :: 'S' :: 'E' :: 'R' :: 'T' :: ' ' :: 'D' :: 'A' :: 'T' :: 'A' :: ' ' :: blockT (gsel g) J nl

theorem insertT_edit (g : Option Str) (ts : List TTriple) (nl : Str) (hne : ts ≠ [])
    (hg : GraphOK g = true) (hok : ∀ t ∈ ts, TripleOK t = true) (hnl : AllWs nl) :
    EditText (insertT g (triplesT ts) nl) [.insertData g ts] := by
  refine .one { reads := ⟨nl, hnl, fun F rest hF _ => ?_⟩, head := ⟨'I', _, rfl, rfl⟩ }
  -- the fuel `readTriples` needs is the number of triples, which the length of the text bounds
  have h1 : ts.length ≤ (triplesT ts).length := by
    simpa [triplesT] using length_joinWith_ge ['\n'] (ts.map tripleT) (by
      intro x hx; obtain ⟨t, _, rfl⟩ := List.mem_map.mp hx; simp [tripleT, patDotT])
  have h2 : (triplesT ts).length ≤ (insertT g (triplesT ts) nl).length := by
    cases g <;> simp [insertT, gsel, blockT] <;> omega
  obtain ⟨k, rfl⟩ : ∃ k, F = ts.length + 1 + k := ⟨F - (ts.length + 1), by omega⟩
  simp only [insertT, List.cons_append, blockT_append, readOp,
    skipPrologue_miss 'I' (by decide +kernel), kw_INSERT, kw_sp, kw_DATA,
    Option.bind_some, readQuadData_block g ts _ k hne hg hok, Option.map_some]

/-- `DELETE B WHERE B` where `B` is the block `sel` of `tt` -/
def deleteT (sel : GSel) (tt k : Str) : Str :=
  'D' :: 'E' :: 'L' :: 'E' :: 'T' :: 'E' :: ' ' ::
    blockT sel tt (' ' :: 'W' :: 'H' :: 'E' :: 'R' :: 'E' :: ' ' :: blockT sel tt k)

/-- `WITH <g> DELETE { tt } WHERE { tt }` -/
def withT (g tt : Str) : Str := 'W' :: 'I' :: 'T' :: 'H' :: ' ' :: '<' :: (g ++ '>' :: ' ' :: deleteT .dflt tt [])

/-- what a `DELETE B WHERE B` means by the block it addresses -/
def deleteMeaning (p : TPatT) : GSel → TUOp
  | .dflt => .deleteWhere none p
  | .named g => .deleteWhere (some g) p
  | .anyNamed _ => .deleteNamed p

theorem modify_same (sel : GSel) (p : TPatT) :
    modifyMeaning none ([], sel, nodesOf true p) ([], sel, nodesOf true p) = some (deleteMeaning p sel) := by
  simp only [modifyMeaning, and_self, if_true, patOf_nodesOf]
  cases sel <;> rfl

/-- template, `WHERE`, pattern: the part `DELETE` and `WITH <g> DELETE` share -/
theorem templateWhere_reads (w : Option Str) (sel : GSel) (p : TPatT) (k : Str) (hs : SelOK sel = true) (hok : PatOK p = true) :
    ((readQuadPat (' ' :: blockT sel (patDotT p)
          (' ' :: 'W' :: 'H' :: 'E' :: 'R' :: 'E' :: ' ' :: blockT sel (patDotT p) k))).bind fun d =>
        (kw "WHERE" d.2).bind fun r2 => (readQuadPat r2).bind fun e =>
          (modifyMeaning w d.1 e.1).map fun u => (u, e.2)) =
      (modifyMeaning w ([], sel, nodesOf true p) ([], sel, nodesOf true p)).map fun u => (u, k) := by
  simp only [readQuadPat_block sel p _ hs hok, Option.bind_some, kw_sp, kw_WHERE]

theorem deleteT_edit (sel : GSel) (p : TPatT) (hs : SelOK sel = true) (hok : PatOK p = true) :
    EditText (deleteT sel (patDotT p) [' ']) [deleteMeaning p sel] := by
  refine .one { reads := ⟨[' '], allWs_sp, fun F rest _ _ => ?_⟩, head := ⟨'D', _, rfl, rfl⟩ }
  simp only [deleteT, List.cons_append, blockT_append, List.nil_append, readOp,
    skipPrologue_miss 'D' (by decide +kernel),
    kw_miss "INSERT" 'D' (by decide +kernel), kw_DELETE,
    kw_block_none (k := "DATA") (by decide +kernel), kw_block_none (k := "WHERE") (by decide +kernel),
    templateWhere_reads none sel p _ hs hok, modify_same, Option.map_some]

theorem readIri_write (g r : Str) (hg : iriOK g = true) : readIri (' ' :: '<' :: (g ++ '>' :: r)) = some (g, r) := by
  simp only [readIri, ws_sp, ws_lt]; exact readIriRaw_write g r hg

theorem withT_edit (g : Str) (p : TPatT) (hg : iriOK g = true) (hok : PatOK p = true) :
    EditText (withT g (patDotT p)) [.deleteWhere (some g) p] := by
  refine .one { reads := ⟨[], allWs_nil, fun F rest _ _ => ?_⟩, head := ⟨'W', _, rfl, rfl⟩ }
  simp only [withT, deleteT, List.cons_append, List.append_assoc, blockT_append, List.nil_append, readOp,
    skipPrologue_miss 'W' (by decide +kernel),
    kw_miss "INSERT" 'W' (by decide +kernel), kw_miss "DELETE" 'W' (by decide +kernel),
    kw_WITH, readIri_write g _ hg, Option.bind_some, kw_sp, kw_DELETE, templateWhere_reads (some g) .dflt p _ rfl hok]
  simp [modifyMeaning, patOf_nodesOf]

def PrefixOK (kv : Str × Str) : Bool := kv.1.all isNameChar && iriOK kv.2

theorem kw_allws (k : String) (t s : Str) (h : AllWs t) : kw k (t ++ s) = kw k s := by
  simp [kw, ws_trail t s h]

theorem prefixLine_append (kv : Str × Str) (more : Str) :
    prefixLine kv ++ more =
      'P' :: 'R' :: 'E' :: 'F' :: 'I' :: 'X' :: ' ' :: (kv.1 ++ ':' :: ' ' :: '<' :: (kv.2 ++ '>' :: more)) := by
  simp [prefixLine]

theorem skipPrologue_line (n : Nat) (t : Str) (ht : AllWs t) (kv : Str × Str) (more : Str) (h : PrefixOK kv = true) :
    skipPrologue (n + 1) (t ++ (prefixLine kv ++ more)) = skipPrologue n more := by
  obtain ⟨k, v⟩ := kv
  simp only [PrefixOK, Bool.and_eq_true] at h
  have hk : ':' ∉ k := fun hm => (nameChar_facts (List.all_eq_true.mp h.1 _ hm)).2 rfl
  have hws : ws (' ' :: (k ++ ':' :: ' ' :: '<' :: (v ++ '>' :: more))) = k ++ ':' :: ' ' :: '<' :: (v ++ '>' :: more) := by
    rw [ws_sp]
    cases k with
    | nil => exact ws_cons ':' _ rfl
    | cons c k' =>
      have hc := nameChar_facts (List.all_eq_true.mp h.1 c (List.mem_cons_self ..))
      exact ws_cons c _ hc.1
  simp only [skipPrologue, kw_allws _ t _ ht, prefixLine_append, kw_PREFIX, hws, splitAt?_append ':' k _ hk, readIri, ws_sp,
    ws_lt, readIriRaw_write v more h.2]

theorem skipPrologue_lines (k : Nat) (tail : Str) : ∀ (ns : List (Str × Str)), (∀ kv ∈ ns, PrefixOK kv = true) →
    skipPrologue (ns.length + k) (ns.flatMap (fun kv => '\n' :: prefixLine kv) ++ tail) = skipPrologue k tail
  | [], _ => by simp
  | kv :: ns, h => by
    have h1 := skipPrologue_line (ns.length + k) ['\n'] allWs_nl kv
      (ns.flatMap (fun kv => '\n' :: prefixLine kv) ++ tail) (h kv (List.mem_cons_self ..))
    rw [show (kv :: ns).length + k = ns.length + k + 1 by simp; omega, List.flatMap_cons, List.append_assoc]
    exact h1.trans (skipPrologue_lines k tail ns fun x hx => h x (List.mem_cons_of_mem _ hx))

theorem wPrologue_eq (ns : List (Str × Str)) (hne : ns ≠ []) :
    wPrologue ns = joinWith ['\n'] (ns.map prefixLine) ++ ['\n', '\n'] := by
  cases ns with
  | nil => exact absurd rfl hne
  | cons kv ns => rfl

theorem prologue_len (ns : List (Str × Str)) : ns.length ≤ (wPrologue ns).length := by
  cases ns with
  | nil => simp
  | cons kv ns =>
    rw [wPrologue_eq _ (by simp)]
    have := length_joinWith_ge ['\n'] ((kv :: ns).map prefixLine) (by
      intro x hx
      obtain ⟨y, _, rfl⟩ := List.mem_map.mp hx
      simp [prefixLine])
    simp only [List.length_map, List.length_append] at this ⊢
    omega

theorem skipPrologue_wPrologue (ns : List (Str × Str)) (F : Nat) (op : Str) (hF : ns.length ≤ F)
    (hok : ∀ kv ∈ ns, PrefixOK kv = true) (hop : kw "PREFIX" op = none) :
    ∃ t, AllWs t ∧ skipPrologue F (wPrologue ns ++ op) = t ++ op := by
  cases ns with
  | nil => exact ⟨[], allWs_nil, by simp [wPrologue, skipPrologue_id _ _ hop]⟩
  | cons kv ns =>
    obtain ⟨k, rfl⟩ : ∃ k, F = ns.length + k + 1 := ⟨F - (ns.length + 1), by simp at hF; omega⟩
    have hws : AllWs ['\n', '\n'] := allWs_cons rfl allWs_nl
    refine ⟨['\n', '\n'], hws, ?_⟩
    have e : wPrologue (kv :: ns) ++ op =
        [] ++ (prefixLine kv ++ (ns.flatMap (fun kv => '\n' :: prefixLine kv) ++ (['\n', '\n'] ++ op))) := by
      rw [wPrologue_eq _ (by simp), List.map_cons, joinWith_cons]
      simp [List.flatMap_map]
    rw [e, skipPrologue_line _ [] allWs_nil kv _ (hok kv (List.mem_cons_self ..)),
      skipPrologue_lines k _ ns fun x hx => hok x (List.mem_cons_of_mem _ hx),
      skipPrologue_id _ _ (by rw [kw_allws _ _ _ hws]; exact hop)]

theorem readOp_prologue (ns : List (Str × Str)) (F : Nat) (op : Str) (hF : ns.length ≤ F)
    (hok : ∀ kv ∈ ns, PrefixOK kv = true) (hop : kw "PREFIX" op = none) :
    readOp F (wPrologue ns ++ op) = readOp F op := by
  obtain ⟨t, ht, hs⟩ := skipPrologue_wPrologue ns F op hF hok hop
  simp only [readOp, hs, kw_allws _ t _ ht, skipPrologue_id _ _ hop]

theorem prologue_head (ns : List (Str × Str)) (op : Str) (c : Char) (r : Str) (hop : op = c :: r)
    (h1 : tokStart c = true) :
    ∃ c' r', wPrologue ns ++ op = c' :: r' ∧ tokStart c' = true := by
  cases ns with
  | nil => exact ⟨c, r, by simp [wPrologue, hop], h1⟩
  | cons kv ns =>
    have : ∃ r', wPrologue (kv :: ns) ++ op = 'P' :: r' := by
      cases ns with
      | nil => exact ⟨_, rfl⟩
      | cons kv2 ns => exact ⟨_, rfl⟩
    obtain ⟨r', hr'⟩ := this
    exact ⟨'P', r', hr', rfl⟩

theorem prologue_edit (ns : List (Str × Str)) (c : Char) {r : Str} {u : TUOp}
    (hok : ∀ kv ∈ ns, PrefixOK kv = true) (hc : kwMiss "PREFIX" c = true) (h : OpText (c :: r) u) :
    EditText (wPrologue ns ++ c :: r) [u] := by
  obtain ⟨⟨trail, ht, hr⟩, c', r', e, h1⟩ := h
  obtain ⟨rfl, rfl⟩ := List.cons.inj e
  refine .one { reads := ⟨trail, ht, fun F rest hF hrest => ?_⟩, head := prologue_head ns _ c r rfl h1 }
  have := prologue_len ns
  rw [List.length_append] at hF
  rw [List.append_assoc, List.cons_append, readOp_prologue ns F _ (by omega) hok (kw_miss _ c hc _),
    ← List.cons_append, hr F rest (by omega) hrest]

def dropDefaultT : Str := ['D', 'R', 'O', 'P', ' ', 'D', 'E', 'F', 'A', 'U', 'L', 'T']

def dropT (g : Str) : Str :=
  'D' :: 'R' :: 'O' :: 'P' :: ' ' :: 'G' :: 'R' :: 'A' :: 'P' :: 'H' :: ' ' :: '<' :: (g ++ ['>'])

def createT (g : Str) : Str :=
  'C' :: 'R' :: 'E' :: 'A' :: 'T' :: 'E' :: ' ' :: 'G' :: 'R' :: 'A' :: 'P' :: 'H' :: ' ' :: '<' :: (g ++ ['>'])

theorem kw_DEFAULT (rest : Str) (h : RestOK rest) :
    kw "DEFAULT" ('D' :: 'E' :: 'F' :: 'A' :: 'U' :: 'L' :: 'T' :: rest) = some rest := by
  cases rest with
  | nil => simp [kw, stripCI, ws, skip, isWs, upperChar]
  | cons c r => simp [kw, stripCI, ws, skip, isWs, upperChar, h c r rfl]

theorem kw_DELETE_DR (r : Str) : kw "DELETE" ('D' :: 'R' :: r) = none := by
  simp [kw, stripCI, ws, skip, isWs, upperChar]

theorem dropDefaultT_reads : OpText dropDefaultT (.dropGraph none) := by
  refine { reads := ⟨[], allWs_nil, fun F rest _ hrest => ?_⟩, head := ⟨'D', _, rfl, rfl⟩ }
  simp only [dropDefaultT, List.cons_append, List.nil_append, readOp,
    skipPrologue_miss 'D' (by decide +kernel),
    kw_miss "INSERT" 'D' (by decide +kernel), kw_DELETE_DR,
    kw_miss "WITH" 'D' (by decide +kernel), kw_DROP, kw_sp, kw_DEFAULT rest hrest]

theorem dropT_reads (g : Str) (hg : iriOK g = true) : OpText (dropT g) (.dropGraph (some g)) := by
  refine { reads := ⟨[], allWs_nil, fun F rest _ _ => ?_⟩, head := ⟨'D', _, rfl, rfl⟩ }
  simp only [dropT, List.cons_append, List.append_assoc, List.nil_append, readOp,
    skipPrologue_miss 'D' (by decide +kernel),
    kw_miss "INSERT" 'D' (by decide +kernel), kw_DELETE_DR,
    kw_miss "WITH" 'D' (by decide +kernel), kw_DROP, kw_sp,
    kw_miss "DEFAULT" 'G' (by decide +kernel), kw_GRAPH, Option.bind_some, readIri_write g _ hg,
    Option.map_some]

theorem createT_reads (g : Str) (hg : iriOK g = true) : OpText (createT g) (.createGraph g) := by
  refine { reads := ⟨[], allWs_nil, fun F rest _ _ => ?_⟩, head := ⟨'C', _, rfl, rfl⟩ }
  simp only [createT, List.cons_append, List.append_assoc, List.nil_append, readOp,
    skipPrologue_miss 'C' (by decide +kernel),
    kw_miss "INSERT" 'C' (by decide +kernel), kw_miss "DELETE" 'C' (by decide +kernel),
    kw_miss "WITH" 'C' (by decide +kernel), kw_miss "DROP" 'C' (by decide +kernel),
    kw_CREATE, kw_sp, kw_GRAPH, Option.bind_some, readIri_write g _ hg, Option.map_some]

theorem restOK_nil : RestOK [] := by intro c r h; cases h
theorem restOK_sep (r : Str) : RestOK (sep ++ r) := by
  intro c r' h
  simp only [sep, List.cons_append, List.nil_append, List.cons.injEq] at h
  rw [← h.1]; decide

theorem ws_allws (t : Str) (h : AllWs t) : ws t = [] := by
  have := ws_trail t [] h
  simpa using this

theorem EditText.join {a b : Str} {us vs : List TUOp} (ha : EditText a us) (hb : EditText b vs) :
    EditText (a ++ sep ++ b) (us ++ vs) := by
  induction ha with
  | one h => exact .cons h hb
  | cons h _ ih => simpa [List.append_assoc] using EditText.cons h ih

theorem EditText.head {txt : Str} {us : List TUOp} (h : EditText txt us) :
    ∃ c r, txt = c :: r ∧ tokStart c = true := by
  cases h with
  | one h => exact h.head
  | cons h _ => obtain ⟨c, r, rfl, hc⟩ := h.head; exact ⟨c, _, rfl, hc⟩

theorem EditText.length_le {txt : Str} {us : List TUOp} (h : EditText txt us) : us.length ≤ txt.length := by
  induction h with
  | one h => obtain ⟨c, r, rfl, _⟩ := h.head; simp
  | cons _ _ ih => simp only [List.length_cons, List.length_append, sep, List.length_nil]; omega

theorem readOps_edit {txt : Str} {us : List TUOp} (h : EditText txt us) : ∀ (n F : Nat), txt.length + 1 ≤ F →
    us.length ≤ n → readOps n F txt = some us := by
  induction h with
  | @one txt u h =>
    intro n F hF hn
    obtain ⟨m, rfl⟩ : ∃ m, n = m + 1 := ⟨n - 1, by simp at hn; omega⟩
    obtain ⟨trail, htr, hr⟩ := h.reads
    have := hr F [] hF restOK_nil
    simp only [List.append_nil] at this
    simp [readOps, this, sym, ws_allws trail htr]
  | @cons a b u vs h hb ih =>
    intro n F hF hn
    obtain ⟨m, rfl⟩ : ∃ m, n = m + 1 := ⟨n - 1, by simp at hn; omega⟩
    simp only [List.length_append] at hF
    obtain ⟨trail, htr, hr⟩ := h.reads
    obtain ⟨h0, r1, rfl, hnw⟩ := hb.head
    have h1 := hr F (sep ++ h0 :: r1) (by omega) (restOK_sep _)
    have hsym : sym ';' (trail ++ (sep ++ h0 :: r1)) = some ('\n' :: h0 :: r1) := by
      simp only [sym, ws_trail _ _ htr, sep, List.cons_append, List.nil_append, ws_nl,
        ws_cons ';' _ rfl]
      simp
    have hws : ws ('\n' :: h0 :: r1) = h0 :: r1 := by rw [ws_nl, ws_cons h0 r1 hnw]
    rw [List.append_assoc]
    simp only [readOps, h1, hsym, hws, reduceCtorEq, if_false,
      ih m F (by omega) (by simpa using hn), Option.map_some]

theorem readRequest_edit {txt : Str} {us : List TUOp} (h : EditText txt us) : readRequest txt = some us :=
  readOps_edit h _ _ (Nat.le_refl _) (by have := h.length_le; omega)
end RV.C20

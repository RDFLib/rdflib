import RV.C20.TextModel
import RV.C20.TextQuery
/-
  C20 — property theorems of the TEXT layer (statements first, then the proofs).

  The store's writers (`n3()` of IRIs and literals, the INSERT DATA / DELETE…WHERE / DROP / CREATE
  texts of `add`, `addN`, `remove`, `remove_graph`, `add_graph`, the SELECT / ASK of `triples`,
  the texts of `__len__` and `contexts`, `commit`'s `"\n;\n".join`) are modelled as functions to
  `List Char` (RV/C20/Text.lean) and compared with the requests the real
  store sends (harness).  The reader of RV/C20/Text.lean is the specification of what those
  texts mean; the theorems say that the written text of an operation reads back as that operation.
-/
namespace RV.C20

/-- Terms of every kind except blank nodes reach the endpoint unchanged: the text `n3()` writes for
    an IRI over the IRIREF alphabet, or for a literal with ANY lexical form (quotes, backslashes,
    newlines — the long-quoted form —, tabs, non-ASCII…), optionally with a language tag or a
    datatype IRI, is read back as exactly that term. -/
def Statement_term_text_roundtrip : Prop :=
  ∀ (t : TTerm), TermOK t = true →
    ∃ txt, wTerm t = some txt ∧ ∀ r, readNode (txt ++ ' ' :: r) = some (.term t, ' ' :: r)

/-- Every string a write call (`add`, `addN`, `remove` with wildcards and with / without a context,
    `remove_graph`, `Dataset.graph`) appends to `_edits` exists whenever the call is not refused,
    there is one per edit of the state-machine model, and READING it gives back exactly the
    operations of that edit (`compileWrite`), through any vocabulary of well-formed terms. -/
def Statement_request_text_means_op : Prop :=
  ∀ (V : Vocab) (ns : List (Str × Str)) (hook : Bool) (w : Write) (es : List (List UOp)),
    VocabOK V ns → w.textual = true → compileWrite hook w = some es →
    ∃ txts, writeEdits V ns hook w = some txts ∧ txts.length = es.length ∧
      ∀ pr ∈ txts.zip es, readRequest pr.1 = some (pr.2.map (UOp.toText V))

/-- The text `commit` sends — the queued strings joined by `"\n;\n"` — reads back as the queue of
    the state machine (`ws.flatMap (queuedBy hook)`, see `commit_sends_whole_queue_in_order`):
    every operation, in order, with multiplicity. -/
def Statement_commit_text_is_sequence : Prop :=
  ∀ (V : Vocab) (ns : List (Str × Str)) (hook : Bool) (ws : List Write),
    VocabOK V ns → (∀ w ∈ ws, w.textual = true) →
    ∃ txts, queueTexts V ns hook ws = some txts ∧ txts.length = (ws.flatMap (queuedBy hook)).length ∧
      (txts ≠ [] → readRequest (joinEdits txts) =
        some ((ws.flatMap (queuedBy hook)).flatten.map (UOp.toText V)))

/-- the joiner and comments: after an edit that ENDS IN A COMMENT the `;` of `"\n;\n"` is still seen
    (the newline ends the comment); with a joiner `" ;\n"` it would be swallowed. -/
def Statement_separator_survives_trailing_comment : Prop :=
  ∀ (cmt r : Str), (∀ c ∈ cmt, c ≠ '\n' ∧ c ≠ '\r') →
    sym ';' ('#' :: (cmt ++ '\n' :: ';' :: '\n' :: r)) = some ('\n' :: r) ∧
    sym ';' ('#' :: (cmt ++ ' ' :: ';' :: '\n' :: r)) = sym ';' r

/-- The queries: the SELECT / ASK text of `triples` / membership (without LIMIT / OFFSET / ORDER BY)
    reads back as its pattern — variables exactly at the unbound positions —, and so do the texts
    of `__len__` and `contexts`. -/
def Statement_query_text_means_pattern : Prop :=
  (∀ (p : TPatT) (txt : Str), PatOK p = true → wTriplesQuery p none none none = some txt →
      readQuery txt = some (.triples p none none none)) ∧
  readQuery lenQueryText = some .len ∧
  (∀ txt, wContexts none = some txt → readQuery txt = some (.contexts none)) ∧
  (∀ (p : TPatT) (txt : Str), PatOK p = true → wContexts (some p) = some txt →
      readQuery txt = some (.contexts (some p)))

theorem term_text_roundtrip : Statement_term_text_roundtrip :=
  fun t ht => ⟨termT t, wTerm_eq ht, fun r => readNode_term t r ht⟩

theorem request_text_means_op : Statement_request_text_means_op := by
  intro V ns hook w es hV hw hc
  obtain ⟨txts, h1, h2⟩ := writeEdits_correct V ns hV hook w hw es hc
  exact ⟨txts, h1, h2.zip.1, fun pr hpr => readRequest_edit (h2.zip.2 pr hpr)⟩

theorem commit_text_is_sequence : Statement_commit_text_is_sequence := by
  intro V ns hook ws hV hw
  obtain ⟨txts, h1, h2⟩ := queueTexts_correct V ns hV hook ws hw
  exact ⟨txts, h1, h2.zip.1, fun hne => readRequest_edit (h2.joined hne)⟩

theorem skip_comment : ∀ (cmt r : Str), (∀ c ∈ cmt, c ≠ '\n' ∧ c ≠ '\r') → skip true (cmt ++ r) = skip true r
  | [], _, _ => rfl
  | c :: cmt, r, h => by
    have hc := h c (List.mem_cons_self ..)
    simp [skip, hc.1, hc.2, skip_comment cmt r fun x hx => h x (List.mem_cons_of_mem _ hx)]

theorem separator_survives_trailing_comment : Statement_separator_survives_trailing_comment := by
  intro cmt r h
  have hw : ∀ x, ws ('#' :: (cmt ++ x)) = skip true x := fun x => by
    simp [ws, skip, isWs, skip_comment cmt x h]
  -- what ends the comment is decided by `skip` itself: the LF does, the blank does not
  constructor
  · simp only [sym, hw]; simp [skip, isWs]
  · simp only [sym, hw]; simp [skip, ws]

theorem query_text_means_pattern : Statement_query_text_means_pattern :=
  ⟨fun p txt hok h => readQuery_triples_mods p none none none txt hok h, readQuery_len,
   fun txt h => by simp only [wContexts, Option.some.injEq] at h; rw [← h]; exact readQuery_contexts_all,
   fun p txt hok h => readQuery_contexts p txt hok h⟩

/-- a vocabulary with an IRI, a literal that needs the long form (LF, quotes, a final quote, a
    backslash), a language-tagged and a datatyped literal -/
def exV : Vocab where
  term := fun n =>
    if n = 1 then .iri "http://e/s".toList
    else if n = 2 then .lit "line1\n\"\"\" q\\ \"".toList none none
    else if n = 3 then .lit "x".toList none (some "en-GB".toList)
    else if n = 4 then .lit "1".toList (some "http://www.w3.org/2001/XMLSchema#integer".toList) none
    else .iri "http://e/p".toList
  graph := fun _ => "http://e/g".toList

example : TermOK (exV.term 1) = true ∧ TermOK (exV.term 2) = true ∧ TermOK (exV.term 3) = true ∧
    TermOK (exV.term 4) = true ∧ TermOK (exV.term 0) = true ∧ iriOK (exV.graph 0) = true := by decide +kernel

/-- what `add` writes for the long literal, and that it reads back -/
example : wTerm (exV.term 2) = some "\"\"\"line1\n\\\"\\\"\\\" q\\\\ \\\"\"\"\"".toList := by decide +kernel

example : readRequest "INSERT DATA { GRAPH <http://e/g> { <http://e/s> <http://e/p> \"\"\"line1\n\\\"\\\"\\\" q\\\\ \\\"\"\"\" . } }".toList =
    some [.insertData (some "http://e/g".toList) [(exV.term 1, exV.term 0, exV.term 2)]] := by decide +kernel

/-- the two operations of a `remove` without context, in one edit string -/
example : (wRemoveAll (some (exV.term 1), none, none)).bind readRequest =
    some [.deleteWhere none (some (exV.term 1), none, none), .deleteNamed (some (exV.term 1), none, none)] := by decide +kernel

/-- reader and joiner: an edit ending in a comment, then `"\n;\n"`, then the next edit -/
example : readRequest "DROP DEFAULT # gone\n;\nCREATE GRAPH <http://e/g>".toList =
    some [.dropGraph none, .createGraph "http://e/g".toList] := by decide +kernel

/-- … and what the joiner `" ;\n"` would do to it: the second operation is lost in the comment -/
example : readRequest "DROP DEFAULT # gone ;\nCREATE GRAPH <http://e/g>".toList = none := by decide +kernel

example : readQuery "SELECT ?s ?o  { ?s <http://e/p> ?o }".toList =
    some (.triples (none, some (exV.term 0), none) none none none) := by decide +kernel

end RV.C20

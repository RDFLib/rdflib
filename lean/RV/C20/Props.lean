import RV.C20.Refine
import RV.C20.Pattern
import RV.C20.Reads
/-
  C20 — property theorems of the state machine (each statement as a `def … : Prop`).

  "A graph backed by a SPARQL endpoint mirrors and updates the endpoint faithfully."

  Proved here, for EVERY history: the queue / visibility state machine of `SPARQLUpdateStore`
  and the row → triple decoding of `SPARQLStore.triples`, about the model of RV/C20/Model.lean,
  against the specification of RV/C20/Spec.lean.  That the request TEXT the store generates denotes
  the `UOp` / pattern of the model, and the assembly of the HTTP request, are the subject of
  TextProps, ConnProps and EndToEnd; HTTP itself is not modelled.
  The quantifier is "terms of every kind except unsupported blank nodes": `Op.plain`.
-/
namespace RV.C20

/-- autocommit: after ANY history the endpoint holds exactly what a local dataset holds after
    the same writes (add, addN, remove with wildcards, remove_graph, Dataset.graph, update), and
    nothing is left in the queue. -/
def Statement_remote_mirrors : Prop :=
  ∀ (d0 : DS) (dirty hook : Bool) (ops : List Op), (∀ op ∈ ops, op.plain = true) →
    DS.Equiv ((Remote.init d0 true dirty hook false).run ops).ep (Spec.runWrites d0 (writesOf ops)) ∧
    ((Remote.init d0 true dirty hook false).run ops).edits = []

/-- does this operation make queued writes visible (autocommit off)? -/
def flushes (r : Remote) : Op → Bool
  | .commit => true
  | .read _ => !r.dirtyReads
  | _ => false

/-- autocommit off.  (1) one step changes the endpoint only if it is `commit` or a read while
    dirty reads are not allowed, and then the endpoint becomes the result of executing the
    queued requests IN ORDER and the queue is empty;  (2) for every history the endpoint is
    the `visible` dataset of the visibility specification and the queued requests, executed
    in order, mean exactly the pending writes applied in order to a local dataset. -/
def Statement_deferred_visibility : Prop :=
  (∀ (r : Remote) (op : Op), r.autocommit = false → r.readOnly = false →
      (flushes r op = false → (r.step op).1.ep = r.ep) ∧
      (flushes r op = true → (r.step op).1.ep = applyEdits r.ep r.edits ∧ (r.step op).1.edits = [])) ∧
  (∀ (d0 : DS) (dirty hook : Bool) (ops : List Op), (∀ op ∈ ops, op.plain = true) →
      let r := (Remote.init d0 false dirty hook false).run ops
      let s := SpecD.run false dirty ⟨d0, []⟩ ops
      DS.Equiv r.ep s.visible ∧
      DS.Equiv (applyEdits r.ep r.edits) (Spec.runWrites s.visible s.pending))

/-- `rollback()` discards exactly the uncommitted writes: whatever was written since the last
    commit (supported or refused), after `rollback` the client is in the very state it had
    right after that commit — the committed writes stay, the queue is empty, and a further
    `commit` sends nothing. -/
def Statement_rollback_discards_exactly_uncommitted : Prop :=
  ∀ (r : Remote) (ws : List Write), r.autocommit = false → r.readOnly = false →
    r.run (.commit :: ws.map Op.write ++ [.rollback]) = r.run [.commit] ∧
    (r.run (.commit :: ws.map Op.write ++ [.rollback, .commit])).ep = r.commit.ep

/-- with dirty reads a read neither sends the queue nor sees it: the answer is computed from the
    endpoint's content alone and the client state is unchanged. -/
def Statement_dirty_read_sees_old : Prop :=
  ∀ (r : Remote) (rd : Read), r.autocommit = false → r.dirtyReads = true → r.readOnly = false →
    r.step (.read rd) = (r, readOut r.hook r.ep rd)

/-- what `commit()` sends is the whole queue — every request string queued by every write since
    the last boundary, in call order and WITH multiplicity (a write issued twice is sent twice):
    after writes `ws` the queue is the old queue followed by `queuedBy` of each write in order,
    and `commit` executes exactly that sequence on the endpoint and empties the queue. -/
def Statement_commit_sends_whole_queue_in_order : Prop :=
  ∀ (r : Remote) (ws : List Write), r.autocommit = false → r.readOnly = false →
    (r.run (ws.map Op.write)).edits = r.edits ++ ws.flatMap (queuedBy r.hook) ∧
    ((r.run (ws.map Op.write)).step .commit).1.ep =
      applyEdits r.ep (r.edits ++ ws.flatMap (queuedBy r.hook)) ∧
    ((r.run (ws.map Op.write)).step .commit).1.edits = []

def Statement_commit_idempotent : Prop := ∀ (r : Remote), r.commit.commit = r.commit

/-- a write that `node_to_sparql` refuses (a blank node without the hook) leaves endpoint and
    queue untouched -/
def Statement_refused_write_no_effect : Prop :=
  ∀ (r : Remote) (w : Write), compileWrite r.hook w = none → (r.step (.write w)).1 = r

/-- the query generated for a pattern and the decoding of its answer: the selected variables
    are exactly the unbound positions (none twice); the query is an ASK exactly when nothing is
    unbound; a solution row rebuilds the triple it came from (the `urn:undef:` fallback is never
    taken); and the triples yielded are exactly the matching triples of the addressed graph —
    for a fully bound pattern: the pattern itself iff it is in the graph. -/
def Statement_pattern_query_shape : Prop :=
  (∀ (p : TPat) (x : Pos), x ∈ selVars p ↔ p.at x = none) ∧
  (∀ (p : TPat), (selVars p).Nodup) ∧
  (∀ (p : TPat), selVars p = [] ↔ (unwrapPat p).isSome = true) ∧
  (∀ (p : TPat) (t : Triple), p.matches t = true → rebuild p (project p t) = some t) ∧
  (∀ (d : DS) (g : GName) (p : TPat) (t : Triple),
      t ∈ triplesOut d g p p ↔ ((t, g) ∈ d.quads ∧ p.matches t = true))

/-- reads return exactly what the endpoint's dataset contains, after ANY history, for every
    setting of autocommit, dirty reads and the hook (a writable store): the endpoint never holds a quad twice, so `len` (the number of rows of the
    addressed graph) counts every triple of that graph once; `triples` yields exactly the matching
    triples of the addressed graph; membership answers whether there is one; `contexts(t)` lists
    exactly the recorded named graphs holding `t`, `contexts()` all recorded named graphs. -/
def Statement_reads_exact : Prop :=
  ∀ (d0 : DS) (ac dirty hook : Bool) (ops : List Op), d0.quads.Nodup →
    let d := ((Remote.init d0 ac dirty hook false).run ops).ep
    d.quads.Nodup ∧
    (∀ g, readOut hook d (.len g) = .num (graphTriples d g).length ∧ (graphTriples d g).Nodup ∧
        ∀ t, t ∈ graphTriples d g ↔ (t, g) ∈ d.quads) ∧
    (∀ g p, p.plain = true → ∃ ts, readOut hook d (.triples p g) = .triples ts ∧
        ∀ t, t ∈ ts ↔ ((t, g) ∈ d.quads ∧ p.matches t = true)) ∧
    (∀ g p, p.plain = true → ∃ b, readOut hook d (.contains p g) = .bool b ∧
        (b = true ↔ ∃ t, (t, g) ∈ d.quads ∧ p.matches t = true)) ∧
    (∀ t, t.plain = true → ∃ ns, readOut hook d (.contexts (some t)) = .names ns ∧
        ∀ n, n ∈ ns ↔ (n ∈ d.graphs ∧ (t, some n) ∈ d.quads)) ∧
    readOut hook d (.contexts none) = .names d.graphs

/-- NO IMPLICIT FLUSH: with autocommit off a transaction of ANY length (1 000, 1 024, 4 096 … writes) stays queued —
    the endpoint is untouched until `commit()` / a non-dirty read, and `rollback()` then discards all of it.  (The store
    has no batch size: `_transaction()` only returns the list.) -/
def Statement_long_transaction_stays_queued : Prop :=
  ∀ (r : Remote) (ws : List Write), r.autocommit = false → r.readOnly = false →
    (r.run (ws.map Op.write)).ep = r.ep ∧
    (r.run (ws.map Op.write)).edits.length = r.edits.length + (ws.flatMap (queuedBy r.hook)).length ∧
    (r.run (ws.map Op.write ++ [.rollback])).ep = r.ep ∧ (r.run (ws.map Op.write ++ [.rollback])).edits = []

/-- `add_graph` keeps NO memory of graphs it created: whatever happened before (the creation rolled back, the graph
    dropped by a caller's `DROP GRAPH`, by another client …) the call queues `CREATE GRAPH <g>` again, and after
    create / rollback / create / commit the (empty) graph exists at the endpoint. -/
def Statement_add_graph_resends_create : Prop :=
  (∀ (hook : Bool) (n : Nat), compileWrite hook (.addGraph n) = some [[.createGraph n]]) ∧
  (∀ (r : Remote) (n : Nat), r.autocommit = false → r.readOnly = false →
    n ∈ (r.run [.commit, .write (.addGraph n), .rollback, .write (.addGraph n), .commit]).ep.graphs) ∧
  (∀ (r : Remote) (n : Nat), r.autocommit = false → r.readOnly = false →
    n ∈ (r.run [.write (.addGraph n), .write (.removeGraph (some n)), .write (.addGraph n), .commit]).ep.graphs)

theorem remote_mirrors : Statement_remote_mirrors := by
  intro d0 dirty hook ops hp
  have h := sim_run ops _ _ (sim_init d0 true dirty hook) rfl hp
  refine ⟨?_, run_autocommit_edits ops _ rfl rfl⟩
  have hv := h.vis
  simp only [Remote.init] at hv
  rw [specD_autocommit] at hv
  exact hv

theorem deferred_visibility : Statement_deferred_visibility := by
  constructor
  · intro r op hac hro
    rw [step_queue r hac hro]
    cases op with
    | read rd => cases hd : r.dirtyReads <;> simp [flushes, hd]
    | _ => simp [flushes]
  · intro d0 dirty hook ops hp
    have h := sim_run ops _ _ (sim_init d0 false dirty hook) rfl hp
    exact ⟨h.vis, h.pend _ _ h.vis⟩

theorem rollback_discards_exactly_uncommitted : Statement_rollback_discards_exactly_uncommitted := by
  intro r ws hac hro
  have hc : ∀ ops, r.run (.commit :: ops) = r.commit.run ops := fun ops => by
    rw [run_cons, step_queue r hac hro, commit_eq]
  have key : r.commit.run (ws.map Op.write ++ [.rollback]) = r.commit := by
    rw [run_append, run_writes_edits ws _ (by simp [hac]) (by simp [hro])]
    simp [Remote.run, step_queue, hac, hro, commit_eq]
  constructor
  · rw [List.cons_append, hc, key, hc]; rfl
  · rw [show Op.commit :: ws.map Op.write ++ [.rollback, .commit] = .commit :: ((ws.map Op.write ++ [.rollback]) ++ [.commit]) by simp,
      hc, run_append, key]
    simp [Remote.run, step_queue, hac, hro]

theorem dirty_read_sees_old : Statement_dirty_read_sees_old := by
  intro r rd hac hd hro
  simp [Remote.step, Remote.preRead, hac, hd, hro]

theorem commit_sends_whole_queue_in_order : Statement_commit_sends_whole_queue_in_order := by
  intro r ws hac hro
  rw [run_writes_edits ws r hac hro]
  simp [step_queue, hac, hro]

/-- why multiplicity matters: add / remove / add of one triple queues the same request text twice;
    sending each distinct text once (first occurrence kept) loses the second add -/
theorem dedup_would_lose_a_write :
    let es := [.add (1, 10, 20) none, .remove (some 1, some 10, some 20) (.one none),
               .add (1, 10, 20) none].flatMap (queuedBy false)
    ((1, 10, 20), none) ∈ (applyEdits ⟨[], []⟩ es).quads ∧
    ((1, 10, 20), none) ∉ (applyEdits ⟨[], []⟩ es.eraseDups).quads := by decide

theorem commit_idempotent : Statement_commit_idempotent := fun r => commit_of_empty _ (commit_edits r)

theorem refused_write_no_effect : Statement_refused_write_no_effect := by
  intro r w h
  simp only [Remote.step, h]
  split <;> rfl

theorem pattern_query_shape : Statement_pattern_query_shape :=
  ⟨mem_selVars, selVars_nodup, selVars_nil_iff, rebuild_project, mem_triplesOut⟩

theorem reads_exact : Statement_reads_exact := by
  intro d0 ac dirty hook ops h0
  have hn := nodup_run ops (Remote.init d0 ac dirty hook false) h0
  exact ⟨hn, fun g => ⟨rfl, nodup_graphTriples g _ hn, mem_graphTriples _ g⟩,
    fun g p hp => triples_exact hook _ g p hp, fun g p hp => contains_exact hook _ g p hp,
    fun t ht => contexts_exact hook _ t ht, rfl⟩

theorem long_transaction_stays_queued : Statement_long_transaction_stays_queued := by
  intro r ws hac hro
  rw [run_append, run_writes_edits ws r hac hro]
  simp [Remote.run, step_queue, hac, hro]

theorem add_graph_resends_create : Statement_add_graph_resends_create := by
  refine ⟨fun _ _ => rfl, fun r n hac hro => ?_, fun r n hac hro => ?_⟩ <;>
    simp [Remote.run, step_queue, hac, hro, queuedBy, compileWrite, applyEdits_append, applyOps, UOp.apply]

/-- endpoint: one triple in the default graph, one in graph 90, an empty recorded graph 91 -/
def exD : DS := ⟨[((1, 10, 20), none), ((1, 10, 21), some 90)], [90, 91]⟩

def exOps : List Op :=
  [.write (.add (2, 10, 20) (some 91)),
   .write (.addN [((3, 10, 20), some 92), ((3, 10, 21), none), ((3, 11, 21), some 92)]),
   .read (.len none),
   .write (.remove (some 1, none, none) .all),
   .write (.update (some 90) [.ins [(5, 5, 5)], .delw (none, some 10, none)]),
   .rollback,
   .write (.removeGraph (some 92)),
   .write (.add (900, 10, 20) none),      -- blank node: refused
   .commit]

/-- the same history without the blank-node write: the hypothesis of the theorems is satisfiable by a
    non-trivial history, and the theorems apply to it -/
def exPlain : List Op := exOps.filter (fun o => o.plain)

example : exPlain.length = 8 ∧ ∀ op ∈ exPlain, op.plain = true := by decide

example : DS.Equiv ((Remote.init exD true false false false).run exPlain).ep
    (Spec.runWrites exD (writesOf exPlain)) :=
  (remote_mirrors exD false false exPlain (by decide)).1

example : (writesOf exPlain).length = 5 ∧
    (Spec.runWrites exD (writesOf exPlain)).quads.length = 3 := by decide

/-- autocommit off, no dirty reads: the `len` flushes the first two writes, the rollback discards
    the next two, the commit sends the last one; the refused write changes nothing -/
example :
    ((Remote.init exD false false false false).run exOps).ep =
      ⟨[((1, 10, 20), none), ((1, 10, 21), some 90), ((2, 10, 20), some 91), ((3, 10, 21), none)],
       [90, 91]⟩ := by decide

/-- the same history with dirty reads: the `len` does not flush, so the rollback also discards
    the first two writes -/
example :
    ((Remote.init exD false true false false).run exOps).ep =
      ⟨[((1, 10, 20), none), ((1, 10, 21), some 90)], [90, 91]⟩ := by decide

/-- autocommit: everything (except the refused write) reaches the endpoint at once -/
example :
    ((Remote.init exD true false false false).run exOps).ep =
      ⟨[((2, 10, 20), some 91), ((3, 10, 21), none), ((5, 5, 5), some 90)], [90, 91]⟩ := by decide

/-- queue contents before a commit: `addN` queues one request per graph, `remove` without a
    context one request with two operations -/
example :
    ((Remote.init exD false true false false).run (exOps.take 4)).edits =
      [[.insertData (some 91) [(2, 10, 20)]],
       [.insertData (some 92) [(3, 10, 20), (3, 11, 21)]], [.insertData none [(3, 10, 21)]],
       [.deleteWhere none (some 1, none, none), .deleteNamed (some 1, none, none)]] := by decide

/-- reads: pattern shapes, ASK-like membership, contexts -/
example : readOut false exD (.triples (some 1, none, none) (some 90)) = .triples [(1, 10, 21)] := by decide
example : readOut false exD (.triples (some 1, some 10, some 20) none) = .triples [(1, 10, 20)] := by decide
example : readOut false exD (.triples (some 1, some 10, some 20) (some 90)) = .triples [] := by decide
example : readOut false exD (.contexts (some (1, 10, 21))) = .names [90] := by decide
example : readOut false exD (.triples (some 900, none, none) none) = .err .refused := by decide
example : selVars (none, some 10, none) = [.s, .o] ∧ project (none, some 10, none) (1, 10, 21) = [1, 21] := by
  decide

end RV.C20

import RV.C20.Spec
/-
  C20 — the pattern → SELECT/ASK → rows → triples round trip of `SPARQLStore.triples`.
-/
namespace RV.C20

def TPat.at (p : TPat) : Pos → Option Term
  | .s => p.1
  | .p => p.2.1
  | .o => p.2.2

theorem mem_selVars (p : TPat) (x : Pos) : x ∈ selVars p ↔ p.at x = none := by
  obtain ⟨a, b, c⟩ := p
  cases a <;> cases b <;> cases c <;> cases x <;> simp [selVars, TPat.at]

theorem selVars_nodup (p : TPat) : (selVars p).Nodup := by
  obtain ⟨a, b, c⟩ := p
  cases a <;> cases b <;> cases c <;> simp [selVars]

theorem selVars_nil_iff (p : TPat) : selVars p = [] ↔ (unwrapPat p).isSome = true := by
  obtain ⟨a, b, c⟩ := p
  cases a <;> cases b <;> cases c <;> simp [selVars, unwrapPat]

theorem rebuild_project (p : TPat) (t : Triple) (h : p.matches t = true) :
    rebuild p (project p t) = some t := by
  obtain ⟨a, b, c⟩ := p
  obtain ⟨x, y, z⟩ := t
  cases a <;> cases b <;> cases c <;>
    simp_all [rebuild, project, selVars, takePos, Triple.at, TPat.matches, matchPos]

theorem matches_full (a b c : Term) (t : Triple) :
    TPat.matches (some a, some b, some c) t = true ↔ t = (a, b, c) := by
  obtain ⟨x, y, z⟩ := t
  simp [TPat.matches, matchPos, and_assoc]

theorem unwrapPat_some {p : TPat} {t : Triple} (h : unwrapPat p = some t) :
    p = (some t.1, some t.2.1, some t.2.2) := by
  match p, h with
  | (some a, some b, some c), h => obtain rfl := Option.some.inj h; rfl

theorem mem_graphTriples (d : DS) (g : GName) (t : Triple) :
    t ∈ graphTriples d g ↔ (t, g) ∈ d.quads := by
  simp only [graphTriples, List.mem_map, List.mem_filter, beq_iff_eq]
  constructor
  · rintro ⟨⟨qt, qg⟩, ⟨hq, hg⟩, rfl⟩
    simp only at hg
    subst hg
    exact hq
  · intro h
    exact ⟨(t, g), ⟨h, rfl⟩, rfl⟩

theorem answerAsk_iff (d : DS) (g : GName) (p : TPat) :
    answerAsk d g p = true ↔ ∃ t, (t, g) ∈ d.quads ∧ p.matches t = true := by
  simp only [answerAsk, List.any_eq_true, mem_graphTriples]

/-- `SPARQLStore.triples` (on supported terms, where the pattern sent is the pattern given) yields
    exactly the matching triples of the addressed graph -/
theorem mem_triplesOut (d : DS) (g : GName) (p : TPat) (t : Triple) :
    t ∈ triplesOut d g p p ↔ ((t, g) ∈ d.quads ∧ p.matches t = true) := by
  unfold triplesOut
  cases hu : unwrapPat p with
  | some t0 =>
    -- fully bound: the ASK answers whether the one triple the pattern matches is there
    obtain rfl := unwrapPat_some hu
    simp only [matches_full]
    by_cases h : answerAsk d g (some t0.1, some t0.2.1, some t0.2.2) = true
    · obtain ⟨t', ht', hm⟩ := (answerAsk_iff ..).mp h
      obtain rfl := (matches_full ..).mp hm
      simp only [h, if_true, List.mem_singleton]
      exact ⟨fun e => ⟨e ▸ ht', e⟩, fun e => e.2⟩
    · simp only [h, Bool.false_eq_true, if_false, List.not_mem_nil, false_iff]
      exact fun ⟨hq, e⟩ => h ((answerAsk_iff ..).mpr ⟨t, hq, (matches_full ..).mpr e⟩)
  | none =>
    simp only [answerSelect, List.mem_filterMap, List.mem_map, List.mem_filter]
    constructor
    · rintro ⟨row, ⟨t', ⟨ht', hm⟩, rfl⟩, hr⟩
      rw [rebuild_project p t' hm] at hr
      obtain ⟨rfl⟩ := hr
      exact ⟨(mem_graphTriples d g _).mp ht', hm⟩
    · rintro ⟨hq, hm⟩
      exact ⟨project p t, ⟨t, ⟨(mem_graphTriples d g t).mpr hq, hm⟩, rfl⟩, rebuild_project p t hm⟩

end RV.C20

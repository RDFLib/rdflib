import RV.C20.TextTerm
/-
  C20 text layer: blocks.  The triples of `add` / `addN` and the pattern of `remove`, inside
  `{ … }`, `{ GRAPH <g> { … } }` or `{ GRAPH ?v { … } }` (`blockT`), read back as data (`readQuadData`)
  and as a template / WHERE pattern (`readQuadPat`).
-/
namespace RV.C20

/-- head of a written pattern position: `<`, `"` or `?` -/
def isNodeStart (c : Char) : Bool := c = '<' || c = '"' || c = '?'

theorem patT_head (upper : Bool) (p : TPatT) : ∃ c r, patT upper p = c :: r ∧ isNodeStart c = true := by
  cases h : p.1 with
  | none => exact ⟨'?', _, by rw [patT, h]; rfl, by decide⟩
  | some t =>
    obtain ⟨c, r, h1, h2⟩ := termT_head t
    exact ⟨c, _, by rw [patT, h, nodeT, h1]; rfl, by rcases h2 with rfl | rfl <;> decide⟩

theorem isNodeStart_tok {c : Char} (h : isNodeStart c = true) : tokStart c = true ∧ c ≠ '}' := by
  simp only [isNodeStart, Bool.or_eq_true, decide_eq_true_eq] at h
  rcases h with (rfl | rfl) | rfl <;> exact ⟨rfl, by decide⟩

theorem kw_nodeStart_none {k : String} (hk : (kwMiss k '<' && kwMiss k '"' && kwMiss k '?') = true) {c : Char}
    (h : isNodeStart c = true) (r : Str) : kw k (' ' :: c :: r) = none := by
  simp only [Bool.and_eq_true] at hk
  simp only [isNodeStart, Bool.or_eq_true, decide_eq_true_eq] at h
  rw [kw_sp]
  rcases h with (rfl | rfl) | rfl
  · exact kw_miss _ _ hk.1.1 r
  · exact kw_miss _ _ hk.1.2 r
  · exact kw_miss _ _ hk.2 r

def TripleOK (t : TTriple) : Bool := TermOK t.1 && TermOK t.2.1 && TermOK t.2.2

/-- `"%s %s %s ."` of a pattern -/
def patDotT (p : TPatT) : Str := patT true p ++ [' ', '.']

theorem wPatDot_eq {p : TPatT} (hp : PatOK p = true) : wPatDot p = some (patDotT p) := by
  rw [wPatDot, wPatBody_upper hp]; rfl

def tripleT (t : TTriple) : Str := patDotT (some t.1, some t.2.1, some t.2.2)

theorem tripleOK_pat {t : TTriple} (h : TripleOK t = true) : PatOK (some t.1, some t.2.1, some t.2.2) = true := h

theorem wTripleDot_eq {t : TTriple} (h : TripleOK t = true) : wTripleDot t = some (tripleT t) :=
  wPatDot_eq (tripleOK_pat h)

theorem optAll_map_some {α : Type} {f : α → Option Str} {g : α → Str} : ∀ {xs : List α}, (∀ x ∈ xs, f x = some (g x)) →
    optAll (xs.map f) = some (xs.map g)
  | [], _ => rfl
  | x :: xs, h => by
    simp [optAll, h x (List.mem_cons_self ..), optAll_map_some fun y hy => h y (List.mem_cons_of_mem _ hy)]

theorem wTripleDots_eq {ts : List TTriple} (h : ∀ t ∈ ts, TripleOK t = true) :
    optAll (ts.map wTripleDot) = some (ts.map tripleT) := optAll_map_some fun t ht => wTripleDot_eq (h t ht)

theorem readTerm_of_readNode {s r : Str} {t : TTerm} (h : readNode s = some (.term t, r)) :
    readTerm s = some (t, r) := by simp [readTerm, h]

theorem readTerm_ws (c : Char) (h : isWs c = true) (s : Str) : readTerm (c :: s) = readTerm s := by
  simp [readTerm, readNode_ws h]

theorem tripleT_head (t : TTriple) : ∃ c r, tripleT t = c :: r ∧ (c = '<' ∨ c = '"') := by
  obtain ⟨c, r, h1, h2⟩ := termT_head t.1
  exact ⟨c, _, by rw [tripleT, patDotT, patT, nodeT, h1]; rfl, h2⟩

theorem startsTerm_head {c : Char} (r : Str) (h : c = '<' ∨ c = '"') : startsTerm (c :: r) = true := by
  rcases h with rfl | rfl
  · simp [startsTerm, ws_lt]
  · simp [startsTerm, ws_dq]

theorem startsTerm_tripleT (t : TTriple) (rest : Str) : startsTerm (tripleT t ++ rest) = true := by
  obtain ⟨c, r, h1, h2⟩ := tripleT_head t
  rw [h1]; exact startsTerm_head _ h2

theorem readTriples_step (t : TTriple) (rest : Str) (hok : TripleOK t = true) (n : Nat) :
    readTriples (n + 1) (tripleT t ++ rest) = (readTriples n rest).map fun x => (t :: x.1, x.2) := by
  have hst := startsTerm_tripleT t rest
  obtain ⟨r1, r2, e1, e2, e3⟩ := readNodes_patT true _ ('.' :: rest) (tripleOK_pat hok)
  have e : tripleT t ++ rest = patT true (some t.1, some t.2.1, some t.2.2) ++ ' ' :: '.' :: rest := by simp [tripleT, patDotT]
  simp only [readTriples, hst, if_true]
  simp only [e, readTerm_of_readNode e1, readTerm_of_readNode e2, readTerm_of_readNode e3, optDot_dot]
  cases readTriples n rest <;> rfl

theorem startsTerm_ws {c : Char} (h : isWs c = true) (s : Str) : startsTerm (c :: s) = startsTerm s := by
  simp [startsTerm, ws_isWs h]

theorem readTriples_ws (c : Char) (hc : isWs c = true) (n : Nat) (s : Str) (h : startsTerm s = true) :
    readTriples n (c :: s) = readTriples n s := by
  cases n with
  | zero => rfl
  | succ n => simp only [readTriples, startsTerm_ws hc, h, if_true, readTerm_ws c hc]

/-- the lines of `addN` -/
def triplesT (ts : List TTriple) : Str := joinWith ['\n'] (ts.map tripleT)

theorem triplesT_single (t : TTriple) : triplesT [t] = tripleT t := rfl

theorem triplesT_cons2 (t t2 : TTriple) (ts : List TTriple) (rest : Str) :
    triplesT (t :: t2 :: ts) ++ rest = tripleT t ++ '\n' :: (triplesT (t2 :: ts) ++ rest) := by
  simp [triplesT, joinWith]

theorem triplesT_head (ts : List TTriple) (hne : ts ≠ []) : ∃ c r, triplesT ts = c :: r ∧ (c = '<' ∨ c = '"') := by
  match ts, hne with
  | [t], _ => exact tripleT_head t
  | t :: t2 :: ts, _ =>
    obtain ⟨c, r, h1, h2⟩ := tripleT_head t
    exact ⟨c, _, by rw [← List.append_nil (triplesT _), triplesT_cons2, h1]; rfl, h2⟩

theorem startsTerm_triplesT (ts : List TTriple) (hne : ts ≠ []) (rest : Str) : startsTerm (triplesT ts ++ rest) = true := by
  obtain ⟨c, r, h1, h2⟩ := triplesT_head ts hne
  rw [h1]; exact startsTerm_head _ h2

/- fuel: one unit per triple and one for the final `startsTerm` test -/
theorem readTriples_write : ∀ (ts : List TTriple) (rest : Str) (k : Nat),
    (∀ t ∈ ts, TripleOK t = true) → startsTerm rest = false →
    readTriples (ts.length + 1 + k) (triplesT ts ++ rest) = some (ts, rest)
  | [], rest, k, _, hr => by
    rw [show ([] : List TTriple).length + 1 + k = k + 1 by simp; omega]
    simp [triplesT, joinWith, readTriples, hr]
  | [t], rest, k, hok, hr => by
    have ih := readTriples_write [] rest k (by simp) hr
    simp only [triplesT, List.map_nil, joinWith, List.nil_append] at ih
    rw [show [t].length + 1 + k = (([] : List TTriple).length + 1 + k) + 1 by simp; omega]
    simp only [triplesT, List.map_cons, List.map_nil, joinWith]
    rw [readTriples_step t rest (hok t (by simp)), ih]; rfl
  | t :: t2 :: ts, rest, k, hok, hr => by
    have hoks : ∀ t' ∈ t2 :: ts, TripleOK t' = true := fun t' h => hok t' (List.mem_cons_of_mem _ h)
    rw [triplesT_cons2, show (t :: t2 :: ts).length + 1 + k = ((t2 :: ts).length + 1 + k) + 1 by simp; omega,
      readTriples_step t _ (hok t (by simp)),
      readTriples_ws '\n' rfl _ _ (startsTerm_triplesT _ (by simp) _), readTriples_write (t2 :: ts) rest k hoks hr]
    rfl

/-- `{ X }`, `{ GRAPH <g> { X } }` or `{ GRAPH ?v { X } }`, and what follows it -/
def blockT : GSel → Str → Str → Str
  | .dflt, X, k => '{' :: ' ' :: (X ++ ' ' :: '}' :: k)
  | .named g, X, k =>
    '{' :: ' ' :: 'G' :: 'R' :: 'A' :: 'P' :: 'H' :: ' ' :: '<' :: (g ++ '>' :: ' ' :: '{' :: ' ' :: (X ++ ' ' :: '}' :: ' ' :: '}' :: k))
  | .anyNamed v, X, k =>
    '{' :: ' ' :: 'G' :: 'R' :: 'A' :: 'P' :: 'H' :: ' ' :: '?' :: (v ++ ' ' :: '{' :: ' ' :: (X ++ ' ' :: '}' :: ' ' :: '}' :: k))

theorem blockT_append (sel : GSel) (X k r : Str) : blockT sel X k ++ r = blockT sel X (k ++ r) := by
  cases sel <;> simp [blockT]

theorem kw_block_none {k : String} (h : kwMiss k '{' = true) (sel : GSel) (X r : Str) :
    kw k (' ' :: blockT sel X r) = none := by
  rw [kw_sp]; cases sel <;> exact kw_miss _ _ h _

def gsel : Option Str → GSel
  | none => .dflt
  | some g => .named g

/-- which blocks the writers can spell: `<g>` over the IRIREF alphabet, the variable `?G` -/
def SelOK : GSel → Bool
  | .dflt => true
  | .named g => iriOK g
  | .anyNamed v => v = ['G']

def GraphOK (g : Option Str) : Bool := SelOK (gsel g)

theorem readTriples_block (ts : List TTriple) (tail : Str) (k : Nat) (hne : ts ≠ [])
    (hok : ∀ t ∈ ts, TripleOK t = true) :
    readTriples (ts.length + 1 + k) (' ' :: (triplesT ts ++ ' ' :: '}' :: tail)) =
      some (ts, ' ' :: '}' :: tail) := by
  have hrest : startsTerm (' ' :: '}' :: tail) = false := by
    simp [startsTerm, ws_sp, ws_cons '}' tail rfl]
  rw [readTriples_ws ' ' rfl _ _ (startsTerm_triplesT ts hne _)]
  exact readTriples_write ts _ k hok hrest

theorem readNode_iri (g r : Str) (hg : iriOK g = true) :
    readNode (' ' :: '<' :: (g ++ '>' :: ' ' :: r)) = some (.term (.iri g), ' ' :: r) := by
  rw [readNode_sp]
  simpa [termT] using readNode_term (.iri g) r hg

theorem readQuadData_block (g : Option Str) (ts : List TTriple) (tail : Str) (k : Nat) (hne : ts ≠ [])
    (hg : GraphOK g = true) (hok : ∀ t ∈ ts, TripleOK t = true) :
    readQuadData (ts.length + 1 + k) (' ' :: blockT (gsel g) (triplesT ts) tail) = some ((g, ts), tail) := by
  cases g with
  | none =>
    obtain ⟨c0, r0, hh, hs⟩ := triplesT_head ts hne
    have hgo : readGraphOpen (' ' :: (triplesT ts ++ ' ' :: '}' :: tail)) =
        some (.dflt, ' ' :: (triplesT ts ++ ' ' :: '}' :: tail)) := by
      rw [hh]; simp only [readGraphOpen, List.cons_append, kw_nodeStart_none (k := "GRAPH") (by decide +kernel) (c := c0) (by rcases hs with rfl | rfl <;> decide)]
    simp only [gsel, blockT, readQuadData, sym_sp, sym_lbrace, hgo,
      readTriples_block ts tail k hne hok, sym_rbrace, Option.map_some]
  | some gn =>
    simp only [gsel, blockT, readQuadData, sym_sp, sym_lbrace, readGraphOpen, kw_sp, kw_GRAPH,
      readNode_iri gn _ hg, Option.map_some, readTriples_block ts _ k hne hok, closeFor,
      sym_rbrace, Option.bind_some]

theorem readQuadData_named (g : Str) (ts : List TTriple) (tts : List Str) (tail : Str) (k : Nat) (hne : ts ≠ [])
    (hg : iriOK g = true)
    (hw : optAll (ts.map wTripleDot) = some tts) (hok : ∀ t ∈ ts, TripleOK t = true) :
    readQuadData (ts.length + 1 + k)
      (' ' :: '{' :: ' ' :: 'G' :: 'R' :: 'A' :: 'P' :: 'H' :: ' ' :: '<' :: (g ++ '>' :: ' ' :: '{' :: ' ' ::
        (joinWith ['\n'] tts ++ ' ' :: '}' :: ' ' :: '}' :: tail))) =
      some ((some g, ts), tail) := by
  obtain rfl := Option.some.inj ((wTripleDots_eq hok).symm.trans hw)
  exact readQuadData_block (some g) ts tail k hne hg hok

theorem readPat_sp (s : Str) : readPat (' ' :: s) = readPat s := by simp [readPat, readNode_sp]

theorem readValues_graph (r : Str) : readValues (' ' :: 'G' :: r) = some ([], ' ' :: 'G' :: r) := by
  simp only [readValues, kw_sp, kw_miss "VALUES" 'G' (by decide +kernel)]

theorem readQuadPat_block (sel : GSel) (p : TPatT) (tail : Str) (hs : SelOK sel = true) (hok : PatOK p = true) :
    readQuadPat (' ' :: blockT sel (patDotT p) tail) = some (([], sel, nodesOf true p), tail) := by
  have hp := fun r => readPat_write true p r hok
  cases sel with
  | dflt =>
    obtain ⟨c0, r0, hh, hs⟩ := patT_head true p
    have hv : readValues (' ' :: (patT true p ++ ' ' :: '.' :: ' ' :: '}' :: tail)) =
        some ([], ' ' :: (patT true p ++ ' ' :: '.' :: ' ' :: '}' :: tail)) := by
      rw [hh]; simp only [readValues, List.cons_append, kw_nodeStart_none (k := "VALUES") (by decide +kernel) hs]
    have hg : readGraphOpen (' ' :: (patT true p ++ ' ' :: '.' :: ' ' :: '}' :: tail)) =
        some (.dflt, ' ' :: (patT true p ++ ' ' :: '.' :: ' ' :: '}' :: tail)) := by
      rw [hh]; simp only [readGraphOpen, List.cons_append, kw_nodeStart_none (k := "GRAPH") (by decide +kernel) hs]
    simp only [blockT, patDotT, List.append_assoc, List.cons_append, List.nil_append, readQuadPat, sym_sp,
      sym_lbrace, hv, hg, readPat_sp, hp, closeFor,
      sym_rbrace, Option.map_some]
  | named g =>
    simp only [blockT, patDotT, List.append_assoc, List.cons_append, List.nil_append, readQuadPat, sym_sp,
      sym_lbrace, readValues_graph, readGraphOpen, kw_sp, kw_GRAPH, readNode_iri g _ hs,
      Option.map_some, readPat_sp, hp, closeFor, sym_rbrace, Option.bind_some]
  | anyNamed v =>
    have hv : v = ['G'] := by simpa [SelOK] using hs
    subst hv
    have hn : ∀ r, readNode (' ' :: '?' :: 'G' :: ' ' :: r) = some (.var ['G'], ' ' :: r) := by
      intro r; rw [readNode_sp]; exact readNode_var1 'G' r (by decide)
    simp only [blockT, patDotT, List.append_assoc, List.cons_append, List.nil_append, readQuadPat, sym_sp,
      sym_lbrace, readValues_graph, readGraphOpen, kw_sp, kw_GRAPH, hn,
      Option.map_some, readPat_sp, hp, closeFor, sym_rbrace, Option.bind_some]

end RV.C20

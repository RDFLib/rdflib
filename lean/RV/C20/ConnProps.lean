import RV.C20.ConnLemmas
/-
  C20 — transport theorems: the HTTP request `SPARQLConnector.query` / `.update` assembles, read by a SPARQL 1.1
  Protocol server (`serverRead`, the specification), is the operation the store asked for.
-/
namespace RV.C20

def viaOf : CMethod → Via
  | .GET => .get
  | .POST => .direct
  | .POST_FORM => .form

/-- the parameters a query request carries besides its text: the caller's `params=` updated with the graph argument;
    where the text itself travels as the parameter `query` (GET, POST_FORM) a caller's own `query` entry is replaced by it -/
def queryParams (c : Conn) (dg : DG) : List (Str × Str) :=
  match c.method with
  | .POST => dupdate c.params (dgParams dg)
  | _ => without sQuery (dupdate c.params (dgParams dg))

/-- hypotheses on the configuration: endpoint URLs without `?` (the code appends `"?" + urlencode(…)` blindly);
    with POST_FORM the caller's keyword arguments neither set a Content-Type (urllib then sends the form default)
    nor use the protocol's parameter name `update` -/
structure ConnOK (c : Conn) : Prop where
  qep : c.queryEndpoint.contains '?' = false
  uep : c.updateEndpoint.contains '?' = false
  form : c.method = .POST_FORM → dget c.headers sContentType = none ∧ dget c.params sUpdate = none

def Statement_request_assembly_means_op : Prop :=
  -- (1) queries: for every method, text (any characters), graph argument and caller params / headers
  (∀ (c : Conn) (q : Str) (dg : DG), ConnOK c → c.queryEndpoint ≠ [] →
    ∃ r, c.query q dg = .ok r ∧
      serverRead r = some ⟨.query, viaOf c.method, c.queryEndpoint, q, queryParams c dg, some c.accept⟩ ∧
      (∀ g, dg = .iri g → dget (queryParams c dg) sDefaultGraphUri = some g)) ∧
  -- (2) updates: always a direct POST to the UPDATE endpoint, whatever the configured method
  (∀ (c : Conn) (u : Str) (dg ng : Option Str), ConnOK c → c.updateEndpoint ≠ [] →
    ∃ r, c.update u dg ng = .ok r ∧
      serverRead r = some ⟨.update, .direct, c.updateEndpoint, u,
        dupdate c.params (optParam sUsingGraphUri dg ++ optParam sUsingNamedGraphUri ng), some c.accept⟩) ∧
  -- (3) no endpoint, no request
  (∀ (c : Conn) (q : Str) (dg : DG), c.queryEndpoint = [] → c.query q dg = .error .endpointNotSet) ∧
  (∀ (c : Conn) (u : Str) (dg ng : Option Str), c.updateEndpoint = [] → c.update u dg ng = .error .endpointNotSet)

theorem sContentType_ne_sAccept : sContentType ≠ sAccept := by decide +kernel
theorem sUpdate_ne_sQuery : sUpdate ≠ sQuery := by decide +kernel
theorem sUpdate_ne_sDgu : sUpdate ≠ sDefaultGraphUri := by decide +kernel
theorem sDgu_ne_sQuery : sDefaultGraphUri ≠ sQuery := by decide +kernel

theorem dget_without_other (d : List (Str × Str)) (k k' : Str) (h : k' ≠ k) : dget (without k d) k' = dget d k' := by
  induction d with
  | nil => rfl
  | cons kv d ih =>
    simp only [without, List.filter_cons] at ih ⊢
    by_cases e : kv.1 = k
    · subst e
      simp only [beq_self_eq_true, Bool.not_true, Bool.false_eq_true, if_false, ih, dget]
      rw [if_neg (fun e => h e.symm)]
    · have : (kv.1 == k) = false := by simpa using e
      simp only [this, Bool.not_false, if_true, dget, ih]

theorem dupdate_dset_query (d : List (Str × Str)) (dg : DG) (q : Str) :
    dupdate d (dset (dgParams dg) sQuery q) = dset (dupdate d (dgParams dg)) sQuery q := by
  cases dg <;> simp [dgParams, dset, dupdate_cons, dupdate_nil, sDgu_ne_sQuery]

theorem dget_accept_ct (h : List (Str × Str)) (a ct : Str) :
    dget (dupdate h [(sAccept, a), (sContentType, ct)]) sContentType = some ct ∧
    dget (dupdate h [(sAccept, a), (sContentType, ct)]) sAccept = some a := by
  simp only [dupdate_cons, dupdate_nil]
  exact ⟨dget_dset_same _ _ _, by rw [dget_dset_other _ _ _ _ sContentType_ne_sAccept.symm, dget_dset_same]⟩

theorem query_get (c : Conn) (q : Str) (dg : DG) (ok : ConnOK c) :
    serverRead { url := c.queryEndpoint ++ '?' :: urlencode (dupdate c.params (dset (dgParams dg) sQuery q)),
                 headers := dupdate c.headers [(sAccept, c.accept)], data := none } =
      some ⟨.query, .get, c.queryEndpoint, q, without sQuery (dupdate c.params (dgParams dg)), some c.accept⟩ := by
  simp only [serverRead, splitQ_append _ _ ok.qep, Option.getD_some, readQS_urlencode, dupdate_dset_query,
    dget_dset_same, Option.map_some, without_dset, dupdate_cons, dupdate_nil]

theorem query_post (c : Conn) (q : Str) (dg : DG) (ok : ConnOK c) :
    serverRead { url := c.queryEndpoint ++ '?' :: urlencode (dupdate c.params (dgParams dg)),
                 headers := dupdate (dupdate c.headers [(sAccept, c.accept)]) [(sContentType, sSparqlQuery)],
                 data := some (utf8 q) } =
      some ⟨.query, .direct, c.queryEndpoint, q, dupdate c.params (dgParams dg), some c.accept⟩ := by
  obtain ⟨hct, hacc⟩ : _ ∧ _ := dget_accept_ct c.headers c.accept sSparqlQuery
  change dget (dupdate (dupdate c.headers [(sAccept, c.accept)]) [(sContentType, sSparqlQuery)]) _ = _ at hct hacc
  have hm : mediaType sSparqlQuery = sSparqlQuery := by decide +kernel
  simp only [serverRead, splitQ_append _ _ ok.qep, Option.getD_some, readQS_urlencode, hct, hacc, Option.map_some, hm,
    if_true, utf8Dec_utf8]

theorem query_form (c : Conn) (q : Str) (dg : DG) (ok : ConnOK c) (hm : c.method = .POST_FORM) :
    serverRead { url := c.queryEndpoint, headers := dupdate c.headers [(sAccept, c.accept)],
                 data := some (utf8 (urlencode (dupdate c.params (dset (dgParams dg) sQuery q)))) } =
      some ⟨.query, .form, c.queryEndpoint, q, without sQuery (dupdate c.params (dgParams dg)), some c.accept⟩ := by
  obtain ⟨h1, h2⟩ := ok.form hm
  have hct : dget (dupdate c.headers [(sAccept, c.accept)]) sContentType = none := by
    rw [dupdate_cons, dupdate_nil, dget_dset_other _ _ _ _ sContentType_ne_sAccept, h1]
  have hacc : dget (dupdate c.headers [(sAccept, c.accept)]) sAccept = some c.accept := dget_dset_same _ _ _
  have hu : dget (dset (dupdate c.params (dgParams dg)) sQuery q) sUpdate = none := by
    rw [dget_dset_other _ _ _ _ sUpdate_ne_sQuery]
    cases dg <;> simp only [dgParams, dupdate_cons, dupdate_nil, h2]
    rw [dget_dset_other _ _ _ _ sUpdate_ne_sDgu, h2]
  simp only [serverRead, splitQ_noq _ ok.qep, Option.getD_none, hct, hacc, Option.map_none, utf8Dec_utf8,
    Option.bind_some, readQS_urlencode, dupdate_dset_query]
  simp only [readQS, readPairs, List.length_nil, List.nil_append, dget_dset_same, hu, without_dset]
  simp

theorem queryParams_iri (c : Conn) (g : Str) : dget (queryParams c (.iri g)) sDefaultGraphUri = some g := by
  unfold queryParams
  split
  · simp only [dgParams, dupdate_cons, dupdate_nil, dget_dset_same]
  · rw [dget_without_other _ _ _ sDgu_ne_sQuery]
    simp only [dgParams, dupdate_cons, dupdate_nil, dget_dset_same]

theorem request_assembly_means_op : Statement_request_assembly_means_op := by
  refine ⟨?_, ?_, ?_, ?_⟩
  · intro c q dg ok hne
    have he := List.isEmpty_eq_false_iff.mpr hne
    have hg : ∀ g, dg = .iri g → dget (queryParams c dg) sDefaultGraphUri = some g := fun g e => e ▸ queryParams_iri c g
    cases hm : c.method with
    | GET =>
      refine ⟨_, by simp only [Conn.query, he, hm]; rfl, ?_, hg⟩
      simpa [viaOf, queryParams, hm] using query_get c q dg ok
    | POST =>
      refine ⟨_, by simp only [Conn.query, he, hm]; rfl, ?_, hg⟩
      simpa [viaOf, queryParams, hm] using query_post c q dg ok
    | POST_FORM =>
      refine ⟨_, by simp only [Conn.query, he, hm]; rfl, ?_, hg⟩
      simpa [viaOf, queryParams, hm] using query_form c q dg ok hm
  · intro c u dg ng ok hne
    have he := List.isEmpty_eq_false_iff.mpr hne
    refine ⟨_, by simp only [Conn.update, he]; rfl, ?_⟩
    obtain ⟨hct, hacc⟩ := dget_accept_ct c.headers c.accept sSparqlUpdateCT
    have hm : mediaType sSparqlUpdateCT = sSparqlUpdate := by decide +kernel
    have hne' : sSparqlUpdate ≠ sSparqlQuery := by decide +kernel
    simp only [serverRead, splitQ_append _ _ ok.uep, Option.getD_some, readQS_urlencode, hct, hacc, Option.map_some, hm,
      if_true, utf8Dec_utf8, Option.some.injEq, hne', if_false]
  · intro c q dg h
    simp [Conn.query, h]
  · intro c u dg ng h
    simp [Conn.update, h]

/-- A store that is not context aware never names a graph; a context-aware one names exactly the graphs that are
    neither absent, nor `"__UNION__"`, nor the dataset's default-graph identifier — and then the request the connector
    assembles carries that identifier as its `default-graph-uri`, otherwise only the caller's own parameters. -/
def Statement_context_argument_reaches_endpoint : Prop :=
  (∀ a, isContextual false a = false) ∧
  (isContextual true .none = false ∧ isContextual true (.str sUnion) = false ∧
   isContextual true (.str Tables.datasetDefaultGraphId) = false ∧
   isContextual true (.graph Tables.datasetDefaultGraphId) = false) ∧
  (∀ i, i ≠ Tables.datasetDefaultGraphId → isContextual true (.graph i) = true ∧
    (i ≠ sUnion → isContextual true (.str i) = true)) ∧
  (∀ (c : Conn) (ca : Bool) (a : CtxArg) (q : Str), ConnOK c → c.queryEndpoint ≠ [] →
    ∃ r p, c.query q (storeDG ca a) = .ok r ∧ serverRead r = some p ∧ p.text = q ∧ p.path = c.queryEndpoint ∧
      (isContextual ca a = true → dget p.params sDefaultGraphUri = a.ident) ∧
      (isContextual ca a = false → p.params = queryParams c .none))

theorem context_params (c : Conn) (ca : Bool) (a : CtxArg) :
    (isContextual ca a = true → dget (queryParams c (storeDG ca a)) sDefaultGraphUri = a.ident) ∧
    (isContextual ca a = false → queryParams c (storeDG ca a) = queryParams c .none) := by
  constructor
  · intro hc
    cases a with
    | none => simp [isContextual] at hc
    | str s => simpa [storeDG, hc, CtxArg.ident] using queryParams_iri c s
    | graph i => simpa [storeDG, hc, CtxArg.ident] using queryParams_iri c i
  · intro hc
    simp only [storeDG, hc]
    cases hm : c.method <;> simp [queryParams, hm, dgParams]

theorem context_argument_reaches_endpoint : Statement_context_argument_reaches_endpoint := by
  refine ⟨?_, ?_, ?_, ?_⟩
  · intro a; simp [isContextual]
  · refine ⟨by simp [isContextual], by simp [isContextual], by simp [isContextual], by simp [isContextual]⟩
  · intro i hi
    refine ⟨by simp [isContextual, hi], fun hu => by simp [isContextual, hi, hu]⟩
  · intro c ca a q ok hne
    obtain ⟨r, h1, h2, _⟩ := request_assembly_means_op.1 c q (storeDG ca a) ok hne
    exact ⟨r, _, h1, h2, rfl, rfl, (context_params c ca a).1, (context_params c ca a).2⟩

/-! ### non-vacuity: a concrete configuration (caller params and headers, a named graph, a text with a space, `&`, `=`,
    `%`, `+`, a non-ASCII and a non-BMP character) for each method -/

def exConn (m : CMethod) : Conn :=
  { method := m, queryEndpoint := "http://h/query".toList, updateEndpoint := "http://h/update".toList,
    accept := "application/sparql-results+xml, application/rdf+xml".toList,
    params := [("x-extra".toList, "1 & 2".toList)], headers := [("X-Extra".toList, "1".toList)] }

def exText : Str := "ASK { <http://e/s> <http://e/p> \"a+b=c&d %41 é 𝄞\" }".toList

example : ConnOK (exConn .POST_FORM) := ⟨by decide +kernel, by decide +kernel, fun _ => ⟨by decide +kernel, by decide +kernel⟩⟩

example : ((exConn .GET).query exText (.iri "http://e/g?x=1&y=2#f".toList)).toOption.bind serverRead =
    some ⟨.query, .get, "http://h/query".toList, exText,
      [("x-extra".toList, "1 & 2".toList), (sDefaultGraphUri, "http://e/g?x=1&y=2#f".toList)],
      some "application/sparql-results+xml, application/rdf+xml".toList⟩ := by decide +kernel

example : ((exConn .POST_FORM).query exText .bnode).toOption.bind serverRead =
    some ⟨.query, .form, "http://h/query".toList, exText, [("x-extra".toList, "1 & 2".toList)],
      some "application/sparql-results+xml, application/rdf+xml".toList⟩ := by decide +kernel

example : ((exConn .GET).update exText none none).toOption.bind serverRead =
    some ⟨.update, .direct, "http://h/update".toList, exText, [("x-extra".toList, "1 & 2".toList)],
      some "application/sparql-results+xml, application/rdf+xml".toList⟩ := by decide +kernel

/-- the hypothesis on the endpoint URL is needed: the code appends `"?" + urlencode(…)` blindly, so an endpoint that
    already carries a query string (`…/sparql?db=x`) makes the server read `db = "x?query=…"` and no `query` at all -/
example : (({ exConn .GET with queryEndpoint := "http://h/sparql?db=x".toList }).query "ASK {}".toList .none).toOption.bind
    serverRead = none := by decide +kernel

/-! ### `response_mime_types` (tables regenerated from `rdflib.util` and the plugin registry on every run) -/

/-- `response_mime_types()` holds the SPARQL results media type of the configured `returnFormat` and not the other one
    (so a server doing content negotiation answers in the format the store will parse), and is never empty for the
    four table formats.  (`Conn.accept`, the joined header value, is a free field of the connector model.) -/
def Statement_accept_names_result_format : Prop :=
  ("application/sparql-results+xml" ∈ responseMimeTypes "xml" ∧ "application/sparql-results+json" ∉ responseMimeTypes "xml") ∧
  ("application/sparql-results+json" ∈ responseMimeTypes "json" ∧ "application/sparql-results+xml" ∉ responseMimeTypes "json") ∧
  (∀ fmt ∈ ["xml", "json", "csv", "tsv"], responseMimeTypes fmt ≠ []) ∧
  responseMimeTypes "application/rdf+xml" = ["application/rdf+xml"]

theorem accept_names_result_format : Statement_accept_names_result_format := by
  unfold Statement_accept_names_result_format
  decide +kernel

end RV.C20

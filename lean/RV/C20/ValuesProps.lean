import RV.C20.RewriteProps
import RV.C20.TextQuery
/-
  C20 — `query(initBindings=…)`: the `VALUES` block the store appends reads back as the one-row
  table, after the query it was appended to.
-/
namespace RV.C20

/-- the bindings the store can spell: variable names, terms `n3()` can write (a blank node makes
    `node_to_sparql` raise before anything is sent: it never reaches the text) -/
def BindsOK (bs : List (Str × TTerm)) : Bool :=
  bs.all (fun b => nameOK b.1 && TermOK b.2) && !bs.isEmpty && decide (bs.length ≤ 8)

theorem readTerm_close (r : Str) : readTerm (' ' :: ')' :: r) = none := by
  simp [readTerm, readNode, ws_sp, ws_cons ')' r rfl]

theorem readTerms_written : ∀ (ts : List TTerm) (n : Nat) (r : Str), ts.length ≤ n → (∀ t ∈ ts, TermOK t = true) →
    readTerms n (ts.flatMap (fun t => ' ' :: termT t) ++ ' ' :: ')' :: r) = (ts, ' ' :: ')' :: r)
  | [], n, r, _, _ => by
    cases n with
    | zero => rfl
    | succ n => simp [readTerms, readTerm_close]
  | t :: ts, n, r, h, hok => by
    obtain ⟨m, rfl⟩ : ∃ m, n = m + 1 := ⟨n - 1, by simp at h; omega⟩
    have ih := readTerms_written ts m r (by simp at h; omega) (fun x hx => hok x (List.mem_cons_of_mem _ hx))
    have hrd : ∀ rest, readTerm (' ' :: (termT t ++ ' ' :: rest)) = some (t, ' ' :: rest) := fun rest => by
      rw [readTerm_ws ' ' rfl]
      exact readTerm_of_readNode (readNode_term t rest (hok t (List.mem_cons_self ..)))
    simp only [List.flatMap_cons, List.cons_append, List.append_assoc]
    cases ts with
    | nil =>
      simp only [List.flatMap_nil, List.nil_append] at ih ⊢
      simp only [readTerms, hrd, ih]
    | cons t2 ts2 =>
      simp only [List.flatMap_cons, List.cons_append, List.append_assoc] at ih ⊢
      simp only [readTerms, hrd, ih]

/-- `\nVALUES ( ?v … )\n{ ( t … ) }\n` -/
def valuesT (bs : List (Str × TTerm)) : Str :=
  '\n' :: 'V' :: 'A' :: 'L' :: 'U' :: 'E' :: 'S' :: ' ' :: '(' ::
    ((bs.map (·.1)).flatMap (fun v => ' ' :: '?' :: v) ++ ' ' :: ')' :: '\n' :: '{' :: ' ' :: '(' ::
      ((bs.map (·.2)).flatMap (fun t => ' ' :: termT t) ++ [' ', ')', ' ', '}', '\n']))

theorem wValues_eq (bs : List (Str × TTerm)) (hne : bs ≠ []) (hok : ∀ b ∈ bs, TermOK b.2 = true) :
    wValues bs = some (valuesT bs) := by
  have htx : optAll (bs.map (fun b => wTerm b.2)) = some (bs.map (fun b => termT b.2)) :=
    optAll_map_some fun b hb => wTerm_eq (hok b hb)
  have s1 := sp_joinWith (bs.map (fun b => '?' :: b.1)) (by simpa using hne)
  have s2 := sp_joinWith (bs.map (fun b => termT b.2)) (by simpa using hne)
  simp only [List.flatMap_map] at s1 s2
  have e1 : "\nVALUES ( ".toList = '\n' :: 'V' :: 'A' :: 'L' :: 'U' :: 'E' :: 'S' :: ' ' :: '(' :: [' '] := by decide +kernel
  have e2 : " )\n{ ( ".toList = ' ' :: ')' :: '\n' :: '{' :: ' ' :: '(' :: [' '] := by decide +kernel
  have e3 : " ) }\n".toList = [' ', ')', ' ', '}', '\n'] := by decide +kernel
  simp only [wValues, htx, Option.map_some, e1, e2, e3, valuesT, List.cons_append, List.nil_append, List.append_assoc,
    List.flatMap_map]
  rw [← s1, ← s2]
  simp

theorem readTailB_valuesT (bs : List (Str × TTerm)) (hok : BindsOK bs = true) :
    readTailB (valuesT bs) = some ((none, none, none), bs) := by
  simp only [BindsOK, Bool.and_eq_true, Bool.not_eq_true', List.isEmpty_eq_false_iff, decide_eq_true_eq,
    List.all_eq_true] at hok
  obtain ⟨⟨hall, _⟩, hlen⟩ := hok
  have hrv := readVars_names (bs.map (·.1)) 8 (')' :: '\n' :: '{' :: ' ' :: '(' ::
      ((bs.map (·.2)).flatMap (fun t => ' ' :: termT t) ++ [' ', ')', ' ', '}', '\n'])) (by simpa using hlen)
      (fun v hv => by obtain ⟨b, hb, rfl⟩ := List.mem_map.mp hv; exact (hall b hb).1)
      ⟨')', _, ws_cons _ _ rfl, by decide⟩
  have hrt := readTerms_written (bs.map (·.2)) 8 [' ', '}', '\n'] (by simpa using hlen)
      (fun t ht => by obtain ⟨b, hb, rfl⟩ := List.mem_map.mp ht; exact (hall b hb).2)
  simp only [valuesT, readTailB, readModifiersR, kw_nl, kw_miss "ORDER" 'V' (by decide +kernel),
    kw_miss "LIMIT" 'V' (by decide +kernel), kw_miss "OFFSET" 'V' (by decide +kernel),
    Option.bind_some, readValues, kw_nl, kw_VALUES, sym_sp, sym_here '(' _ rfl, hrv,
    sym_here ')' _ rfl, sym_nl, sym_lbrace, hrt,
    sym_rbrace]
  simp [← List.zip_of_prod (xs := bs) rfl rfl, ws_nl]

theorem readTailB_values (bs : List (Str × TTerm)) (vtxt : Str) (hok : BindsOK bs = true)
    (hw : wValues bs = some vtxt) : readTailB vtxt = some ((none, none, none), bs) := by
  have h := hok
  simp only [BindsOK, Bool.and_eq_true, Bool.not_eq_true', List.isEmpty_eq_false_iff, List.all_eq_true] at h
  obtain rfl := Option.some.inj ((wValues_eq bs h.1.2 fun b hb => (h.1.1 b hb).2).symm.trans hw)
  exact readTailB_valuesT bs hok

/-- `query(initBindings=…)`: the store appends `VALUES ( ?v … ) { ( t … ) }` with the terms written by
    `n3()`.  Reading the store's pattern query followed by that block gives the query AND the
    one-row table, as they are (joining the two is `TQuery.joinRow`, not part of this statement).  The bound terms may be anything `n3()`
    can spell (IRIs, literals with quotes / newlines / language tag / datatype); a blank node never
    gets here, `node_to_sparql` raises before the text is built. -/
def Statement_values_block_means_join : Prop :=
  ∀ (p : TPatT) (bs : List (Str × TTerm)) (txt vtxt : Str),
    PatOK p = true → BindsOK bs = true →
    wTriplesQuery p none none none = some txt → wValues bs = some vtxt →
    readQueryB (txt ++ vtxt) = some (.triples p none none none, bs) ∧
    readQueryB txt = some (.triples p none none none, [])

theorem readTailB_nil : readTailB [] = some ((none, none, none), []) := by
  simp [readTailB, readModifiersR, readValues, kw_nil "ORDER" (by decide +kernel),
    kw_nil "LIMIT" (by decide +kernel), kw_nil "OFFSET" (by decide +kernel),
    kw_nil "VALUES" (by decide +kernel)]

theorem values_block_means_join : Statement_values_block_means_join := by
  intro p bs txt vtxt hp hb h hv
  obtain rfl := Option.some.inj ((wTriplesQuery_eq p none none none hp).symm.trans h)
  have h1 := readQueryB_queryT p vtxt hp
  have h2 := readQueryB_queryT p [] hp
  rw [readTailB_values bs vtxt hb hv] at h1
  rw [readTailB_nil] at h2
  exact ⟨by rw [show modsText none none none = [] from rfl, queryT_append]; exact h1, h2⟩

/-- joining with the row binds the pattern: `?s ?p ?o` with `o` bound to a literal with a newline
    and quotes becomes the pattern with that object -/
example :
    (TQuery.triples (none, none, none) none none none).joinRow [(['o'], .lit "a\n\"b".toList none none)] =
      .triples (none, none, some (.lit "a\n\"b".toList none none)) none none none := by decide

end RV.C20

import RV.C20.ResultLemmas
import RV.C20.ResultModel
/-
  C20 — result decoding theorems: the W3C results document of the endpoint's answer, read by the store's result
  parsers (tree level), is that answer: same variables, same rows in the same order, every term unchanged.
-/
namespace RV.C20

def Statement_result_decoding_exact : Prop :=
  -- SELECT: any variables (distinct), any number of rows, unbound cells, terms of every kind (IRIs, blank nodes, plain /
  -- typed / language-tagged literals with ANY lexical form)
  (∀ (f : ResFormat) (vars : List Res.Str) (rows : List Res.Row), Res.Aligned vars rows →
    (∀ r ∈ rows, Res.rowAll Res.termOk r = true) →
    Res.roundTrip f (.select vars rows) = .ok (.select vars rows)) ∧
  -- ASK
  (∀ (f : ResFormat) (b : Bool), Res.roundTrip f (.ask b) = .ok (.ask b))

theorem rowAll_mono {p q : Res.Term → Bool} (h : ∀ t, p t = true → q t = true) (r : Res.Row)
    (hr : Res.rowAll p r = true) : Res.rowAll q r = true :=
  Res.rowAll_iff.mpr fun t ht => h t (Res.rowAll_iff.mp hr t ht)

theorem result_decoding_exact : Statement_result_decoding_exact := by
  refine ⟨?_, ?_⟩
  · intro f vars rows ha hr
    cases f with
    | json =>
      exact Res.ofJson_wireJson_select ha (fun r h => rowAll_mono (fun t ht => by
        simp only [Res.termOk, Bool.and_eq_true] at ht; exact ht.1) r (hr r h))
    | xml =>
      exact Res.ofXml_wireXml_select ha (fun r h => rowAll_mono (fun t ht => by
        simp only [Res.termOk, Bool.and_eq_true] at ht; exact ht.2) r (hr r h))
  · intro f b
    cases f with
    | json => exact Res.ofJson_wireJson_ask b
    | xml => exact Res.ofXml_wireXml_ask b

/-! ### composed with the store-level model: the answer of `SPARQLStore.triples`' query comes back as it is -/

def Statement_answer_comes_back : Prop :=
  ∀ (f : ResFormat) (V : Nat → Res.Term), (∀ n, Res.termOk (V n) = true) → ∀ (d : DS) (g : GName) (enc : TPat),
    Res.roundTrip f (wireAnswer V d g enc) = .ok (wireAnswer V d g enc) ∧
    Res.roundTrip f (.ask (answerAsk d g enc)) = .ok (.ask (answerAsk d g enc))

theorem selVars_names_nodup (p : TPat) : ((selVars p).map Pos.name).Nodup := by
  obtain ⟨a, b, c⟩ := p
  cases a <;> cases b <;> cases c <;> simp +decide [selVars, Pos.name]

theorem rowAll_lift (V : Nat → Res.Term) (hV : ∀ n, Res.termOk (V n) = true) (row : List Nat) :
    Res.rowAll Res.termOk (row.map (fun x => some (V x))) = true :=
  Res.rowAll_iff.mpr fun t ht => by
    obtain ⟨x, _, e⟩ := List.mem_map.mp ht
    exact Option.some.inj e ▸ hV x

theorem answer_comes_back : Statement_answer_comes_back := by
  intro f V hV d g enc
  refine ⟨?_, result_decoding_exact.2 f _⟩
  apply result_decoding_exact.1 f
  · refine ⟨selVars_names_nodup enc, ?_⟩
    intro r hr
    simp only [answerSelect, List.map_map, List.mem_map] at hr
    obtain ⟨t, _, rfl⟩ := hr
    simp [project]
  · intro r hr
    simp only [List.mem_map] at hr
    obtain ⟨row, _, rfl⟩ := hr
    exact rowAll_lift V hV row

example : (Res.roundTrip .xml (.select ["s".toList, "o".toList]
      [[some (.iri "http://e/s".toList), some (.lang "l\n\"x\" <&>".toList "en-GB".toList)],
       [some (.bnode "b0".toList), none],
       [some (.iri "urn:x".toList), some (.typed [] "http://e/dt".toList)]])).toOption =
    some (.select ["s".toList, "o".toList]
      [[some (.iri "http://e/s".toList), some (.lang "l\n\"x\" <&>".toList "en-GB".toList)],
       [some (.bnode "b0".toList), none],
       [some (.iri "urn:x".toList), some (.typed [] "http://e/dt".toList)]]) := by decide +kernel

example : (Res.roundTrip .json (.select ["c".toList] [[some (.typed "3".toList "http://www.w3.org/2001/XMLSchema#integer".toList)]])).toOption =
    some (.select ["c".toList] [[some (.typed "3".toList "http://www.w3.org/2001/XMLSchema#integer".toList)]]) := by
  decide +kernel

/-- the hypothesis on language tags is needed: `Literal(…, lang="not a tag")` raises in rdflib -/
example : (Res.roundTrip .json (.select ["o".toList] [[some (.lang "x".toList "not a tag".toList)]])).toOption = none := by
  decide +kernel

end RV.C20

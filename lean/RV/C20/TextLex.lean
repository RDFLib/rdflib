import RV.C20.Text
/-
  C20 text layer: white space, keywords, IRIs, short string literals.
-/
namespace RV.C20

/-- `c` starts a token: neither white space nor the `#` of a comment, so `ws` stops at it -/
def tokStart (c : Char) : Bool := !isWs c && c != '#'

theorem ws_cons (c : Char) (r : Str) (h : tokStart c = true) : ws (c :: r) = c :: r := by
  simp only [tokStart, Bool.and_eq_true, Bool.not_eq_true', bne_iff_ne, ne_eq] at h
  simp [ws, skip, h.1, h.2]

@[simp] theorem ws_nil : ws [] = [] := rfl

theorem ws_isWs {c : Char} (h : isWs c = true) (r : Str) : ws (c :: r) = ws r := by simp [ws, skip, h]

theorem ws_sp (r : Str) : ws (' ' :: r) = ws r := by simp [ws, skip, isWs]
theorem ws_nl (r : Str) : ws ('\n' :: r) = ws r := by simp [ws, skip, isWs]

theorem ws_lt (r : Str) : ws ('<' :: r) = '<' :: r := ws_cons _ _ rfl
theorem ws_dq (r : Str) : ws ('"' :: r) = '"' :: r := ws_cons _ _ rfl
theorem ws_qm (r : Str) : ws ('?' :: r) = '?' :: r := ws_cons _ _ rfl

theorem sym_here (c : Char) (r : Str) (h : tokStart c = true) : sym c (c :: r) = some r := by
  simp [sym, ws_cons c r h]

theorem sym_lbrace (r : Str) : sym '{' ('{' :: r) = some r := sym_here _ r rfl
theorem sym_rbrace (r : Str) : sym '}' ('}' :: r) = some r := sym_here _ r rfl

theorem sym_sp (c : Char) (r : Str) : sym c (' ' :: r) = sym c r := by simp [sym, ws_sp]
theorem sym_nl (c : Char) (r : Str) : sym c ('\n' :: r) = sym c r := by simp [sym, ws_nl]

theorem kw_sp (k : String) (s : Str) : kw k (' ' :: s) = kw k s := by simp [kw, ws_sp]
theorem kw_nl (k : String) (s : Str) : kw k ('\n' :: s) = kw k s := by simp [kw, ws_nl]

/-- `c` starts a token that is not the keyword `k` (first letters compared in upper case) -/
def kwMiss (k : String) (c : Char) : Bool :=
  match k.toList with
  | k0 :: _ => tokStart c && upperChar c != k0
  | [] => false

theorem kw_miss (k : String) (c : Char) (h : kwMiss k c = true) (r : Str) : kw k (c :: r) = none := by
  unfold kwMiss at h
  split at h
  · next k0 ks hk =>
    simp only [Bool.and_eq_true, bne_iff_ne, ne_eq] at h
    simp [kw, ws_cons c r h.1, hk, stripCI, h.2]
  · cases h

theorem kw_nil (k : String) (h : k.toList ≠ []) : kw k [] = none := by
  cases hk : k.toList with
  | nil => exact absurd hk h
  | cons k0 ks => simp [kw, ws, skip, hk, stripCI]

theorem skipPrologue_id (F : Nat) (s : Str) (h : kw "PREFIX" s = none) : skipPrologue F s = s := by
  cases F <;> simp [skipPrologue, h]

theorem skipPrologue_miss (c : Char) (h : kwMiss "PREFIX" c = true) (F : Nat) (r : Str) :
    skipPrologue F (c :: r) = c :: r := skipPrologue_id _ _ (kw_miss _ _ h r)

section
attribute [local simp] kw stripCI ws skip isWs upperChar isNameChar isAlpha isDigit

theorem kw_PREFIX (r : Str) : kw "PREFIX" ('P' :: 'R' :: 'E' :: 'F' :: 'I' :: 'X' :: ' ' :: r) = some (' ' :: r) := by simp
theorem kw_INSERT (r : Str) : kw "INSERT" ('I' :: 'N' :: 'S' :: 'E' :: 'R' :: 'T' :: ' ' :: r) = some (' ' :: r) := by simp
theorem kw_DATA (r : Str) : kw "DATA" ('D' :: 'A' :: 'T' :: 'A' :: ' ' :: r) = some (' ' :: r) := by simp
theorem kw_DELETE (r : Str) : kw "DELETE" ('D' :: 'E' :: 'L' :: 'E' :: 'T' :: 'E' :: ' ' :: r) = some (' ' :: r) := by simp
theorem kw_WHERE (r : Str) : kw "WHERE" ('W' :: 'H' :: 'E' :: 'R' :: 'E' :: ' ' :: r) = some (' ' :: r) := by simp
theorem kw_WITH (r : Str) : kw "WITH" ('W' :: 'I' :: 'T' :: 'H' :: ' ' :: r) = some (' ' :: r) := by simp
theorem kw_DROP (r : Str) : kw "DROP" ('D' :: 'R' :: 'O' :: 'P' :: ' ' :: r) = some (' ' :: r) := by simp
theorem kw_CREATE (r : Str) : kw "CREATE" ('C' :: 'R' :: 'E' :: 'A' :: 'T' :: 'E' :: ' ' :: r) = some (' ' :: r) := by simp
theorem kw_GRAPH (r : Str) : kw "GRAPH" ('G' :: 'R' :: 'A' :: 'P' :: 'H' :: ' ' :: r) = some (' ' :: r) := by simp
theorem kw_VALUES (r : Str) : kw "VALUES" ('V' :: 'A' :: 'L' :: 'U' :: 'E' :: 'S' :: ' ' :: r) = some (' ' :: r) := by simp
theorem kw_SELECT (r : Str) : kw "SELECT" ('S' :: 'E' :: 'L' :: 'E' :: 'C' :: 'T' :: ' ' :: r) = some (' ' :: r) := by simp
theorem kw_ASK (r : Str) : kw "ASK" ('A' :: 'S' :: 'K' :: ' ' :: r) = some (' ' :: r) := by simp
theorem kw_ORDER (r : Str) : kw "ORDER" ('O' :: 'R' :: 'D' :: 'E' :: 'R' :: ' ' :: r) = some (' ' :: r) := by simp
theorem kw_BY (r : Str) : kw "BY" ('B' :: 'Y' :: ' ' :: r) = some (' ' :: r) := by simp
theorem kw_LIMIT (r : Str) : kw "LIMIT" ('L' :: 'I' :: 'M' :: 'I' :: 'T' :: ' ' :: r) = some (' ' :: r) := by simp
theorem kw_OFFSET (r : Str) : kw "OFFSET" ('O' :: 'F' :: 'F' :: 'S' :: 'E' :: 'T' :: ' ' :: r) = some (' ' :: r) := by simp

end

theorem nameChar_facts {c : Char} (h : isNameChar c = true) : tokStart c = true ∧ c ≠ ':' := by
  refine ⟨?_, ?_⟩
  · simp only [tokStart, Bool.and_eq_true, Bool.not_eq_true', bne_iff_ne, ne_eq]
    refine ⟨?_, ?_⟩
    · cases hw : isWs c with
      | false => rfl
      | true =>
        simp only [isWs, Bool.or_eq_true, decide_eq_true_eq] at hw
        rcases hw with ((rfl | rfl) | rfl) | rfl <;> simp [isNameChar, isAlpha, isDigit] at h
    · rintro rfl; simp [isNameChar, isAlpha, isDigit] at h
  · rintro rfl; simp [isNameChar, isAlpha, isDigit] at h

theorem splitAt?_append (stop : Char) : ∀ (b rest : Str), stop ∉ b →
    splitAt? stop (b ++ stop :: rest) = some (b, rest)
  | [], rest, _ => by simp [splitAt?]
  | c :: b, rest, h => by
    have hc : c ≠ stop := fun e => h (by simp [e])
    have hb : stop ∉ b := fun e => h (List.mem_cons_of_mem _ e)
    simp [splitAt?, hc, splitAt?_append stop b rest hb]

theorem iriOK_mem {s : Str} (h : iriOK s = true) {c : Char} (hc : c ∈ s) :
    Tables.invalidUriChars.contains c = false ∧ ' ' < c := by
  simp only [iriOK, List.all_eq_true, Bool.and_eq_true, Bool.not_eq_true', decide_eq_true_eq] at h
  exact h c hc

theorem iriOK_gt {s : Str} (h : iriOK s = true) : '>' ∉ s := by
  intro hc
  have := (iriOK_mem h hc).1
  revert this; decide

theorem iriOK_valid {s : Str} (h : iriOK s = true) : isValidUri s = true := by
  simp only [isValidUri, List.all_eq_true, Bool.not_eq_true']
  intro c hc
  cases hs : s.contains c with
  | false => rfl
  | true =>
    have hm : c ∈ s := by simpa using hs
    have := (iriOK_mem h hm).1
    have hc' : Tables.invalidUriChars.contains c = true := by simpa using hc
    rw [hc'] at this; cases this

theorem readIriRaw_write (s rest : Str) (h : iriOK s = true) :
    readIriRaw ('<' :: (s ++ '>' :: rest)) = some (s, rest) := by
  simp [readIriRaw, splitAt?_append '>' s rest (iriOK_gt h), h]

theorem wTerm_iri (s : Str) (h : iriOK s = true) : wTerm (.iri s) = some ('<' :: s ++ ['>']) := by
  simp [wTerm, iriOK_valid h]

@[simp] theorem replaceChar_nil (c : Char) (rep : Str) : replaceChar c rep [] = [] := rfl

theorem replaceChar_cons (c : Char) (rep : Str) (x : Char) (s : Str) :
    replaceChar c rep (x :: s) = (if x = c then rep else [x]) ++ replaceChar c rep s := by
  simp [replaceChar, List.flatMap_cons]

theorem joinWith_cons (sep x : Str) : ∀ xs : List Str, joinWith sep (x :: xs) = x ++ xs.flatMap (sep ++ ·)
  | [] => by simp [joinWith]
  | y :: ys => by rw [joinWith, joinWith_cons sep y ys]; simp

theorem replaceChar_not_mem (c : Char) (rep : Str) : ∀ s : Str, c ∉ s → replaceChar c rep s = s
  | [], _ => rfl
  | x :: s, h => by
    have hx : x ≠ c := fun e => h (by simp [e])
    have hs : c ∉ s := fun e => h (List.mem_cons_of_mem _ e)
    rw [replaceChar_cons, if_neg hx, replaceChar_not_mem c rep s hs]
    rfl

/-- what the short branch makes of one character (no LF in the string) -/
def encS (c : Char) : Str :=
  if c = '\\' then ['\\', '\\'] else if c = '"' then ['\\', '"'] else if c = '\r' then ['\\', 'r'] else [c]

theorem shortEncode_flat : ∀ (s : Str), '\n' ∉ s → shortEncode s = s.flatMap encS
  | [], _ => rfl
  | c :: s, h => by
    have hc : c ≠ '\n' := fun e => h (by simp [e])
    have hs : '\n' ∉ s := fun e => h (List.mem_cons_of_mem _ e)
    have ih := shortEncode_flat s hs
    unfold shortEncode at ih ⊢
    rw [replaceChar_not_mem _ _ _ h]
    rw [replaceChar_not_mem _ _ _ hs] at ih
    rw [List.flatMap_cons, ← ih]
    by_cases h1 : c = '\\'
    · subst h1; simp [encS, replaceChar, List.flatMap_cons]
    · by_cases h2 : c = '"'
      · subst h2; simp [encS, replaceChar, List.flatMap_cons]
      · by_cases h3 : c = '\r'
        · subst h3; simp [encS, replaceChar, List.flatMap_cons]
        · simp [replaceChar_cons, encS, h1, h2, h3]

theorem readShort_plain (c : Char) (r : Str) (h1 : c ≠ '"') (h2 : c ≠ '\\') (h3 : c ≠ '\n') (h4 : c ≠ '\r') :
    readShort (c :: r) = (readShort r).map (fun br => (c :: br.1, br.2)) := by
  rw [readShort.eq_def]
  split
  · next h => cases h
  · next h => injection h with h _; exact absurd h h1
  · next h => injection h with h _; exact absurd h h2
  · next c' r' _ _ h =>
    injection h with ha hb
    subst ha; subst hb
    simp [h2, h3, h4]

theorem readShort_flat : ∀ (s rest : Str), '\n' ∉ s →
    readShort (s.flatMap encS ++ '"' :: rest) = some (s, rest)
  | [], rest, _ => by simp [readShort]
  | c :: s, rest, h => by
    have hc : c ≠ '\n' := fun e => h (by simp [e])
    have hs : '\n' ∉ s := fun e => h (List.mem_cons_of_mem _ e)
    have ih := readShort_flat s rest hs
    rw [List.flatMap_cons]
    by_cases h1 : c = '\\'
    · subst h1; simp [encS, readShort, unesc, ih]
    · by_cases h2 : c = '"'
      · subst h2; simp [encS, readShort, unesc, ih]
      · by_cases h3 : c = '\r'
        · subst h3; simp [encS, readShort, unesc, ih]
        · simp only [encS, h1, h2, h3, if_false, List.cons_append, List.nil_append]
          rw [readShort_plain c _ h2 h1 hc h3, ih]
          rfl

theorem readShort_enc (s rest : Str) (h : '\n' ∉ s) :
    readShort (shortEncode s ++ '"' :: rest) = some (s, rest) := by
  rw [shortEncode_flat s h]; exact readShort_flat s rest h

theorem shortEncode_not_long (s : Str) (h : '\n' ∉ s) (rest : Str) (hr : rest.head? ≠ some '"') :
    ∀ r, shortEncode s ++ '"' :: rest ≠ '"' :: '"' :: r := by
  intro r
  rw [shortEncode_flat s h]
  cases s with
  | nil =>
    simp only [List.flatMap_nil, List.nil_append, ne_eq, List.cons.injEq, true_and]
    intro e
    cases rest with
    | nil => cases e
    | cons x xs => injection e with e1 _; subst e1; simp at hr
  | cons c s =>
    rw [List.flatMap_cons]
    by_cases h1 : c = '\\'
    · subst h1; simp [encS]
    · by_cases h2 : c = '"'
      · subst h2; simp [encS]
      · by_cases h3 : c = '\r'
        · subst h3; simp [encS]
        · simp [encS, h1, h2, h3]

end RV.C20

import RV.C07.LemmasText
/-
  C07 — `from_n3` reads back what `n3()` / `n3(nsm)` wrote: the written form of a term as a relation (`N3Form`, over the
  spellings of an IRI) in which the writer lands (`n3Q_form`) and which the reader inverts (`fromN3_form`) for the spellings
  it takes for an IRI (`ReadsIri`).
-/
namespace RV.C07

theorem respellNoop_of_other {E : Ext} {x : Str} (h : E.floatKind x = .other) : RespellNoop E x := by
  simp [RespellNoop, h]

/-- the written forms probed from the live `Literal._quote_encode` (one per character, short and long quoting) are
    well-formed: each is read back to its character by the decoder whatever follows, the backslash is never raw, and in
    a short-quoted string neither are the quote and CR. -/
theorem table_short_wf : wfTab Tables.shortEscapes = true ∧
    escWith Tables.shortEscapes '"' ≠ ['"'] ∧ escWith Tables.shortEscapes '\r' ≠ ['\r'] := by decide

theorem table_long_wf : wfTab Tables.longEscapes = true := by decide

/-- the characters `URIRef.n3` refuses include what the reader relies on -/
theorem table_invalid_chars :
    '"' ∈ Tables.invalidUriChars ∧ '^' ∈ Tables.invalidUriChars ∧ '\\' ∈ Tables.invalidUriChars ∧
    '<' ∈ Tables.invalidUriChars ∧ '>' ∈ Tables.invalidUriChars := by decide

theorem quote_invalid : '"' ∈ Tables.invalidUriChars := table_invalid_chars.1
theorem hat_invalid : '^' ∈ Tables.invalidUriChars := table_invalid_chars.2.1
theorem backslash_invalid : '\\' ∈ Tables.invalidUriChars := table_invalid_chars.2.2.1
theorem gt_invalid : '>' ∈ Tables.invalidUriChars := table_invalid_chars.2.2.2.2

theorem not_mem_of_valid {s : Str} (h : isValidUri s = true) {c : Char} (hc : c ∈ Tables.invalidUriChars) : c ∉ s := by
  simp only [isValidUri, List.all_eq_true] at h
  simpa using h c hc

theorem not_mem_framed {u : Str} (hv : isValidUri u = true) {c : Char} (hc : c ∈ Tables.invalidUriChars)
    {pre part post : Str} (hsub : ∀ x ∈ part, x ∈ u) (hpre : c ∉ pre) (hpost : c ∉ post) : c ∉ pre ++ part ++ post := by
  simp only [List.mem_append, not_or]
  exact ⟨⟨hpre, fun h => not_mem_of_valid hv hc (hsub c h)⟩, hpost⟩

theorem isPrefix_append (q b : Str) : isPrefix q (q ++ b) = true := isPrefix_iff.mpr (List.prefix_append q b)

theorem isPrefix_of_not_mem {c : Char} {q b : Str} (hb : c ∉ b) : isPrefix (c :: q) b = false :=
  Bool.eq_false_iff.mpr fun h => hb ((isPrefix_iff.mp h).subset List.mem_cons_self)

theorem rsplit1_cons (q : Str) (c : Char) (s : Str) :
    rsplit1 q (c :: s) =
      match rsplit1 q s with
      | some (a, b) => some (c :: a, b)
      | none => if isPrefix q (c :: s) then some ([], (c :: s).drop q.length) else none := rfl

theorem rsplit1_none_of_not_mem (c : Char) (q : Str) : ∀ s : Str, c ∉ s → rsplit1 (c :: q) s = none
  | [], _ => rfl
  | x :: s, h => by
    rw [rsplit1_cons, rsplit1_none_of_not_mem c q s (fun e => h (List.mem_cons_of_mem _ e)), isPrefix_of_not_mem h]
    rfl

theorem rsplit1_append (c : Char) (q : Str) (b : Str) (h : rsplit1 (c :: q) (q ++ b) = none) :
    ∀ a : Str, rsplit1 (c :: q) (a ++ (c :: q) ++ b) = some (a, b)
  | [] => by
    simp only [List.nil_append, List.cons_append]
    rw [rsplit1_cons, h]
    have := isPrefix_append (c :: q) b
    simp only [List.cons_append] at this
    simp [this]
  | x :: a => by
    have ih := rsplit1_append c q b h a
    simp only [List.cons_append, List.append_assoc] at ih ⊢
    rw [rsplit1_cons, ih]

theorem isPrefix_rep (c : Char) (b : Str) (hb : c ∉ b) : ∀ (k n : Nat), k ≤ n →
    isPrefix (List.replicate (n + 1) c) (List.replicate k c ++ b) = false
  | 0, n, _ => isPrefix_of_not_mem hb
  | k + 1, n + 1, h => by
    -- fewer than `n + 1` copies of `c`, then a text without `c`
    simp only [List.replicate_succ, List.cons_append, isPrefix, decide_true, Bool.true_and]
    exact isPrefix_rep c b hb k n (Nat.le_of_succ_le_succ h)

theorem rsplit1_rep_none (c : Char) (b : Str) (hb : c ∉ b) (n : Nat) : ∀ k, k ≤ n →
    rsplit1 (List.replicate (n + 1) c) (List.replicate k c ++ b) = none
  | 0, _ => rsplit1_none_of_not_mem c _ b hb
  | k + 1, h => by
    have := isPrefix_rep c b hb (k + 1) n h
    rw [List.replicate_succ (n := k), List.cons_append] at this ⊢
    rw [rsplit1_cons, rsplit1_rep_none c b hb n k (Nat.le_of_succ_le h), this]
    rfl

/-- splitting at the last separator `c … c` (the closing quotes, `^^`), when nothing after it contains `c` -/
theorem rsplit1_rep {c : Char} {n : Nat} {q : Str} (hq : q = List.replicate (n + 1) c) (a : Str) {b : Str} (hb : c ∉ b) :
    rsplit1 q (a ++ q ++ b) = some (a, b) :=
  hq ▸ rsplit1_append c (List.replicate n c) b (rsplit1_rep_none c b hb n n (Nat.le_refl n)) a

theorem tagGo_chars (first : Bool) (s : Str) (h : tagGo first s = true) : ∀ x ∈ s, isAlnum x = true ∨ x = '-' := by
  fun_induction tagGo first s <;> simp only [Bool.and_eq_true] at h
  · simp
  · rename_i c s ih
    simp only [List.mem_cons, forall_eq_or_imp]
    exact ⟨.inr trivial, .inl h.1, ih h.2⟩
  · rename_i first c s hne ih
    simp only [List.mem_cons, forall_eq_or_imp]
    refine ⟨.inl ?_, ih h.2⟩
    cases first
    · simpa using h.1
    · simp [isAlnum, show isAlpha c = true by simpa using h.1]

theorem validLangTag_chars {t : Str} (h : validLangTag t = true) : ∀ c ∈ t, isAlnum c = true ∨ c = '-' := by
  cases t with
  | nil => simp
  | cons a s =>
    simp only [validLangTag, Bool.and_eq_true] at h
    simp only [List.mem_cons, forall_eq_or_imp]
    exact ⟨.inl (by simp [isAlnum, h.1]), tagGo_chars true s h.2⟩

theorem validLangTag_no_quote_hat {t : Str} (h : validLangTag t = true) : '"' ∉ t ∧ '^' ∉ t :=
  ⟨fun hc => absurd (validLangTag_chars h _ hc) (by decide), fun hc => absurd (validLangTag_chars h _ hc) (by decide)⟩

/-- the text between the quotes -/
def encBody (x : Str) : Str := if '\n' ∈ x then longEncode x else shortEncode x

theorem decode_encBody (x : Str) : decodeEsc (encBody x) = some x := by
  unfold encBody
  split
  · exact decode_longEncodeT table_long_wf x
  · exact decode_shortEncodeT table_short_wf.1 x

theorem sspell_shortEncode {x : Str} (hn : '\n' ∉ x) : SSpell (shortEncode x) x :=
  sspell_shortEncodeT table_short_wf.1 table_short_wf.2.1 table_short_wf.2.2 x hn

/-- a short-quoted text and its closing quote do not begin with two quotes, so it is not taken for a long-quoted one -/
theorem short_not_long {x R : Str} (hn : '\n' ∉ x) (hR : R.head? ≠ some '"') :
    isPrefix ['"', '"'] (shortEncode x ++ '"' :: R) = false := by
  have hh := (sspell_shortEncode hn).head_ne_quote
  cases hS : shortEncode x with
  | nil =>
    cases R with
    | nil => rfl
    | cons y r =>
      have : '"' ≠ y := fun e => hR (by rw [← e]; rfl)
      simp [isPrefix, this]
  | cons c S =>
    have : '"' ≠ c := fun e => hh (by rw [hS, ← e]; rfl)
    simp [isPrefix, this]

theorem fromN3_quoteEncode (E : Ext) (nz : Bool) (x suffix : Str) (hs : '"' ∉ suffix) :
    fromN3 E nz (quoteEncode x ++ suffix) = litFromParts E nz (encBody x) suffix := by
  unfold quoteEncode encBody
  by_cases hn : '\n' ∈ x
  · have hshape : q3 ++ longEncode x ++ q3 ++ suffix = '"' :: ('"' :: '"' :: (longEncode x ++ q3 ++ suffix)) := by
      simp [q3]
    have hpre : isPrefix q3 (q3 ++ longEncode x ++ q3 ++ suffix) = true := by
      simpa [List.append_assoc] using isPrefix_append q3 (longEncode x ++ q3 ++ suffix)
    -- no quote after the closing quotes: `rsplit` lands on them
    have hsplit := rsplit1_rep (q := q3) (n := 2) rfl (q3 ++ longEncode x) hs
    simp only [hn, if_true]
    rw [fromN3.eq_def]
    rw [hshape] at hpre hsplit ⊢
    simp only [hpre, if_true]
    simp only [List.append_assoc] at hsplit
    simp only [List.append_assoc, hsplit]
    simp [q3]
  · have hnot : isPrefix q3 ('"' :: (shortEncode x ++ '"' :: suffix)) = false := by
      simpa [q3, isPrefix] using short_not_long hn (fun e => hs (List.mem_of_mem_head? e))
    have hsplit := rsplit1_rep (q := ['"']) (n := 0) rfl ('"' :: shortEncode x) hs
    simp only [hn, if_false]
    rw [fromN3.eq_def]
    simp only [List.cons_append, List.append_assoc, List.nil_append] at hsplit ⊢
    simp only [hnot, Bool.false_eq_true, if_false, hsplit]
    simp

theorem fromN3_of_ne_quote (E : Ext) (nz : Bool) {a : Char} (r : Str) (h : a ≠ '"') :
    fromN3 E nz (a :: r) = fromN3Node E (a :: r) := by
  unfold fromN3
  split
  · next heq => exact absurd (List.cons.inj heq).1 h
  · rfl

/-- the `^^` branch of the reader: what follows the last `^^` is read as a non-literal term, whose string is the datatype -/
theorem litFromParts_hat (E : Ext) (nz : Bool) {x rest before after d : Str} {a : Char} {c : NCls} (ha : a ≠ '"')
    (hsplit : rsplit1 ['^', '^'] rest = some (before, a :: after))
    (hnode : fromN3Node E (a :: after) = .term (.node c d)) :
    litFromParts E nz (encBody x) rest = Rd.ofExcept (mkLit E nz x none (some d)) := by
  simp only [litFromParts, hsplit, hnode, decode_encBody]
  split
  · next heq => cases heq
  · next heq => exact absurd (List.cons.inj heq).1 ha
  · rename_i h _ _; cases h; rfl
  · rename_i h _ _; cases h
  · rename_i h _; exact absurd rfl (h c d)

theorem mkLit_ok_of {E : Ext} {nz : Bool} {y : Str} {l d : Option Str} (hx : l = none ∨ d = none)
    (hv : ∀ t, l = some t → validLangTag t = true) (hs : newLex E nz d y = y) :
    mkLit E nz y l d = .ok (.lit y d l) := by
  cases l with
  | none => simp [mkLit, hs]
  | some tag =>
    have hv := hv tag rfl
    have hne : tag ≠ [] := by intro e; subst e; simp [validLangTag] at hv
    obtain rfl : d = none := hx.resolve_left (by simp)
    simp [mkLit, hne, hv, hs]

theorem mkLit_ok_inv {E : Ext} {nz : Bool} {x : Str} {l d : Option Str} {t : Term} (h : mkLit E nz x l d = .ok t) :
    ∃ l', (l' = none ∨ d = none) ∧ (∀ tag, l' = some tag → validLangTag tag = true) ∧
      t = .lit (newLex E nz d x) d l' := by
  simp only [mkLit] at h
  generalize (if l = some [] then none else l) = l' at h
  cases l' with
  | none => exact ⟨none, Or.inl rfl, by simp, by simpa using h.symm⟩
  | some tag =>
    cases d with
    | some u => simp at h
    | none =>
      by_cases hv : validLangTag tag = true
      · exact ⟨some tag, Or.inr rfl, fun t e => by cases e; exact hv, by simpa [hv] using h.symm⟩
      · simp [hv] at h

/-- what `_literal_n3` writes after the quoted text of a literal with `WFText`; `I u txt`: the writer spells the
    datatype IRI `u` as `txt` -/
inductive LitSuffix (I : Str → Str → Prop) : Option Str → Option Str → Str → Prop
  | plain : LitSuffix I none none []
  | lang {tag : Str} : validLangTag tag = true → LitSuffix I none (some tag) ('@' :: tag)
  | dt {u txt : Str} : isValidUri u = true → I u txt → LitSuffix I (some u) none ('^' :: '^' :: txt)

/-- the texts `n3()` / `n3(nsm)` write for a term with `WFText`, over the spellings `I` of an IRI -/
inductive N3Form (I : Str → Str → Prop) : Term → Str → Prop
  | bnode (s : Str) : N3Form I (.node .bnode s) ('_' :: ':' :: s)
  | var (s : Str) : N3Form I (.node .var s) ('?' :: s)
  | iri {c : NCls} {s txt : Str} : c.kind = .iri → isValidUri s = true → I s txt → N3Form I (.node c s) txt
  | lit (x : Str) {d l : Option Str} {sfx : Str} : LitSuffix I d l sfx → N3Form I (.lit x d l) (quoteEncode x ++ sfx)

theorem LitSuffix.mkLit_ok {I} {d l : Option Str} {sfx : Str} (hs : LitSuffix I d l sfx) {E : Ext} {nz : Bool} {x : Str}
    (hst : newLex E nz d x = x) : mkLit E nz x l d = .ok (.lit x d l) := by
  cases hs with
  | plain | dt => exact mkLit_ok_of (Or.inl rfl) nofun hst
  | lang hv => exact mkLit_ok_of (Or.inr rfl) (fun t e => Option.some.inj e ▸ hv) hst

theorem n3Q_form {I : Str → Str → Prop} {E : Ext} {t : Term} {txt : Str} (hw : WFText E t)
    (hQ : ∀ u, isValidUri u = true → E.qname u ≠ [] ∧ I u (E.qname u)) (h : n3Q E t = some txt) : N3Form I t txt := by
  cases t with
  | node c s =>
    cases c <;> simp only [n3Q, Option.some.injEq, Option.ite_none_right_eq_some] at h
    · exact h ▸ .bnode s
    · exact h ▸ .var s
    all_goals exact h.2 ▸ .iri rfl h.1 (hQ s h.1).2
  | lit x d l =>
    obtain rfl : litN3Q E x d l = txt := Option.some.inj h
    obtain ⟨hxor, htag, hdt, hinf⟩ := hw
    suffices ∃ sfx, LitSuffix I d l sfx ∧ litN3Q E x d l = quoteEncode x ++ sfx by
      obtain ⟨sfx, hs, e⟩ := this
      exact e ▸ .lit x hs
    cases l with
    | some tag =>
      have hv := htag tag rfl
      obtain rfl : d = none := hxor.resolve_left (by simp)
      cases tag with
      | nil => simp [validLangTag] at hv
      | cons c r => exact ⟨_, .lang hv, by simp [litN3Q, truthy]⟩
    | none =>
      cases d with
      | none => exact ⟨[], .plain, by simp [litN3Q, truthy]⟩
      | some u =>
        obtain ⟨hne, hvu⟩ := hdt u rfl
        obtain ⟨hq, hi⟩ := hQ u hvu
        refine ⟨_, .dt hvu hi, ?_⟩
        cases u with
        | nil => exact absurd rfl hne
        | cons c r =>
          by_cases hm : (c :: r) ∈ Tables.infNanTypes
          · have hn := hinf _ rfl hm
            simp only [RespellNoop] at hn
            cases hk : E.floatKind x <;> simp only [hk] at hn <;> simpa [litN3Q, truthy, hm, hk, hq] using hn
          · simp [litN3Q, truthy, hm, hq]

/-- the angle-bracket spelling, the only one `n3()` uses -/
abbrev Angle (u txt : Str) : Prop := txt = '<' :: u ++ ['>']

/-- `n3()` is `n3(nsm)` with a manager that answers `<iri>` every time -/
def noMgr (E : Ext) : Ext := { E with qname := fun u => '<' :: u ++ ['>'] }

theorem n3_eq_n3Q (E : Ext) (t : Term) : n3 E t = n3Q (noMgr E) t := by
  cases t with
  | node c s => cases c <;> rfl
  | lit x d l =>
    simp only [n3, n3Q, litN3, litN3Q, noMgr]
    cases truthy l <;> cases truthy d <;> simp only [List.cons_append, List.append_assoc, reduceCtorEq, if_false]

theorem n3_form {E : Ext} {t : Term} {txt : Str} (hw : WFText E t) (h : n3 E t = some txt) : N3Form Angle t txt :=
  n3Q_form (E := noMgr E) hw (fun _ _ => ⟨List.cons_ne_nil _ _, rfl⟩) (n3_eq_n3Q E t ▸ h)

theorem n3_node {E : Ext} {c : NCls} {s txt : Str} (h : n3 E (.node c s) = some txt) :
    (c = .bnode ∧ txt = '_' :: ':' :: s) ∨ (c = .var ∧ txt = '?' :: s) ∨
    (c.kind = .iri ∧ isValidUri s = true ∧ txt = '<' :: s ++ ['>'] ∧ (Term.node c s).plain = .node .uri s) := by
  cases n3_form (t := .node c s) trivial h with
  | bnode => exact .inl ⟨rfl, rfl⟩
  | var => exact .inr (.inl ⟨rfl, rfl⟩)
  | iri hk hv e => exact .inr (.inr ⟨hk, hv, e, by cases c <;> first | rfl | cases hk⟩)

theorem fromN3Node_iri {E : Ext} (hE : ExtOK E) {u : Str} (hv : isValidUri u = true) :
    fromN3Node E ('<' :: (u ++ ['>'])) = .term (.node .uri u) := by
  simp only [fromN3Node, List.dropLast_concat]
  rw [hE.iri u (not_mem_of_valid hv backslash_invalid)]

/-- `txt` is a spelling of the IRI `u` that `from_n3` reads back, on its own and after the `^^` of a literal -/
structure ReadsIri (E : Ext) (u txt : Str) : Prop where
  node : fromN3Node E txt = .term (.node .uri u)
  head : ∃ a r, txt = a :: r ∧ a ≠ '"'
  noq : '"' ∉ txt
  nohat : '^' ∉ txt

theorem ReadsIri.angle {E : Ext} (hE : ExtOK E) {u : Str} (hv : isValidUri u = true) :
    ReadsIri E u ('<' :: u ++ ['>']) := by
  exact ⟨fromN3Node_iri hE hv, ⟨_, _, rfl, by decide⟩,
    not_mem_framed (pre := ['<']) (post := ['>']) hv quote_invalid (fun _ h => h) (by decide) (by decide),
    not_mem_framed (pre := ['<']) (post := ['>']) hv hat_invalid (fun _ h => h) (by decide) (by decide)⟩

theorem ReadsIri.fromN3 {E : Ext} {u txt : Str} (h : ReadsIri E u txt) (nz : Bool) :
    fromN3 E nz txt = .term (.node .uri u) := by
  obtain ⟨a, r, rfl, ha⟩ := h.head
  rw [fromN3_of_ne_quote E nz _ ha, h.node]

theorem fromN3_lit {I} {E : Ext} (hI : ∀ u txt, isValidUri u = true → I u txt → ReadsIri E u txt) (nz : Bool) (x : Str)
    {d l : Option Str} {sfx : Str} (hs : LitSuffix I d l sfx) :
    fromN3 E nz (quoteEncode x ++ sfx) = Rd.ofExcept (mkLit E nz x l d) := by
  cases hs with
  | plain =>
    rw [fromN3_quoteEncode E nz x [] (by simp)]
    simp [litFromParts, rsplit1, decode_encBody]
  | @lang tag hv =>
    have hq := validLangTag_no_quote_hat hv
    have hn : rsplit1 ['^', '^'] ('@' :: tag) = none :=
      rsplit1_none_of_not_mem _ _ _ (by simpa using hq.2)
    rw [fromN3_quoteEncode E nz x _ (by simpa using hq.1)]
    simp [litFromParts, hn, decode_encBody]
  | dt hv hi =>
    have h := hI _ _ hv hi
    obtain ⟨a, r, rfl, ha⟩ := h.head
    rw [fromN3_quoteEncode E nz x _ (by simpa using h.noq)]
    exact litFromParts_hat E nz ha (rsplit1_rep (q := ['^', '^']) (n := 1) rfl [] h.nohat) h.node

theorem mem_removeFirst_of_ne {x c : Char} (h : x ≠ c) (s : Str) (hm : x ∈ s) : x ∈ removeFirst c s := by
  fun_induction removeFirst c s
  · exact hm
  · exact (List.mem_cons.mp hm).resolve_left h
  · rename_i ih
    exact (List.mem_cons.mp hm).elim (fun e => List.mem_cons.mpr (.inl e)) fun hm => List.mem_cons_of_mem _ (ih hm)

theorem numericLike_of_mem (E : Ext) {s : Str} {c : Char} (hm : c ∈ E.lowerU s) (hn : E.isNumeric c = false)
    (hc : c ∉ ['.', '-', 'e']) : numericLike E s = false := by
  simp only [List.mem_cons, List.not_mem_nil, or_false, not_or] at hc
  have := mem_removeFirst_of_ne hc.2.2 _ (mem_removeFirst_of_ne hc.2.1 _ (mem_removeFirst_of_ne hc.1 _ hm))
  simp only [numericLike, Bool.and_eq_false_iff]
  exact Or.inr (List.all_eq_false.mpr ⟨c, this, by simp [hn]⟩)

theorem fromN3_bnode (E : Ext) (hE : ExtOK E) (nz : Bool) (s : Str) :
    fromN3 E nz ('_' :: ':' :: s) = .term (.node .bnode s) := by
  obtain ⟨r, hr⟩ := hE.low_us (':' :: s)
  have := numericLike_of_mem E (hr ▸ List.mem_cons_self) hE.num_us (by decide)
  simp [fromN3, fromN3Node, this]

theorem fromN3_var (E : Ext) (hE : ExtOK E) (nz : Bool) (s : Str) :
    fromN3 E nz ('?' :: s) = .term (.node .var s) := by
  obtain ⟨r, hr⟩ := hE.low_q s
  have := numericLike_of_mem E (hr ▸ List.mem_cons_self) hE.num_q (by decide)
  simp [fromN3, fromN3Node, this, mkVar, Rd.ofExcept]

theorem fromN3_iri (E : Ext) (hE : ExtOK E) (nz : Bool) (s : Str) (hs : isValidUri s = true) :
    fromN3 E nz ('<' :: s ++ ['>']) = .term (.node .uri s) :=
  (ReadsIri.angle hE hs).fromN3 nz

theorem fromN3_form {I} {E : Ext} (hE : ExtOK E) (hI : ∀ u txt, isValidUri u = true → I u txt → ReadsIri E u txt)
    {nz : Bool} {t : Term} {txt : Str} (h : N3Form I t txt) (hst : TextStable E nz t) :
    fromN3 E nz txt = .term t.plain := by
  cases h with
  | bnode s => exact fromN3_bnode E hE nz s
  | var s => exact fromN3_var E hE nz s
  | @iri c s txt hk hv hi =>
    rw [(hI s txt hv hi).fromN3 nz]
    cases c <;> first | rfl | cases hk
  | lit x hs =>
    rw [fromN3_lit hI nz x hs, hs.mkLit_ok hst]
    rfl

theorem splitFirst_append (c : Char) : ∀ (p l : Str), c ∉ p → splitFirst c (p ++ c :: l) = (p, l)
  | [], l, _ => by simp [splitFirst]
  | x :: p, l, h => by
    have hx : x ≠ c := fun e => h (List.mem_cons.mpr (Or.inl e.symm))
    have ih := splitFirst_append c p l (fun e => h (List.mem_cons_of_mem _ e))
    simp [splitFirst, hx, ih]

theorem alpha_ne {a : Char} (h : isAlpha a = true) :
    a ≠ '"' ∧ a ≠ '<' ∧ a ≠ '{' ∧ a ≠ '[' ∧ a ≠ '_' ∧ a ≠ '?' := by
  refine ⟨?_, ?_, ?_, ?_, ?_, ?_⟩ <;> (intro e; subst e; revert h; decide)

theorem fromN3Node_qname (E : Ext) (hE : ExtOK E) (tbl : List (Str × Str)) (hn : E.nsm = some tbl)
    (a : Char) (r l ns : Str) (ha : isAlpha a = true) (hc : ':' ∉ a :: r) (hl : dlookup (a :: r) tbl = some ns) :
    fromN3Node E (a :: (r ++ ':' :: l)) = .term (.node .uri (ns ++ l)) := by
  obtain ⟨_, hlt, hbrace, hbracket, hus, hqm⟩ := alpha_ne ha
  have hmem : ':' ∈ a :: (r ++ ':' :: l) := by simp
  have hnum := numericLike_of_mem E (hE.low_colon _ hmem) hE.num_colon (by decide)
  have hsplit : splitFirst ':' (a :: (r ++ ':' :: l)) = (a :: r, l) := splitFirst_append ':' (a :: r) l hc
  have ht : ¬ (a :: (r ++ ':' :: l) = "true".toList) := by
    intro e; have := e ▸ hmem; revert this; decide
  have hf : ¬ (a :: (r ++ ':' :: l) = "false".toList) := by
    intro e; have := e ▸ hmem; revert this; decide
  simp only [fromN3Node, ht, hf, hnum, hmem, hn, hsplit, hl, if_false, if_true, Bool.false_eq_true]
  -- the text begins with a letter: only the last arm of `fromN3Node`, a name with a colon, is left
  split
  · next heq => simp at heq
  · next heq => simp [hlt] at heq
  · split
    · next heq => simp [hbrace] at heq
    · next heq => simp [hbracket] at heq
    · next heq => simp [hus] at heq
    · next heq => simp [hqm] at heq
    · rfl

theorem fromN3_qname (E : Ext) (hE : ExtOK E) (nz : Bool) (tbl : List (Str × Str)) (hn : E.nsm = some tbl)
    (p l ns : Str) (hp : GoodPrefix p) (hl : dlookup p tbl = some ns) :
    fromN3 E nz (p ++ ':' :: l) = .term (.node .uri (ns ++ l)) := by
  obtain ⟨⟨a, r, rfl, ha⟩, hc⟩ := hp
  rw [List.cons_append, fromN3_of_ne_quote E nz _ (alpha_ne ha).1]
  exact fromN3Node_qname E hE tbl hn a r l ns ha hc hl

theorem ReadsIri.pname {E : Ext} (hE : ExtOK E) {tbl : List (Str × Str)} (hn : E.nsm = some tbl) {p l ns : Str}
    (hv : isValidUri (ns ++ l) = true) (hp : GoodPrefix p) (hl : dlookup p tbl = some ns) (hpq : '"' ∉ p) (hph : '^' ∉ p) :
    ReadsIri E (ns ++ l) (p ++ ':' :: l) := by
  have hnot : ∀ {c}, c ∈ Tables.invalidUriChars → c ∉ p → c ≠ ':' → c ∉ p ++ ':' :: l := by
    intro c hc hcp hcc
    have := not_mem_framed (pre := p ++ [':']) (post := []) hv hc
      (fun x hx => List.mem_append_right ns hx) (by simpa using ⟨hcp, hcc⟩) (by simp)
    simpa using this
  obtain ⟨⟨a, r, rfl, ha⟩, hc⟩ := hp
  exact ⟨fromN3Node_qname E hE tbl hn a r l ns ha hc hl, ⟨_, _, rfl, (alpha_ne ha).1⟩,
    hnot quote_invalid hpq (by decide), hnot hat_invalid hph (by decide)⟩

end RV.C07

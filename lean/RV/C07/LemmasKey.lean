import RV.C07.ValModel
import RV.C07.Lemmas
/-
  C07 — `sorted()` with `<` is insertion sort (`sortG`; `sortT` is the same function on terms), here over an order that
  is, on the members of the collection, a strict total order of keys (`KeyOrder`).
-/
namespace RV.C07

theorem perm_insertG {α} (lt : α → α → Bool) (x : α) (l : List α) : (insertG lt x l).Perm (x :: l) := by
  fun_induction insertG lt x l
  · exact .refl _
  · rename_i z zs _ ih; exact (ih.cons z).trans (.swap x z zs)
  · exact .refl _

theorem perm_sortG {α} (lt : α → α → Bool) : ∀ l : List α, (sortG lt l).Perm l
  | [] => List.Perm.refl _
  | x :: xs => (perm_insertG lt x _).trans ((perm_sortG lt xs).cons x)

theorem mem_sortG {α} {lt : α → α → Bool} {l : List α} {x : α} (h : x ∈ sortG lt l) : x ∈ l :=
  (perm_sortG lt l).mem_iff.mp h

theorem map_insertG {α β} (lt : α → α → Bool) (R : β → β → Bool) (k : α → β) (x : α) (l : List α)
    (h : ∀ y ∈ l, lt y x = R (k y) (k x)) : (insertG lt x l).map k = insertG R (k x) (l.map k) := by
  fun_induction insertG lt x l
  · rfl
  · rename_i z zs hz ih
    simp [insertG, ← h z List.mem_cons_self, hz, ih fun y hy => h y (List.mem_cons_of_mem _ hy)]
  · rename_i z zs hz
    simp [insertG, ← h z List.mem_cons_self, hz]

theorem map_sortG {α β} (lt : α → α → Bool) (R : β → β → Bool) (k : α → β) :
    ∀ l : List α, (∀ x ∈ l, ∀ y ∈ l, lt x y = R (k x) (k y)) → (sortG lt l).map k = sortG R (l.map k)
  | [], _ => rfl
  | x :: xs, h => by
    have ih := map_sortG lt R k xs (fun a ha b hb => h a (List.mem_cons_of_mem _ ha) b (List.mem_cons_of_mem _ hb))
    simp only [sortG, List.foldr_cons, List.map_cons] at ih ⊢
    rw [← ih]
    exact map_insertG lt R k x _ fun y hy =>
      h y (List.mem_cons_of_mem _ (mem_sortG hy)) x List.mem_cons_self

theorem insertT_eq (lt : Term → Term → Bool) (x : Term) : ∀ l, insertT lt x l = insertG lt x l
  | [] => rfl
  | y :: ys => by simp only [insertT, insertG, insertT_eq lt x ys]

theorem sortT_eq (lt : Term → Term → Bool) (l : List Term) : sortT lt l = sortG lt l := by
  simp only [sortT, sortG, funext (funext <| insertT_eq lt ·)]

theorem pointwise_of_map_eq {α β} (f : α → β) : ∀ {l l' : List α}, l.map f = l'.map f →
    Pointwise (fun a b => f a = f b) l l'
  | [], [], _ => .nil
  | [], _ :: _, h => by simp at h
  | _ :: _, [], h => by simp at h
  | x :: xs, y :: ys, h => by
    simp only [List.map_cons, List.cons.injEq] at h
    exact .cons h.1 (pointwise_of_map_eq f h.2)

theorem Pointwise.eq {α} : ∀ {l l' : List α}, Pointwise (fun a b => a = b) l l' → l = l'
  | _, _, .nil => rfl
  | _, _, .cons h t => by rw [h, t.eq]

theorem Pointwise.imp_mem {α} {R S : α → α → Prop} : ∀ {l l' : List α}, Pointwise R l l' →
    (∀ a ∈ l, ∀ b ∈ l', R a b → S a b) → Pointwise S l l'
  | _, _, .nil, _ => .nil
  | _, _, .cons h t, H =>
    .cons (H _ List.mem_cons_self _ List.mem_cons_self h)
      (t.imp_mem fun a ha b hb => H a (List.mem_cons_of_mem _ ha) b (List.mem_cons_of_mem _ hb))

/-- a strict order on keys that is total on the keys satisfying `ok` -/
structure KeyOrder (K : Type) where
  lt : K → K → Bool
  ok : K → Prop
  irrefl : ∀ x, lt x x = false
  trans : ∀ {x y z}, lt x y = true → lt y z = true → lt x z = true
  total : ∀ {x y}, ok x → ok y → lt x y = false → lt y x = false → x = y

namespace KeyOrder
variable {K : Type} (O : KeyOrder K)

theorem asymm {x y : K} (h : O.lt x y = true) : O.lt y x = false :=
  asymm_of O.irrefl O.trans h

theorem le_trans {x y z : K} (hx : O.ok x) (hy : O.ok y) (h1 : O.lt y x = false) (h2 : O.lt z y = false) :
    O.lt z x = false := by
  cases hzx : O.lt z x with
  | false => rfl
  | true =>
    cases hxy : O.lt x y with
    | true => rw [O.trans hzx hxy] at h2; cases h2
    | false => rw [O.total hx hy hxy h1, h2] at hzx; cases hzx

def Sorted : List K → Prop
  | [] => True
  | x :: xs => (∀ y ∈ xs, O.lt y x = false) ∧ Sorted xs

theorem sorted_iff : ∀ {l : List K}, O.Sorted l ↔ l.Pairwise (fun a b => O.lt b a = false)
  | [] => by simp [Sorted]
  | x :: xs => by simp only [Sorted, List.pairwise_cons, sorted_iff (l := xs)]

theorem sorted_insert {x : K} (hx : O.ok x) {l : List K} (hl : ∀ t ∈ l, O.ok t) (hs : O.Sorted l) :
    O.Sorted (insertG O.lt x l) := by
  fun_induction insertG O.lt x l
  · exact ⟨nofun, trivial⟩
  · rename_i z zs h ih
    refine ⟨fun y hy => ?_, ih (fun t ht => hl t (List.mem_cons_of_mem _ ht)) hs.2⟩
    rcases List.mem_cons.mp ((perm_insertG _ x zs).mem_iff.mp hy) with e | hy
    · exact e ▸ O.asymm h
    · exact hs.1 y hy
  · rename_i z zs h
    have h : O.lt z x = false := by simpa using h
    refine ⟨fun y hy => ?_, hs⟩
    rcases List.mem_cons.mp hy with e | hy
    · exact e ▸ h
    · exact O.le_trans hx (hl z List.mem_cons_self) h (hs.1 y hy)

theorem sorted_sort : ∀ {l : List K}, (∀ t ∈ l, O.ok t) → O.Sorted (sortG O.lt l)
  | [], _ => trivial
  | x :: xs, hl =>
    have hxs : ∀ t ∈ xs, O.ok t := fun t ht => hl t (List.mem_cons_of_mem _ ht)
    O.sorted_insert (hl x List.mem_cons_self) (fun t ht => hxs t (mem_sortG ht)) (sorted_sort hxs)

/-- sorting with an order that is the key order on the members: the keys of the result depend only on the multiset,
    and they are increasing -/
theorem sort_keys {α : Type} (lt : α → α → Bool) (k : α → K) {l l' : List α}
    (hlt : ∀ x ∈ l, ∀ y ∈ l, lt x y = O.lt (k x) (k y)) (hok : ∀ x ∈ l, O.ok (k x)) (hp : l.Perm l') :
    (sortG lt l).map k = (sortG lt l').map k ∧ O.Sorted ((sortG lt l).map k) := by
  have k1 : ∀ t ∈ l.map k, O.ok t := by
    intro t ht
    obtain ⟨a, ha, rfl⟩ := List.mem_map.mp ht
    exact hok a ha
  have k2 : ∀ t ∈ l'.map k, O.ok t := fun t ht => k1 t ((hp.map k).mem_iff.mpr ht)
  have s1 := O.sorted_sort k1
  rw [map_sortG lt O.lt k l hlt,
    map_sortG lt O.lt k l' fun x hx y hy => hlt x (hp.mem_iff.mpr hx) y (hp.mem_iff.mpr hy)]
  -- two increasing rearrangements of one multiset of keys, under an order that is total on them, are equal
  refine ⟨List.Perm.eq_of_pairwise (fun a b ha hb h1 h2 => ?_) (O.sorted_iff.mp s1) (O.sorted_iff.mp (O.sorted_sort k2))
    ((perm_sortG _ _).trans ((hp.map k).trans (perm_sortG _ _).symm)), s1⟩
  exact O.total (k1 a (mem_sortG ha)) (k2 b (mem_sortG hb)) h2 h1

theorem sort_unique {α : Type} (lt : α → α → Bool) (k : α → K) {l l' : List α}
    (hlt : ∀ x ∈ l, ∀ y ∈ l, lt x y = O.lt (k x) (k y)) (hok : ∀ x ∈ l, O.ok (k x)) (hp : l.Perm l') :
    (sortG lt l).Perm l ∧ List.Pairwise (fun a b => lt b a = false) (sortG lt l) ∧
    Pointwise (fun a b => k a = k b) (sortG lt l) (sortG lt l') := by
  obtain ⟨hk, hs⟩ := O.sort_keys lt k hlt hok hp
  have p := perm_sortG lt l
  refine ⟨p, ?_, pointwise_of_map_eq k hk⟩
  refine ((List.pairwise_map.mp (O.sorted_iff.mp hs)).imp_of_mem ?_)
  intro a b ha hb h
  rw [hlt b (mem_sortG hb) a (mem_sortG ha)]
  exact h

end KeyOrder

theorem sortedBy_iff (lt : Term → Term → Bool) : ∀ {l : List Term}, SortedBy lt l ↔ l.Pairwise (fun a b => lt b a = false)
  | [] => by simp [SortedBy]
  | x :: xs => by simp only [SortedBy, List.pairwise_cons, sortedBy_iff lt (l := xs)]

def nodeOrder : KeyOrder Term where
  lt a b := lexLt a.nkey b.nkey
  ok t := t.isNode
  irrefl _ := lexLt_irrefl _
  trans := lexLt_trans
  total ha hb h1 h2 := nkey_injective ha hb (lexLt_total h1 h2)

end RV.C07

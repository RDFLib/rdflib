import RV.C07.Model
/-
  C07 — the white-space rule of xsd:normalizedString / xsd:token is idempotent,
  so a literal that went through `Literal.__new__` once is not changed by going through it again.
  For xsd:token: the result has no TAB / LF / CR (so `_normalise_XSD_STRING` leaves it), no #x20 at either end
  (so `strip(" ")` leaves it), and collapsing runs of spaces is idempotent.
-/
namespace RV.C07

/-- the character map of `normString` -/
def wsMap (c : Char) : Char := if c = '\t' ∨ c = '\n' ∨ c = '\r' then ' ' else c

theorem wsMap_idem (c : Char) : wsMap (wsMap c) = wsMap c := by
  unfold wsMap
  by_cases h : c = '\t' ∨ c = '\n' ∨ c = '\r'
  · simp only [h, if_true]; decide
  · simp only [h, if_false]

theorem normString_fixed : ∀ s : Str, (∀ c ∈ s, wsMap c = c) → normString s = s
  | [], _ => rfl
  | c :: s, h => by
    show wsMap c :: normString s = c :: s
    rw [h c List.mem_cons_self, normString_fixed s (fun x hx => h x (List.mem_cons_of_mem _ hx))]

theorem mem_normString_fixed (s : Str) : ∀ c ∈ normString s, wsMap c = c := by
  intro c hc
  obtain ⟨a, _, rfl⟩ := List.mem_map.mp hc
  exact wsMap_idem a

theorem mem_collapse (s : Str) (c : Char) (h : c ∈ collapse s) : c ∈ s := by
  fun_induction collapse s
  · rename_i s ih; exact List.mem_cons_of_mem _ (ih h)
  · rename_i x s hnot ih
    rcases List.mem_cons.mp h with e | h
    · exact List.mem_cons.mpr (Or.inl e)
    · exact List.mem_cons_of_mem _ (ih h)
  · exact h

theorem head_collapse (s : Str) : (collapse s).head? = s.head? := by
  fun_induction collapse s
  · rename_i s ih; rw [ih]; rfl
  · rfl
  · rfl

theorem getLast_collapse (s : Str) : (collapse s).getLast? = s.getLast? := by
  fun_induction collapse s
  · rename_i s ih; rw [ih, List.getLast?_cons_cons]
  · rename_i x s hnot ih; rw [List.getLast?_cons, List.getLast?_cons, ih]
  · rfl

theorem collapse_idem (s : Str) : collapse (collapse s) = collapse s := by
  fun_induction collapse s
  · assumption
  · rename_i x s hnot ih
    rw [collapse, ih]
    -- `collapse s` begins as `s` does, so no second space has come to stand after `x`
    intro s' hx hs
    have := head_collapse s
    rw [hs] at this
    cases s with
    | nil => simp at this
    | cons y t => exact hnot t hx (by rw [← (by simpa using this : ' ' = y)])
  · rfl

/-- what `strip(" ")` leaves alone -/
def Trimmed (s : Str) : Prop :=
  (∀ c, s.head? = some c → isSp c = false) ∧ (∀ c, s.getLast? = some c → isSp c = false)

theorem stripSpL_of_head {s : Str} (h : ∀ c, s.head? = some c → isSp c = false) : stripSpL s = s := by
  cases s with
  | nil => rfl
  | cons c s => simp [stripSpL, List.dropWhile, h c rfl]

theorem stripSp_of_trimmed {s : Str} (h : Trimmed s) : stripSp s = s := by
  unfold stripSp
  rw [stripSpL_of_head h.1, stripSpL_of_head (s := s.reverse) (by rw [List.head?_reverse]; exact h.2)]
  exact List.reverse_reverse s

theorem head_stripSpL (s : Str) : ∀ c, (stripSpL s).head? = some c → isSp c = false := by
  intro c hc
  have := List.head?_dropWhile_not isSp s
  simp only [stripSpL] at hc
  rw [hc] at this
  simpa using this

theorem getLast_stripSpL (s : Str) (h : stripSpL s ≠ []) : (stripSpL s).getLast? = s.getLast? := by
  have hs : stripSpL s <:+ s := List.dropWhile_suffix _
  rw [List.getLast?_eq_some_getLast h, List.getLast?_eq_some_getLast (hs.ne_nil h), hs.getLast h]

theorem trimmed_stripSp (s : Str) : Trimmed (stripSp s) := by
  unfold stripSp
  constructor
  · intro c hc
    rw [List.head?_reverse] at hc
    by_cases hne : stripSpL (stripSpL s).reverse = []
    · rw [hne] at hc; simp at hc
    · rw [getLast_stripSpL _ hne, List.getLast?_reverse] at hc
      exact head_stripSpL s c hc
  · intro c hc
    rw [List.getLast?_reverse] at hc
    exact head_stripSpL _ c hc

theorem mem_stripSp (s : Str) (c : Char) (h : c ∈ stripSp s) : c ∈ s := by
  have sub : ∀ t : Str, c ∈ stripSpL t → c ∈ t := fun t h => (List.dropWhile_sublist _).subset h
  unfold stripSp at h
  exact sub s (List.mem_reverse.mp (sub _ (List.mem_reverse.mp h)))

theorem wsNorm_idem (d : Option Str) (y : Str) : wsNorm d (wsNorm d y) = wsNorm d y := by
  unfold wsNorm
  by_cases h1 : d = some Tables.xsdNormalizedString
  · simp only [h1, if_true]
    exact normString_fixed _ (mem_normString_fixed y)
  · by_cases h2 : d = some Tables.xsdToken
    · have ht : Trimmed (collapse (stripSp (normString y))) :=
        ⟨by rw [head_collapse]; exact (trimmed_stripSp _).1, by rw [getLast_collapse]; exact (trimmed_stripSp _).2⟩
      subst h2
      simp only [h1, if_false, if_true]
      rw [normString_fixed _ fun c hc => mem_normString_fixed y c (mem_stripSp _ c (mem_collapse _ c hc)),
        stripSp_of_trimmed ht, collapse_idem]
    · simp only [h1, h2, if_false]

end RV.C07

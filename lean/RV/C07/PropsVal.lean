import RV.C07.LemmasVal
/-
  C07 — property statements and theorems about the VALUE ordering of literals
  (`ValModel.lean`: `Literal.__gt__`, `eq`, `neq`, `__lt__`, `__le__`, `__ge__` and Python's operator protocol,
  with concrete values for str / bool / int / Decimal / float / datetime / date / bytes / time / timedelta, Duration).
-/
namespace RV.C07

/-- `>` between two literals is irreflexive and asymmetric, whatever their datatypes and values -/
def Statement_lit_gt_strict : Prop :=
  ∀ a b : VLit, pyGt a a = false ∧ (pyGt a b = true → pyGt b a = false)

theorem lit_gt_strict : Statement_lit_gt_strict :=
  fun a _ => ⟨litGtV_irrefl a, litGtV_asymm⟩

/-- where `Literal.eq` answers, the six operators are consistent: `<` is "not `>` and not eq", `<=` is "`<` or eq",
    `>=` is "`>` or eq", `neq` is "not eq"; where it raises (two different lexical forms without a comparable value),
    `<` is the converse of `>` and `<=` / `>=` raise exactly for the pair ordered the other way -/
def Statement_lit_ops_consistent : Prop :=
  ∀ a b : VLit,
    (∀ e, litEqV a b = some e →
      pyLt a b = (!pyGt a b && !e) ∧ pyLe a b = some (pyLt a b || e) ∧ pyGe a b = some (pyGt a b || e) ∧
      litNeqV a b = some (!e)) ∧
    (litEqV a b = none → litEqV b a = none →
      pyLt a b = pyGt b a ∧ litNeqV a b = none ∧
      pyLe a b = (if pyGt a b then none else some true) ∧
      pyGe a b = (if pyGt a b then some true else if pyGt b a then none else some true))

theorem lit_ops_consistent : Statement_lit_ops_consistent := by
  intro a b
  refine ⟨?_, ?_⟩
  · intro e he
    simp only [pyLt, pyLe, pyGe, pyGt, litLtV, litLeV, litGeV, litNeqV, he]
    cases litGtV a b <;> cases e <;> simp [he]
  · intro he he'
    simp only [pyLt, pyLe, pyGe, pyGt, litLtV, litLeV, litGeV, litNeqV, he, he']
    rcases Bool.eq_false_or_eq_true (litGtV a b) with hab | hab
    · have hba := litGtV_asymm hab
      simp [hab, hba]
    · rcases Bool.eq_false_or_eq_true (litGtV b a) with hba | hba <;> simp [hab, hba]

/-- two literals that are `==`, carry the same value, and that value is not a NaN: neither `<` nor `>` holds,
    `eq`, `<=`, `>=` hold -/
def Statement_order_consistent_valued : Prop :=
  ∀ a b : VLit, eqb a.term b.term = true → a.val = b.val →
    pyLt a b = false ∧ pyGt a b = false ∧ litEqV a b = some true ∧ pyLe a b = some true ∧ pyGe a b = some true

/-- the hypothesis that excludes exactly the shape of finding C07-K3 -/
def NoNaN (a : VLit) : Prop := ∀ u, a.val = some u → u.key? ≠ none

theorem order_consistent_valued_partial (a b : VLit) (h : eqb a.term b.term = true) (hv : a.val = b.val)
    (hn : NoNaN a) :
    pyLt a b = false ∧ pyGt a b = false ∧ litEqV a b = some true ∧ pyLe a b = some true ∧ pyGe a b = some true := by
  obtain ⟨x, d, l, v, i⟩ := a
  obtain ⟨x', d', l', v', i'⟩ := b
  obtain ⟨rfl, rfl, hl⟩ := Term.lit.inj (eqb_iff.mp h)
  obtain rfl : v = v' := hv
  suffices hh : litGtV ⟨x, d, l, v, i⟩ ⟨x, d, l', v, i'⟩ = false ∧ litEqV ⟨x, d, l, v, i⟩ ⟨x, d, l', v, i'⟩ = some true by
    have hops := (lit_ops_consistent _ _).1 true hh.2
    simp only [pyGt, hh.1] at hops
    exact ⟨by simpa using hops.1, hh.1, hh.2, by simpa using hops.2.1, by simpa using hops.2.2.1⟩
  cases v with
  | none => simp [litGtV, litEqV, fastOK, gtGeneral, gtTail, VLit.cdt, hl]
  | some u =>
    -- the value has a key: it is equal to itself and not greater than itself, by the caster or by `>`
    obtain ⟨k, hk⟩ := Option.ne_none_iff_exists'.mp (hn u rfl)
    have he : PyVal.eq u u = true := by simp [PyVal.eq, hk]
    have hgen : gtGeneral ⟨x, d, l, some u, i⟩ ⟨x, d, l', some u, i'⟩ = false := by
      simp only [gtGeneral, VLit.cdt, hl, ne_eq, not_true_eq_false, if_false, he, if_true]
      split
      · simp [castGt, hk, VKey.lt_irrefl]
      · exact matchOr_false (PyVal.gt_self u) rfl
    constructor
    · simp only [litGtV]
      split
      · exact matchOr_false (PyVal.gt_self u) hgen
      · exact hgen
    · simp only [litEqV, VLit.cdt, hl, ne_eq, not_true_eq_false, if_false, and_self]
      cases fastOK _ _ <;> simp [he]

def nanLit : VLit := ⟨['N', 'a', 'N'], some "http://www.w3.org/2001/XMLSchema#double".toList, none, some .nan, false⟩

/-- a literal whose value is a NaN is `<` itself (finding C07-K3) -/
theorem order_consistent_valued_witness : ¬ Statement_order_consistent_valued :=
  fun h => absurd (h nanLit nanLit (eqb_refl _) rfl).1 (by eval_lits [nanLit])

/-- `<` on literals is transitive — FALSE in general (finding C07-K4, `lit_order_transitive_witness`),
    true on every family (`lit_family_order`) -/
def Statement_lit_order_transitive : Prop :=
  ∀ a b c : VLit, pyLt a b = true → pyLt b c = true → pyLt a c = true

/-- on a family (well-typed numeric literals of any mixture of numeric datatypes; literals of one other datatype and
    language whose values are of one Python type; literals of one datatype without values): `<` is irreflexive and
    transitive, `>` is its converse, two members are unordered exactly when they are value-equal (`eq`), value-equality
    is transitive and compatible with `<`, and `==` members with the same value are value-equal -/
def Statement_lit_family_order : Prop :=
  ∀ (F : Fam) (a b c : VLit), F.mem a = true → F.mem b = true → F.mem c = true →
    pyLt a a = false ∧
    (pyLt a b = true → pyLt b c = true → pyLt a c = true) ∧
    pyGt a b = pyLt b a ∧
    ((pyLt a b = false ∧ pyLt b a = false) ↔ litEqV a b = some true) ∧
    (litEqV a b = some true → litEqV b c = some true → litEqV a c = some true) ∧
    (litEqV a b = some true → pyLt a c = pyLt b c ∧ pyLt c a = pyLt c b) ∧
    (eqb a.term b.term = true → a.val = b.val → litEqV a b = some true)

theorem lit_family_order : Statement_lit_family_order := by
  intro F a b c ha hb hc
  have ka := mem_keyOK ha
  have kb := mem_keyOK hb
  -- on members `<`, `>`, `eq` are `FKey.lt`, its converse and `=` on keys: the seven clauses become order facts of `FKey.lt`
  rw [fam_eq_iff F ha hb, fam_eq_iff F hb hc, fam_eq_iff F ha hc, fam_lt F ha ha, fam_lt F ha hb, fam_lt F hb hc,
    fam_lt F ha hc, fam_lt F hb ha, fam_lt F hc ha, fam_lt F hc hb, pyGt, (fam_gt_and_eq F ha hb).1]
  refine ⟨FKey.lt_irrefl _, FKey.lt_trans, rfl, ⟨fun h => FKey.lt_total F ka kb h.1 h.2, fun e => ?_⟩,
    fun e e' => e.trans e', fun e => by simp [e], fun he hv => ?_⟩
  · rw [e]; exact ⟨FKey.lt_irrefl _, FKey.lt_irrefl _⟩
  · simp [VLit.fkey, VLit.key?, hv, (Term.lit.inj (eqb_iff.mp he)).1]

def k4a : VLit := ⟨[], none, none, some (.str []), false⟩
def k4b : VLit := ⟨['1'], some "http://www.w3.org/2001/XMLSchema#unsignedShort".toList, none, some (.num 1), false⟩
def k4c : VLit := ⟨['1', '0'], some "http://www.w3.org/2001/XMLSchema#nonNegativeInteger".toList, none, some (.num 10), false⟩

/-- `'' < '1'^^xsd:unsignedShort < '10'^^xsd:nonNegativeInteger < ''`: numeric literals go by value, the others by
    datatype IRI (finding C07-K4) -/
theorem lit_order_transitive_witness : ¬ Statement_lit_order_transitive := by
  intro h
  have hab : pyLt k4a k4b = true := by eval_lits [k4a, k4b]  -- by datatype IRI: xsd:string < xsd:unsignedShort
  have hbc : pyLt k4b k4c = true := by eval_lits [k4b, k4c]  -- by value: 1 < 10
  have hca : pyLt k4c k4a = true := by eval_lits [k4c, k4a]  -- by datatype IRI: xsd:nonNegativeInteger < xsd:string
  have haa : ¬ pyLt k4a k4a = true := by eval_lits [k4a]
  exact haa (h k4a k4c k4a (h k4a k4b k4c hab hbc) hca)

def k4d : VLit := ⟨['9'], some "http://www.w3.org/2001/XMLSchema#integer".toList, none, some (.num 9), false⟩
def k4e : VLit := ⟨['1', '0'], some "http://www.w3.org/2001/XMLSchema#integer".toList, none, some (.num 10), false⟩
def k4f : VLit := ⟨['5', 'x'], some "http://www.w3.org/2001/XMLSchema#integer".toList, none, none, true⟩

/-- the same inside ONE datatype when a member has no value: `9 < 10` by value, `'10' < '5x' < '9'` as strings -/
theorem lit_order_illtyped_cycle :
    pyLt k4d k4e = true ∧ pyLt k4e k4f = true ∧ pyLt k4f k4d = true := by eval_lits [k4d, k4e, k4f]

/-- outside the numeric fast path, literals of different datatypes (plain = xsd:string) order as their datatype IRIs, and
    literals of one datatype with different language tags (up to case) order untagged first, then as the lower-cased tags;
    `<` is the converse of `>` there -/
def Statement_lit_class_order : Prop :=
  ∀ a b : VLit, fastOK a b = false →
    (a.cdt ≠ b.cdt → pyGt a b = strLt b.cdt a.cdt ∧ pyLt a b = strLt a.cdt b.cdt) ∧
    (a.cdt = b.cdt → langKey a.lang ≠ langKey b.lang →
      pyGt a b = optStrGt (langKey a.lang) (langKey b.lang) ∧ pyLt a b = optStrGt (langKey b.lang) (langKey a.lang))

theorem lit_class_order : Statement_lit_class_order := by
  intro a b hf
  refine ⟨fun hc => ?_, fun hc hl => ?_⟩
  · have hg : litGtV a b = strLt b.cdt a.cdt := by simp [litGtV, hf, gtGeneral, hc]
    have he : litEqV a b = some false := by
      have : ¬ (a.cdt = Tables.xsdString ∧ b.cdt = Tables.xsdString) := fun h => hc (h.1.trans h.2.symm)
      by_cases hl : langKey a.lang = langKey b.lang <;> simp [litEqV, hf, hl, hc, this]
    rw [pyLt_of_eq he, pyGt, hg, ← not_strLt_of_ne hc]
    simp
  · have hg : litGtV a b = optStrGt (langKey a.lang) (langKey b.lang) := by simp [litGtV, hf, gtGeneral, hc, hl]
    rw [pyLt_of_eq (show litEqV a b = some false by simp [litEqV, hf, hl]), pyGt, hg, ← not_optStrGt_of_ne hl]
    simp

/-- two literals of one datatype `d` (not numeric, not xsd:string) and language whose values are durations, at least one an
    `rdflib.xsd_datetime.Duration` (Python defines no order for it): value-equal ones are not ordered at all, the others
    order as their lexical forms -/
def Statement_lit_duration_order : Prop :=
  ∀ (a b : VLit) (d : Str) (u v : PyVal), a.dt = some d → b.dt = some d → d ≠ Tables.xsdString →
    Tables.numericTypes.contains d = false → langKey a.lang = langKey b.lang →
    a.val = some u → b.val = some v → u.cls = 6 → v.cls = 6 → (u.noOrder || v.noOrder) = true →
    litEqV a b = some (PyVal.eq u v) ∧
    pyGt a b = (!PyVal.eq u v && strLt b.lex a.lex) ∧
    pyLt a b = (!PyVal.eq u v && !strLt b.lex a.lex)

theorem lit_duration_order : Statement_lit_duration_order := by
  intro a b d u v hda hdb hds hdn hl hva hvb hcu hcv hno
  have hna : isNumericDt a.dt = false := by rw [hda]; simpa [isNumericDt] using hdn
  have hf : fastOK a b = false := by simp [fastOK, hna]
  have he : litEqV a b = some (PyVal.eq u v) := by
    simp [litEqV, hf, hl, VLit.cdt, hda, hdb, hds, hva, hvb]
  have hg : litGtV a b = (!PyVal.eq u v && strLt b.lex a.lex) := by
    have hgt0 : PyVal.gt u v = none := by simp [PyVal.gt, hcu, hcv, hno]
    simp only [litGtV, hf, Bool.false_eq_true, if_false, gtGeneral, VLit.cdt, hl, ne_eq, not_true_eq_false, hva, hvb,
      show usesCaster u v = false by simp [usesCaster, hcu], hgt0, gtTail, hda, hdb]
    cases PyVal.eq u v <;> by_cases e : a.lex = b.lex <;> simp [e, strLt_irrefl]
  refine ⟨he, hg, ?_⟩
  rw [pyLt_of_eq he, hg]
  cases PyVal.eq u v <;> cases strLt b.lex a.lex <;> rfl

def durLit (x : String) (m : Int) : VLit :=
  ⟨x.toList, some "http://www.w3.org/2001/XMLSchema#yearMonthDuration".toList, none, some (.dur m 0 true), false⟩

/-- so `<` is not transitive inside xsd:yearMonthDuration: `P12M < P13M < P1Y` as strings, `P12M` and `P1Y` value-equal -/
theorem lit_duration_not_transitive :
    pyLt (durLit "P12M" 12) (durLit "P13M" 13) = true ∧ pyLt (durLit "P13M" 13) (durLit "P1Y" 12) = true ∧
    pyLt (durLit "P12M" 12) (durLit "P1Y" 12) = false ∧ pyGt (durLit "P1Y" 12) (durLit "P12M" 12) = false ∧
    litEqV (durLit "P12M" 12) (durLit "P1Y" 12) = some true := by eval_lits [durLit]

/-- sorting the members of a family with `<`: the result is an increasing rearrangement; two input orders give
    results that are value-equal position by position; and `==` position by position when value-equal members of
    the collection are `==` (the harness's "strictly comparable" pre-condition) -/
def Statement_lit_sort_unique : Prop :=
  ∀ (F : Fam) (l l' : List VLit), (∀ a ∈ l, F.mem a = true) → l.Perm l' →
    (sortV l).Perm l ∧
    List.Pairwise (fun a b => pyLt b a = false) (sortV l) ∧
    Pointwise (fun a b => litEqV a b = some true) (sortV l) (sortV l') ∧
    ((∀ a ∈ l, ∀ b ∈ l, litEqV a b = some true → eqb a.term b.term = true) →
      Pointwise (fun a b => eqb a.term b.term = true) (sortV l) (sortV l'))

theorem lit_sort_unique : Statement_lit_sort_unique := by
  intro F l l' hl hp
  obtain ⟨p1, hs, hk⟩ := (fOrder F).sort_unique pyLt VLit.fkey (fun x hx y hy => fam_lt F (hl x hx) (hl y hy))
    (fun x hx => mem_keyOK (hl x hx)) hp
  have m2 : ∀ b ∈ sortV l', b ∈ l := fun b hb => hp.mem_iff.mpr (mem_sortG hb)
  have hv : Pointwise (fun a b => litEqV a b = some true) (sortV l) (sortV l') :=
    hk.imp_mem fun a ha b hb e => (fam_eq_iff F (hl a (p1.mem_iff.mp ha)) (hl b (m2 b hb))).mpr e
  exact ⟨p1, hs, hv, fun H => hv.imp_mem fun a ha b hb e => H a (p1.mem_iff.mp ha) b (m2 b hb) e⟩

/-- a mixed collection — IRIs, blank nodes, variables, and literals of one family — sorts reproducibly: the result is an
    increasing rearrangement, and two input orders give, position by position, the same non-literal term or value-equal
    literals -/
def Statement_mixed_sort_unique : Prop :=
  ∀ (F : Fam) (l l' : List VTerm), LitsIn F l → l.Perm l' →
    (sortVT l).Perm l ∧
    List.Pairwise (fun x y => vtLt y x = false) (sortVT l) ∧
    Pointwise vtValueEq (sortVT l) (sortVT l')

theorem mixed_sort_unique : Statement_mixed_sort_unique := by
  intro F l l' hl hp
  have hm : ∀ x ∈ l, x.litIn F := fun _ hx => hl.litIn hx
  obtain ⟨p1, hs, hk⟩ := (tOrder F).sort_unique vtLt VTerm.tkey (fun x hx y hy => vtLt_key F (hm x hx) (hm y hy))
    (fun x hx => tkey_ok F (hm x hx)) hp
  exact ⟨p1, hs, hk.imp_mem fun x hx y hy e => vtValueEq_of_tkey F (hm x (p1.mem_iff.mp hx))
    (hm y (hp.mem_iff.mpr (mem_sortG hy))) e⟩

def xsd (n : String) : Str := ("http://www.w3.org/2001/XMLSchema#" ++ n).toList

def exInt : VLit := ⟨['7'], some (xsd "integer"), none, some (.num 7), false⟩
def exDbl : VLit := ⟨"7.5".toList, some (xsd "double"), none, some (.num (15 / 2)), false⟩
def exDec : VLit := ⟨"7.0".toList, some (xsd "decimal"), none, some (.num 7), false⟩
def exNaive : VLit := ⟨"2001-10-26T21:32:52".toList, some (xsd "dateTime"), none, some (.dtm 63139815172000000 none), false⟩
def exAware : VLit := ⟨"2001-10-26T21:32:52Z".toList, some (xsd "dateTime"), none, some (.dtm 63139815172000000 (some 0)), false⟩
def exAware2 : VLit := ⟨"2001-10-26T23:32:52+02:00".toList, some (xsd "dateTime"), none,
  some (.dtm 63139822372000000 (some 7200000000)), false⟩

example : Fam.numeric.mem exInt = true ∧ Fam.numeric.mem exDbl = true ∧ Fam.numeric.mem exDec = true := by
  eval_lits [exInt, exDbl, exDec, xsd]
example : pyLt exInt exDbl = true ∧ pyLt exInt exDec = false ∧ pyLt exDec exInt = false ∧ litEqV exInt exDec = some true ∧
    eqb exInt.term exDec.term = false := by eval_lits [exInt, exDbl, exDec, xsd]
example : (Fam.valued (xsd "dateTime") none 2).mem exNaive = true ∧ (Fam.valued (xsd "dateTime") none 2).mem exAware = true ∧
    (Fam.valued (xsd "dateTime") none 2).mem exAware2 = true := by eval_lits [exNaive, exAware, exAware2, xsd]
example : pyLt exNaive exAware = true ∧ litEqV exAware exAware2 = some true ∧ pyLe exAware exAware2 = some true := by
  eval_lits [exNaive, exAware, exAware2, xsd]
example : (Fam.lexical (xsd "integer") none).mem k4f = true := by eval_lits [k4f, xsd]
example : NoNaN exInt := by intro u h; cases h; decide
example : sortV [exDbl, exDec, exInt] = [exDec, exInt, exDbl] ∧ sortV [exInt, exDbl, exDec] = [exInt, exDec, exDbl] := by
  eval_lits [exInt, exDbl, exDec, xsd]
example : LitsIn Fam.numeric [.lit exDbl, .node .uri ['b'], .lit exInt, .node .bnode ['z'], .node .uri ['a']] := by
  intro a h
  simp only [List.mem_cons, VTerm.lit.injEq, reduceCtorEq, List.not_mem_nil, or_false, false_or] at h
  rcases h with rfl | rfl
  · eval_lits [exDbl, xsd]
  · eval_lits [exInt, xsd]
example : sortVT [.lit exDbl, .node .uri ['b'], .lit exInt, .node .bnode ['z'], .node .uri ['a']] =
    [.node .bnode ['z'], .node .uri ['a'], .node .uri ['b'], .lit exInt, .lit exDbl] := by eval_lits [exInt, exDbl, xsd]
def exT1 : VLit := ⟨"21:32:52".toList, some (xsd "time"), none, some (.tim 77572000000 none), false⟩
def exT2 : VLit := ⟨"21:32:52Z".toList, some (xsd "time"), none, some (.tim 77572000000 (some 0)), false⟩
def exT3 : VLit := ⟨"23:32:52+02:00".toList, some (xsd "time"), none, some (.tim 84772000000 (some 7200000000)), false⟩
example : (Fam.valued (xsd "time") none 5).mem exT1 = true ∧ (Fam.valued (xsd "time") none 5).mem exT3 = true := by
  eval_lits [exT1, exT3, xsd]
example : pyLt exT1 exT2 = true ∧ litEqV exT2 exT3 = some true ∧ pyLt exT2 exT3 = false := by
  eval_lits [exT1, exT2, exT3, xsd]
def exB1 : VLit := ⟨"0FB7".toList, some (xsd "hexBinary"), none, some (.bytes [Char.ofNat 15, Char.ofNat 183]), false⟩
def exB2 : VLit := ⟨"0fb8".toList, some (xsd "hexBinary"), none, some (.bytes [Char.ofNat 15, Char.ofNat 184]), false⟩
example : (Fam.valued (xsd "hexBinary") none 4).mem exB1 = true ∧ pyLt exB1 exB2 = true := by
  eval_lits [exB1, exB2, xsd]
def exD1 : VLit := ⟨"P1D".toList, some (xsd "dayTimeDuration"), none, some (.dur 0 86400000000 false), false⟩
def exD2 : VLit := ⟨"PT24H".toList, some (xsd "dayTimeDuration"), none, some (.dur 0 86400000000 false), false⟩
def exD3 : VLit := ⟨"PT25H".toList, some (xsd "dayTimeDuration"), none, some (.dur 0 90000000000 false), false⟩
example : (Fam.valued (xsd "dayTimeDuration") none 6).mem exD1 = true ∧ litEqV exD1 exD2 = some true ∧ pyLt exD2 exD3 = true ∧
    (Fam.valued (xsd "yearMonthDuration") none 6).mem (durLit "P1Y" 12) = false := by
  eval_lits [exD1, exD2, exD3, durLit, xsd]
/-- `<=` raises for two ill-typed forms ordered the other way (what `lit_ops_consistent` says) -/
example : pyLe k4f ⟨['5'], some (xsd "integer"), none, none, true⟩ = none := by eval_lits [k4f, xsd]

end RV.C07

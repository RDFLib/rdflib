import RV.C07.LemmasKey
/-
  C07 — the concrete value ordering of literals (`ValModel.lean`):
  the key orders are strict total orders per Python type, `>` is asymmetric, on a family the operators are
  the key order, and a mixed collection sorts by the key `TKey` (nodes by rank and string, then the family's literals).
-/
namespace RV.C07

theorem XRat.lt_irrefl (x : XRat) : XRat.lt x x = false := by
  cases x <;> simp [XRat.lt, Rat.lt_irrefl]

theorem XRat.lt_trans {x y z : XRat} (h1 : XRat.lt x y = true) (h2 : XRat.lt y z = true) :
    XRat.lt x z = true := by
  cases x <;> cases y <;> cases z <;> simp only [XRat.lt, decide_eq_true_eq, Bool.false_eq_true] at h1 h2 ⊢
  exact Std.lt_trans h1 h2

theorem XRat.lt_total {x y : XRat} (h1 : XRat.lt x y = false) (h2 : XRat.lt y x = false) : x = y := by
  cases x <;> cases y <;> simp only [XRat.lt, decide_eq_false_iff_not, Bool.true_eq_false] at h1 h2 ⊢
  exact congrArg _ (Rat.le_antisymm (Rat.not_lt.mp h2) (Rat.not_lt.mp h1))

/-- two keys of one Python type; `lt_trans` / `lt_total` split on it: 7 cases, not 7³ / 7² -/
inductive VKey.Same : VKey → VKey → Prop
  | str (s t) : Same (.str s) (.str t)
  | num (x y) : Same (.num x) (.num y)
  | dtm (a i b j) : Same (.dtm a i) (.dtm b j)
  | date (m n) : Same (.date m) (.date n)
  | bytes (s t) : Same (.bytes s) (.bytes t)
  | tim (a i b j) : Same (.tim a i) (.tim b j)
  | dur (m u m' u') : Same (.dur m u) (.dur m' u')

theorem VKey.lt_cls {x y : VKey} (h : VKey.lt x y = true) : x.cls = y.cls := by
  revert h
  fun_cases VKey.lt x y <;> intro h <;> first | rfl | cases h

theorem VKey.same_of_cls {x y : VKey} (h : x.cls = y.cls) : VKey.Same x y := by
  cases x <;> cases y <;> first | constructor | cases h

theorem VKey.lt_irrefl (k : VKey) : VKey.lt k k = false := by
  cases k <;> simp [VKey.lt, strLt_irrefl, XRat.lt_irrefl]

/-- (aware?, instant) pairs inside `VKey.lt`: naive before aware, then by instant -/
theorem awLt_trans {a b c : Bool} {i j k : Int} (h1 : ((!a && b) || (a == b && decide (i < j))) = true)
    (h2 : ((!b && c) || (b == c && decide (j < k))) = true) : ((!a && c) || (a == c && decide (i < k))) = true := by
  cases a <;> cases b <;> cases c <;> simp_all <;> omega

theorem awLt_total {a b : Bool} {i j : Int} (h1 : ((!a && b) || (a == b && decide (i < j))) = false)
    (h2 : ((!b && a) || (b == a && decide (j < i))) = false) : a = b ∧ i = j := by
  cases a <;> cases b <;> simp_all <;> omega

theorem VKey.lt_trans {x y z : VKey} (h1 : VKey.lt x y = true) (h2 : VKey.lt y z = true) :
    VKey.lt x z = true := by
  cases VKey.same_of_cls (VKey.lt_cls h1) <;> cases VKey.same_of_cls (VKey.lt_cls h2)
  · exact strLt_trans h1 h2
  · exact XRat.lt_trans h1 h2
  · exact awLt_trans h1 h2
  · simp only [VKey.lt, decide_eq_true_eq] at h1 h2 ⊢; omega
  · exact strLt_trans h1 h2
  · exact awLt_trans h1 h2
  · simp only [VKey.lt, Bool.or_eq_true, Bool.and_eq_true, decide_eq_true_eq, beq_iff_eq] at h1 h2 ⊢; omega

theorem VKey.lt_total {x y : VKey} (hc : x.cls = y.cls) (h1 : VKey.lt x y = false) (h2 : VKey.lt y x = false) :
    x = y := by
  cases VKey.same_of_cls hc
  · exact congrArg _ (strLt_total h1 h2)
  · exact congrArg _ (XRat.lt_total h1 h2)
  · obtain ⟨rfl, rfl⟩ := awLt_total h1 h2; rfl
  · simp only [VKey.lt, decide_eq_false_iff_not] at h1 h2; exact congrArg _ (by omega)
  · exact congrArg _ (strLt_total h1 h2)
  · obtain ⟨rfl, rfl⟩ := awLt_total h1 h2; rfl
  · rename_i m u m' u'
    simp only [VKey.lt, Bool.or_eq_false_iff, Bool.and_eq_false_imp, decide_eq_false_iff_not, beq_iff_eq] at h1 h2
    obtain rfl : m = m' := by omega
    have := h1.2 rfl
    have := h2.2 rfl
    exact congrArg _ (by omega)

theorem VKey.lt_asymm {x y : VKey} (h : VKey.lt x y = true) : VKey.lt y x = false :=
  asymm_of VKey.lt_irrefl VKey.lt_trans h

theorem VKey.clash_symm (x y : VKey) : VKey.clash x y = VKey.clash y x := by
  fun_cases VKey.clash x y
  · exact bne_comm
  · exact bne_comm
  · rename_i h1 h2
    fun_cases VKey.clash y x
    · exact absurd rfl (h1 _ _ _ _ rfl)
    · exact absurd rfl (h2 _ _ _ _ rfl)
    · rfl

theorem VKey.clash_self (x : VKey) : VKey.clash x x = false := by
  fun_cases VKey.clash x x <;> simp

theorem PyVal.key?_cls {u : PyVal} {k : VKey} (h : u.key? = some k) : u.cls = k.cls := by
  revert h
  fun_cases PyVal.key? u <;> intro h <;> cases h <;> rfl

theorem FKey.lt_irrefl (k : FKey) : FKey.lt k k = false := by
  cases k <;> simp [FKey.lt, VKey.lt_irrefl, strLt_irrefl]

theorem FKey.lt_trans {x y z : FKey} (h1 : FKey.lt x y = true) (h2 : FKey.lt y z = true) :
    FKey.lt x z = true := by
  revert h1 h2
  fun_cases FKey.lt x y <;> intro h1 h2
  · cases z
    · exact VKey.lt_trans h1 h2
    · cases h2
  · cases z
    · cases h2
    · exact strLt_trans h1 h2
  · cases h1

theorem FKey.lt_total (F : Fam) {x y : FKey} (hx : F.keyOK x = true) (hy : F.keyOK y = true)
    (h1 : FKey.lt x y = false) (h2 : FKey.lt y x = false) : x = y := by
  cases F <;> cases x <;> cases y <;> simp [Fam.keyOK] at hx hy
  · exact congrArg _ (VKey.lt_total (hx.trans hy.symm) h1 h2)
  · exact congrArg _ (VKey.lt_total (hx.trans hy.symm) h1 h2)
  · exact congrArg _ (strLt_total h1 h2)

def fOrder (F : Fam) : KeyOrder FKey where
  lt := FKey.lt
  ok k := F.keyOK k = true
  irrefl := FKey.lt_irrefl
  trans := FKey.lt_trans
  total := FKey.lt_total F

theorem PyVal.noOrder_cls {u : PyVal} (h : u.cls ≠ 6) : u.noOrder = false := by
  fun_cases PyVal.noOrder u
  · exact absurd rfl h
  · rfl

theorem PyVal.gt_asymm (u v : PyVal) :
    (PyVal.gt u v = none ↔ PyVal.gt v u = none) ∧ (PyVal.gt u v = some true → PyVal.gt v u = some false) := by
  simp only [PyVal.gt]
  by_cases hc : u.cls = v.cls
  · simp only [hc, ne_eq, not_true_eq_false, if_false, Bool.or_comm v.noOrder u.noOrder]
    cases hno : (u.noOrder || v.noOrder) with
    | true => simp
    | false =>
    simp only [Bool.false_eq_true, if_false]
    cases hu : u.key? with
    | none => cases hv : v.key? <;> simp
    | some k =>
      cases hv : v.key? with
      | none => simp
      | some k' =>
        simp only [VKey.clash_symm k' k]
        cases hcl : VKey.clash k k' with
        | true => simp
        | false =>
          simp only [Bool.false_eq_true, if_false, Option.some.injEq, reduceCtorEq, false_iff, not_false_eq_true, true_and]
          intro h
          exact VKey.lt_asymm h
  · have hc' : ¬ v.cls = u.cls := fun e => hc e.symm
    simp [hc, hc']

theorem PyVal.gt_self (u : PyVal) : PyVal.gt u u ≠ some true := fun h => by
  have := (PyVal.gt_asymm u u).2 h
  rw [h] at this; cases this

theorem PyVal.eq_symm (u v : PyVal) : PyVal.eq u v = PyVal.eq v u := by
  simp only [PyVal.eq]
  cases u.key? <;> cases v.key? <;> simp [eq_comm]

theorem castGt_asymm {u v : PyVal} (h : castGt u v = true) : castGt v u = false := by
  simp only [castGt] at h ⊢
  cases hu : u.key? with
  | none => simp [hu] at h
  | some k =>
    cases hv : v.key? with
    | none => simp [hu, hv] at h
    | some k' =>
      simp only [hu, hv] at h ⊢
      exact VKey.lt_asymm h

theorem usesCaster_symm (u v : PyVal) : usesCaster u v = usesCaster v u := by
  simp only [usesCaster, Bool.and_assoc]
  cases Tables.castsDatetime <;> simp [Bool.and_comm]

theorem optStrGt_asymm {a b : Option Str} (h : optStrGt a b = true) : optStrGt b a = false := by
  cases a <;> cases b <;> simp_all [optStrGt]
  exact strLt_asymm h

theorem not_optStrGt_of_ne {a b : Option Str} (h : a ≠ b) : (!optStrGt a b) = optStrGt b a := by
  cases a <;> cases b <;> first | rfl | exact absurd rfl h | exact not_strLt_of_ne (fun e => h (e ▸ rfl))

theorem ite_ne_asymm {α} [DecidableEq α] {u v : α} {x y x' y' : Bool} (hx : x = true → x' = false)
    (hy : y = true → y' = false) (h : (if u ≠ v then x else y) = true) : (if v ≠ u then x' else y') = false := by
  by_cases e : u = v
  · subst e; simp only [ne_eq, not_true_eq_false, if_false] at h ⊢; exact hy h
  · have e' : ¬ v = u := fun h' => e h'.symm
    simp only [ne_eq, e, e', not_false_eq_true, if_true] at h ⊢; exact hx h

theorem gtOr_asymm {u v : PyVal} {x x' : Bool} (hx : x = true → x' = false) :
    (match PyVal.gt u v with | some r => r | none => x) = true →
    (match PyVal.gt v u with | some r => r | none => x') = false := by
  intro h
  have hs := PyVal.gt_asymm u v
  cases hg : PyVal.gt u v with
  | some r =>
    cases r with
    | false => simp [hg] at h
    | true => rw [hs.2 hg]
  | none => rw [hs.1.mp hg]; rw [hg] at h; exact hx h

theorem vals_asymm {o o' : Option PyVal} {f f' : PyVal → PyVal → Bool} {g g' : Bool}
    (hf : ∀ u v, f u v = true → f' v u = false) (hg : g = true → g' = false) :
    (match o, o' with | some u, some v => f u v | _, _ => g) = true →
    (match o', o with | some v, some u => f' v u | _, _ => g') = false := by
  cases o <;> cases o' <;> first | exact hg | exact hf _ _

theorem gtTail_asymm {a b : VLit} (h : gtTail a b = true) : gtTail b a = false :=
  ite_ne_asymm strLt_asymm (ite_ne_asymm optStrGt_asymm fun _ => rfl) h

theorem gtGeneral_asymm {a b : VLit} (h : gtGeneral a b = true) : gtGeneral b a = false := by
  refine ite_ne_asymm strLt_asymm (ite_ne_asymm optStrGt_asymm (vals_asymm (fun u v h => ?_) gtTail_asymm)) h
  rw [usesCaster_symm v u]
  cases hc : usesCaster u v <;> simp only [hc, if_true, Bool.false_eq_true, if_false] at h ⊢
  · refine gtOr_asymm (fun h => ?_) h
    rw [PyVal.eq_symm v u]
    cases he : PyVal.eq u v <;> simp only [he, if_true, Bool.false_eq_true, if_false] at h ⊢
    exact gtTail_asymm h
  · exact castGt_asymm h

theorem fastOK_symm (a b : VLit) : fastOK a b = fastOK b a := by
  simp only [fastOK]; ac_rfl

theorem litGtV_asymm {a b : VLit} (h : litGtV a b = true) : litGtV b a = false := by
  unfold litGtV at h ⊢
  rw [fastOK_symm b a]
  cases hf : fastOK a b <;> simp only [hf, if_true, Bool.false_eq_true, if_false] at h ⊢
  · exact gtGeneral_asymm h
  · exact vals_asymm (fun u v h => gtOr_asymm gtGeneral_asymm h) gtGeneral_asymm h

theorem litGtV_irrefl (a : VLit) : litGtV a a = false := by
  cases h : litGtV a a with
  | false => rfl
  | true => have := litGtV_asymm h; rw [h] at this; cases this

/-- `datetime` and `time` each have a total-order caster that keys a value by (aware?, value) — probed on the live table -/
theorem table_casters : Tables.castsDatetime = true ∧ Tables.casterAwareFlag = (false, true) ∧
    Tables.castsTime = true ∧ Tables.casterAwareFlagTime = (false, true) := by decide

theorem casts_datetime : Tables.castsDatetime = true := table_casters.1
theorem casts_time : Tables.castsTime = true := table_casters.2.2.1

theorem not_numeric_cdt {a : VLit} {d : Str} (hd : Tables.numericTypes.contains d = false) (h : a.cdt = d) :
    isNumericDt a.dt = false := by
  cases hdt : a.dt with
  | none => rfl
  | some d' =>
    simp only [VLit.cdt, hdt, Option.getD_some] at h
    subst h
    simpa [isNumericDt] using hd

structure MemFacts (F : Fam) (a : VLit) : Prop where
  keyOK : F.keyOK a.fkey = true
  valued : ∀ k, a.fkey = .v k → ∃ u, a.val = some u ∧ u.key? = some k
  lexical : ∀ x, a.fkey = .l x → x = a.lex ∧ ∀ u, a.val = some u → u.key? = none

theorem fkey_val {a : VLit} {u : PyVal} {k : VKey} (hv : a.val = some u) (hk : u.key? = some k) : a.fkey = .v k := by
  simp [VLit.fkey, VLit.key?, hv, hk]

theorem fkey_none {a : VLit} (hv : a.val = none) : a.fkey = .l a.lex := by
  simp [VLit.fkey, VLit.key?, hv]

/-- the clause of `Fam.mem` shared by the numeric and the valued families: a value with a key of class `c` -/
theorem mem_keyed {a : VLit} {c : Nat} (h : (match a.key? with | some k => k.cls == c | none => false) = true) :
    ∃ u k, a.val = some u ∧ u.key? = some k ∧ u.cls = c ∧ k.cls = c ∧ a.fkey = .v k := by
  simp only [VLit.key?] at h
  cases hv : a.val with
  | none => simp [hv] at h
  | some u =>
    cases hk : u.key? with
    | none => simp [hv, hk] at h
    | some k =>
      have hc : k.cls = c := by simpa [hv, hk] using h
      exact ⟨u, k, rfl, hk, (PyVal.key?_cls hk).trans hc, hc, fkey_val hv hk⟩

theorem mem_keyOK {F : Fam} {a : VLit} (h : F.mem a = true) : F.keyOK a.fkey = true := by
  cases F <;> simp only [Fam.mem, Bool.and_eq_true, and_assoc] at h
  · obtain ⟨_, _, hk⟩ := h
    obtain ⟨_, _, _, _, _, hc, hf⟩ := mem_keyed hk
    simpa [hf, Fam.keyOK] using hc
  · obtain ⟨_, _, _, hk, _⟩ := h
    obtain ⟨_, _, _, _, _, hc, hf⟩ := mem_keyed hk
    simpa [hf, Fam.keyOK] using hc
  · obtain ⟨_, _, _, hv⟩ := h
    rw [fkey_none (by simpa using hv)]; rfl

/-- the casters cover the types whose keys can clash (a naive and an aware datetime or time) -/
theorem clash_usesCaster {u v : PyVal} {k k' : VKey} (hu : u.key? = some k) (hv : v.key? = some k')
    (h : VKey.clash k k' = true) : usesCaster u v = true := by
  have hcu := PyVal.key?_cls hu
  have hcv := PyVal.key?_cls hv
  revert h
  fun_cases VKey.clash k k' <;> intro h
  · simp [usesCaster, casts_datetime, hcu, hcv, VKey.cls]
  · simp [usesCaster, casts_time, hcu, hcv, VKey.cls]
  · cases h

/-- two values with keys, of one Python type that has an order: by the caster or by `>`, the order of the keys -/
theorem keyed_gt {u v : PyVal} {k k' : VKey} (hu : u.key? = some k) (hv : v.key? = some k') (hc : u.cls = v.cls)
    (hnu : u.noOrder = false) (hnv : v.noOrder = false) :
    castGt u v = VKey.lt k' k ∧ (usesCaster u v = false → PyVal.gt u v = some (VKey.lt k' k)) := by
  refine ⟨by simp [castGt, hu, hv], fun h => ?_⟩
  cases hcl : VKey.clash k k' with
  | false => simp [PyVal.gt, hc, hu, hv, hcl, hnu, hnv]
  | true => rw [clash_usesCaster hu hv hcl] at h; cases h

/-- `Literal.eq` on two members with different keys: it raises where there are no values -/
def Fam.neqAnswer : Fam → Option Bool
  | .lexical _ _ => none
  | _ => some false

theorem fam_gt_and_eq (F : Fam) {a b : VLit} (ha : F.mem a = true) (hb : F.mem b = true) :
    litGtV a b = FKey.lt b.fkey a.fkey ∧
    litEqV a b = if a.fkey = b.fkey then some true else F.neqAnswer := by
  -- membership fixes `fastOK` and the deciding branch of `gtGeneral` / `litEqV`; there `keyed_gt` compares the values by their keys
  cases F with
  | numeric =>
    simp only [Fam.mem, Bool.and_eq_true, Bool.not_eq_true', and_assoc] at ha hb
    obtain ⟨hda, hia, hka⟩ := ha
    obtain ⟨hdb, hib, hkb⟩ := hb
    obtain ⟨u, k, hva, hku, hcu, _, hfa⟩ := mem_keyed hka
    obtain ⟨v, k', hvb, hkv, hcv, _, hfb⟩ := mem_keyed hkb
    have hf : fastOK a b = true := by simp [fastOK, hda, hia, hdb, hib, hva, hvb]
    have hgt := (keyed_gt hku hkv (hcu.trans hcv.symm) (PyVal.noOrder_cls (by rw [hcu]; decide))
      (PyVal.noOrder_cls (by rw [hcv]; decide))).2 (by simp [usesCaster, hcu])
    constructor
    · simp [litGtV, hf, hva, hvb, hgt, hfa, hfb, FKey.lt]
    · by_cases e : k = k' <;> simp [litEqV, hf, hva, hvb, PyVal.eq, hku, hkv, hfa, hfb, e, Fam.neqAnswer]
  | valued d lg c =>
    simp only [Fam.mem, Bool.and_eq_true, Bool.not_eq_true', beq_iff_eq, Bool.or_eq_true, bne_iff_ne, ne_eq,
      and_assoc] at ha hb
    obtain ⟨hd, hca, hla, hka, hoa, hsa⟩ := ha
    obtain ⟨_, hcb, hlb, hkb, hob, hsb⟩ := hb
    obtain ⟨u, k, hva, hku, hcu, _, hfa⟩ := mem_keyed hka
    obtain ⟨v, k', hvb, hkv, hcv, _, hfb⟩ := mem_keyed hkb
    have hnu : u.noOrder = false := by simpa [hva] using hoa
    have hnv : v.noOrder = false := by simpa [hvb] using hob
    have hf : fastOK a b = false := by simp [fastOK, not_numeric_cdt hd hca]
    have hk := keyed_gt hku hkv (hcu.trans hcv.symm) hnu hnv
    have hgg : gtGeneral a b = VKey.lt k' k := by
      simp only [gtGeneral, hca, hcb, hla, hlb, ne_eq, not_true_eq_false, if_false, hva, hvb, hk.1]
      cases hc : usesCaster u v
      · simp [hk.2 hc]
      · simp
    constructor
    · simp [litGtV, hf, hgg, hfa, hfb, FKey.lt]
    · simp only [litEqV, hf, hla, hlb, ne_eq, not_true_eq_false, if_false, hca, hcb, and_self, hva, hvb,
        hfa, hfb, FKey.v.injEq]
      by_cases hs : d = Tables.xsdString
      · have e1 := hsa.resolve_left (by simpa using hs)
        have e2 := hsb.resolve_left (by simpa using hs)
        rw [hva] at e1; rw [hvb] at e2
        simp only [Option.some.injEq] at e1 e2
        subst e1 e2
        simp only [PyVal.key?, Option.some.injEq] at hku hkv
        subst hku hkv
        by_cases e : a.lex = b.lex <;> simp [hs, e, Fam.neqAnswer]
      · by_cases e : k = k' <;> simp [hs, PyVal.eq, hku, hkv, e, Fam.neqAnswer]
  | lexical d lg =>
    simp only [Fam.mem, Bool.and_eq_true, beq_iff_eq, bne_iff_ne, ne_eq, Option.isNone_iff_eq_none, and_assoc] at ha hb
    obtain ⟨hd, hda, hla, hva⟩ := ha
    obtain ⟨_, hdb, hlb, hvb⟩ := hb
    have hf : fastOK a b = false := by simp [fastOK, hva]
    have hca : a.cdt = d := by simp [VLit.cdt, hda]
    have hcb : b.cdt = d := by simp [VLit.cdt, hdb]
    rw [fkey_none hva, fkey_none hvb]
    constructor
    · simp only [litGtV, hf, Bool.false_eq_true, if_false, gtGeneral, hca, hcb, hla, hlb, ne_eq, not_true_eq_false,
        hva, hvb, gtTail, hda, hdb, FKey.lt]
      by_cases e : a.lex = b.lex <;> simp [e, strLt_irrefl]
    · simp only [litEqV, hf, hla, hlb, ne_eq, not_true_eq_false, if_false, hca, hcb, hva, hvb, hda]
      by_cases e : a.lex = b.lex <;> simp [hd, e, Fam.neqAnswer]

theorem fam_eq_iff (F : Fam) {a b : VLit} (ha : F.mem a = true) (hb : F.mem b = true) :
    litEqV a b = some true ↔ a.fkey = b.fkey := by
  rw [(fam_gt_and_eq F ha hb).2]
  by_cases e : a.fkey = b.fkey
  · simp [e]
  · cases F <;> simp [e, Fam.neqAnswer]

theorem pyLt_of_eq {a b : VLit} {e : Bool} (he : litEqV a b = some e) : pyLt a b = (!litGtV a b && !e) := by
  simp only [pyLt, litLtV, he]
  cases litGtV a b <;> rfl

theorem fam_lt (F : Fam) {a b : VLit} (ha : F.mem a = true) (hb : F.mem b = true) :
    pyLt a b = FKey.lt a.fkey b.fkey := by
  obtain ⟨hg, he⟩ := fam_gt_and_eq F ha hb
  simp only [pyLt, litLtV, hg, he, (fam_gt_and_eq F hb ha).1]
  cases hba : FKey.lt b.fkey a.fkey with
  | true => simp [asymm_of FKey.lt_irrefl FKey.lt_trans hba]
  | false =>
    by_cases e : a.fkey = b.fkey
    · simp [e, FKey.lt_irrefl]
    · cases hab : FKey.lt a.fkey b.fkey with
      | false => exact absurd (FKey.lt_total F (mem_keyOK ha) (mem_keyOK hb) hab hba) e
      | true => cases F <;> simp [e, Fam.neqAnswer, hab]

/-- sort key of a term in a mixed collection: a non-literal term by (rank, string), a literal by its family key -/
inductive TKey
  | node (p : Nat × Str)
  | lit (k : FKey)

def TKey.lt : TKey → TKey → Bool
  | .node p, .node q => lexLt p q
  | .node _, .lit _ => true
  | .lit _, .node _ => false
  | .lit k, .lit k' => FKey.lt k k'

def VTerm.tkey : VTerm → TKey
  | .node c s => .node (rank c, s)
  | .lit a => .lit a.fkey

def tOrder (F : Fam) : KeyOrder TKey where
  lt := TKey.lt
  ok
    | .node _ => True
    | .lit k => F.keyOK k = true
  irrefl x := by cases x <;> simp [TKey.lt, lexLt_irrefl, FKey.lt_irrefl]
  trans {x y z} h1 h2 := by
    cases x with
    | node p =>
      cases z with
      | lit _ => rfl
      | node r =>
        cases y with
        | node q => exact lexLt_trans h1 h2
        | lit _ => cases h2
    | lit k =>
      cases y with
      | node _ => cases h1
      | lit k' =>
        cases z with
        | node _ => cases h2
        | lit k'' => exact FKey.lt_trans h1 h2
  total {x y} hx hy h1 h2 := by
    cases x with
    | node p =>
      cases y with
      | node q => exact congrArg _ (lexLt_total h1 h2)
      | lit _ => cases h1
    | lit k =>
      cases y with
      | node _ => cases h2
      | lit k' => exact congrArg _ (FKey.lt_total F hx hy h1 h2)

/-- what `LitsIn F l` says of one term of `l` -/
def VTerm.litIn (F : Fam) (x : VTerm) : Prop := ∀ a, x = .lit a → F.mem a = true

theorem LitsIn.litIn {F : Fam} {l : List VTerm} (h : LitsIn F l) {x : VTerm} (hx : x ∈ l) : x.litIn F :=
  fun a e => h a (e ▸ hx)

theorem vtLt_key (F : Fam) {x y : VTerm} (hx : x.litIn F) (hy : y.litIn F) :
    vtLt x y = TKey.lt x.tkey y.tkey := by
  cases x with
  | node c s =>
    cases y with
    | node c' s' => exact nodeLt_eq c c' s s'
    | lit b => exact decide_eq_true (rank_lt_rankLit c)
  | lit a =>
    cases y with
    | node c' s' => rfl
    | lit b => exact fam_lt F (hx a rfl) (hy b rfl)

theorem tkey_ok (F : Fam) {x : VTerm} (hx : x.litIn F) : (tOrder F).ok x.tkey := by
  cases x with
  | node c s => trivial
  | lit a => exact mem_keyOK (hx a rfl)

theorem vtValueEq_of_tkey (F : Fam) {x y : VTerm} (hx : x.litIn F) (hy : y.litIn F) (h : x.tkey = y.tkey) :
    vtValueEq x y := by
  cases x with
  | node c s =>
    cases y with
    | node c' s' =>
      simp only [VTerm.tkey, TKey.node.injEq, Prod.mk.injEq] at h
      exact ⟨rank_injective h.1, h.2⟩
    | lit b => cases h
  | lit a =>
    cases y with
    | node c' s' => cases h
    | lit b => exact (fam_eq_iff F (hx a rfl) (hy b rfl)).mpr (TKey.lit.inj h)

end RV.C07

import RV.C07.ReadTerm
import RV.C07.LemmasRead
/-
  C07 — the grammar-level reader `readTerm` reads back each written form followed by a delimiter-safe rest: the scanners on
  the spellings of LemmasText.lean, then one lemma per kind of term.
-/
namespace RV.C07

theorem takeWhile_append_stop (p : Char → Bool) (a b : Str) (ha : ∀ c ∈ a, p c = true)
    (hb : ∀ c, b.head? = some c → p c = false) : (a ++ b).takeWhile p = a ∧ (a ++ b).dropWhile p = b := by
  rw [List.takeWhile_append_of_pos ha, List.dropWhile_append_of_pos ha]
  cases b with
  | nil => simp
  | cons x r => simp [List.takeWhile, List.dropWhile, hb x rfl]

theorem iriCharOk_ne {c : Char} (h : iriCharOk c = true) : c ≠ '>' ∧ c ≠ '\\' := by
  simp only [iriCharOk, Bool.and_eq_true, Bool.not_eq_true', decide_eq_true_eq] at h
  constructor <;> (intro e; subst e; revert h; decide)

theorem scanIri_plain : ∀ (s suffix : Str), (∀ c ∈ s, iriCharOk c = true) → ∀ n, s.length < n →
    scanIri n (s ++ '>' :: suffix) = some (s, suffix)
  | [], suffix, _, n, hn => by
    match n, hn with
    | m + 1, _ => simp [scanIri]
  | c :: s, suffix, h, n, hn => by
    match n, hn with
    | m + 1, hn =>
      have hc := h c List.mem_cons_self
      obtain ⟨h1, h2⟩ := iriCharOk_ne hc
      have ih := scanIri_plain s suffix (fun x hx => h x (List.mem_cons_of_mem _ hx)) m (fuel_one hn)
      simp [scanIri, h1, h2, hc, ih, consFst]

theorem iriCharOk_of_valid {s : Str} (hv : isValidUri s = true) (hg : ∀ c ∈ s, c.toNat > 0x20) :
    ∀ c ∈ s, iriCharOk c = true := by
  intro c hc
  simp only [iriCharOk, Bool.and_eq_true, Bool.not_eq_true', decide_eq_true_eq]
  refine ⟨hg c hc, ?_⟩
  cases hm : Tables.invalidUriChars.contains c with
  | false => rfl
  | true => exact absurd hc (not_mem_of_valid hv (by simpa using hm))

theorem scanIri_valid {u : Str} (hv : isValidUri u = true) (hg : ∀ c ∈ u, c.toNat > 0x20) (suffix : Str) :
    scanIri ((u ++ '>' :: suffix).length + 1) (u ++ '>' :: suffix) = some (u, suffix) :=
  scanIri_plain u suffix (iriCharOk_of_valid hv hg) _ (by simp; omega)

theorem readEscape_echar (k c : Char) (r : Str) (h : alookup k Tables.stringEscapeMap = some c) :
    readEscape (k :: r) = some (c, r) := by
  simp [readEscape, h]

theorem scanShort_spell {e l : Str} (h : SSpell e l) (suffix : Str) : ∀ n, e.length < n →
    scanShort '"' n (e ++ '"' :: suffix) = some (l, suffix) := by
  induction h with
  | nil =>
    intro n hn
    match n, hn with
    | m + 1, _ => simp [scanShort]
  | esc k c hk _ ih =>
    intro n hn
    match n, hn with
    | m + 1, hn =>
      have := ih m (fuel_two hn)
      simp [scanShort, readEscape_echar k c _ hk, this, consFst]
  | plain c h1 h2 h3 h4 _ ih =>
    intro n hn
    match n, hn with
    | m + 1, hn =>
      have := ih m (fuel_one hn)
      simp [scanShort, h1, h2, h3, h4, this, consFst]

theorem scanLong_spell {suffix e l : Str} (h : QSpell (q3 ++ suffix) e l) : ∀ n, e.length < n →
    scanLong '"' n (e ++ (q3 ++ suffix)) = some (l, suffix) := by
  induction h with
  | nil =>
    intro n hn
    match n, hn with
    | m + 1, _ => simp [scanLong, q3, isPrefix]
  | esc k c hk _ ih =>
    intro n hn
    match n, hn with
    | m + 1, hn =>
      have := ih m (fuel_two hn)
      simp [scanLong, readEscape_echar k c _ hk, this, consFst]
  | plain c h1 h2 _ ih =>
    intro n hn
    match n, hn with
    | m + 1, hn =>
      have := ih m (fuel_one hn)
      simp [scanLong, h1, h2, this, consFst]
  | quote _ hp ih =>
    intro n hn
    match n, hn with
    | m + 1, hn =>
      have := ih m (fuel_one hn)
      simp [scanLong, hp, this, consFst]

theorem readQuoted_quoteEncode (x R : Str) (hR : R.head? ≠ some '"') :
    readQuoted (quoteEncode x ++ R) = some (x, R) := by
  unfold quoteEncode
  by_cases hn : '\n' ∈ x
  · simp only [hn, if_true]
    have hq := qspell_longEncodeT table_long_wf (q3 ++ R) x
    -- `readQuoted` hands the scanner `r.length + 1` with `r` still holding the other two opening quotes
    have hs := scanLong_spell hq ((longEncode x ++ (q3 ++ R)).length + 2 + 1) (by simp [longEncode]; omega)
    have hshape : q3 ++ longEncode x ++ q3 ++ R = '"' :: ('"' :: '"' :: (longEncode x ++ (q3 ++ R))) := by simp [q3]
    rw [hshape]
    simp only [readQuoted, isPrefix, true_or, if_true, decide_true, Bool.and_self, List.drop_succ_cons, List.drop_zero,
      List.length_cons]
    exact hs
  · simp only [hn, if_false]
    have hs := scanShort_spell (sspell_shortEncode hn) R ((shortEncode x ++ '"' :: R).length + 1)
      (by simp [shortEncode]; omega)
    have hshape : '"' :: (shortEncode x ++ ['"']) ++ R = '"' :: (shortEncode x ++ '"' :: R) := by simp
    rw [hshape]
    simp only [readQuoted, true_or, if_true, short_not_long hn hR, Bool.false_eq_true, if_false]
    exact hs

theorem delimChar_iff {c : Char} : delimChar c = true ↔ c ∈ [' ', '\t', '\n', '\r', ';', ',', ')'] := by
  simp [delimChar, or_assoc]

theorem delim_ne_suffix_start {c : Char} (h : delimChar c = true ∨ c = '.') :
    c ≠ '"' ∧ c ≠ '@' ∧ c ≠ '^' ∧ (isAlnum c || decide (c = '-')) = false := by
  have : ∀ c ∈ ['.', ' ', '\t', '\n', '\r', ';', ',', ')'],
      c ≠ '"' ∧ c ≠ '@' ∧ c ≠ '^' ∧ (isAlnum c || decide (c = '-')) = false := by decide +kernel
  exact this c (h.elim (fun h => List.mem_cons_of_mem _ (delimChar_iff.mp h)) (fun e => e ▸ List.mem_cons_self))

theorem delimChar_not_label {c : Char} (h : delimChar c = true) : labelChar c = false :=
  (by decide +kernel : ∀ c ∈ [' ', '\t', '\n', '\r', ';', ',', ')'], labelChar c = false) c (delimChar_iff.mp h)

theorem delimSafe_split {s : Str} (h : delimSafe s = true) :
    ∃ dots rest, s = dots ++ rest ∧ (dots = [] ∨ dots = ['.']) ∧ ∀ c, rest.head? = some c → delimChar c = true := by
  fun_cases delimSafe s
  · exact ⟨[], [], rfl, Or.inl rfl, by simp⟩
  · exact ⟨['.'], [], rfl, Or.inr rfl, by simp⟩
  · rename_i c r
    refine ⟨['.'], c :: r, rfl, Or.inr rfl, fun x hx => ?_⟩
    obtain rfl : c = x := by simpa using hx
    rw [delimSafe] at h
    simp only [delimChar, wsChar, Bool.or_eq_true] at h ⊢
    exact Or.inl (Or.inl (Or.inl h))
  · rename_i c r h1 h2
    refine ⟨[], c :: r, rfl, Or.inl rfl, fun x hx => ?_⟩
    obtain rfl : c = x := by simpa using hx
    -- the last equation of `delimSafe` applies: `c :: r` is neither `['.']` nor `'.' :: _ :: _` (`h1`, `h2`)
    rwa [delimSafe.eq_4 _ _ h1 h2] at h

theorem delimSafe_head {s : Str} (h : delimSafe s = true) : ∀ c, s.head? = some c → delimChar c = true ∨ c = '.' := by
  intro c hc
  obtain ⟨dots, rest, rfl, rfl | rfl, hr⟩ := delimSafe_split h
  · exact Or.inl (hr c hc)
  · exact Or.inr (by simpa using hc.symm)

theorem readLitSuffix_litSuffix (E : Ext) (nz : Bool) (x : Str) {d l : Option Str} {sfx : Str} (hs : LitSuffix Angle d l sfx)
    (suffix : Str) (hsafe : delimSafe suffix = true) (hg : ∀ u, d = some u → ∀ c ∈ u, c.toNat > 0x20)
    (hst : newLex E nz d x = x) : readLitSuffix E nz x (sfx ++ suffix) = some (.lit x d l, suffix) := by
  have hh := delimSafe_head hsafe
  have hok := hs.mkLit_ok hst
  cases hs with
  | plain =>
    rw [List.nil_append]
    unfold readLitSuffix
    split
    · exact absurd rfl (delim_ne_suffix_start (hh '@' rfl)).2.1
    · exact absurd rfl (delim_ne_suffix_start (hh '^' rfl)).2.2.1
    · exact absurd rfl (delim_ne_suffix_start (hh '^' rfl)).2.2.1
    · simp [hok, okOpt]
  | @lang tag hv =>
    have hrun := takeWhile_append_stop (fun c => isAlnum c || decide (c = '-')) tag suffix
      (fun c hc => by rcases validLangTag_chars hv c hc with h' | h' <;> simp [h'])
      (fun c hc => (delim_ne_suffix_start (hh c hc)).2.2.2)
    simp only [readLitSuffix, List.cons_append]
    rw [hrun.1, hrun.2]
    simp [hv, hok, okOpt]
  | @dt u _ hv hi =>
    subst hi
    simp only [readLitSuffix, List.cons_append, List.append_assoc, List.nil_append]
    rw [scanIri_valid hv (hg u rfl)]
    simp [hok, okOpt]

theorem giveBackDots_dots (r dots rest : Str) (h : r.getLast? ≠ some '.') (hd : dots = [] ∨ dots = ['.']) :
    giveBackDots (r ++ dots) rest = (r, dots ++ rest) := by
  have hd' : r.reverse.dropWhile (fun c => decide (c = '.')) = r.reverse := by
    cases hr : r.reverse with
    | nil => rfl
    | cons a t =>
      have : a ≠ '.' := fun e => h (by rw [← List.head?_reverse, hr, e]; rfl)
      simp [List.dropWhile, this]
  rcases hd with rfl | rfl <;> simp [giveBackDots, List.dropWhile, hd']

theorem readBNode_label (E : Ext) (nz : Bool) (s suffix : Str) (hl : LabelOK s) (hs : delimSafe suffix = true) :
    readTerm E nz ('_' :: ':' :: s ++ suffix) = some (.node .bnode s, suffix) := by
  obtain ⟨c, r, rfl, hc, hr, hlast⟩ := hl
  obtain ⟨dots, rest, rfl, hd, hrest⟩ := delimSafe_split hs
  -- the label characters run over `r` and the dot that may follow it, and stop at the delimiter
  have hdots : ∀ y ∈ dots, labelChar y = true := by
    rcases hd with rfl | rfl
    · simp
    · simp only [List.mem_singleton, forall_eq]; decide
  have hrun := takeWhile_append_stop labelChar (r ++ dots) rest
    (fun y hy => (List.mem_append.mp hy).elim (hr y) (hdots y)) (fun y hy => delimChar_not_label (hrest y hy))
  simp only [List.cons_append, readTerm, hc, if_true]
  rw [← List.append_assoc, hrun.1, hrun.2, giveBackDots_dots r dots rest hlast hd]

theorem readTerm_quoted (E : Ext) (nz : Bool) (x R : Str) (hR : R.head? ≠ some '"') :
    readTerm E nz (quoteEncode x ++ R) = readLitSuffix E nz x R := by
  have hq := readQuoted_quoteEncode x R hR
  obtain ⟨r, hr⟩ : ∃ r, quoteEncode x = '"' :: r := by
    unfold quoteEncode
    split
    · exact ⟨_, by simp [q3]; rfl⟩
    · exact ⟨_, rfl⟩
  rw [hr] at hq ⊢
  simp only [List.cons_append] at hq ⊢
  simp only [readTerm, hq]

end RV.C07

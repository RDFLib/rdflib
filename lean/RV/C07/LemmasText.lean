import RV.C07.Lemmas
/-
  C07 — what `_quote_encode` writes, as spellings; `decodeUnicodeEscape` reads every spelling back, so decode ∘ encode
  is the identity for EVERY table of written forms that is well-formed.

  The way `_quote_encode` writes each character is not fixed in the model: it is read from tables probed from the
  live function.  `wfTab T` (decidable, checked on the regenerated tables by `decide`) says what the property needs
  of such a table: every written form is a token the decoder reads back to that character without touching what follows
  (the character itself if it is not a backslash, or a backslash and an ECHAR letter of `compat._string_escape_map`),
  in particular the backslash is never written raw.  `Spell e l` : the text `e` is a sequence of such tokens for `l`.
  `SSpell` and `QSpell K` are the finer spellings the grammar-level scanners of short and long strings accept.
-/
namespace RV.C07

/-- `t` is a token the decoder reads as `c`, whatever follows -/
def tokOk (c : Char) : Str → Bool
  | [x] => decide (x = c) && decide (c ≠ '\\')
  | ['\\', k] => decide (alookup k Tables.stringEscapeMap = some c)
  | _ => false

def wfTab (T : List (Char × Str)) : Bool :=
  T.all (fun p => tokOk p.1 (escWith T p.1)) && tokOk '\\' (escWith T '\\')

theorem tokOk_cases {c : Char} {t : Str} (h : tokOk c t = true) :
    (t = [c] ∧ c ≠ '\\') ∨ ∃ k, t = ['\\', k] ∧ alookup k Tables.stringEscapeMap = some c := by
  fun_cases tokOk c t <;> simp only [tokOk, Bool.and_eq_true, decide_eq_true_eq] at h
  · exact Or.inl ⟨by rw [h.1], h.2⟩
  · exact Or.inr ⟨_, rfl, h⟩
  · simp_all

theorem tokOk_head {c : Char} {t : Str} (h : tokOk c t = true) : t.head? = some c ∨ t.head? = some '\\' := by
  rcases tokOk_cases h with ⟨rfl, _⟩ | ⟨k, rfl, _⟩
  · exact Or.inl rfl
  · exact Or.inr rfl

theorem alookupS_some_mem {c : Char} {e : Str} {T : List (Char × Str)} (h : alookupS c T = some e) :
    ∃ p ∈ T, p.1 = c := by
  fun_induction alookupS c T
  · cases h
  · exact ⟨_, List.mem_cons_self, rfl⟩
  · rename_i ih
    obtain ⟨p, hp, hc⟩ := ih h
    exact ⟨p, List.mem_cons_of_mem _ hp, hc⟩

theorem tokOk_escWith {T : List (Char × Str)} (hT : wfTab T = true) (c : Char) : tokOk c (escWith T c) = true := by
  simp only [wfTab, Bool.and_eq_true, List.all_eq_true] at hT
  obtain ⟨hall, hbs⟩ := hT
  cases hl : alookupS c T with
  | some e =>
    obtain ⟨p, hp, hc⟩ := alookupS_some_mem hl
    exact hc ▸ hall p hp
  | none =>
    have he : escWith T c = [c] := by simp [escWith, hl]
    rw [he]
    by_cases hc : c = '\\'
    · subst hc
      rw [he] at hbs
      simp [tokOk] at hbs
    · simp [tokOk, hc]

theorem alookup_q : alookup '"' Tables.stringEscapeMap = some '"' := by decide

inductive Spell : Str → Str → Prop
  | nil : Spell [] []
  | esc {e l} (k c : Char) : alookup k Tables.stringEscapeMap = some c → Spell e l → Spell ('\\' :: k :: e) (c :: l)
  | plain {e l} (c : Char) : c ≠ '\\' → Spell e l → Spell (c :: e) (c :: l)

theorem Spell.append {e₁ l₁ e₂ l₂ : Str} (h₁ : Spell e₁ l₁) (h₂ : Spell e₂ l₂) : Spell (e₁ ++ e₂) (l₁ ++ l₂) := by
  induction h₁ with
  | nil => exact h₂
  | esc k c hk _ ih => exact .esc k c hk ih
  | plain c hc _ ih => exact .plain c hc ih

theorem spell_shortEncodeT {T : List (Char × Str)} (hT : wfTab T = true) : ∀ s : Str, Spell (shortEncodeT T s) s
  | [] => .nil
  | c :: s => by
    have ih := spell_shortEncodeT hT s
    simp only [shortEncodeT, List.flatMap_cons] at ih ⊢
    rcases tokOk_cases (tokOk_escWith hT c) with ⟨ht, hc⟩ | ⟨k, ht, hk⟩ <;> rw [ht]
    · exact .plain c hc ih
    · exact .esc k c hk ih

theorem decodeF_esc (n : Nat) (c r : Char) (s : Str) (h : alookup c Tables.stringEscapeMap = some r) :
    decodeF (n + 1) ('\\' :: c :: s) = (decodeF n s).map (r :: ·) := by
  simp [decodeF, h]

theorem decodeF_plain (n : Nat) (c : Char) (s : Str) (h : c ≠ '\\') :
    decodeF (n + 1) (c :: s) = (decodeF n s).map (c :: ·) := by
  rw [decodeF]
  intro c' s' hc; exact absurd hc h

theorem decodeF_nil (n : Nat) : decodeF n [] = some [] := by
  cases n <;> simp [decodeF]

theorem decode_spell {e l : Str} (h : Spell e l) : ∀ n : Nat, e.length ≤ n → decodeF n e = some l := by
  induction h with
  | nil => intro n _; exact decodeF_nil n
  | esc k c hk _ ih =>
    intro n hn
    match n, hn with
    | m + 1, hn => rw [decodeF_esc m _ _ _ hk, ih m (Nat.le_of_succ_le (Nat.le_of_succ_le_succ hn))]; rfl
  | plain c hc _ ih =>
    intro n hn
    match n, hn with
    | m + 1, hn => rw [decodeF_plain m c _ hc, ih m (Nat.le_of_succ_le_succ hn)]; rfl

/-- spelling accepted inside `"…"`: ECHAR tokens, and raw characters other than backslash, quote, LF, CR -/
inductive SSpell : Str → Str → Prop
  | nil : SSpell [] []
  | esc {e l} (k c : Char) : alookup k Tables.stringEscapeMap = some c → SSpell e l → SSpell ('\\' :: k :: e) (c :: l)
  | plain {e l} (c : Char) : c ≠ '\\' → c ≠ '"' → c ≠ '\n' → c ≠ '\r' → SSpell e l → SSpell (c :: e) (c :: l)

theorem sspell_shortEncodeT {T : List (Char × Str)} (hT : wfTab T = true)
    (hq : escWith T '"' ≠ ['"']) (hr : escWith T '\r' ≠ ['\r']) :
    ∀ s : Str, '\n' ∉ s → SSpell (shortEncodeT T s) s
  | [], _ => .nil
  | c :: s, hn => by
    have ih := sspell_shortEncodeT hT hq hr s (fun h => hn (List.mem_cons_of_mem _ h))
    simp only [shortEncodeT, List.flatMap_cons] at ih ⊢
    rcases tokOk_cases (tokOk_escWith hT c) with ⟨ht, hc⟩ | ⟨k, ht, hk⟩ <;> rw [ht]
    · exact .plain c hc (fun e => hq (e ▸ ht)) (fun e => hn (by simp [e])) (fun e => hr (e ▸ ht)) ih
    · exact .esc k c hk ih

theorem SSpell.head_ne_quote {e l : Str} (h : SSpell e l) : e.head? ≠ some '"' := by
  cases h with
  | nil => simp
  | esc => simp
  | plain c _ hc => simpa using hc

/-- spelling accepted inside `"""…"""` when `K` follows: ECHAR tokens, raw characters other than backslash and quote,
    and raw quotes that are not followed by two more quote characters (of the text or of `K`) -/
inductive QSpell (K : Str) : Str → Str → Prop
  | nil : QSpell K [] []
  | esc {e l} (k c : Char) : alookup k Tables.stringEscapeMap = some c → QSpell K e l → QSpell K ('\\' :: k :: e) (c :: l)
  | plain {e l} (c : Char) : c ≠ '\\' → c ≠ '"' → QSpell K e l → QSpell K (c :: e) (c :: l)
  | quote {e l} : QSpell K e l → isPrefix ['"', '"'] (e ++ K) = false → QSpell K ('"' :: e) ('"' :: l)

theorem QSpell.spell {K e l : Str} (h : QSpell K e l) : Spell e l := by
  induction h with
  | nil => exact .nil
  | esc k c hk _ ih => exact .esc k c hk ih
  | plain c hc _ _ ih => exact .plain c hc ih
  | quote _ _ ih => exact .plain '"' (by decide) ih

theorem isPrefix_iff : ∀ {q s : Str}, isPrefix q s = true ↔ q <+: s
  | [], _ => by simp [isPrefix]
  | _ :: _, [] => by simp [isPrefix]
  | a :: q, b :: s => by simp [isPrefix, List.cons_prefix_cons, isPrefix_iff (q := q)]

theorem encT_head_quote {T : List (Char × Str)} (hT : wfTab T = true) (s : Str) :
    (encT T s).head? = some '"' → ∃ r, s = '"' :: r ∧ encT T s = '"' :: encT T r := by
  fun_cases encT T s <;> intro h
  · simp at h
  · rename_i c s hnot
    rcases tokOk_cases (tokOk_escWith hT c) with ⟨ht, _⟩ | ⟨k, ht, _⟩ <;> rw [ht] at h ⊢
    · simp only [List.cons_append, List.nil_append, List.head?_cons, Option.some.injEq] at h
      exact ⟨s, by rw [h], by rw [h]; rfl⟩
    · simp at h
  · simp at h

theorem encT_prefix2 {T : List (Char × Str)} (hT : wfTab T = true) (s : Str)
    (h : isPrefix ['"', '"'] (encT T s) = true) : ∃ r, s = '"' :: '"' :: r := by
  obtain ⟨e, he⟩ := isPrefix_iff.mp h
  obtain ⟨r, rfl, her⟩ := encT_head_quote hT s (by rw [← he]; rfl)
  obtain ⟨r2, rfl, _⟩ := encT_head_quote hT r (by rw [← List.tail_cons (a := '"') (as := encT T r), ← her, ← he]; rfl)
  exact ⟨r2, rfl⟩

/-- before the final-quote step a raw quote is never followed by two more raw quotes -/
theorem qspell_encT {T : List (Char × Str)} (hT : wfTab T = true) (s : Str) : QSpell [] (encT T s) s := by
  fun_induction encT T s
  · rename_i s ih
    exact .esc '"' '"' alookup_q (.esc '"' '"' alookup_q (.esc '"' '"' alookup_q ih))
  · rename_i c s hnot ih
    rcases tokOk_cases (tokOk_escWith hT c) with ⟨ht, hc⟩ | ⟨k, ht, hk⟩ <;> rw [ht]
    · show QSpell [] (c :: encT T s) (c :: s)
      by_cases hq : c = '"'
      · subst hq
        refine .quote ih ?_
        rw [List.append_nil]
        cases hp : isPrefix ['"', '"'] (encT T s) with
        | false => rfl
        | true =>
          -- two raw quotes at the head of `encT T s` are two quotes of `s`: with `c` a triple quote, the first arm's case
          obtain ⟨r, hr⟩ := encT_prefix2 hT s hp
          exact absurd hr (hnot r rfl)
      · exact .plain c hc hq ih
    · exact .esc k c hk ih
  · exact .nil

/-- `len(body) - len(body.rstrip("\\"))`: number of backslashes at the end of `body` -/
def trailBs (b : Str) : Nat := b.length - (rstripBs b).length

theorem rstripBs_cons (c : Char) (s : Str) :
    rstripBs (c :: s) = if rstripBs s = [] then (if c = '\\' then [] else [c]) else c :: rstripBs s := by
  simp only [rstripBs]
  cases rstripBs s <;> simp

theorem trailBs_cons_ne (c : Char) (b : Str) (h : c ≠ '\\') : trailBs (c :: b) = trailBs b := by
  simp only [trailBs, rstripBs_cons]
  by_cases hr : rstripBs b = []
  · simp [hr, h]
  · simp [hr]

theorem trailBs_bs_cons (b : Str) :
    trailBs ('\\' :: b) = if rstripBs b = [] then b.length + 1 else trailBs b := by
  simp only [trailBs, rstripBs_cons]
  by_cases hr : rstripBs b = []
  · simp [hr]
  · simp [hr]

theorem trailBs_esc (k : Char) (b : Str) : trailBs ('\\' :: k :: b) % 2 = trailBs b % 2 := by
  rw [trailBs_bs_cons, rstripBs_cons]
  by_cases hk : k = '\\'
  · subst hk; rw [trailBs_bs_cons]
    by_cases h : rstripBs b = []
    · simp [h, show trailBs b = b.length by simp [trailBs, h]]; omega
    · simp [h]
  · rw [trailBs_cons_ne k b hk]; by_cases h : rstripBs b = [] <;> simp [h, hk]

theorem fixTrail_eq (e : Str) :
    fixTrail e = if e.getLast? = some '"' then
      (if trailBs e.dropLast % 2 = 0 then e.dropLast ++ ['\\', '"'] else e) else e := rfl

/-- the final-quote step passes over a prefix `p` that keeps the parity of the backslashes before the last character -/
theorem fixTrail_prepend (p e : Str) (he : e ≠ []) (hp : ∀ b, trailBs (p ++ b) % 2 = trailBs b % 2) :
    fixTrail (p ++ e) = p ++ fixTrail e := by
  have hl : (p ++ e).getLast? = e.getLast? := by
    rw [List.getLast?_append]
    cases hg : e.getLast? with
    | some x => rfl
    | none => exact absurd (List.getLast?_eq_none_iff.mp hg) he
  rw [fixTrail_eq, fixTrail_eq, hl, List.dropLast_append_of_ne_nil he, hp]
  split
  · split
    · simp
    · rfl
  · rfl

theorem fixTrail_cons_ne (c : Char) (e : Str) (hc : c ≠ '\\') (he : e ≠ []) : fixTrail (c :: e) = c :: fixTrail e :=
  fixTrail_prepend [c] e he (fun b => by simp [trailBs_cons_ne c b hc])

theorem fixTrail_esc (k : Char) (e : Str) (he : e ≠ []) : fixTrail ('\\' :: k :: e) = '\\' :: k :: fixTrail e :=
  fixTrail_prepend ['\\', k] e he (trailBs_esc k)

theorem fixTrail_esc_nil (k : Char) : fixTrail ['\\', k] = ['\\', k] := by
  by_cases hk : k = '"'
  · subst hk; decide
  · simp [fixTrail, hk]

theorem fixTrail_single (c : Char) (hc : c ≠ '"') : fixTrail [c] = [c] := by
  simp [fixTrail, hc]

theorem fixTrail_prefix2 (e K : Str) (he : e ≠ []) (h : isPrefix ['"', '"'] e = false) :
    isPrefix ['"', '"'] (fixTrail e ++ K) = false := by
  -- `fixTrail` rewrites the last character only: the first two stay unless the text is that short
  match e, he, h with
  | [a], _, _ =>
    by_cases ha : a = '"'
    · subst ha
      have : fixTrail ['"'] = ['\\', '"'] := by decide
      rw [this]; simp [isPrefix]
    · rw [fixTrail_single a ha]; simp [isPrefix]; intro e; exact absurd e.symm ha
  | [a, b], _, h =>
    rw [fixTrail_eq]
    split
    · split
      · simp [isPrefix]
      · simpa [isPrefix] using h
    · simpa [isPrefix] using h
  | a :: b :: c :: r, _, h =>
    rw [fixTrail_eq]
    split
    · split
      · simpa [isPrefix] using h
      · simpa [isPrefix] using h
    · simpa [isPrefix] using h

/-- after the final-quote step the text can be followed by anything (in particular by the closing quotes) -/
theorem qspell_fixTrail {K e l : Str} (h : QSpell [] e l) : QSpell K (fixTrail e) l := by
  induction h with
  | nil => exact .nil
  | @esc e1 l1 k c hk h1 ih =>
    cases e1 with
    | nil => cases h1; rw [fixTrail_esc_nil]; exact .esc k c hk .nil
    | cons x r => rw [fixTrail_esc k _ (by simp)]; exact .esc k c hk ih
  | @plain e1 l1 c h1 h2 hs ih =>
    cases e1 with
    | nil => cases hs; rw [fixTrail_single c h2]; exact .plain c h1 h2 .nil
    | cons x r => rw [fixTrail_cons_ne c _ h1 (by simp)]; exact .plain c h1 h2 ih
  | @quote e1 l1 hs hp ih =>
    cases e1 with
    | nil =>
      cases hs
      have : fixTrail ['"'] = ['\\', '"'] := by decide
      rw [this]
      exact .esc '"' '"' alookup_q .nil
    | cons x r =>
      rw [fixTrail_cons_ne '"' _ (by decide) (by simp)]
      refine .quote ih ?_
      rw [List.append_nil] at hp
      exact fixTrail_prefix2 _ K (by simp) hp

theorem qspell_longEncodeT {T : List (Char × Str)} (hT : wfTab T = true) (K s : Str) :
    QSpell K (longEncodeT T s) s := qspell_fixTrail (qspell_encT hT s)

theorem decode_shortEncodeT {T : List (Char × Str)} (hT : wfTab T = true) (s : Str) :
    decodeEsc (shortEncodeT T s) = some s :=
  decode_spell (spell_shortEncodeT hT s) _ (Nat.le_refl _)

theorem decode_longEncodeT {T : List (Char × Str)} (hT : wfTab T = true) (s : Str) :
    decodeEsc (longEncodeT T s) = some s :=
  decode_spell (qspell_longEncodeT hT [] s).spell _ (Nat.le_refl _)

end RV.C07

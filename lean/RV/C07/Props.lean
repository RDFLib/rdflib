import RV.C07.LemmasKey
import RV.C07.LemmasWs
import RV.C07.LemmasReadTerm
/-
  C07 — property statements (the main ones as `def Statement_… : Prop` at full strength, each followed by its theorem
  or its refutation), non-vacuity examples.  "RDF terms obey identity laws: equality, hashing, ordering, pickling, n3 text."
-/
namespace RV.C07

/-- `==` is an equivalence relation and `!=` is its negation -/
def Statement_eq_equiv : Prop :=
  (∀ a, eqb a a = true) ∧ (∀ a b, eqb a b = eqb b a) ∧
  (∀ a b c, eqb a b = true → eqb b c = true → eqb a c = true) ∧ (∀ a b, neb a b = !eqb a b)

/-- IRIs, blank nodes, literals and variables are never equal to each other -/
def Statement_eq_kind_disjoint : Prop := ∀ a b : Term, a.kind ≠ b.kind → eqb a b = false

/-- literals are distinguished by lexical form, datatype and language tag up to case;
    non-literal terms of one class by their string -/
def Statement_lit_eq_iff : Prop :=
  (∀ x d l x' d' l', eqb (.lit x d l) (.lit x' d' l') = true ↔ (x = x' ∧ d = d' ∧ langKey l = langKey l')) ∧
  (∀ c s s', eqb (.node c s) (.node c s') = true ↔ s = s') ∧
  (∀ l : Str, l ≠ [] → langKey (some l) = langKey (some (lower l)))

theorem eq_equiv : Statement_eq_equiv :=
  ⟨eqb_refl, eqb_symm, fun _ _ _ => eqb_trans, fun _ _ => rfl⟩

theorem eq_kind_disjoint : Statement_eq_kind_disjoint := by
  intro a b h
  rw [eqb_eq_canon, decide_eq_false_iff_not]
  exact fun e => h (by rw [← kind_canon a, e, kind_canon])

theorem lit_eq_iff : Statement_lit_eq_iff := by
  refine ⟨?_, ?_, ?_⟩
  · intro x d l x' d' l'
    simp only [eqb_iff, canon, Term.lit.injEq]
  · intro c s s'; simp [eqb_iff, canon]
  · intro l hl
    cases l with
    | nil => exact absurd rfl hl
    | cons c s => simp [langKey, truthy, lower, lowerChar_idem]

/-- equal terms have equal hashes, whatever `str.__hash__` (and `^`) are -/
def Statement_hash_coherent : Prop :=
  ∀ (strHash : Str → Int) (xor : Int → Int → Int) (a b : Term),
    eqb a b = true → hash strHash xor a = hash strHash xor b

theorem hash_coherent : Statement_hash_coherent := by
  intro strHash xor a b h
  rw [hash_eq_canon, hash_eq_canon, eqb_iff.mp h]

/-- the order of kinds the property states: blank node < variable < IRI < literal -/
def kindRank : Kind → Nat
  | .bnode => 0
  | .var => 1
  | .iri => 2
  | .lit => 3

/-- terms of different kinds compare by kind (from the regenerated `_ORDERING` table and the
    `isinstance(other, Node)` branches of `Literal.__gt__/__lt__`), whatever the value oracle -/
def Statement_kind_order : Prop :=
  ∀ (V : ValOracle) (a b : Term), a.kind ≠ b.kind →
    (ltTerm V a b = true ↔ kindRank a.kind < kindRank b.kind) ∧
    (gtTerm V a b = true ↔ kindRank a.kind > kindRank b.kind)

theorem rank_kind (c c' : NCls) (h : c.kind ≠ c'.kind) :
    (rank c < rank c' ↔ kindRank c.kind < kindRank c'.kind) ∧ (rank c > rank c' ↔ kindRank c.kind > kindRank c'.kind) := by
  cases c <;> cases c' <;> first | decide | exact absurd rfl h

theorem kindRank_lt_lit (c : NCls) : kindRank c.kind < kindRank Kind.lit := by
  cases c <;> decide

theorem kind_order : Statement_kind_order := by
  intro V a b h
  cases a with
  | node c s => cases b with
    | node c' s' =>
      have hc : c ≠ c' := fun e => h (by subst e; rfl)
      have := rank_kind c c' h
      simp only [ltTerm, gtTerm, hc, if_false, decide_eq_true_eq, Term.kind]
      exact this
    | lit x d l =>
      have h1 := rank_lt_rankLit c
      have h2 := kindRank_lt_lit c
      simp only [ltTerm, gtTerm, decide_eq_true_eq, Term.kind]
      omega
  | lit x d l => cases b with
    | node c s =>
      have h1 := rank_lt_rankLit c
      have h2 := kindRank_lt_lit c
      simp only [ltTerm, gtTerm, Term.kind]
      constructor
      · constructor
        · intro h'; cases h'
        · intro h'; omega
      · constructor
        · intro _; omega
        · intro _; trivial
    | lit => exact absurd rfl h

/-- on IRIs, blank nodes and variables `<` is a strict total order whose equivalence is `==`,
    `>` is its converse, and terms of one class order as their strings -/
def Statement_nonlit_strict_total : Prop :=
  ∀ (V : ValOracle) (a b c : Term), a.isNode → b.isNode → c.isNode →
    ltTerm V a a = false ∧
    (ltTerm V a b = true → ltTerm V b c = true → ltTerm V a c = true) ∧
    (ltTerm V a b = true ∨ eqb a b = true ∨ ltTerm V b a = true) ∧
    (eqb a b = true → ltTerm V a b = false ∧ gtTerm V a b = false) ∧
    gtTerm V a b = ltTerm V b a

def Statement_same_class_string_order : Prop :=
  ∀ (V : ValOracle) (c : NCls) (s s' : Str),
    ltTerm V (.node c s) (.node c s') = strLt s s' ∧ gtTerm V (.node c s) (.node c s') = strLt s' s

theorem nonlit_strict_total : Statement_nonlit_strict_total := by
  intro V a b c ha hb hc
  rw [gt_node_eq_lt_swap V ha hb, lt_node_key V ha ha, lt_node_key V ha hb, lt_node_key V hb hc, lt_node_key V ha hc,
    lt_node_key V hb ha]
  refine ⟨lexLt_irrefl _, lexLt_trans, ?_, fun h => ?_, rfl⟩
  · cases h1 : lexLt a.nkey b.nkey with
    | true => exact Or.inl rfl
    | false =>
      cases h2 : lexLt b.nkey a.nkey with
      | true => exact Or.inr (Or.inr rfl)
      | false => exact Or.inr (Or.inl (nkey_injective ha hb (lexLt_total h1 h2) ▸ eqb_refl a))
  · obtain rfl := eq_of_eqb_node ha hb h
    exact ⟨lexLt_irrefl _, lexLt_irrefl _⟩

theorem same_class_string_order : Statement_same_class_string_order := by
  intro V c s s'; simp [ltTerm, gtTerm]

/-- sorting a collection of IRIs, blank nodes and variables with `<` does not depend on the order
    in which the collection is given, and the result is an increasing rearrangement of it -/
def Statement_sort_deterministic : Prop :=
  ∀ (V : ValOracle) (l l' : List Term), (∀ t ∈ l, t.isNode) → l.Perm l' →
    sortT (ltTerm V) l = sortT (ltTerm V) l' ∧ (sortT (ltTerm V) l).Perm l ∧ SortedBy (ltTerm V) (sortT (ltTerm V) l)

theorem sort_deterministic : Statement_sort_deterministic := by
  intro V l l' hn hp
  obtain ⟨p, hs, hk⟩ := nodeOrder.sort_unique (ltTerm V) id
    (fun x hx y hy => lt_node_key V (hn x hx) (hn y hy)) hn hp
  rw [sortT_eq, sortT_eq]
  exact ⟨hk.eq, p, (sortedBy_iff _).mpr hs⟩

/-- equal terms are never strictly ordered (any kind).  For two literals this depends on the typed
    values: FALSE for an arbitrary oracle (a NaN value is not equal to itself, see `order_consistent_witness`) -/
def Statement_order_consistent : Prop :=
  ∀ (V : ValOracle) (a b : Term), eqb a b = true → ltTerm V a b = false ∧ gtTerm V a b = false

/-- what the comparison of typed values has to satisfy on equal literals -/
def SoundOracle (V : ValOracle) : Prop :=
  ∀ (x : Str) (d l : Option Str) (x' : Str) (d' l' : Option Str),
    eqb (.lit x d l) (.lit x' d' l') = true →
      V.fast (.lit x d l) (.lit x' d' l') ≠ some true ∧ V.valGt (.lit x d l) (.lit x' d' l') ≠ some true ∧
      V.eqv (.lit x d l) (.lit x' d' l') = some true

theorem order_consistent_partial (V : ValOracle) (hV : SoundOracle V) (a b : Term) (h : eqb a b = true) :
    ltTerm V a b = false ∧ gtTerm V a b = false := by
  cases a <;> cases b <;> try (simp [eqb] at h; done)
  · rename_i c s _ _
    exact (nonlit_strict_total V _ _ (.node c s) rfl rfl rfl).2.2.2.1 h
  · rename_i x d l x' d' l'
    obtain ⟨h1, h2, h3⟩ := hV _ _ _ _ _ _ h
    obtain ⟨rfl, rfl, hl⟩ := Term.lit.inj (eqb_iff.mp h)
    have hgt : litGt V (.lit x d l) (.lit x d l') = false :=
      matchOr_false h1 (by simp only [hl, ne_eq, not_true_eq_false, if_false]; exact matchOr_false h2 rfl)
    simp [ltTerm, gtTerm, litLt, hgt, h3]

/-- a value comparison in which a value is not equal to itself (NaN) makes a literal `<` itself -/
theorem order_consistent_witness : ¬ Statement_order_consistent := by
  intro h
  have := (h ⟨fun _ _ => none, fun _ _ => none, fun _ _ => some false⟩ (.lit [] none none) (.lit [] none none) (by decide)).1
  revert this
  decide

/-- the oracle used by the driver (plain / xsd:string literals, value = lexical form) is sound -/
theorem strOracle_sound : SoundOracle strOracle := by
  intro x d l x' d' l' h
  obtain ⟨rfl, rfl, hl⟩ := Term.lit.inj (eqb_iff.mp h)
  refine ⟨nofun, ?_, ?_⟩
  · have : strValue (.lit x d l') = strValue (.lit x d l) := by cases d <;> rfl
    simp only [strOracle, this]
    cases strValue (.lit x d l) <;> simp [strLt_irrefl]
  · simp only [strOracle, hl, ne_eq, not_true_eq_false, if_false, and_self, decide_true, if_true]
    split <;> rfl

/-- decode ∘ `_quote_encode` = id for every string and ANY well-formed table of written forms -/
def Statement_escape_roundtrip : Prop :=
  ∀ (T : List (Char × Str)), wfTab T = true → ∀ s : Str,
    decodeEsc (shortEncodeT T s) = some s ∧ decodeEsc (longEncodeT T s) = some s

theorem escape_roundtrip : Statement_escape_roundtrip :=
  fun _ hT s => ⟨decode_shortEncodeT hT s, decode_longEncodeT hT s⟩

/-- `from_n3(t.n3()) == t` for every IRI `n3()` accepts, every blank node, every variable, every
    literal with ANY lexical form.  FALSE as it stands when the reader normalises (`n3_roundtrip_witness`). -/
def Statement_n3_roundtrip : Prop :=
  ∀ (E : Ext) (nz : Bool) (t : Term) (txt : Str), ExtOK E → WFText E t → n3 E t = some txt →
    fromN3 E nz txt = .term t.plain

theorem n3_roundtrip_partial (E : Ext) (nz : Bool) (t : Term) (txt : Str) (hE : ExtOK E) (hw : WFText E t)
    (hst : TextStable E nz t) (h : n3 E t = some txt) : fromN3 E nz txt = .term t.plain :=
  fromN3_form (I := Angle) hE (fun _ _ hv e => e ▸ .angle hE hv) (n3_form hw h) hst

/-- externals of a reader that normalises every lexical form to "1" (so "01" ↦ "1") -/
def normExt : Ext := { drvExt with normFull := fun _ _ => ['1'] }

theorem drvExt_ok : ExtOK drvExt where
  iri _ _ := rfl
  num_us := by decide
  num_q := by decide
  low_us s := ⟨lower s, by simp [drvExt, lower, lowerChar]⟩
  low_q s := ⟨lower s, by simp [drvExt, lower, lowerChar]⟩
  num_colon := by decide
  low_colon _ h := List.mem_map.mpr ⟨':', h, by decide⟩

/-- `ExtOK` does not look at `normFull` -/
theorem normExt_ok : ExtOK normExt where
  iri := drvExt_ok.iri
  num_us := drvExt_ok.num_us
  num_q := drvExt_ok.num_q
  low_us := drvExt_ok.low_us
  low_q := drvExt_ok.low_q
  num_colon := drvExt_ok.num_colon
  low_colon := drvExt_ok.low_colon

theorem n3_roundtrip_witness : ¬ Statement_n3_roundtrip := by
  intro h
  have hw : WFText normExt (.lit ['0', '1'] (some ['x']) none) := by
    refine ⟨Or.inl rfl, ?_, ?_, ?_⟩
    · intro t h; cases h
    · intro u h; cases h; exact ⟨by decide, by decide⟩
    · intro u h hm; cases h; exact absurd hm (by decide)
  exact absurd (h normExt true (.lit ['0', '1'] (some ['x']) none) _ normExt_ok hw rfl) (by decide +kernel)

/-- the round trip of a typed literal WITHOUT the INF / NaN clause of `WFText` — FALSE (`n3_roundtrip_respelled_witness`): a
    literal of xsd:float / double / decimal whose lexical form is a float infinity or NaN in another spelling (`inf`,
    `Infinity`, `nan`) is WRITTEN as `INF` / `NaN`, so a reader that keeps lexical forms gives back another term (finding
    C07-K5).  With the clause (`RespellNoop`) the round trip is `n3_roundtrip_partial`. -/
def Statement_n3_roundtrip_respelled : Prop :=
  ∀ (E : Ext) (x u txt : Str), ExtOK E → u ≠ [] → isValidUri u = true →
    n3 E (.lit x (some u) none) = some txt → fromN3 E false txt = .term (.lit x (some u) none)

def xsdDouble : Str := "http://www.w3.org/2001/XMLSchema#double".toList
def xsdDecimal : Str := "http://www.w3.org/2001/XMLSchema#decimal".toList

theorem n3_roundtrip_respelled_witness : ¬ Statement_n3_roundtrip_respelled := by
  intro h
  have hne : xsdDouble ≠ [] := by eval_lits [xsdDouble]
  have hv : isValidUri xsdDouble = true := by eval_lits [xsdDouble]
  exact absurd (h drvExt "inf".toList xsdDouble _ drvExt_ok hne hv rfl) (by eval_lits [xsdDouble])

/-- with normalisation off and a datatype other than xsd:token / xsd:normalizedString nothing is assumed
    about the lexical form at all -/
theorem n3_roundtrip_any_lexical (E : Ext) (x : Str) (d l : Option Str) (txt : Str) (hE : ExtOK E)
    (hw : WFText E (.lit x d l)) (hd : d ≠ some Tables.xsdNormalizedString ∧ d ≠ some Tables.xsdToken)
    (h : n3 E (.lit x d l) = some txt) : fromN3 E false txt = .term (.lit x d l) := by
  have := n3_roundtrip_partial E false (.lit x d l) txt hE hw (by simp [TextStable, newLex, wsNorm, hd.1, hd.2]) h
  simpa [Term.plain] using this

/-- what `namespace_manager.normalizeUri` may answer for the IRI `u` (C17): the angle-bracket form, or a
    prefixed name whose prefix the manager binds to a namespace which, followed by the local part, is `u` -/
def IriSpelling (tbl : List (Str × Str)) (u txt : Str) : Prop :=
  txt = '<' :: u ++ ['>'] ∨
  ∃ p l ns, txt = p ++ ':' :: l ∧ GoodPrefix p ∧ dlookup p tbl = some ns ∧ ns ++ l = u ∧ '"' ∉ p ∧ '^' ∉ p

/-- `from_n3(t.n3(nsm), nsm=nsm) == t`: the manager's bindings reach the reader also for the datatype of a literal -/
def Statement_n3_roundtrip_nsm : Prop :=
  ∀ (E : Ext) (nz : Bool) (tbl : List (Str × Str)) (t : Term) (txt : Str), ExtOK E → E.nsm = some tbl →
    WFText E t → TextStable E nz t → (∀ u, isValidUri u = true → IriSpelling tbl u (E.qname u)) →
    n3Q E t = some txt → fromN3 E nz txt = .term t.plain

theorem n3_roundtrip_nsm : Statement_n3_roundtrip_nsm := by
  intro E nz tbl t txt hE hn hw hst hQ h
  -- the manager's answers are spellings the reader reads (none of them empty)
  refine fromN3_form (I := ReadsIri E) hE (fun _ _ _ h => h) (n3Q_form hw (fun u hv => ?_) h) hst
  have hr : ReadsIri E u (E.qname u) := by
    rcases hQ u hv with e | ⟨p, l, ns, e, hp, hl, rfl, hpq, hph⟩
    · exact e ▸ .angle hE hv
    · exact e ▸ .pname hE hn hv hp hl hpq hph
  obtain ⟨a, r, hq, _⟩ := hr.head
  exact ⟨by rw [hq]; simp, hr⟩

/-- what the grammars ask beyond what `n3()` checks: no C0 control in an IRI (IRIREF), a blank node label of the
    BLANK_NODE_LABEL production; variables are not terms of these grammars' data part -/
def GrammarOK : Term → Prop
  | .node .bnode s => LabelOK s
  | .node .var _ => False
  | .node _ s => ∀ c ∈ s, c.toNat > 0x20
  | .lit _ d _ => ∀ u, d = some u → ∀ c ∈ u, c.toNat > 0x20

/-- the term-level part of the Turtle / SPARQL round trips: the grammar-level reader (IRIREF,
    BLANK_NODE_LABEL, the quoted string forms with ECHAR/UCHAR, LANGTAG, `^^` datatype) applied to the text `n3()` wrote
    for a term, followed by anything a statement may continue with, reads exactly that term and consumes nothing of
    what follows -/
def Statement_term_text_roundtrip : Prop :=
  ∀ (E : Ext) (nz : Bool) (t : Term) (txt suffix : Str), WFText E t → TextStable E nz t → GrammarOK t →
    delimSafe suffix = true → n3 E t = some txt → readTerm E nz (txt ++ suffix) = some (t.plain, suffix)

theorem term_text_roundtrip : Statement_term_text_roundtrip := by
  intro E nz t txt suffix hw hst hg hs h
  cases n3_form hw h with
  | bnode s => exact readBNode_label E nz s suffix hg hs
  | var s => exact absurd hg (by simp [GrammarOK])
  | @iri c s txt hk hv hi =>
    subst hi
    have hg : ∀ ch ∈ s, ch.toNat > 0x20 := by cases c <;> first | exact hg | cases hk
    rw [show ('<' :: s ++ ['>']) ++ suffix = '<' :: (s ++ '>' :: suffix) by simp]
    simp only [readTerm, scanIri_valid hv hg]
    cases c <;> first | rfl | cases hk
  | @lit x d l sfx hsx =>
    have hq : (sfx ++ suffix).head? ≠ some '"' := by
      cases hsx with
      | plain => exact fun e => (delim_ne_suffix_start (delimSafe_head hs _ e)).1 rfl
      | lang | dt => simp
    rw [List.append_assoc, readTerm_quoted E nz x _ hq]
    exact readLitSuffix_litSuffix E nz x hsx suffix hs hg hst

/-- `URIRef.n3` refuses exactly the IRIs with a character of `_invalid_uri_chars` -/
def Statement_n3_guard : Prop :=
  ∀ (E : Ext) (c : NCls) (s : Str), c.kind = .iri →
    ((n3 E (.node c s)).isSome ↔ ∀ x ∈ Tables.invalidUriChars, x ∉ s)

theorem n3_guard : Statement_n3_guard := by
  intro E c s hc
  have hn : n3 E (.node c s) = if isValidUri s then some ('<' :: s ++ ['>']) else none := by
    cases c <;> first | rfl | cases hc
  have key : isValidUri s = true ↔ ∀ x ∈ Tables.invalidUriChars, x ∉ s := by
    simp only [isValidUri, List.all_eq_true, Bool.not_eq_true', List.contains_eq_mem, decide_eq_false_iff_not]
  rw [hn, ← key]
  cases isValidUri s <;> simp

/-- the terms the constructors can build: any string in any non-literal class, literals through `Literal.__new__` -/
inductive Reachable (E : Ext) : Term → Prop
  | node (c : NCls) (s : Str) : Reachable E (.node c s)
  | lit (nz : Bool) (x : Str) (l d : Option Str) (t : Term) : mkLit E nz x l d = .ok t → Reachable E t

/-- the white-space rule of xsd:token / xsd:normalizedString applied twice is the same as once -/
def WsIdem : Prop := ∀ (d : Option Str) (y : Str), wsNorm d (wsNorm d y) = wsNorm d y

theorem ws_idempotent : WsIdem := wsNorm_idem

/-- every literal that went through `Literal.__new__` meets the white-space rule: with normalisation off,
    constructing it again from its lexical form leaves it alone (the `TextStable` hypothesis of the text theorems) -/
theorem constructed_text_stable (E : Ext) (nz : Bool) (x : Str) (l d : Option Str) (t : Term)
    (h : mkLit E nz x l d = .ok t) : TextStable E false t := by
  obtain ⟨l', _, _, rfl⟩ := mkLit_ok_inv h
  simp only [TextStable, newLex, Bool.false_eq_true, if_false, wsNorm_idem]

/-- pickle / copy / deepcopy give back the term itself -/
def Statement_reduce_rebuild : Prop :=
  ∀ (E : Ext) (t : Term), Reachable E t → rebuild E (reduce t) = .ok t

theorem reduce_rebuild : Statement_reduce_rebuild := by
  intro E t ht
  cases ht with
  | node c s => cases c <;> rfl
  | lit nz x l d t h =>
    obtain ⟨l', hx, hv, rfl⟩ := mkLit_ok_inv h
    exact mkLit_ok_of hx hv (constructed_text_stable E nz x l d _ h)

/-- the pre-fix `Literal.__reduce__` rebuilt with the default `normalize=True`: a literal with a lexical form
    that is not the normalised one came back changed (regression witness of C07-F2) -/
theorem old_reduce_renormalises :
    mkLit normExt true ['0', '1'] none (some ['x']) = .ok (.lit ['1'] (some ['x']) none) := by
  simp [mkLit, newLex, normExt, wsNorm, Tables.xsdNormalizedString, Tables.xsdToken]

/-- `_ORDERING`: BNode < Variable < URIRef ≤ its subclasses < Literal, all ranks distinct -/
theorem table_ordering :
    Tables.ordBNode < Tables.ordVariable ∧ Tables.ordVariable < Tables.ordURIRef ∧
    Tables.ordURIRef < Tables.ordGenid ∧ Tables.ordGenid < Tables.ordRDFLibGenid ∧
    Tables.ordRDFLibGenid < Tables.ordLiteral := by decide

/-- the model (with the regenerated tables) writes what the live `_quote_encode` writes on long-quoted texts ending in
    runs of quotes / backslashes (the triple-quote and final-quote rules, which are not per-character) -/
theorem table_long_tails :
    Tables.longTails.all (fun p => longEncode p.1 == p.2) = true := by
  decide +kernel

def exLit : Term := .lit ['a', '"', '\\', '\n', '"'] none (some ['e', 'n'])

example : ExtOK drvExt := drvExt_ok
example : WFText drvExt exLit := by
  refine ⟨Or.inr rfl, ?_, ?_, ?_⟩
  · intro t h; cases h; decide
  · intro u h; cases h
  · intro u h; cases h
example : TextStable drvExt false exLit := by simp [TextStable, exLit, newLex, wsNorm]
example : n3 drvExt exLit = some "\"\"\"a\"\\\\\n\\\"\"\"\"@en".toList := by eval_lits [exLit]
example : fromN3 drvExt false "\"\"\"a\"\\\\\n\\\"\"\"\"@en".toList = .term exLit := by eval_lits [exLit]
example : readTerm drvExt false ("\"\"\"a\"\\\\\n\\\"\"\"\"@en".toList ++ " ; <urn:q> 1 .".toList) =
    some (exLit, " ; <urn:q> 1 .".toList) := by eval_lits [exLit]
example : delimSafe " ; <urn:q> 1 .".toList = true ∧ delimSafe ".".toList = true ∧ delimSafe ".x".toList = false := by
  repeat rw [String.toList_ofList]
  decide +kernel
example : GrammarOK (.node .bnode ['b', '.', '1']) :=
  ⟨'b', ['.', '1'], rfl, by decide, by decide, by decide⟩
def exTbl : List (Str × Str) := [(['e', 'x'], "http://e/".toList), (['x'], "urn:x:".toList)]
example : fromN3 { drvExt with nsm := some exTbl } false "\"1\"^^ex:dt".toList =
    .term (.lit ['1'] (some "http://e/dt".toList) none) := by eval_lits [exTbl]
example : IriSpelling exTbl "http://e/dt".toList "ex:dt".toList := by
  delta exTbl
  repeat rw [String.toList_ofList]
  exact Or.inr ⟨['e', 'x'], ['d', 't'], _, rfl, ⟨⟨'e', ['x'], rfl, by decide⟩, by decide⟩, rfl, rfl, by decide, by decide⟩
/-- the canonical spellings pass the INF / NaN clause, the others do not -/
example : RespellNoop drvExt "INF".toList ∧ RespellNoop drvExt "-INF".toList ∧ RespellNoop drvExt "NaN".toList ∧
    RespellNoop drvExt "1.5".toList ∧ ¬ RespellNoop drvExt "inf".toList ∧ ¬ RespellNoop drvExt "Infinity".toList ∧
    ¬ RespellNoop drvExt "nan".toList := by
  repeat rw [String.toList_ofList]
  decide +kernel
example : xsdDouble ∈ Tables.infNanTypes ∧ xsdDecimal ∈ Tables.infNanTypes := by eval_lits [xsdDouble, xsdDecimal]
example : n3 drvExt (.lit "Infinity".toList (some xsdDecimal) none) = n3 drvExt (.lit "INF".toList (some xsdDecimal) none) := by
  eval_lits [xsdDecimal]
example : fromN3 drvExt false ((n3 drvExt (.lit "-INF".toList (some xsdDouble) none)).getD []) =
    .term (.lit "-INF".toList (some xsdDouble) none) := by eval_lits [xsdDouble]
example : eqb (.lit ['a'] none (some ['e', 'n'])) (.lit ['a'] none (some ['E', 'N'])) = true := by decide
example : Reachable drvExt exLit :=
  .lit false ['a', '"', '\\', '\n', '"'] (some ['e', 'n']) none _ (by simp [mkLit, newLex, wsNorm, exLit]; decide)
example : (sortT (ltTerm strOracle) [.iri ['b'], .bnode ['z'], .var ['a'], .iri ['a']]) =
    [.bnode ['z'], .var ['a'], .iri ['a'], .iri ['b']] := by decide

end RV.C07

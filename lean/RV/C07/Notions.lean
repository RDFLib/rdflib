import RV.C07.ValModel
import RV.C07.ReadTerm
/-
  C07 — the vocabulary of the property statements (Props.lean, PropsVal.lean) that is not part of the model.  `KeyOrder` stands
  with its theory in LemmasKey.lean, `tokOk` / `wfTab` / `Spell` in LemmasText.lean.
-/
namespace RV.C07

/-- an IRI, blank node or variable: not a literal -/
def Term.isNode : Term → Bool
  | .node _ _ => true
  | .lit _ _ _ => false

/-- the text forms cannot carry a Python subclass of URIRef: what is read back is the plain IRI -/
def Term.plain : Term → Term
  | .node .genid s => .node .uri s
  | .node .rgenid s => .node .uri s
  | t => t

/-- two lists related position by position -/
inductive Pointwise {α} (R : α → α → Prop) : List α → List α → Prop
  | nil : Pointwise R [] []
  | cons {a b : α} {l l' : List α} : R a b → Pointwise R l l' → Pointwise R (a :: l) (b :: l')

/-- increasing for `lt` -/
def SortedBy (lt : Term → Term → Bool) : List Term → Prop
  | [] => True
  | x :: xs => (∀ y ∈ xs, lt y x = false) ∧ SortedBy lt xs

/-- all literals of the collection are members of the family -/
def LitsIn (F : Fam) (l : List VTerm) : Prop := ∀ a, VTerm.lit a ∈ l → F.mem a = true

/-- the same term / value-equal literals -/
def vtValueEq : VTerm → VTerm → Prop
  | .node c s, .node c' s' => c = c' ∧ s = s'
  | .lit a, .lit b => litEqV a b = some true
  | _, _ => False

/-- what the theorems assume about the CPython externals -/
structure ExtOK (E : Ext) : Prop where
  /-- the `raw-unicode-escape` / `unicode-escape` round trip does not change a string without backslashes -/
  iri : ∀ s : Str, '\\' ∉ s → E.iriDecode s = s
  num_us : E.isNumeric '_' = false
  num_q : E.isNumeric '?' = false
  /-- `str.lower()` keeps a leading `_` / `?` -/
  low_us : ∀ s : Str, ∃ r, E.lowerU ('_' :: s) = '_' :: r
  low_q : ∀ s : Str, ∃ r, E.lowerU ('?' :: s) = '?' :: r
  num_colon : E.isNumeric ':' = false
  /-- `str.lower()` keeps a colon -/
  low_colon : ∀ s : Str, ':' ∈ s → ':' ∈ E.lowerU s

/-- the INF / NaN respelling of `_literal_n3` (`encoded.replace("inf", "INF").replace("Infinity", "INF")` for an infinite
    `float(self)`, `encoded.replace("nan", "NaN")` for a NaN) leaves the quoted text as it is: the lexical form is not a
    float infinity / NaN at all, or it is spelled the way the respelling spells it (`INF`, `-INF`, `NaN`, …) -/
def RespellNoop (E : Ext) (x : Str) : Prop :=
  match E.floatKind x with
  | .inf => replaceSub "Infinity".toList "INF".toList (replaceSub "inf".toList "INF".toList (quoteEncode x)) = quoteEncode x
  | .nan => replaceSub "nan".toList "NaN".toList (quoteEncode x) = quoteEncode x
  | .other => True

instance (E : Ext) (x : Str) : Decidable (RespellNoop E x) := by
  unfold RespellNoop
  cases E.floatKind x <;> exact inferInstance

/-- the literals the property quantifies over: not both a language tag and a datatype, a tag `Literal.__new__` accepts,
    a datatype that is an IRI (non-empty, no character of `_invalid_uri_chars`); and the INF/NaN respelling of
    `_literal_n3` leaves the text alone (`RespellNoop`) -/
def WFText (E : Ext) : Term → Prop
  | .node _ _ => True
  | .lit x d l =>
    (l = none ∨ d = none) ∧ (∀ t, l = some t → validLangTag t = true) ∧
    (∀ u, d = some u → u ≠ [] ∧ isValidUri u = true) ∧
    (∀ u, d = some u → u ∈ Tables.infNanTypes → RespellNoop E x)

/-- constructing a literal from this lexical form leaves it alone (it is normalised already, or
    normalisation is off and the xsd:token / xsd:normalizedString white-space rule is met) -/
def TextStable (E : Ext) (nz : Bool) : Term → Prop
  | .lit x d _ => newLex E nz d x = x
  | .node _ _ => True

/-- a prefix as a namespace manager hands them out: it begins with an ASCII letter and has no colon -/
def GoodPrefix (p : Str) : Prop := (∃ a r, p = a :: r ∧ isAlpha a = true) ∧ ':' ∉ p

def delimChar (c : Char) : Bool :=
  decide (c = ' ') || decide (c = '\t') || decide (c = '\n') || decide (c = '\r') || decide (c = ';') ||
  decide (c = ',') || decide (c = ')')

def wsChar (c : Char) : Bool := decide (c = ' ') || decide (c = '\t') || decide (c = '\n') || decide (c = '\r')

/-- the text after a term: nothing, white space, `;`, `,`, `)`, or a `.` that ends the statement
    (itself followed by white space or nothing) -/
def delimSafe : Str → Bool
  | [] => true
  | ['.'] => true
  | '.' :: c :: _ => wsChar c
  | c :: _ => delimChar c

/-- BLANK_NODE_LABEL: first character PN_CHARS_U or a digit, then PN_CHARS or dots, not ending in a dot -/
def LabelOK (s : Str) : Prop :=
  ∃ c r, s = c :: r ∧ (pnCharsU c || isDigit c) = true ∧ (∀ x ∈ r, labelChar x = true) ∧ r.getLast? ≠ some '.'

end RV.C07

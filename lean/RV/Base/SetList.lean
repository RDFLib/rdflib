/-
  Finite sets as lists (Python `set` / `dict` keys).  Structurally recursive
  helpers with membership spec lemmas; `Nodup` is kept as a separate theorem,
  never a subtype (DESIGN §3).  Core-only imports: the driver links against this.
-/
namespace RV

variable {α : Type} [DecidableEq α]

/-- `set.add` -/
def sinsert (l : List α) (x : α) : List α :=
  if x ∈ l then l else l ++ [x]

/-- `set.discard` -/
def sremove : List α → α → List α
  | [], _ => []
  | y :: ys, x => if y = x then sremove ys x else y :: sremove ys x

theorem sinsert_of_mem {l : List α} {x : α} (h : x ∈ l) : sinsert l x = l := if_pos h

theorem sinsert_of_not_mem {l : List α} {x : α} (h : x ∉ l) : sinsert l x = l ++ [x] := if_neg h

@[simp] theorem mem_sinsert {l : List α} {x y : α} :
    y ∈ sinsert l x ↔ y = x ∨ y ∈ l := by
  by_cases h : x ∈ l
  · rw [sinsert_of_mem h]
    exact ⟨Or.inr, fun e => e.elim (· ▸ h) id⟩
  · rw [sinsert_of_not_mem h, List.mem_append, List.mem_singleton, or_comm]

theorem nodup_sinsert {l : List α} {x : α} (h : l.Nodup) : (sinsert l x).Nodup := by
  by_cases hx : x ∈ l
  · rwa [sinsert_of_mem hx]
  · rw [sinsert_of_not_mem hx, List.nodup_append]
    exact ⟨h, List.pairwise_singleton _ _, fun a ha b hb e => hx (List.mem_singleton.1 hb ▸ e ▸ ha)⟩

/-- `discard` keeps the order: it is a filter, so the library's filter lemmas apply to it -/
theorem sremove_eq_filter (l : List α) (x : α) : sremove l x = l.filter (· ≠ x) := by
  induction l with
  | nil => rfl
  | cons y ys ih =>
    by_cases h : y = x
    · rw [sremove, if_pos h, List.filter_cons_of_neg (by simpa using h), ih]
    · rw [sremove, if_neg h, List.filter_cons_of_pos (by simpa using h), ih]

@[simp] theorem mem_sremove {l : List α} {x y : α} :
    y ∈ sremove l x ↔ y ≠ x ∧ y ∈ l := by
  rw [sremove_eq_filter, List.mem_filter, decide_eq_true_eq, and_comm]

theorem nodup_sremove {l : List α} {x : α} (h : l.Nodup) : (sremove l x).Nodup :=
  sremove_eq_filter l x ▸ h.filter _

theorem mem_foldl_sinsert (l acc : List α) (a : α) : a ∈ l.foldl sinsert acc ↔ a ∈ acc ∨ a ∈ l := by
  induction l generalizing acc with
  | nil => simp
  | cons x xs ih => rw [List.foldl_cons, ih, mem_sinsert, List.mem_cons, or_comm (a := a = x), or_assoc]

theorem nodup_foldl_sinsert (l acc : List α) (h : acc.Nodup) : (l.foldl sinsert acc).Nodup := by
  induction l generalizing acc with
  | nil => simpa
  | cons x xs ih => exact ih _ (nodup_sinsert h)

theorem sremove_append (l1 l2 : List α) (x : α) : sremove (l1 ++ l2) x = sremove l1 x ++ sremove l2 x := by
  simp only [sremove_eq_filter, List.filter_append]

theorem sremove_of_not_mem {l : List α} {x : α} (h : x ∉ l) : sremove l x = l := by
  rw [sremove_eq_filter]
  exact List.filter_eq_self.2 fun y hy => decide_eq_true fun e => h (e ▸ hy)

theorem sremove_map_inj {β : Type} [DecidableEq β] {f : α → β} (hf : ∀ x y, f x = f y → x = y) (l : List α) (x : α) :
    sremove (l.map f) (f x) = (sremove l x).map f := by
  rw [sremove_eq_filter, sremove_eq_filter, List.filter_map]
  exact congrArg _ (List.filter_congr fun y _ => decide_eq_decide.2 (not_congr ⟨hf y x, congrArg f⟩))

omit [DecidableEq α] in
/-- set equality as mutual inclusion (Python `set.__eq__`) -/
def SetEq (a b : List α) : Prop := ∀ x, x ∈ a ↔ x ∈ b

omit [DecidableEq α] in
theorem SetEq.refl (a : List α) : SetEq a a := fun _ => Iff.rfl
omit [DecidableEq α] in
theorem SetEq.symm {a b : List α} (h : SetEq a b) : SetEq b a := fun x => (h x).symm
omit [DecidableEq α] in
theorem SetEq.trans {a b c : List α} (h : SetEq a b) (h' : SetEq b c) : SetEq a c :=
  fun x => (h x).trans (h' x)

omit [DecidableEq α] in
theorem setEq_map {β : Type} {a b : List α} (g : α → β) (h : SetEq a b) : SetEq (a.map g) (b.map g) := by
  intro x
  simp only [List.mem_map]
  exact exists_congr fun y => and_congr_left' (h y)

omit [DecidableEq α] in
theorem length_eq_of_setEq {a b : List α} (ha : a.Nodup) (hb : b.Nodup) (h : SetEq a b) : a.length = b.length :=
  ((List.perm_ext_iff_of_nodup ha hb).mpr h).length_eq

end RV

import RV.C12.PLemmas
/-
  C12 — the Notation3 label scoping (`Parsers.n3Run`: a stack of `_anonymousNodes` dicts, nodes held
  by the recursion) is the generic one-pass parser over the *scope-resolved* document: every `_:x` inside a
  formula is qualified with the number of that formula occurrence.
-/
namespace RV.C12

theorem qual_named_ne_anon (c n k : Nat) : qual c (.named n) ≠ .anon k := by
  rw [qual]; split <;> exact Lbl.noConfusion

theorem qual_named_inj {c c' n n' : Nat} (h : qual c (.named n) = qual c' (.named n')) : c = c' ∧ n = n' := by
  rw [qual, qual] at h
  split at h <;> split at h
  · next h1 h2 => exact ⟨h1.trans h2.symm, Lbl.named.inj h⟩
  · cases h
  · cases h
  · exact Lbl.inner.inj h

theorem qual_named_inner {c n a b : Nat} (h : qual c (.named n) = .inner a b) : c = a := by
  rw [qual] at h
  split at h
  · cases h
  · exact (Lbl.inner.inj h).1

/-- a dict `D` of the stack machine (keys `δ n`) is the one dict `pm` read at the keys `κ n` -/
def View (pm : LMap) (κ δ : Nat → Lbl) (D : LMap) : Prop := ∀ n, alookup pm (κ n) = alookup D (δ n)

theorem View.push {pm D : LMap} {κ δ : Nat → Lbl} (h : View pm κ δ D) (hκ : ∀ n n', κ n = κ n' ↔ δ n = δ n')
    (n v : Nat) : View ((κ n, v) :: pm) κ δ ((δ n, v) :: D) := by
  intro n'
  rw [alookup_cons, alookup_cons]
  by_cases e : κ n = κ n'
  · rw [if_pos e, if_pos ((hκ n n').mp e)]
  · rw [if_neg e, if_neg fun e' => e ((hκ n n').mpr e')]
    exact h n'

theorem View.skip {pm D : LMap} {κ δ : Nat → Lbl} {k : Lbl} {v : Nat} (h : View pm κ δ D) (hk : ∀ n, k ≠ κ n) :
    View ((k, v) :: pm) κ δ D :=
  fun n => by rw [alookup_cons, if_neg (hk n)]; exact h n

/-- the dicts of the stack, each a `View` at its own scope number -/
inductive Scopes (pm : LMap) : List LMap → List Nat → Prop
  | nil : Scopes pm [] []
  | cons {m : LMap} {ms : List LMap} {c : Nat} {cs : List Nat} :
    View pm (fun n => qual c (.named n)) .named m → Scopes pm ms cs → Scopes pm (m :: ms) (c :: cs)

theorem Scopes.skip {pm : LMap} {k : Lbl} {v : Nat} {ms : List LMap} {cs : List Nat}
    (h : Scopes pm ms cs) (hk : ∀ c ∈ cs, ∀ n, k ≠ qual c (.named n)) : Scopes ((k, v) :: pm) ms cs := by
  induction h with
  | nil => exact .nil
  | cons h1 _ ih =>
    exact .cons (h1.skip (hk _ List.mem_cons_self)) (ih fun c hc => hk c (List.mem_cons_of_mem _ hc))

/-- stack machine `s`, scope bookkeeping `r`, one-dict parser `p`: every dict of `s` is `p.map` read at its own keys; a
    scope number not yet handed out has no entry (`unused`: a `View` of `[]`, so that `View.skip` applies);
    entries of closed formulae stay in `p.map`, never asked for again -/
structure Sim (s : N3S) (r : RS) (p : PS) : Prop where
  fresh : p.fresh = s.fresh
  scopes : Scopes p.map (s.cur :: s.stack) (r.cur :: r.stack)
  held : View p.map .anon .anon s.held
  lt : ∀ c ∈ r.cur :: r.stack, c < r.next
  nodup : (r.cur :: r.stack).Nodup
  unused : ∀ c, r.next ≤ c → View p.map (.inner c) .named []

theorem sim_init (f : Nat) : Sim ⟨f, [], [], []⟩ RS.init ⟨f, []⟩ where
  fresh := rfl
  scopes := .cons (fun _ => rfl) .nil
  held := fun _ => rfl
  lt := fun c hc => by cases List.mem_singleton.mp hc; exact Nat.one_pos
  nodup := List.nodup_cons.mpr ⟨List.not_mem_nil, List.nodup_nil⟩
  unused := fun _ _ _ => rfl

/-- for rewriting `alloc p k` when the lookup is known through another dict -/
theorem alloc_of_lookup {p : PS} {k : Lbl} {o : Option Nat} (h : alookup p.map k = o) :
    alloc p k = match (generalizing := false) o with
      | some b => (p, b)
      | none => ({ fresh := p.fresh + 1, map := (k, p.fresh) :: p.map }, p.fresh) := by
  subst h; rfl

theorem node_sim {s : N3S} {r : RS} {p : PS} (h : Sim s r p) (l : Lbl) (hl : LblOK l) :
    Sim (n3Node s l).1 r (alloc p (qual r.cur l)).1 ∧ (n3Node s l).2 = .bn (alloc p (qual r.cur l)).2 := by
  cases l with
  | inner a b => exact absurd rfl (hl a b)
  | named n =>
    cases h.scopes with
    | cons hcur hrest =>
    rw [alloc_of_lookup (hcur n), n3Node]
    cases alookup s.cur (.named n) with
    | some b => exact ⟨h, rfl⟩
    | none =>
      -- the other dicts have other keys: another scope number (`nodup`), `anon`, a number `≥ r.next > r.cur` (`lt`)
      rw [h.fresh]
      refine ⟨?_, rfl⟩
      exact
        { fresh := rfl, lt := h.lt, nodup := h.nodup
          scopes := .cons
            (hcur.push (fun n n' => ⟨fun e => congrArg _ (qual_named_inj e).2, fun e => congrArg (qual r.cur) e⟩) n _)
            (hrest.skip fun c hc n' e => (List.nodup_cons.mp h.nodup).1 ((qual_named_inj e).1 ▸ hc))
          held := h.held.skip fun _ => qual_named_ne_anon _ _ _
          unused := fun c hc => (h.unused c hc).skip fun _ e =>
            Nat.not_le.mpr (h.lt _ List.mem_cons_self) (by rw [qual_named_inner e]; exact hc) }
  | anon k =>
    simp only [qual, n3Node]
    rw [alloc_of_lookup (h.held k)]
    cases alookup s.held (.anon k) with
    | some b => exact ⟨h, rfl⟩
    | none =>
      rw [h.fresh]
      refine ⟨?_, rfl⟩
      exact
        { fresh := rfl, lt := h.lt, nodup := h.nodup
          scopes := h.scopes.skip fun _ _ _ e => qual_named_ne_anon _ _ _ e.symm
          held := h.held.push (fun _ _ => Iff.rfl) k _
          unused := fun c hc => (h.unused c hc).skip fun _ => Lbl.noConfusion }

theorem slot_sim {s : N3S} {r : RS} {p : PS} (h : Sim s r p) (into : T) (g : Option DT) (hg : ∀ t, g = some t → DTOK t) :
    Sim (gnameF n3Node into s g).1 r (gname .remap into p (qualG r.cur g)).1 ∧
    (gnameF n3Node into s g).2 = (gname .remap into p (qualG r.cur g)).2 := by
  cases g with
  | none => exact ⟨h, rfl⟩
  | some t =>
    cases t with
    | iri n | lit n => exact ⟨h, rfl⟩
    | lab l =>
      obtain ⟨h1, h2⟩ := node_sim h l (hg _ rfl l rfl)
      simp only [gnameF, termF, qualG, qualT, gname, term, nodeid_remap]
      exact ⟨h1, h2⟩

theorem quad_sim {s : N3S} {r : RS} {p : PS} (h : Sim s r p) (into : T) (q : DQuad) (hq : QOK q) :
    Sim (quadF n3Node true into s q).1 r (quad .remap into p (qualQ r.cur q)).1 ∧
    (quadF n3Node true into s q).2 = some (quad .remap into p (qualQ r.cur q)).2 := by
  obtain ⟨a, b, c, g⟩ := q
  obtain ⟨ha, hb, hc, hg⟩ := hq
  obtain ⟨s1, e1⟩ := slot_sim h into (some a) fun _ e => Option.some.inj e ▸ ha
  obtain ⟨s2, e2⟩ := slot_sim s1 into (some b) fun _ e => Option.some.inj e ▸ hb
  obtain ⟨s3, e3⟩ := slot_sim s2 into (some c) fun _ e => Option.some.inj e ▸ hc
  obtain ⟨s4, e4⟩ := slot_sim s3 into g hg
  rw [quadF_keep (gen := true) Bool.false_ne_true]
  exact ⟨s4, congrArg some (quad_eq e1 e2 e3 e4)⟩

theorem sim_open {s : N3S} {r : RS} {p : PS} (h : Sim s r p) : Sim (n3Open s) (rsOpen r) p where
  fresh := h.fresh
  held := h.held
  scopes := .cons
    (fun n => by
      -- the new scope number is not 0, and no entry has been made under it yet
      show alookup p.map (qual r.next (.named n)) = none
      rw [qual, if_neg (Nat.ne_of_gt (Nat.zero_lt_of_lt (h.lt r.cur List.mem_cons_self)))]
      exact h.unused _ (Nat.le_refl _) n)
    h.scopes
  lt := fun c hc => by
    rcases List.mem_cons.mp hc with rfl | hc
    · exact Nat.lt_succ_self _
    · exact Nat.lt_succ_of_lt (h.lt c hc)
  nodup := List.nodup_cons.mpr ⟨fun hm => Nat.lt_irrefl _ (h.lt _ hm), h.nodup⟩
  unused := fun c hc => h.unused c (Nat.le_of_succ_le hc)

theorem sim_close {s : N3S} {r : RS} {p : PS} (h : Sim s r p) : Sim (n3Close s) (rsClose r) p := by
  obtain ⟨sf, sc, ss, sh⟩ := s
  obtain ⟨rn, rc, rs⟩ := r
  cases h.scopes with
  | cons _ hrest =>
  cases hrest with
  | nil => exact h   -- `}` with no enclosing scope: neither side moves
  | cons hm hms =>
    exact { fresh := h.fresh, held := h.held, unused := h.unused, scopes := .cons hm hms
            lt := fun c' hc' => h.lt c' (List.mem_cons_of_mem _ hc')
            nodup := (List.nodup_cons.mp h.nodup).2 }

theorem n3Run_sim (into : T) : ∀ (evs : List Ev) (s : N3S) (r : RS) (p : PS), Sim s r p → EvOK evs →
    (n3Run into s evs).2 = (emit .remap into p (resolve r evs)).2 ∧
    (n3Run into s evs).1.fresh = (emit .remap into p (resolve r evs)).1.fresh := by
  intro evs
  induction evs with
  | nil => intro s r p h _; exact ⟨rfl, h.fresh.symm⟩
  | cons e es ih =>
    intro s r p h hok
    have hok' : EvOK es := fun q hq => hok q (List.mem_cons_of_mem _ hq)
    cases e with
    | stmt q =>
      obtain ⟨h1, e1⟩ := quad_sim h into q (hok q List.mem_cons_self)
      obtain ⟨i1, i2⟩ := ih _ r _ h1 hok'
      simp only [n3Run, resolve, emit]
      rw [e1, i1, i2]
      exact ⟨rfl, rfl⟩
    | opn => exact ih _ _ p (sim_open h) hok'
    | cls => exact ih _ _ p (sim_close h) hok'

theorem qualQ_zero (q : DQuad) : qualQ 0 q = q := by
  obtain ⟨a, b, c, g⟩ := q
  have ht : ∀ t, qualT 0 t = t := by
    intro t; cases t with
    | lab l => cases l <;> rfl
    | iri n => rfl
    | lit n => rfl
  cases g <;> simp only [qualQ, qualG, ht]

theorem resolve_stmts (r : RS) (doc : Doc) : resolve r (doc.map Ev.stmt) = doc.map (qualQ r.cur) := by
  induction doc with
  | nil => rfl
  | cons q qs ih => simp only [List.map_cons, resolve, ih]

theorem resolve_init_stmts (doc : Doc) : resolve RS.init (doc.map Ev.stmt) = doc := by
  rw [resolve_stmts]
  exact (List.map_congr_left fun q _ => qualQ_zero q).trans (List.map_id doc)

theorem parseN3_eq (d : DS) (into : T) (evs : List Ev) (h : EvOK evs) :
    parseN3 d into evs = parseInto d .remap into (resolve RS.init evs) := by
  obtain ⟨h1, h2⟩ := n3Run_sim into evs _ _ _ (sim_init d.fresh) h
  simp only [parseN3, parseInto, parseDoc, h1, h2]

end RV.C12

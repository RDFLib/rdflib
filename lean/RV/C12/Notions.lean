import RV.C12.Spec
import RV.C12.Parsers
/-
  C12 — the vocabulary of the property statements of `Props.lean` that `Spec.lean` does not have: the RDF merge, the
  condition on a label dict handed in, renaming with the parsers' options, histories of calls, the scope-resolved N3
  document.
-/
namespace RV.C12

/-- `res` is the RDF merge of the old content `d` and the document -/
def IsMerge (d : DS) (into : T) (doc : Doc) (res : List Quad) : Prop :=
  ∃ σ : Lbl → Nat, InjOn σ doc ∧
    (∀ l, Doc.has doc l → ¬ HasNode d.quads (σ l) ∧ into ≠ .bn (σ l)) ∧
    SetEq res (d.quads ++ rename σ into doc)

/-- every node in the label map was taken from the supply after `f0`, and no two labels share one -/
structure MapInv (f0 : Nat) (st : PS) : Prop where
  lo : f0 ≤ st.fresh
  range : ∀ l b, alookup st.map l = some b → f0 ≤ b ∧ b < st.fresh
  inj : ∀ l l' b, alookup st.map l = some b → alookup st.map l' = some b → l = l'

/-- `tren`, then `skolemize()` if `o.sk` -/
def trenO (o : LOpts) (σ : Lbl → Nat) (t : DT) : T := wrapT o.sk (tren σ t)

def grenO (o : LOpts) (σ : Lbl → Nat) (into : T) : Option DT → T
  | none => into
  | some g => trenO o σ g

def qrenO (o : LOpts) (σ : Lbl → Nat) (into : T) (q : DQuad) : Quad :=
  (trenO o σ q.1, trenO o σ q.2.1, trenO o σ q.2.2.1, grenO o σ into q.2.2.2)

/-- the statement survives: its predicate is not a blank node, or generalized RDF is produced -/
def kept (gen : Bool) (q : DQuad) : Bool := gen || !q.2.1.isLab

def keptDoc (gen : Bool) (doc : Doc) : Doc := doc.filter (kept gen)

def renameO (o : LOpts) (σ : Lbl → Nat) (into : T) (doc : Doc) : List Quad :=
  (keptDoc o.gen doc).map (qrenO o σ into)

/-- a history of calls, each with a dict of its own -/
def parseAll (d : DS) : List (T × Doc) → DS
  | [] => d
  | x :: rest => parseAll (parseInto d .remap x.1 x.2) rest

/-- scope bookkeeping of the specification: next unused scope number, current scope, enclosing scopes
    (scope 0 = the document itself) -/
structure RS where
  next : Nat
  cur : Nat
  stack : List Nat

/-- `_:n` written in scope `c` -/
def qual (c : Nat) : Lbl → Lbl
  | .named n => if c = 0 then .named n else .inner c n
  | l => l

def qualT (c : Nat) : DT → DT
  | .lab l => .lab (qual c l)
  | t => t

def qualG (c : Nat) : Option DT → Option DT
  | none => none
  | some g => some (qualT c g)

def qualQ (c : Nat) (q : DQuad) : DQuad := (qualT c q.1, qualT c q.2.1, qualT c q.2.2.1, qualG c q.2.2.2)

def rsOpen (r : RS) : RS := ⟨r.next + 1, r.next, r.cur :: r.stack⟩

def rsClose (r : RS) : RS :=
  match r.stack with
  | c :: cs => ⟨r.next, c, cs⟩
  | [] => r

/-- the document with every label qualified by the formula occurrence it is written in -/
def resolve : RS → List Ev → Doc
  | _, [] => []
  | r, .stmt q :: es => qualQ r.cur q :: resolve r es
  | r, .opn :: es => resolve (rsOpen r) es
  | r, .cls :: es => resolve (rsClose r) es

def RS.init : RS := ⟨1, 0, []⟩

/-- documents are written with plain labels (`inner` is specification vocabulary) -/
def LblOK (l : Lbl) : Prop := ∀ a b, l ≠ .inner a b
def DTOK (t : DT) : Prop := ∀ l, t = .lab l → LblOK l
def QOK (q : DQuad) : Prop := DTOK q.1 ∧ DTOK q.2.1 ∧ DTOK q.2.2.1 ∧ ∀ g, q.2.2.2 = some g → DTOK g
def EvOK (evs : List Ev) : Prop := ∀ q, Ev.stmt q ∈ evs → QOK q

def HasAny (docs : List (T × Doc)) (l : Lbl) : Prop := ∃ x ∈ docs, Doc.has x.2 l

end RV.C12

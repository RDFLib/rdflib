import RV.C12.N3Lemmas
/-
  C12 — "Parsing only adds, and blank nodes of separate documents never merge."

  Specification (simplest possible): the RDF merge.  `IsMerge d into doc res` (`Notions.lean`) — `res` is the old
  content together with `rename σ doc` for some assignment `σ` of the document's labels to nodes
  that is injective and whose values are not nodes of the old content (nor the graph parsed into).
  The model (`Model.lean`) is the one-pass label-map algorithm of the parsers.

  After the negative result: the same parser by parser (`Parsers.lean`: own node functions, options, RDF Patch, N3
  formula scopes), and `example`s that meet the hypotheses.
-/
namespace RV.C12

/-- Whatever the parser's label policy: every old quad is still there (a quad carries its graph, so
    this is per graph), and whatever else is there is the image of a statement of the document
    under one assignment of its labels. -/
def Statement_parse_only_adds : Prop :=
  ∀ (d : DS) (pol : Policy) (into : T) (doc : Doc),
    (∀ q, q ∈ d.quads → q ∈ (parseInto d pol into doc).quads) ∧
    (∃ σ : Lbl → Nat, ∀ q, q ∈ (parseInto d pol into doc).quads → q ∈ d.quads ∨ q ∈ rename σ into doc)

/-- Full strength: for every parser (label policy), parsing into a target with content gives the RDF merge. -/
def Statement_parse_is_merge : Prop :=
  ∀ (pol : Policy) (d : DS) (into : T) (doc : Doc), WF d → IntoOK d into →
    IsMerge d into doc (parseInto d pol into doc).quads

/-- The part that holds: parsers with a per-call label map (`remap`: N-Triples, N-Quads, Turtle, N3,
    TriG, RDF/XML, and — after the C12 repairs — TriX and JSON-LD). -/
def Statement_parse_is_merge_remap : Prop :=
  ∀ (pol : Policy) (d : DS) (into : T) (doc : Doc), pol = .remap → WF d → IntoOK d into →
    IsMerge d into doc (parseInto d pol into doc).quads

/-- The freshness assumption is an invariant of parsing (any policy), so it holds along every history. -/
def Statement_wf_preserved : Prop :=
  ∀ (d : DS) (pol : Policy) (into : T) (doc : Doc), WF d → IntoOK d into → WF (parseInto d pol into doc)

/-- Two documents parsed one after the other: both are merged in, and no label of the first shares
    a node with a label of the second (whatever the label strings). -/
def Statement_two_docs_disjoint : Prop :=
  ∀ (d : DS) (into₁ into₂ : T) (doc₁ doc₂ : Doc), WF d → IntoOK d into₁ → IntoOK d into₂ →
    ∃ σ₁ σ₂ : Lbl → Nat,
      SetEq (parseInto (parseInto d .remap into₁ doc₁) .remap into₂ doc₂).quads
            (d.quads ++ rename σ₁ into₁ doc₁ ++ rename σ₂ into₂ doc₂) ∧
      InjOn σ₁ doc₁ ∧ InjOn σ₂ doc₂ ∧
      (∀ l₁ l₂, Doc.has doc₁ l₁ → Doc.has doc₂ l₂ → σ₁ l₁ ≠ σ₂ l₂) ∧
      (∀ l, Doc.has doc₁ l → ¬ HasNode d.quads (σ₁ l)) ∧ (∀ l, Doc.has doc₂ l → ¬ HasNode d.quads (σ₂ l))

/-- The same document twice: every label gets two different nodes. -/
def Statement_same_doc_twice_disjoint : Prop :=
  ∀ (d : DS) (into : T) (doc : Doc), WF d → IntoOK d into →
    ∃ σ₁ σ₂ : Lbl → Nat,
      SetEq (parseInto (parseInto d .remap into doc) .remap into doc).quads
            (d.quads ++ rename σ₁ into doc ++ rename σ₂ into doc) ∧
      (∀ l l', Doc.has doc l → Doc.has doc l' → σ₁ l ≠ σ₂ l')

/-- Inside one parse call a label is one node, wherever it occurs (subject, object, graph name, any
    graph block): the statements handed to the sink are the document's statements under ONE assignment. -/
def Statement_label_within_doc_one_node : Prop :=
  ∀ (f : Nat) (pol : Policy) (into : T) (doc : Doc),
    ∃ σ : Lbl → Nat, (parseDoc f pol into doc).2 = rename σ into doc

/-- A label that is spelled like the id of a node already in the target is still remapped. -/
def Statement_looks_like_generated_id_safe : Prop :=
  ∀ (d : DS) (into : T) (doc : Doc) (n : Nat), WF d → IntoOK d into → HasNode d.quads n → Doc.has doc (.named n) →
    ∃ σ : Lbl → Nat, SetEq (parseInto d .remap into doc).quads (d.quads ++ rename σ into doc) ∧ InjOn σ doc ∧
      σ (.named n) ≠ n ∧ ¬ HasNode d.quads (σ (.named n))

/-- The same document into two fresh targets: the results are isomorphic (π renames blank nodes,
    injectively on the nodes of the first result). -/
def Statement_fresh_graphs_iso : Prop :=
  ∀ (f₁ f₂ : Nat) (into : T) (doc : Doc), (∀ b, into ≠ .bn b) →
    ∃ π : Nat → Nat,
      (∀ b b', HasNode (parseInto ⟨[], f₁⟩ .remap into doc).quads b →
        HasNode (parseInto ⟨[], f₁⟩ .remap into doc).quads b' → π b = π b' → b = b') ∧
      SetEq ((parseInto ⟨[], f₁⟩ .remap into doc).quads.map (qmapT π)) (parseInto ⟨[], f₂⟩ .remap into doc).quads

/-- Any history of parse calls: nothing is ever removed, the freshness invariant holds at the end,
    and each single call is a merge with what was there at that moment. -/
def Statement_history : Prop :=
  ∀ (d : DS) (docs : List (T × Doc)), WF d → (∀ x ∈ docs, IntoOK d x.1) →
    (∀ q, q ∈ d.quads → q ∈ (parseAll d docs).quads) ∧ WF (parseAll d docs) ∧
    (∀ pre x post, docs = pre ++ x :: post →
      IsMerge (parseAll d pre) x.1 x.2 (parseAll d (pre ++ [x])).quads)

theorem parse_only_adds : Statement_parse_only_adds := by
  intro d pol into doc
  have r := mem_parseInto d pol into doc
  exact ⟨fun q h => (r q).mpr (Or.inl h), _, fun q h => (r q).mp h⟩

theorem parse_is_merge : Statement_parse_is_merge_remap := by
  rintro _ d into doc rfl hw hi
  exact isMerge_parseInto into doc hw hi

theorem wf_preserved : Statement_wf_preserved :=
  fun d pol into doc hw hi => parseInto_eq d pol into doc ▸ wf_parseO _ d [] into doc (mapInv_init d.fresh) hw hi

theorem two_docs_disjoint : Statement_two_docs_disjoint := by
  intro d into₁ into₂ doc₁ doc₂ hw hi₁ hi₂
  -- each call is a merge: a node of the first document is in the target of the second call, the second's nodes are not
  obtain ⟨σ₁, inj₁, dis₁, eq₁⟩ := isMerge_parseInto into₁ doc₁ hw hi₁
  obtain ⟨σ₂, inj₂, dis₂, eq₂⟩ := isMerge_parseInto into₂ doc₂ (wf_preserved d .remap into₁ doc₁ hw hi₁)
    (hi₂.mono (parse_facts d .remap into₁ doc₁).ext.fresh)
  have old : ∀ {b}, HasNode (d.quads ++ rename σ₁ into₁ doc₁) b → ∀ l, Doc.has doc₂ l → b ≠ σ₂ l :=
    fun ⟨q, hq, hb⟩ l hl e => (dis₂ l hl).1 ⟨q, (eq₁ q).mpr hq, e ▸ hb⟩
  refine ⟨σ₁, σ₂, fun x => ?_, inj₁, inj₂, fun l₁ l₂ hl₁ hl₂ => ?_, fun l hl => (dis₁ l hl).1, fun l hl hn => ?_⟩
  · rw [eq₂ x, List.mem_append, eq₁ x, List.mem_append, List.mem_append, List.mem_append]
  · obtain ⟨q, hq, hb⟩ := doc_has_hasNode (σ := σ₁) (into := into₁) hl₁
    exact old ⟨q, List.mem_append_right _ hq, hb⟩ l₂ hl₂
  · obtain ⟨q, hq, hb⟩ := hn
    exact old ⟨q, List.mem_append_left _ hq, hb⟩ l hl rfl

theorem same_doc_twice_disjoint : Statement_same_doc_twice_disjoint := by
  intro d into doc hw hi
  obtain ⟨σ₁, σ₂, h, _, _, hd, _, _⟩ := two_docs_disjoint d into into doc doc hw hi hi
  exact ⟨σ₁, σ₂, h, hd⟩

theorem label_within_doc_one_node : Statement_label_within_doc_one_node := by
  intro f pol into doc
  have r := (emitO_spec ⟨pol, false, true⟩ into doc ⟨f, []⟩ (mapInv_init f)).out _ (Ext.refl _)
  rw [emitO_plain, renameO_plain] at r
  exact ⟨_, r⟩

theorem looks_like_generated_id_safe : Statement_looks_like_generated_id_safe := by
  intro d into doc n hw hi hn hl
  obtain ⟨σ, hinj, hdis, heq⟩ := isMerge_parseInto into doc hw hi
  refine ⟨σ, heq, hinj, ?_, (hdis _ hl).1⟩
  intro e
  apply (hdis _ hl).1
  rw [e]
  exact hn

/-- the labels are taken from the dict the first call ended with -/
theorem fresh_graphs_iso : Statement_fresh_graphs_iso := by
  intro f₁ f₂ into doc hinto
  have r1 := parse_facts ⟨[], f₁⟩ .remap into doc
  obtain ⟨σ₂, i₂, _, h₂⟩ := isMerge_parseInto into doc (wf_nil f₂) fun b hb => absurd hb (hinto b)
  exact iso_of_renamings hinto
    (fun x => (mem_parseInto _ .remap into doc x).trans ⟨fun h => h.resolve_left List.not_mem_nil, Or.inr⟩) h₂
    (fun l ⟨q, hq, hl⟩ => mem_keys.mpr (r1.seen q (by rw [keptDoc_true]; exact hq) l hl).dict)
    (r1.inv.sigma_inj fun _ => mem_keys.mp) i₂

theorem parseAll_append (d : DS) (a b : List (T × Doc)) : parseAll d (a ++ b) = parseAll (parseAll d a) b := by
  induction a generalizing d with
  | nil => rfl
  | cons x rest ih => simp only [List.cons_append, parseAll]; exact ih _

theorem parseAll_facts (docs : List (T × Doc)) : ∀ (d : DS), WF d → (∀ x ∈ docs, IntoOK d x.1) →
    WF (parseAll d docs) ∧ d.fresh ≤ (parseAll d docs).fresh ∧ (∀ q, q ∈ d.quads → q ∈ (parseAll d docs).quads) := by
  induction docs with
  | nil => intro d hw _; exact ⟨hw, Nat.le_refl _, fun _ h => h⟩
  | cons x rest ih =>
    intro d hw hi
    have r := parse_facts d .remap x.1 x.2
    obtain ⟨h1, h2, h3⟩ := ih _ (wf_preserved d .remap x.1 x.2 hw (hi x List.mem_cons_self))
      fun y hy => (hi y (List.mem_cons_of_mem _ hy)).mono r.ext.fresh
    exact ⟨h1, Nat.le_trans r.ext.fresh h2, fun q hq' => h3 q ((r.mem q).mpr (Or.inl hq'))⟩

theorem history : Statement_history := by
  intro d docs hw hi
  obtain ⟨h1, _, h3⟩ := parseAll_facts docs d hw hi
  refine ⟨h3, h1, ?_⟩
  intro pre x post e
  subst e
  obtain ⟨hwp, hfp, _⟩ := parseAll_facts pre d hw fun y hy => hi y (List.mem_append_left _ hy)
  rw [parseAll_append]
  exact isMerge_parseInto x.1 x.2 hwp
    ((hi x (List.mem_append_right _ List.mem_cons_self)).mono hfp)

/-! ### The negative result: `BNode(label)` parsers (hextuples today; TriX and JSON-LD before the repairs) -/

/-- the one-statement document `_:b0 <p> <o>`; it is parsed twice below -/
def docB0 : Doc := [(.lab (.named 0), .iri 1, .iri 2, none)]

/-- with `verbatim`, parsing it twice leaves ONE statement about ONE node -/
theorem verbatim_shares_node :
    (parseInto (parseInto ⟨[], 1⟩ .verbatim (.iri 0) docB0) .verbatim (.iri 0) docB0).quads
      = [(.bn 0, .iri 1, .iri 2, .iri 0)] := by decide +kernel

/-- … whereas with `remap` there are two nodes -/
theorem remap_two_nodes :
    (parseInto (parseInto ⟨[], 1⟩ .remap (.iri 0) docB0) .remap (.iri 0) docB0).quads
      = [(.bn 1, .iri 1, .iri 2, .iri 0), (.bn 2, .iri 1, .iri 2, .iri 0)] := by decide +kernel

/-- so the full-strength statement is false: the verbatim policy does not compute the merge -/
theorem verbatim_not_merge : ¬ Statement_parse_is_merge := by
  intro h
  obtain ⟨σ, _, hdis, heq⟩ := h .verbatim (parseInto ⟨[], 1⟩ .verbatim (.iri 0) docB0) (.iri 0) docB0
    (wf_preserved _ _ _ _ (wf_nil 1) (fun b hb => nomatch hb)) (fun b hb => nomatch hb)
  have hmem := (heq (qren σ (.iri 0) (.lab (.named 0), .iri 1, .iri 2, none))).mpr
    (List.mem_append_right _ (List.mem_singleton.mpr rfl))
  rw [verbatim_shares_node] at hmem
  have hσ : σ (.named 0) = 0 := T.bn.inj (congrArg Prod.fst (List.mem_singleton.mp hmem))
  refine (hdis _ ⟨_, List.mem_singleton.mpr rfl, Or.inl rfl⟩).1 ⟨(.bn 0, .iri 1, .iri 2, .iri 0), by decide +kernel, Or.inl ?_⟩
  rw [hσ]

theorem parse_is_merge_partial : Statement_parse_is_merge_remap := parse_is_merge
theorem parse_is_merge_witness : ¬ Statement_parse_is_merge := verbatim_not_merge

/-- Parser `p` called with options `c` (its own node function, as coded; an empty label dict at the start):
    the labels of the document go to nodes by ONE injective renaming whose values are not nodes of the old
    content — the target is the RDF merge of the old content and the statements the parser keeps
    (all of them, except JSON-LD's blank-node-predicate statements when `generalized_rdf` is off). -/
def Statement_labels_one_injective_renaming (p : Parser) (c : CallOpts) : Prop :=
  ∀ (d : DS) (into : T) (doc : Doc), WF d → IntoOK d into →
    IsMerge d into (keptDoc (genOf p c) doc) (parseWith p c d [] into doc).1.quads

/-- every parser, every option, any label dict handed in that meets `MapInv`: every old quad stays (per graph: a quad carries its
    graph, `into` = default graph, IRI-named or blank-node-named graph), and whatever is new is the image of a
    kept statement of the document under one assignment of its labels -/
def Statement_parse_only_adds_every_parser : Prop :=
  ∀ (p : Parser) (c : CallOpts) (d : DS) (m0 : LMap) (f0 : Nat) (into : T) (doc : Doc), MapInv f0 ⟨d.fresh, m0⟩ →
    (∀ q, q ∈ d.quads → q ∈ (parseWith p c d m0 into doc).1.quads) ∧
    (∃ σ : Lbl → Nat, ∀ q, q ∈ (parseWith p c d m0 into doc).1.quads →
      q ∈ d.quads ∨ q ∈ renameO (loptsOf p c) σ into doc)

/-- … and the freshness invariant survives every such call -/
def Statement_wf_preserved_every_parser : Prop :=
  ∀ (p : Parser) (c : CallOpts) (d : DS) (m0 : LMap) (f0 : Nat) (into : T) (doc : Doc), MapInv f0 ⟨d.fresh, m0⟩ →
    WF d → IntoOK d into → WF (parseWith p c d m0 into doc).1

/-- `bnode_context=ctx` (N-Triples, N-Quads; also one N-Quads parser object used for several calls): the merge is
    replaced by exactly the sharing the caller asked for.  For a dict `ctx` whose entries are distinct existing ids,
    and any sequence of calls handing it on: there is ONE assignment σ for all the documents, it agrees with the
    entries the caller put in, it is injective over the labels of all the documents together (same label ⇔ same
    node, also across documents), labels the dict did not have go to nodes that are not in the old content, the
    target is the old content plus every document renamed by σ, and afterwards the dict holds σ. -/
def Statement_caller_shared_context_shares_exactly : Prop :=
  ∀ (d : DS) (ctx : LMap) (f0 : Nat) (docs : List (T × Doc)), WF d → MapInv f0 ⟨d.fresh, ctx⟩ →
    (∀ x ∈ docs, IntoOK d x.1) →
    ∃ σ : Lbl → Nat,
      (∀ l b, alookup ctx l = some b → σ l = b) ∧
      (∀ l l', HasAny docs l → HasAny docs l' → σ l = σ l' → l = l') ∧
      (∀ l, HasAny docs l → alookup ctx l = none → ¬ HasNode d.quads (σ l) ∧ ∀ x ∈ docs, x.1 ≠ .bn (σ l)) ∧
      SetEq (parseShared ⟨.remap, false, true⟩ d ctx docs).1.quads
            (d.quads ++ docs.flatMap (fun x => rename σ x.1 x.2)) ∧
      (∀ l, HasAny docs l → alookup (parseShared ⟨.remap, false, true⟩ d ctx docs).2 l = some (σ l))

/-- `preserve_bnode_ids=True` (RDF/XML, TriX): the parser is the `BNode(label)` parser -/
def Statement_preserve_bnode_ids_is_verbatim : Prop :=
  ∀ (p : Parser) (c : CallOpts) (d : DS) (into : T) (doc : Doc), (p = .xml ∨ p = .trix) → c.preserve = true →
    (parseWith p c d [] into doc).1 = parseInto d .verbatim into doc

/-- `skolemize=True` (N-Triples, N-Quads, JSON-LD, hextuples): no blank node is made — a blank node of a new quad
    can only be the graph parsed into — and a label's IRI depends on the label alone (σ is the identity on `named` labels) -/
def Statement_skolemize_no_blank_nodes : Prop :=
  ∀ (p : Parser) (c : CallOpts) (d : DS) (into : T) (doc : Doc),
    (p = .nt ∨ p = .nquads ∨ p = .jsonld ∨ p = .hext) → c.skolemize = true →
    ∃ σ : Lbl → Nat, (∀ n, σ (.named n) = n) ∧
      (∀ q, q ∈ (parseWith p c d [] into doc).1.quads ↔ q ∈ d.quads ∨ q ∈ renameO (loptsOf p c) σ into doc) ∧
      (∀ q b, q ∈ renameO (loptsOf p c) σ into doc → Quad.hasNode q b → into = .bn b)

theorem remapping_one_injective_renaming (p : Parser) (c : CallOpts)
    (hp : (loptsOf p c).pol = .remap) (hs : (loptsOf p c).sk = false) :
    Statement_labels_one_injective_renaming p c := by
  intro d into doc hw hi
  rw [parseWith_eq, genOf_eq]
  exact (parseO_facts (loptsOf p c) d [] into doc (mapInv_init _)).isMerge hp hs hw hi

theorem nt_labels_one_injective_renaming : Statement_labels_one_injective_renaming .nt CallOpts.default :=
  remapping_one_injective_renaming _ _ rfl rfl
theorem nquads_labels_one_injective_renaming : Statement_labels_one_injective_renaming .nquads CallOpts.default :=
  remapping_one_injective_renaming _ _ rfl rfl
theorem turtle_labels_one_injective_renaming : ∀ c, Statement_labels_one_injective_renaming .turtle c :=
  fun c => remapping_one_injective_renaming _ c rfl rfl
theorem n3_labels_one_injective_renaming : ∀ c, Statement_labels_one_injective_renaming .n3 c :=
  fun c => remapping_one_injective_renaming _ c rfl rfl
theorem trig_labels_one_injective_renaming : ∀ c, Statement_labels_one_injective_renaming .trig c :=
  fun c => remapping_one_injective_renaming _ c rfl rfl
theorem xml_labels_one_injective_renaming : Statement_labels_one_injective_renaming .xml CallOpts.default :=
  remapping_one_injective_renaming _ _ rfl rfl
theorem trix_labels_one_injective_renaming : Statement_labels_one_injective_renaming .trix CallOpts.default :=
  remapping_one_injective_renaming _ _ rfl rfl
/-- JSON-LD, `generalized_rdf` on or off (off: the merge is with the document minus its blank-node-predicate statements) -/
theorem jsonld_labels_one_injective_renaming :
    ∀ gen, Statement_labels_one_injective_renaming .jsonld ⟨false, false, gen⟩ :=
  fun gen => remapping_one_injective_renaming _ ⟨false, false, gen⟩ rfl rfl

/-- hextuples is the `BNode(label)` parser of `Model.lean` … -/
theorem hext_is_verbatim (d : DS) (into : T) (doc : Doc) :
    (parseWith .hext CallOpts.default d [] into doc).1 = parseInto d .verbatim into doc :=
  parseWith_plain rfl d into doc

/-- … so the statement fails for it (known finding C12-K1) -/
theorem hext_labels_one_injective_renaming_witness :
    ¬ Statement_labels_one_injective_renaming .hext CallOpts.default := by
  intro h
  -- with it, and `parse_is_merge` for the other policy, the refuted full-strength statement would hold
  apply verbatim_not_merge
  intro pol d into doc hw hi
  cases pol with
  | remap => exact isMerge_parseInto into doc hw hi
  | verbatim =>
    have := h d into doc hw hi
    rwa [hext_is_verbatim, show genOf .hext CallOpts.default = true from rfl, keptDoc_true] at this

theorem parse_only_adds_every_parser : Statement_parse_only_adds_every_parser := by
  intro p c d m0 f0 into doc hm
  rw [parseWith_eq]
  have r := parseO_facts (loptsOf p c) d m0 into doc hm
  exact ⟨fun q h => (r.mem q).mpr (Or.inl h), _, fun q h => (r.mem q).mp h⟩

theorem wf_preserved_every_parser : Statement_wf_preserved_every_parser := by
  intro p c d m0 f0 into doc hm hw hi
  rw [parseWith_eq]
  exact wf_parseO _ d m0 into doc hm hw hi

theorem caller_shared_context_shares_exactly : Statement_caller_shared_context_shares_exactly := by
  intro d ctx f0 docs hw hm hi
  have r := parseShared_facts ⟨.remap, false, true⟩ docs d ctx hm
  have seen : ∀ l, HasAny docs l → Def .remap (parseShared ⟨.remap, false, true⟩ d ctx docs).2 l :=
    fun l ⟨x, hx, q, hqd, hl⟩ => (r.seen x hx q (by rw [keptDoc_true]; exact hqd) l hl).dict
  refine ⟨sigma .remap (parseShared ⟨.remap, false, true⟩ d ctx docs).2, fun l b hb => ?_,
    r.inv.sigma_inj seen, fun l hl hnone => ?_,
    fun y => ?_, fun l hl => (seen l hl).lookup⟩
  · have hb' := r.ext.map l b hb
    exact Option.some.inj ((def_remap_iff.mpr ⟨b, hb'⟩).lookup.symm.trans hb')
  · -- an entry that was not in `ctx` holds an id the supply had not reached
    have hr : d.fresh ≤ sigma .remap (parseShared ⟨.remap, false, true⟩ d ctx docs).2 l :=
      (r.ext.new l _ (seen l hl).lookup).resolve_left fun h => by rw [hnone] at h; cases h
    exact ⟨hw.not_node hr, fun x hx => (hi x hx).ne hr⟩
  · rw [r.mem y, List.mem_append, List.mem_flatMap]
    simp only [renameO_plain]

theorem preserve_bnode_ids_is_verbatim : Statement_preserve_bnode_ids_is_verbatim := by
  rintro p ⟨sk, pre, gen⟩ d into doc hp rfl
  rcases hp with rfl | rfl <;> exact parseWith_plain rfl d into doc

theorem skolemize_no_blank_nodes : Statement_skolemize_no_blank_nodes := by
  intro p c d into doc hp hc
  have hpol : (loptsOf p c).pol = .verbatim ∧ (loptsOf p c).sk = true := by
    obtain ⟨sk, pre, gen⟩ := c
    cases hc
    rcases hp with rfl | rfl | rfl | rfl <;> exact ⟨rfl, rfl⟩
  rw [parseWith_eq]
  refine ⟨_, ?_, (parseO_facts (loptsOf p c) d [] into doc (mapInv_init d.fresh)).mem, ?_⟩
  · intro n; rw [hpol.1]; rfl
  · intro q b hqr hn
    obtain ⟨dq, _, rfl⟩ := List.mem_map.mp hqr
    exact hasNode_qrenO_sk hpol.2 hn

/-- two calls that hand on one dict give `_:b0` ONE node (contrast `remap_two_nodes`) — and it is a new one -/
theorem shared_context_one_node :
    (parseShared ⟨.remap, false, true⟩ ⟨[], 1⟩ [] [(.iri 0, docB0), (.iri 0, docB0)]).1.quads
      = [(.bn 1, .iri 1, .iri 2, .iri 0)] := by decide +kernel

/-- JSON-LD without `generalized_rdf`: the statement with the blank-node predicate is gone, the others are merged in -/
theorem jsonld_drops_bnode_predicate :
    (parseWith .jsonld ⟨false, false, false⟩ ⟨[], 1⟩ [] (.iri 0)
        [(.lab (.named 0), .lab (.named 1), .iri 2, none), (.lab (.named 0), .iri 1, .lab (.named 1), none)]).1.quads
      = [(.bn 1, .iri 1, .bn 2, .iri 0)] := by decide +kernel

/-- `skolemize=True`: `_:b0 <p> <o>` becomes a statement about the IRI genid/b0 -/
theorem skolemize_example :
    (parseWith .nt ⟨true, false, false⟩ ⟨[], 1⟩ [] (.iri 0) docB0).1.quads = [(.skol 0, .iri 1, .iri 2, .iri 0)] := by
  decide +kernel

/-- where the new quads go: into the graph parsed into, or into a graph the document itself names (an IRI, or one of
    its labels under the same assignment) — no third graph of the dataset is touched -/
def Statement_new_quads_in_target_or_named_graph : Prop :=
  ∀ (p : Parser) (c : CallOpts) (d : DS) (m0 : LMap) (f0 : Nat) (into : T) (doc : Doc), MapInv f0 ⟨d.fresh, m0⟩ →
    ∃ σ : Lbl → Nat, ∀ q, q ∈ (parseWith p c d m0 into doc).1.quads → q ∈ d.quads ∨ q.2.2.2 = into ∨
      ∃ dq ∈ doc, ∃ g, dq.2.2.2 = some g ∧ q.2.2.2 = trenO (loptsOf p c) σ g

theorem new_quads_in_target_or_named_graph : Statement_new_quads_in_target_or_named_graph := by
  intro p c d m0 f0 into doc hm
  rw [parseWith_eq]
  refine ⟨sigma (loptsOf p c).pol (parseO (loptsOf p c) d m0 into doc).2, fun q h => ?_⟩
  rcases ((parseO_facts (loptsOf p c) d m0 into doc hm).mem q).mp h with h | h
  · exact Or.inl h
  · simp only [renameO] at h
    obtain ⟨dq, hdq, rfl⟩ := List.mem_map.mp h
    have hdoc : dq ∈ doc := (List.mem_filter.mp hdq).1
    obtain ⟨a, b, c', g⟩ := dq
    cases g with
    | none => exact Or.inr (Or.inl rfl)
    | some t => exact Or.inr (Or.inr ⟨_, hdoc, t, rfl, rfl⟩)

/-- A patch consisting of `A` rows is the `BNode(label)` parser (`Policy.verbatim`) reading those statements into the
    dataset's default graph: labels are *store-scoped by design* (`_:x` and `<_:x>` are the node `x` of the store),
    whatever `bnode_context=` / `skolemize=` / graph parsed into the caller gives. -/
def Statement_patch_adds_verbatim : Prop :=
  ∀ (d : DS) (dflt : T) (doc : Doc),
    parsePatch d dflt (doc.map (fun q => (POp.add, q))) = parseInto d .verbatim dflt doc

/-- … so such a patch only adds (and everything new is the image of a row under the identity on `named` labels) -/
def Statement_patch_without_D_only_adds : Prop :=
  ∀ (d : DS) (dflt : T) (doc : Doc),
    (∀ q, q ∈ d.quads → q ∈ (parsePatch d dflt (doc.map (fun q => (POp.add, q)))).quads) ∧
    (∃ σ : Lbl → Nat, (∀ n, σ (.named n) = n) ∧
      ∀ q, q ∈ (parsePatch d dflt (doc.map (fun q => (POp.add, q)))).quads → q ∈ d.quads ∨ q ∈ rename σ dflt doc)

theorem patch_adds_verbatim : Statement_patch_adds_verbatim := by
  intro d dflt doc
  simp only [parsePatch, patchRun_adds, parseInto, parseDoc]

theorem patch_without_D_only_adds : Statement_patch_without_D_only_adds := by
  intro d dflt doc
  rw [patch_adds_verbatim]
  have r := mem_parseInto d .verbatim dflt doc
  exact ⟨fun q h => (r q).mpr (Or.inl h), _, fun n => rfl, fun q h => (r q).mp h⟩

/-- a `D` row removes a statement of the store (parsing a patch does not "only add": by design) and its label is the
    store's node: `D _:b3 <1> <2> .` deletes the statement about node 3 -/
theorem patch_delete_removes :
    (parsePatch ⟨[(.bn 3, .iri 1, .iri 2, .iri 0), (.bn 4, .iri 1, .iri 2, .iri 0)], 10⟩ (.iri 0)
      [(.del, (.lab (.named 3), .iri 1, .iri 2, none)), (.add, (.lab (.named 4), .iri 5, .lab (.named 7), some (.iri 9)))]).quads
      = [(.bn 4, .iri 1, .iri 2, .iri 0), (.bn 4, .iri 5, .bn 7, .iri 9)] := by decide +kernel

/-- The N3-family parser as coded — a *stack* of `_anonymousNodes` dicts, pushed and emptied at `{`, popped at `}`,
    plus the nodes the recursive descent holds (`[]`, `( )`, paths, formula nodes) — computes exactly what the
    generic one-dict parser computes on the scope-resolved document, in which every `_:x` written inside a
    formula is qualified with that formula occurrence (`resolve`). -/
def Statement_n3_formula_scopes : Prop :=
  ∀ (d : DS) (into : T) (evs : List Ev), EvOK evs →
    parseN3 d into evs = parseInto d .remap into (resolve RS.init evs)

/-- … hence: ONE injective renaming of the *scoped* labels to nodes that are not in the old content.  `_:x` in a
    formula, `_:x` outside it and `_:x` in another formula are three nodes; `_:x` before and after a formula is one
    node; inside one formula it is one node. -/
def Statement_n3_scoped_labels_one_injective_renaming : Prop :=
  ∀ (d : DS) (into : T) (evs : List Ev), EvOK evs → WF d → IntoOK d into →
    IsMerge d into (resolve RS.init evs) (parseN3 d into evs).quads

/-- without formulae the stack machine is the N3-family parser of `parseWith` (Turtle, TriG — any number of graph
    blocks — and N3 documents without `{ }`) -/
def Statement_n3_without_formulae : Prop :=
  ∀ (p : Parser) (c : CallOpts) (d : DS) (into : T) (doc : Doc), (p = .turtle ∨ p = .n3 ∨ p = .trig) →
    (∀ q ∈ doc, QOK q) → parseN3 d into (doc.map Ev.stmt) = (parseWith p c d [] into doc).1

theorem n3_formula_scopes : Statement_n3_formula_scopes :=
  fun d into evs h => parseN3_eq d into evs h

theorem n3_scoped_labels_one_injective_renaming : Statement_n3_scoped_labels_one_injective_renaming := by
  intro d into evs h hw hi
  rw [parseN3_eq d into evs h]
  exact isMerge_parseInto into _ hw hi

theorem n3_without_formulae : Statement_n3_without_formulae := by
  intro p c d into doc hp hq
  have hok : EvOK (doc.map Ev.stmt) := by
    intro q hm
    obtain ⟨q', hq', e⟩ := List.mem_map.mp hm
    injection e with e
    subst e
    exact hq q' hq'
  rw [parseN3_eq d into _ hok, resolve_init_stmts]
  rcases hp with rfl | rfl | rfl <;> exact (parseWith_plain rfl d into doc).symm

/-- holds by computation: `n3Close (n3Open s)` rebuilds `s` from its own fields -/
theorem n3_close_restores (s : N3S) : n3Close (n3Open s) = s := rfl

/-- `_:x <1> <2> .  { _:x <1> <2> } <3> <2> .  _:x <4> <2> .` — the inner `_:x` is its own node (2), the outer one
    is the same node (1) before and after the formula, the formula's node is 3 -/
theorem n3_scopes_example :
    (parseN3 ⟨[], 1⟩ (.iri 0)
      [.stmt (.lab (.named 0), .iri 1, .iri 2, none), .opn,
       .stmt (.lab (.named 0), .iri 1, .iri 2, some (.lab (.anon 0))), .cls,
       .stmt (.lab (.anon 0), .iri 3, .iri 2, none), .stmt (.lab (.named 0), .iri 4, .iri 2, none)]).quads
      = [(.bn 1, .iri 1, .iri 2, .iri 0), (.bn 2, .iri 1, .iri 2, .bn 3), (.bn 3, .iri 3, .iri 2, .iri 0),
         (.bn 1, .iri 4, .iri 2, .iri 0)] := by decide +kernel

/-- the hypotheses of `looks_like_generated_id_safe` are met by a target with content, a blank-node-named graph to parse into, and a
    document that reuses the id `3` as a label, as a graph name, and has an anonymous node -/
example :
    let d : DS := ⟨[(.bn 3, .iri 1, .bn 4, .iri 0), (.iri 5, .iri 1, .lit 0, .bn 3)], 10⟩
    let doc : Doc := [(.lab (.named 3), .iri 1, .lab (.anon 0), some (.lab (.named 3))), (.lab (.named 3), .iri 2, .lit 0, none)]
    WF d ∧ IntoOK d (.bn 3) ∧ HasNode d.quads 3 ∧ Doc.has doc (.named 3) ∧
    (parseInto d .remap (.bn 3) doc).quads =
      [(.bn 3, .iri 1, .bn 4, .iri 0), (.iri 5, .iri 1, .lit 0, .bn 3),
       (.bn 10, .iri 1, .bn 11, .bn 10), (.bn 10, .iri 2, .lit 0, .bn 3)] := by
  refine ⟨?_, ?_, ?_, ?_, by decide +kernel⟩
  · refine wf_cons ?_ (wf_cons ?_ (wf_nil _))
    · rintro b (hn | hn | hn | hn) <;> cases hn <;> decide
    · rintro b (hn | hn | hn | hn) <;> cases hn <;> decide
  · intro b hb; cases hb; decide
  · exact ⟨_, List.mem_cons_self, Or.inl rfl⟩
  · exact ⟨_, List.mem_cons_self, Or.inl rfl⟩

/-- the hypotheses of `caller_shared_context_shares_exactly` are met by a target with content and a dict the
    caller filled with an existing node (`_:b0` ↦ node 3): the two documents then talk about node 3 and share `_:b1` -/
example :
    let d : DS := ⟨[(.bn 3, .iri 1, .bn 4, .iri 0)], 10⟩
    let ctx : LMap := [(.named 0, 3)]
    let doc : Doc := [(.lab (.named 0), .iri 2, .lab (.named 1), none)]
    WF d ∧ MapInv 0 ⟨d.fresh, ctx⟩ ∧ IntoOK d (.iri 0) ∧
    (parseShared ⟨.remap, false, true⟩ d ctx [(.iri 0, doc), (.iri 5, doc)]).1.quads =
      [(.bn 3, .iri 1, .bn 4, .iri 0), (.bn 3, .iri 2, .bn 10, .iri 0), (.bn 3, .iri 2, .bn 10, .iri 5)] ∧
    (parseShared ⟨.remap, false, true⟩ d ctx [(.iri 0, doc), (.iri 5, doc)]).2 = [(.named 1, 10), (.named 0, 3)] := by
  refine ⟨?_, (mapInv_init 0).push _ (Nat.zero_le 3) (by decide), (fun b hb => by cases hb), by decide +kernel,
    by decide +kernel⟩
  refine wf_cons ?_ (wf_nil _)
  rintro b (hn | hn | hn | hn) <;> cases hn <;> decide

/-- `EvOK` holds for a document with a label inside and outside a formula -/
example : EvOK [.stmt (.lab (.named 0), .iri 1, .iri 2, none), .opn,
                .stmt (.lab (.named 0), .iri 1, .iri 2, some (.lab (.anon 0))), .cls] := by
  intro q hq
  simp only [List.mem_cons, List.not_mem_nil, or_false, reduceCtorEq, false_or, Ev.stmt.injEq] at hq
  -- every slot is a literal term, so `t = .lab (.inner a b)` clashes with its constructor
  rcases hq with rfl | rfl
  · refine ⟨?_, ?_, ?_, fun g hg => nomatch hg⟩ <;> intro l hl a b e <;> subst e <;> cases hl
  · refine ⟨?_, ?_, ?_, fun g hg => ?_⟩
    · intro l hl a b e; subst e; cases hl
    · intro l hl; cases hl
    · intro l hl; cases hl
    · cases hg
      intro l hl a b e; subst e; cases hl

end RV.C12

import RV.C12.Notions
/-
  C12 — what the label dict of a parse call guarantees (`Ext`, `MapInv`, `Seen`); `transport` from one assignment of
  a document's labels to another.
-/
namespace RV.C12

/-- the node a label denotes under policy `pol` and label map `m` (0 for a label `m` does not have) -/
def sigma (pol : Policy) (m : List (Lbl × Nat)) (l : Lbl) : Nat :=
  match pol, l with
  | .verbatim, .named n => n
  | _, _ => (alookup m l).getD 0

/-- `m` determines the label's node: `BNode(label)`, or the label has an entry -/
def Def (pol : Policy) (m : List (Lbl × Nat)) (l : Lbl) : Prop :=
  match pol, l with
  | .verbatim, .named _ => True
  | _, _ => ∃ b, alookup m l = some b

def ExtMap (m m' : List (Lbl × Nat)) : Prop :=
  ∀ l b, alookup m l = some b → alookup m' l = some b

theorem ExtMap.refl (m : List (Lbl × Nat)) : ExtMap m m := fun _ _ h => h
theorem ExtMap.trans {a b c : List (Lbl × Nat)} (h : ExtMap a b) (h' : ExtMap b c) : ExtMap a c :=
  fun l x hx => h' l x (h l x hx)

/-- a later state of the same call: supply grown, entries kept, a new entry holds an id `≥ st.fresh` -/
structure Ext (st st' : PS) : Prop where
  fresh : st.fresh ≤ st'.fresh
  map : ExtMap st.map st'.map
  new : ∀ l b, alookup st'.map l = some b → alookup st.map l = some b ∨ st.fresh ≤ b

theorem Ext.refl (st : PS) : Ext st st := ⟨Nat.le_refl _, ExtMap.refl _, fun _ _ h => Or.inl h⟩
theorem Ext.trans {a b c : PS} (h : Ext a b) (h' : Ext b c) : Ext a c :=
  ⟨Nat.le_trans h.fresh h'.fresh, h.map.trans h'.map,
   fun l x hx => (h'.new l x hx).elim (h.new l x) fun hle => Or.inr (Nat.le_trans h.fresh hle)⟩

theorem mapInv_init (f : Nat) : MapInv f ⟨f, []⟩ :=
  ⟨Nat.le_refl _, (fun _ _ h => by cases h), (fun _ _ _ h _ => by cases h)⟩

theorem alookup_cons (k : Lbl) (v : Nat) (m : List (Lbl × Nat)) (l : Lbl) :
    alookup ((k, v) :: m) l = if k = l then some v else alookup m l := rfl

theorem verbatim_or_lookup (pol : Policy) (l : Lbl) :
    (∃ n, pol = .verbatim ∧ l = .named n) ∨
    ((∀ m, sigma pol m l = (alookup m l).getD 0) ∧ (∀ m, Def pol m l ↔ ∃ b, alookup m l = some b) ∧
      ∀ st, nodeid pol st l = alloc st l) := by
  cases pol <;> cases l
  case verbatim.named n => exact Or.inl ⟨n, rfl, rfl⟩
  all_goals exact Or.inr ⟨fun _ => rfl, fun _ => Iff.rfl, fun _ => rfl⟩

theorem Def.mono {pol : Policy} {m m' : List (Lbl × Nat)} {l : Lbl} (h : Def pol m l) (e : ExtMap m m') :
    Def pol m' l := by
  rcases verbatim_or_lookup pol l with ⟨n, rfl, rfl⟩ | ⟨_, hD, _⟩
  · trivial
  · exact (hD m').mpr (((hD m).mp h).imp fun b hb => e _ _ hb)

theorem sigma_stable {pol : Policy} {m m' : List (Lbl × Nat)} {l : Lbl} (h : Def pol m l) (e : ExtMap m m') :
    sigma pol m' l = sigma pol m l := by
  rcases verbatim_or_lookup pol l with ⟨n, rfl, rfl⟩ | ⟨hS, hD, _⟩
  · rfl
  · obtain ⟨b, hb⟩ := (hD m).mp h
    rw [hS, hS, hb, e _ _ hb]

theorem def_remap_iff {m : List (Lbl × Nat)} {l : Lbl} : Def .remap m l ↔ ∃ b, alookup m l = some b := by
  cases l <;> exact Iff.rfl

theorem Def.lookup {m : List (Lbl × Nat)} {l : Lbl} (h : Def .remap m l) : alookup m l = some (sigma .remap m l) := by
  obtain ⟨b, hb⟩ := def_remap_iff.mp h
  cases l <;> simp only [sigma, hb, Option.getD_some]

theorem MapInv.sigma_inj {f0 : Nat} {st : PS} {P : Lbl → Prop} (hm : MapInv f0 st)
    (h : ∀ l, P l → Def .remap st.map l) (l l' : Lbl) (hl : P l) (hl' : P l')
    (e : sigma .remap st.map l = sigma .remap st.map l') : l = l' :=
  hm.inj l l' _ (h l hl).lookup ((h l' hl').lookup.trans (congrArg some e.symm))

/-- what the pass knows of a label it has met; kept along `Ext` (`Seen.mono`) -/
structure Seen (pol : Policy) (st : PS) (l : Lbl) : Prop where
  dict : Def pol st.map l
  below : sigma pol st.map l < st.fresh

theorem alookup_cons_some {k l : Lbl} {v b : Nat} {m : List (Lbl × Nat)} (h : alookup ((k, v) :: m) l = some b) :
    k = l ∧ b = v ∨ alookup m l = some b := by
  rw [alookup_cons] at h
  split at h
  · next e => exact Or.inl ⟨e, (Option.some.inj h).symm⟩
  · exact Or.inr h

/-- the label may have had an entry: it is shadowed -/
theorem MapInv.push {f0 f f' v : Nat} {m : List (Lbl × Nat)} (h : MapInv f0 ⟨f, m⟩) (l : Lbl) (hv : f ≤ v) (hf : v < f') :
    MapInv f0 ⟨f', (l, v) :: m⟩ where
  lo := Nat.le_trans h.lo (Nat.le_trans hv (Nat.le_of_lt hf))
  range := fun l' b hb => by
    rcases alookup_cons_some hb with ⟨_, rfl⟩ | hb
    · exact ⟨Nat.le_trans h.lo hv, hf⟩
    · exact ⟨(h.range l' b hb).1, Nat.lt_of_lt_of_le (h.range l' b hb).2 (Nat.le_trans hv (Nat.le_of_lt hf))⟩
  inj := fun l1 l2 b h1 h2 => by
    -- an old entry holds an id below `f`, the new one does not
    rcases alookup_cons_some h1 with ⟨e1, rfl⟩ | h1 <;> rcases alookup_cons_some h2 with ⟨e2, e⟩ | h2
    · rw [← e1, ← e2]
    · exact absurd (h.range l2 _ h2).2 (Nat.not_lt.mpr hv)
    · exact absurd (e ▸ (h.range l1 _ h1).2) (Nat.not_lt.mpr hv)
    · exact h.inj l1 l2 _ h1 h2

theorem alloc_spec {f0 : Nat} (st : PS) (l : Lbl) (h : MapInv f0 st) :
    Ext st (alloc st l).1 ∧ MapInv f0 (alloc st l).1 ∧
    alookup (alloc st l).1.map l = some (alloc st l).2 ∧ (alloc st l).2 < (alloc st l).1.fresh := by
  unfold alloc
  split
  · next b hb => exact ⟨Ext.refl _, h, hb, (h.range l b hb).2⟩
  · next hn =>
    have ext : Ext st ⟨st.fresh + 1, (l, st.fresh) :: st.map⟩ :=
      { fresh := Nat.le_succ _
        map := fun l' b hb => by
          rw [alookup_cons, if_neg fun e => by rw [e, hb] at hn; cases hn]
          exact hb
        new := fun l' b hb => (alookup_cons_some hb).symm.imp_right fun e => Nat.le_of_eq e.2.symm }
    exact ⟨ext, h.push l (Nat.le_refl _) (Nat.lt_succ_self _), by rw [alookup_cons, if_pos rfl], Nat.lt_succ_self _⟩

theorem nodeid_spec {f0 : Nat} (pol : Policy) (st : PS) (l : Lbl) (h : MapInv f0 st) :
    Ext st (nodeid pol st l).1 ∧ MapInv f0 (nodeid pol st l).1 ∧ Seen pol (nodeid pol st l).1 l ∧
    (nodeid pol st l).2 = sigma pol (nodeid pol st l).1.map l := by
  rcases verbatim_or_lookup pol l with ⟨n, rfl, rfl⟩ | ⟨hS, hD, hN⟩
  · -- `BNode(label)`: the dict is untouched, the supply steps over `n`
    have ext : Ext st ⟨max st.fresh (n + 1), st.map⟩ :=
      { fresh := Nat.le_max_left _ _, map := ExtMap.refl _, new := fun _ _ hb => Or.inl hb }
    have inv : MapInv f0 ⟨max st.fresh (n + 1), st.map⟩ :=
      { lo := Nat.le_trans h.lo ext.fresh
        range := fun l b hb => ⟨(h.range l b hb).1, Nat.lt_of_lt_of_le (h.range l b hb).2 ext.fresh⟩
        inj := h.inj }
    exact ⟨ext, inv, ⟨trivial, Nat.lt_of_lt_of_le (Nat.lt_succ_self n) (Nat.le_max_right _ _)⟩, rfl⟩
  · obtain ⟨h1, h2, h3, h4⟩ := alloc_spec st l h
    rw [hN]
    exact ⟨h1, h2, ⟨(hD _).mpr ⟨_, h3⟩, by rw [hS, h3]; exact h4⟩, by rw [hS, h3]; rfl⟩

theorem Seen.mono {pol : Policy} {st st' : PS} {l : Lbl} (h : Seen pol st l) (e : Ext st st') : Seen pol st' l :=
  ⟨h.dict.mono e.map, (sigma_stable h.dict e.map).symm ▸ Nat.lt_of_lt_of_le h.below e.fresh⟩

def TDef (pol : Policy) (m : List (Lbl × Nat)) (t : DT) : Prop := ∀ l, t = .lab l → Def pol m l

theorem TDef.mono {pol : Policy} {m m' : List (Lbl × Nat)} {t : DT} (h : TDef pol m t) (e : ExtMap m m') : TDef pol m' t :=
  fun l hl => (h l hl).mono e

theorem tren_stable {pol : Policy} {m m' : List (Lbl × Nat)} {t : DT} (h : TDef pol m t) (e : ExtMap m m') :
    tren (sigma pol m') t = tren (sigma pol m) t := by
  cases t with
  | lab l => exact congrArg T.bn (sigma_stable (h l rfl) e)
  | _ => rfl

def GDef (pol : Policy) (m : List (Lbl × Nat)) (g : Option DT) : Prop := ∀ l, g = some (.lab l) → Def pol m l

theorem gren_stable {pol : Policy} {m m' : List (Lbl × Nat)} {into : T} {g : Option DT} (h : GDef pol m g) (e : ExtMap m m') :
    gren (sigma pol m') into g = gren (sigma pol m) into g := by
  cases g with
  | none => rfl
  | some t => exact tren_stable (fun l hl => h l (by rw [hl])) e

theorem mem_addAll {new : List Quad} : ∀ {qs : List Quad} {x : Quad}, x ∈ addAll qs new ↔ x ∈ qs ∨ x ∈ new := by
  induction new with
  | nil => exact ⟨Or.inl, fun h => h.resolve_right List.not_mem_nil⟩
  | cons q rest ih => intro qs x; rw [addAll, ih, mem_sinsert, List.mem_cons, or_assoc, or_left_comm]

theorem quad_eq {a a' b b' c c' g g' : T} (ha : a = a') (hb : b = b') (hc : c = c') (hg : g = g') :
    (a, b, c, g) = (a', b', c', g') := by
  rw [ha, hb, hc, hg]

theorem has_hasNode {σ : Lbl → Nat} {into : T} {q : DQuad} {l : Lbl} (h : DQuad.has q l) :
    Quad.hasNode (qren σ into q) (σ l) :=
  h.imp (congrArg (tren σ)) (.imp (congrArg (tren σ)) (.imp (congrArg (tren σ)) (congrArg (gren σ into))))

theorem doc_has_hasNode {σ : Lbl → Nat} {into : T} {doc : Doc} {l : Lbl} (h : Doc.has doc l) :
    HasNode (rename σ into doc) (σ l) := by
  obtain ⟨q, hq, hl⟩ := h
  exact ⟨qren σ into q, List.mem_map_of_mem hq, has_hasNode hl⟩

/-- `π = σ₂ ∘ σ₁⁻¹` on the values `σ₁` takes on the given labels, identity elsewhere -/
def transport (σ₁ σ₂ : Lbl → Nat) : List Lbl → Nat → Nat
  | [], b => b
  | l :: ls, b => if σ₁ l = b then σ₂ l else transport σ₁ σ₂ ls b

theorem transport_spec {σ₁ σ₂ : Lbl → Nat} (ls : List Lbl)
    (inj : ∀ l l', l ∈ ls → l' ∈ ls → σ₁ l = σ₁ l' → l = l') :
    ∀ l, l ∈ ls → transport σ₁ σ₂ ls (σ₁ l) = σ₂ l := by
  induction ls with
  | nil => intro l hl; cases hl
  | cons a rest ih =>
    intro l hl
    by_cases e : σ₁ a = σ₁ l
    · rw [transport, if_pos e, inj a l List.mem_cons_self hl e]
    · rw [transport, if_neg e]
      rcases List.mem_cons.mp hl with rfl | h
      · exact absurd rfl e
      · exact ih (fun x y hx hy => inj x y (List.mem_cons_of_mem _ hx) (List.mem_cons_of_mem _ hy)) l h

theorem mem_keys {m : List (Lbl × Nat)} {l : Lbl} : l ∈ m.map Prod.fst ↔ Def .remap m l := by
  rw [def_remap_iff]
  induction m with
  | nil => exact ⟨fun h => (nomatch h), fun ⟨_, h⟩ => (nomatch h)⟩
  | cons kv m ih =>
    obtain ⟨k, v⟩ := kv
    rw [List.map_cons, List.mem_cons, alookup_cons, ih]
    by_cases e : k = l
    · rw [if_pos e]; exact ⟨fun _ => ⟨v, rfl⟩, fun _ => Or.inl e.symm⟩
    · rw [if_neg e]; exact ⟨fun h => h.resolve_left fun e' => e e'.symm, Or.inr⟩

theorem tmapT_tren {π : Nat → Nat} {σ₁ σ₂ : Lbl → Nat} {t : DT} (h : ∀ l, t = .lab l → π (σ₁ l) = σ₂ l) :
    tmapT π (tren σ₁ t) = tren σ₂ t := by
  cases t with
  | iri n => rfl
  | lit n => rfl
  | lab l => simp only [tren, tmapT]; rw [h l rfl]

theorem qmapT_qren {π : Nat → Nat} {σ₁ σ₂ : Lbl → Nat} {into : T} {q : DQuad}
    (hπ : ∀ l, DQuad.has q l → π (σ₁ l) = σ₂ l) (hinto : tmapT π into = into) :
    qmapT π (qren σ₁ into q) = qren σ₂ into q := by
  obtain ⟨s, p, o, g⟩ := q
  simp only [qmapT, qren]
  rw [tmapT_tren (t := s) (fun l hl => hπ l (Or.inl hl)),
      tmapT_tren (t := p) (fun l hl => hπ l (Or.inr (Or.inl hl))),
      tmapT_tren (t := o) (fun l hl => hπ l (Or.inr (Or.inr (Or.inl hl))))]
  cases g with
  | none => simp only [gren]; rw [hinto]
  | some t =>
    simp only [gren]
    rw [tmapT_tren (t := t) (fun l hl => hπ l (Or.inr (Or.inr (Or.inr (by rw [hl])))))]

theorem wf_nil (f : Nat) : WF ⟨[], f⟩ := fun _ ⟨_, hq, _⟩ => nomatch hq

/-- `WF` of a literal target, quad by quad -/
theorem wf_cons {q : Quad} {qs : List Quad} {f : Nat} (hq : ∀ b, Quad.hasNode q b → b < f) (h : WF ⟨qs, f⟩) :
    WF ⟨q :: qs, f⟩ :=
  fun b ⟨x, hx, hn⟩ => (List.mem_cons.mp hx).elim (fun e => hq b (e ▸ hn)) fun hx => h b ⟨x, hx, hn⟩

theorem WF.not_node {d : DS} {b : Nat} (hw : WF d) (h : d.fresh ≤ b) : ¬ HasNode d.quads b :=
  fun hn => Nat.not_lt.mpr h (hw b hn)

theorem IntoOK.ne {d : DS} {into : T} {b : Nat} (hi : IntoOK d into) (h : d.fresh ≤ b) : into ≠ .bn b :=
  fun e => Nat.not_lt.mpr h (hi b e)

theorem IntoOK.mono {d d' : DS} {into : T} (h : IntoOK d into) (e : d.fresh ≤ d'.fresh) : IntoOK d' into :=
  fun b hb => Nat.lt_of_lt_of_le (h b hb) e

end RV.C12

import RV.C12.Lemmas
/-
  C12 — the pass every parser runs, proved once (`emitO_spec`): the node functions are instances of `nodeO`, `Model.emit`
  is the instance `emitO_plain`; from it the facts of whole calls (`CallFacts`, `SharedFacts`), the merge and the
  isomorphism of two renamings.
-/
namespace RV.C12

theorem getOrNew_eq (st : PS) (l : Lbl) : getOrNew st l = ((alloc st l).1, .bn (alloc st l).2) := by
  unfold getOrNew alloc
  cases alookup st.map l <;> rfl

theorem nodeid_remap (st : PS) (l : Lbl) : nodeid .remap st l = alloc st l := by
  cases l <;> rfl

theorem nodeid_verbatim_anon (st : PS) (n : Nat) : nodeid .verbatim st (.anon n) = alloc st (.anon n) := rfl

theorem n3AnonymousNode_eq (st : PS) (l : Lbl) : n3AnonymousNode st l = nodeO ⟨.remap, false, true⟩ st l := by
  simp only [n3AnonymousNode, getOrNew_eq]
  cases l <;> rfl

theorem ntNodeid_eq (sk : Bool) (st : PS) (l : Lbl) :
    ntNodeid sk st l = nodeO ⟨if sk then .verbatim else .remap, sk, true⟩ st l := by
  simp only [ntNodeid, getOrNew_eq]
  cases sk <;> cases l <;> rfl

theorem xmlNode_eq (pre : Bool) (st : PS) (l : Lbl) :
    xmlNode pre st l = nodeO ⟨if pre then .verbatim else .remap, false, true⟩ st l := by
  simp only [xmlNode, getOrNew_eq]
  cases pre <;> cases l <;> rfl

theorem trixGetBnode_eq (pre : Bool) (st : PS) (l : Lbl) :
    trixGetBnode pre st l = nodeO ⟨if pre then .verbatim else .remap, false, true⟩ st l := by
  simp only [trixGetBnode, getOrNew_eq]
  cases pre <;> cases l <;> rfl

theorem jsonldNode_eq (sk gen : Bool) (st : PS) (l : Lbl) :
    jsonldNode sk st l = nodeO ⟨if sk then .verbatim else .remap, sk, gen⟩ st l := by
  simp only [jsonldNode, getOrNew_eq]
  cases sk <;> cases l <;> rfl

theorem hextNode_eq (sk : Bool) (st : PS) (l : Lbl) : hextNode sk st l = nodeO ⟨.verbatim, sk, true⟩ st l := by
  simp only [hextNode, getOrNew_eq]
  cases l <;> rfl

theorem patchNode_eq (st : PS) (l : Lbl) : patchNode st l = nodeO ⟨.verbatim, false, true⟩ st l := by
  simp only [patchNode, getOrNew_eq]
  cases l <;> rfl

theorem nodeFn_eq (p : Parser) (c : CallOpts) (st : PS) (l : Lbl) :
    nodeFn p c st l = nodeO (loptsOf p c) st l := by
  cases p
  case nt | nquads => exact ntNodeid_eq _ st l
  case turtle | n3 | trig => exact n3AnonymousNode_eq st l
  case xml => exact xmlNode_eq _ st l
  case trix => exact trixGetBnode_eq _ st l
  case jsonld => exact jsonldNode_eq _ _ st l
  case hext => exact hextNode_eq _ st l
  case patch => exact patchNode_eq st l

theorem genOf_eq (p : Parser) (c : CallOpts) : genOf p c = (loptsOf p c).gen := by
  cases p <;> rfl

theorem parseWith_eq (p : Parser) (c : CallOpts) (d : DS) (m0 : LMap) (into : T) (doc : Doc) :
    parseWith p c d m0 into doc = parseO (loptsOf p c) d m0 into doc := by
  have hn : nodeFn p c = nodeO (loptsOf p c) := funext fun st => funext (nodeFn_eq p c st)
  simp only [parseWith, parseO, emitO, genOf_eq, hn]

theorem wrapT_false (t : T) : wrapT false t = t := rfl

theorem qrenO_nosk {o : LOpts} (h : o.sk = false) (σ : Lbl → Nat) (into : T) (q : DQuad) :
    qrenO o σ into q = qren σ into q := by
  obtain ⟨s, p, ob, g⟩ := q
  cases g <;> simp only [qrenO, qren, trenO, grenO, gren, h, wrapT_false]

theorem keptDoc_cons (gen : Bool) (q : DQuad) (qs : Doc) :
    keptDoc gen (q :: qs) = if kept gen q then q :: keptDoc gen qs else keptDoc gen qs := List.filter_cons

theorem keptDoc_true (doc : Doc) : keptDoc true doc = doc := by
  induction doc with
  | nil => rfl
  | cons q qs ih => rw [keptDoc_cons, ih]; rfl

theorem renameO_cons (o : LOpts) (σ : Lbl → Nat) (into : T) (q : DQuad) (qs : Doc) :
    renameO o σ into (q :: qs) =
      if kept o.gen q then qrenO o σ into q :: renameO o σ into qs else renameO o σ into qs := by
  simp only [renameO, keptDoc_cons]
  split <;> rfl

theorem renameO_nosk {o : LOpts} (h : o.sk = false) (σ : Lbl → Nat) (into : T) (doc : Doc) :
    renameO o σ into doc = rename σ into (keptDoc o.gen doc) := by
  unfold renameO rename
  induction keptDoc o.gen doc with
  | nil => rfl
  | cons q qs ih => rw [List.map_cons, List.map_cons, ih, qrenO_nosk h]

theorem renameO_plain (pol : Policy) (σ : Lbl → Nat) (into : T) (doc : Doc) :
    renameO ⟨pol, false, true⟩ σ into doc = rename σ into doc := by
  rw [renameO_nosk rfl, keptDoc_true]

theorem wrapT_eq_bn {sk : Bool} {t : T} {b : Nat} (h : wrapT sk t = .bn b) : sk = false ∧ t = .bn b := by
  cases sk
  · exact ⟨rfl, h⟩
  · cases t <;> cases h

theorem wrapT_nonbn (sk : Bool) {t : T} (h : ∀ b, t ≠ .bn b) : wrapT sk t = t := by
  cases sk
  · rfl
  · cases t <;> first | rfl | exact absurd rfl (h _)

theorem trenO_eq_bn {o : LOpts} {σ : Lbl → Nat} {t : DT} {b : Nat} (h : trenO o σ t = .bn b) :
    o.sk = false ∧ ∃ l, t = .lab l ∧ b = σ l := by
  obtain ⟨hs, ht⟩ := wrapT_eq_bn h
  cases t with
  | lab l => cases ht; exact ⟨hs, l, rfl, rfl⟩
  | _ => cases ht

theorem hasNode_qrenO {o : LOpts} {σ : Lbl → Nat} {into : T} {q : DQuad} {b : Nat}
    (h : Quad.hasNode (qrenO o σ into q) b) : (o.sk = false ∧ ∃ l, DQuad.has q l ∧ b = σ l) ∨ into = .bn b := by
  obtain ⟨s, p, ob, g⟩ := q
  rcases h with h | h | h | h
  · obtain ⟨hs, l, hl, e⟩ := trenO_eq_bn h; exact Or.inl ⟨hs, l, Or.inl hl, e⟩
  · obtain ⟨hs, l, hl, e⟩ := trenO_eq_bn h; exact Or.inl ⟨hs, l, Or.inr (Or.inl hl), e⟩
  · obtain ⟨hs, l, hl, e⟩ := trenO_eq_bn h; exact Or.inl ⟨hs, l, Or.inr (Or.inr (Or.inl hl)), e⟩
  · cases g with
    | none => exact Or.inr h
    | some t =>
      obtain ⟨hs, l, hl, e⟩ := trenO_eq_bn h
      exact Or.inl ⟨hs, l, Or.inr (Or.inr (Or.inr (congrArg some hl))), e⟩

theorem hasNode_qren {σ : Lbl → Nat} {into : T} {q : DQuad} {b : Nat} (h : Quad.hasNode (qren σ into q) b) :
    (∃ l, DQuad.has q l ∧ b = σ l) ∨ into = .bn b :=
  -- `qren` is `qrenO` of any summary that does not skolemize
  (hasNode_qrenO ((qrenO_nosk (o := ⟨.remap, false, true⟩) rfl σ into q).symm ▸ h)).imp_left And.right

theorem hasNode_qrenO_sk {o : LOpts} (hsk : o.sk = true) {σ : Lbl → Nat} {into : T} {q : DQuad} {b : Nat}
    (h : Quad.hasNode (qrenO o σ into q) b) : into = .bn b :=
  (hasNode_qrenO h).resolve_left fun ⟨hf, _⟩ => by rw [hsk] at hf; cases hf

theorem hasNode_renameO {o : LOpts} {σ : Lbl → Nat} {into : T} {doc : Doc} {x : Quad} {b : Nat}
    (hx : x ∈ renameO o σ into doc) (hb : Quad.hasNode x b) :
    (o.sk = false ∧ ∃ q ∈ keptDoc o.gen doc, ∃ l, DQuad.has q l ∧ b = σ l) ∨ into = .bn b := by
  obtain ⟨q, hq, rfl⟩ := List.mem_map.mp hx
  exact (hasNode_qrenO hb).imp_left fun ⟨hs, l, hl, e⟩ => ⟨hs, q, hq, l, hl, e⟩

/-! ### spec of the option-aware pass

  A step states its result for *every later state* `st'`, so composing steps re-establishes nothing; that later
  states agree with the state of the step is argued once, in `slotO_spec`.  The facts of whole calls (`CallFacts`,
  `SharedFacts`) speak of the state at the end only.  (`slotO`/`quadO`/`termO` in names: `gnameF`/`quadF`/`termF` with
  `nodeO o`.) -/

/-- one slot of a statement; `gnameF … (some t)` is `termF … t` -/
theorem slotO_spec {f0 : Nat} (o : LOpts) (into : T) (st : PS) (g : Option DT) (h : MapInv f0 st) :
    Ext st (gnameF (nodeO o) into st g).1 ∧ MapInv f0 (gnameF (nodeO o) into st g).1 ∧
    ∀ st', Ext (gnameF (nodeO o) into st g).1 st' →
      (∀ l, g = some (.lab l) → Seen o.pol st' l) ∧
      (gnameF (nodeO o) into st g).2 = grenO o (sigma o.pol st'.map) into g := by
  cases g with
  | none => exact ⟨Ext.refl _, h, fun _ _ => ⟨fun _ hl => (nomatch hl), rfl⟩⟩
  | some t =>
    cases t with
    | iri n | lit n =>
      refine ⟨Ext.refl _, h, fun st' _ => ⟨?_, (wrapT_nonbn _ ?_).symm⟩⟩ <;> intro _ hx <;> cases hx
    | lab l =>
      obtain ⟨h1, h2, h3, h4⟩ := nodeid_spec o.pol st l h
      refine ⟨h1, h2, fun st' e => ⟨fun l' hl' => by cases hl'; exact h3.mono e, ?_⟩⟩
      rw [grenO, trenO, tren, sigma_stable h3.dict e.map, ← h4]; rfl

def QSeen (pol : Policy) (st : PS) (q : DQuad) : Prop := ∀ l, DQuad.has q l → Seen pol st l

theorem not_kept (gen : Bool) (q : DQuad) : (!gen && q.2.1.isLab) = !kept gen q := by
  unfold kept; cases gen <;> cases q.2.1.isLab <;> rfl

/-- the two branches of `quadF`, the `let`s spelled out -/
theorem quadF_drop {S : Type} {nf : S → Lbl → S × T} {gen : Bool} {into : T} {st : S} {q : DQuad}
    (h : (!gen && q.2.1.isLab) = true) : quadF nf gen into st q = ((termF nf st q.1).1, none) :=
  if_pos h

theorem quadF_keep {S : Type} {nf : S → Lbl → S × T} {gen : Bool} {into : T} {st : S} {q : DQuad}
    (h : ¬ (!gen && q.2.1.isLab) = true) : quadF nf gen into st q =
      ((gnameF nf into (termF nf (termF nf (termF nf st q.1).1 q.2.1).1 q.2.2.1).1 q.2.2.2).1,
       some ((termF nf st q.1).2, (termF nf (termF nf st q.1).1 q.2.1).2,
             (termF nf (termF nf (termF nf st q.1).1 q.2.1).1 q.2.2.1).2,
             (gnameF nf into (termF nf (termF nf (termF nf st q.1).1 q.2.1).1 q.2.2.1).1 q.2.2.2).2)) :=
  if_neg h

/-- `r` is what `quadF` gave for `q` from `st` -/
structure QuadFacts (f0 : Nat) (o : LOpts) (into : T) (st : PS) (q : DQuad) (r : PS × Option Quad) : Prop where
  ext : Ext st r.1
  inv : MapInv f0 r.1
  out : kept o.gen q = false ∧ r.2 = none ∨
    kept o.gen q = true ∧ ∃ q', r.2 = some q' ∧
      ∀ st', Ext r.1 st' → QSeen o.pol st' q ∧ q' = qrenO o (sigma o.pol st'.map) into q

theorem quadO_spec {f0 : Nat} (o : LOpts) (into : T) (st : PS) (q : DQuad) (h : MapInv f0 st) :
    QuadFacts f0 o into st q (quadF (nodeO o) o.gen into st q) := by
  obtain ⟨s, p, ob, g⟩ := q
  obtain ⟨e1, i1, c1⟩ := slotO_spec o into st (some s) h
  cases hk : kept o.gen (s, p, ob, g)
  · rw [quadF_drop (by rw [not_kept, hk]; rfl)]
    exact ⟨e1, i1, Or.inl ⟨hk, rfl⟩⟩
  · rw [quadF_keep (by rw [not_kept, hk]; exact Bool.false_ne_true)]
    obtain ⟨e2, i2, c2⟩ := slotO_spec o into _ (some p) i1
    obtain ⟨e3, i3, c3⟩ := slotO_spec o into _ (some ob) i2
    obtain ⟨e4, i4, c4⟩ := slotO_spec o into _ g i3
    refine ⟨e1.trans (e2.trans (e3.trans e4)), i4, Or.inr ⟨hk, _, rfl, fun st' e => ?_⟩⟩
    obtain ⟨d1, r1⟩ := c1 st' (e2.trans (e3.trans (e4.trans e)))
    obtain ⟨d2, r2⟩ := c2 st' (e3.trans (e4.trans e))
    obtain ⟨d3, r3⟩ := c3 st' (e4.trans e)
    obtain ⟨d4, r4⟩ := c4 st' e
    refine ⟨?_, quad_eq r1 r2 r3 r4⟩
    rintro l (hl | hl | hl | hl)
    · exact d1 l (congrArg some hl)
    · exact d2 l (congrArg some hl)
    · exact d3 l (congrArg some hl)
    · exact d4 l hl

structure EmitFacts (f0 : Nat) (o : LOpts) (into : T) (doc : Doc) (st : PS) (r : PS × List Quad) : Prop where
  ext : Ext st r.1
  inv : MapInv f0 r.1
  out : ∀ st', Ext r.1 st' → r.2 = renameO o (sigma o.pol st'.map) into doc
  seen : ∀ q ∈ keptDoc o.gen doc, QSeen o.pol r.1 q

theorem emitO_spec {f0 : Nat} (o : LOpts) (into : T) (doc : Doc) :
    ∀ (st : PS), MapInv f0 st → EmitFacts f0 o into doc st (emitO o into st doc) := by
  induction doc with
  | nil =>
    intro st h
    exact { ext := Ext.refl _, inv := h, out := fun _ _ => rfl, seen := fun _ hq => (by cases hq) }
  | cons q qs ih =>
    intro st h
    have r1 := quadO_spec o into st q h
    have r := ih _ r1.inv
    simp only [emitO] at r ⊢
    simp only [emitF]
    rcases r1.out with ⟨hk, hn⟩ | ⟨hk, q', hs, c1⟩
    · -- statement given up: the rest of the pass says it all
      rw [hn]
      exact { ext := r1.ext.trans r.ext, inv := r.inv
              out := fun st' e => by rw [renameO_cons, hk]; exact r.out st' e
              seen := by rw [keptDoc_cons, hk]; exact r.seen }
    · rw [hs]
      exact
        { ext := r1.ext.trans r.ext, inv := r.inv
          out := fun st' e => by
            rw [renameO_cons, hk, (c1 st' (r.ext.trans e)).2, r.out st' e]; rfl
          seen := by
            rw [keptDoc_cons, hk]
            exact List.forall_mem_cons.mpr ⟨(c1 _ r.ext).1, r.seen⟩ }

theorem termO_eq (o : LOpts) (st : PS) (t : DT) :
    termF (nodeO o) st t = ((term o.pol st t).1, wrapT o.sk (term o.pol st t).2) := by
  cases t with
  | lab l => rfl
  | _ => exact congrArg (Prod.mk st) (wrapT_nonbn _ fun _ h => by cases h).symm

theorem quadO_plain (pol : Policy) (into : T) (st : PS) (q : DQuad) :
    quadF (nodeO ⟨pol, false, true⟩) true into st q = ((quad pol into st q).1, some (quad pol into st q).2) := by
  have ht : ∀ st t, termF (nodeO ⟨pol, false, true⟩) st t = term pol st t := fun st t => termO_eq _ st t
  have hg : ∀ st g, gnameF (nodeO ⟨pol, false, true⟩) into st g = gname pol into st g := fun st g => by
    cases g with
    | none => rfl
    | some t => exact ht st t
  simp only [quadF_keep (gen := true) Bool.false_ne_true, ht, hg, quad]

theorem emitO_plain (pol : Policy) (into : T) (doc : Doc) : ∀ (st : PS),
    emitO ⟨pol, false, true⟩ into st doc = emit pol into st doc := by
  induction doc with
  | nil => intro st; rfl
  | cons q qs ih =>
    intro st
    simp only [emitO] at ih
    simp only [emitO, emitF, emit, quadO_plain, consOpt, ih]

/-- `r` is the call's result (target, dict) -/
structure CallFacts (f0 : Nat) (o : LOpts) (d : DS) (m0 : LMap) (into : T) (doc : Doc) (r : DS × LMap) : Prop where
  ext : Ext ⟨d.fresh, m0⟩ ⟨r.1.fresh, r.2⟩
  inv : MapInv f0 ⟨r.1.fresh, r.2⟩
  mem : ∀ x, x ∈ r.1.quads ↔ x ∈ d.quads ∨ x ∈ renameO o (sigma o.pol r.2) into doc
  seen : ∀ q ∈ keptDoc o.gen doc, QSeen o.pol ⟨r.1.fresh, r.2⟩ q

theorem parseO_facts {f0 : Nat} (o : LOpts) (d : DS) (m0 : LMap) (into : T) (doc : Doc)
    (hm : MapInv f0 ⟨d.fresh, m0⟩) : CallFacts f0 o d m0 into doc (parseO o d m0 into doc) := by
  have r := emitO_spec o into doc ⟨d.fresh, m0⟩ hm
  exact { ext := r.ext, inv := r.inv, seen := r.seen
          mem := fun x => by simp only [parseO]; rw [mem_addAll, r.out _ (Ext.refl _)] }

theorem wf_parseO {f0 : Nat} (o : LOpts) (d : DS) (m0 : LMap) (into : T) (doc : Doc)
    (hm : MapInv f0 ⟨d.fresh, m0⟩) (hw : WF d) (hi : IntoOK d into) : WF (parseO o d m0 into doc).1 := by
  have r := parseO_facts o d m0 into doc hm
  intro b ⟨y, hy, hb⟩
  rcases (r.mem y).mp hy with hy | hy
  · exact Nat.lt_of_lt_of_le (hw b ⟨y, hy, hb⟩) r.ext.fresh
  · -- a new blank node is the node of a seen label, or the graph parsed into
    rcases hasNode_renameO hy hb with ⟨_, q, hq, l, hl, e⟩ | e
    · exact e ▸ (r.seen q hq l hl).below
    · exact Nat.lt_of_lt_of_le (hi b e) r.ext.fresh

theorem parseInto_eq (d : DS) (pol : Policy) (into : T) (doc : Doc) :
    parseInto d pol into doc = (parseO ⟨pol, false, true⟩ d [] into doc).1 := by
  simp only [parseInto, parseDoc, parseO, emitO_plain]

theorem parseWith_plain {p : Parser} {c : CallOpts} {pol : Policy} (h : loptsOf p c = ⟨pol, false, true⟩)
    (d : DS) (into : T) (doc : Doc) : (parseWith p c d [] into doc).1 = parseInto d pol into doc := by
  rw [parseWith_eq, h, parseInto_eq]

theorem parse_facts (d : DS) (pol : Policy) (into : T) (doc : Doc) :
    CallFacts d.fresh ⟨pol, false, true⟩ d [] into doc (parseInto d pol into doc, finalMap d pol into doc) := by
  have h := parseO_facts ⟨pol, false, true⟩ d [] into doc (mapInv_init d.fresh)
  rwa [parseO, emitO_plain] at h

theorem mem_parseInto (d : DS) (pol : Policy) (into : T) (doc : Doc) (x : Quad) :
    x ∈ (parseInto d pol into doc).quads ↔ x ∈ d.quads ∨ x ∈ rename (sigma pol (finalMap d pol into doc)) into doc :=
  renameO_plain pol _ into doc ▸ (parse_facts d pol into doc).mem x

structure SharedFacts (f0 : Nat) (o : LOpts) (d : DS) (m : LMap) (docs : List (T × Doc)) (r : DS × LMap) : Prop where
  ext : Ext ⟨d.fresh, m⟩ ⟨r.1.fresh, r.2⟩
  inv : MapInv f0 ⟨r.1.fresh, r.2⟩
  mem : ∀ y, y ∈ r.1.quads ↔ y ∈ d.quads ∨ ∃ x ∈ docs, y ∈ renameO o (sigma o.pol r.2) x.1 x.2
  seen : ∀ x ∈ docs, ∀ q ∈ keptDoc o.gen x.2, QSeen o.pol ⟨r.1.fresh, r.2⟩ q

theorem parseShared_facts {f0 : Nat} (o : LOpts) : ∀ (docs : List (T × Doc)) (d : DS) (m : LMap),
    MapInv f0 ⟨d.fresh, m⟩ → SharedFacts f0 o d m docs (parseShared o d m docs) := by
  intro docs
  induction docs with
  | nil =>
    intro d m hm
    exact { ext := Ext.refl _, inv := hm, seen := fun x hx => (by cases hx)
            mem := fun y => ⟨Or.inl, fun h => h.elim id fun ⟨_, hx, _⟩ => (by cases hx)⟩ }
  | cons x rest ih =>
    intro d m hm
    have r1 := emitO_spec o x.1 x.2 ⟨d.fresh, m⟩ hm
    have r := ih (parseO o d m x.1 x.2).1 (parseO o d m x.1 x.2).2 r1.inv
    have exists_cons : ∀ {p : T × Doc → Prop}, (∃ z ∈ x :: rest, p z) ↔ p x ∨ ∃ z ∈ rest, p z :=
      ⟨fun ⟨z, hz, h⟩ => (List.mem_cons.mp hz).elim (fun e => Or.inl (e ▸ h)) fun hz => Or.inr ⟨z, hz, h⟩,
       fun h => h.elim (fun h => ⟨x, List.mem_cons_self, h⟩) fun ⟨z, hz, h⟩ => ⟨z, List.mem_cons_of_mem _ hz, h⟩⟩
    simp only [parseShared]
    exact { ext := r1.ext.trans r.ext, inv := r.inv
            -- the first call's `out` holds for the dict of the end, a later state
            mem := fun y => by
              rw [r.mem y, exists_cons, ← or_assoc, ← r1.out _ r.ext]
              exact or_congr_left mem_addAll
            seen := List.forall_mem_cons.mpr ⟨fun q hq l hl => (r1.seen q hq l hl).mono r.ext, r.seen⟩ }

theorem patchRun_adds (dflt : T) (doc : Doc) : ∀ (st : PS) (qs : List Quad),
    patchRun dflt st qs (doc.map (fun q => (POp.add, q))) =
      ((emit .verbatim dflt st doc).1, addAll qs (emit .verbatim dflt st doc).2) := by
  have hn : patchNode = nodeO ⟨.verbatim, false, true⟩ := funext fun st => funext fun l => patchNode_eq st l
  induction doc with
  | nil => intro st qs; rfl
  | cons q rest ih =>
    intro st qs
    simp only [List.map_cons, patchRun, hn, quadO_plain, emit, addAll]
    exact ih _ _

/-- the nodes of the labels are distinct entries of the dict, taken from the supply -/
theorem CallFacts.isMerge {o : LOpts} {d : DS} {into : T} {doc : Doc} {r : DS × LMap}
    (h : CallFacts d.fresh o d [] into doc r) (hp : o.pol = .remap) (hs : o.sk = false) (hw : WF d)
    (hi : IntoOK d into) : IsMerge d into (keptDoc o.gen doc) r.1.quads := by
  have seen : ∀ l, Doc.has (keptDoc o.gen doc) l → Def .remap r.2 l :=
    fun l ⟨q, hq, hl⟩ => hp ▸ (h.seen q hq l hl).dict
  have lo : ∀ l, Doc.has (keptDoc o.gen doc) l → d.fresh ≤ sigma .remap r.2 l :=
    fun l hl => (h.inv.range l _ (seen l hl).lookup).1
  refine ⟨_, h.inv.sigma_inj seen,
    fun l hl => ⟨hw.not_node (lo l hl), hi.ne (lo l hl)⟩, fun x => ?_⟩
  rw [h.mem x, List.mem_append, renameO_nosk hs, hp]

theorem isMerge_parseInto {d : DS} (into : T) (doc : Doc) (hw : WF d) (hi : IntoOK d into) :
    IsMerge d into doc (parseInto d .remap into doc).quads := by
  have h := (parse_facts d .remap into doc).isMerge rfl rfl hw hi
  rwa [keptDoc_true] at h

theorem iso_of_renamings {σ₁ σ₂ : Lbl → Nat} {into : T} {doc : Doc} {r₁ r₂ : List Quad} {ls : List Lbl}
    (hinto : ∀ b, into ≠ .bn b) (h₁ : SetEq r₁ (rename σ₁ into doc)) (h₂ : SetEq r₂ (rename σ₂ into doc))
    (hls : ∀ l, Doc.has doc l → l ∈ ls) (i₁ : ∀ l l', l ∈ ls → l' ∈ ls → σ₁ l = σ₁ l' → l = l') (i₂ : InjOn σ₂ doc) :
    ∃ π : Nat → Nat, (∀ b b', HasNode r₁ b → HasNode r₁ b' → π b = π b' → b = b') ∧ SetEq (r₁.map (qmapT π)) r₂ := by
  -- π is `transport` over the list `ls`; every node of `r₁` is `σ₁` of a label (`into` is no blank node)
  have hπ : ∀ l, Doc.has doc l → transport σ₁ σ₂ ls (σ₁ l) = σ₂ l := fun l hl => transport_spec ls i₁ l (hls l hl)
  have hfix : tmapT (transport σ₁ σ₂ ls) into = into := by
    cases into with
    | bn b => exact absurd rfl (hinto b)
    | _ => rfl
  have hnode : ∀ b, HasNode r₁ b → ∃ l, Doc.has doc l ∧ b = σ₁ l := by
    intro b ⟨q, hq, hn⟩
    obtain ⟨dq, hdq, rfl⟩ := List.mem_map.mp ((h₁ q).mp hq)
    rcases hasNode_qren hn with ⟨l, hl, e⟩ | hb
    · exact ⟨l, ⟨dq, hdq, hl⟩, e⟩
    · exact absurd hb (hinto _)
  refine ⟨transport σ₁ σ₂ ls, ?_, fun x => ?_⟩
  · intro b b' hb hb' e
    obtain ⟨l, hl, rfl⟩ := hnode b hb
    obtain ⟨l', hl', rfl⟩ := hnode b' hb'
    rw [hπ l hl, hπ l' hl'] at e
    rw [i₂ l l' hl hl' e]
  · have hmap : (rename σ₁ into doc).map (qmapT (transport σ₁ σ₂ ls)) = rename σ₂ into doc := by
      simp only [rename, List.map_map]
      exact List.map_congr_left fun q hq => qmapT_qren (fun l hl => hπ l ⟨q, hq, hl⟩) hfix
    rw [h₂ x, ← hmap, List.mem_map, List.mem_map]
    exact exists_congr fun y => and_congr_left fun _ => h₁ y

end RV.C12

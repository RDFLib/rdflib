import RV.C16.Model
/-
  C16 — what the formats share at table level: the hypotheses `langOk`, `rowAll`, `Aligned`; `alookup` on a literal
  dict; the binding dict of an aligned row read back per variable (`alignDict_bindingPairs`); `alignCells_self`.
-/
namespace RV.C16

theorem alookup_self {β : Type} (k : Str) (v : β) (r : List (Str × β)) : alookup k ((k, v) :: r) = some v := by
  simp [alookup]

theorem alookup_ne {β : Type} {k k' : Str} (h : k ≠ k') (v : β) (r : List (Str × β)) :
    alookup k ((k', v) :: r) = alookup k r := by
  simp [alookup, Ne.symm h]

theorem mkLiteral_lang {s l : Str} (h : validLang l = true) : mkLiteral s none (some l) = .ok (.lang s l) := by
  cases l with
  | nil => cases h
  | cons c cs => simp [mkLiteral, h]

@[simp] theorem mkLiteral_plain (s : Str) : mkLiteral s none none = .ok (.plain s) := rfl
@[simp] theorem mkLiteral_typed (s d : Str) : mkLiteral s (some d) none = .ok (.typed s d) := rfl

/-- a term rdflib can hold: the language tag of a tagged literal matches `_lang_tag_regex` -/
def langOk : Term → Bool
  | .lang _ l => validLang l
  | _ => true

def rowAll (p : Term → Bool) : Row → Bool
  | [] => true
  | none :: r => rowAll p r
  | some t :: r => p t && rowAll p r

theorem rowAll_some {p : Term → Bool} {t : Term} {r : Row} (h : rowAll p (some t :: r) = true) :
    p t = true ∧ rowAll p r = true := by
  simpa [rowAll] using h

theorem alookup_bindingPairs_notin {v : Str} {vs : List Str} (h : v ∉ vs) (cs : Row) :
    alookup v (bindingPairs vs cs) = none := by
  fun_induction bindingPairs vs cs with
  | case1 w ws t cs ih =>
    have h' : w ≠ v ∧ v ∉ ws := by simpa [eq_comm] using h
    simp [alookup, h'.1, ih h'.2]
  | case2 w ws cs ih => exact ih (fun e => h (List.mem_cons_of_mem _ e))
  | case3 => rfl

theorem alignDict_bindingPairs {vars : List Str} (hnd : vars.Nodup) (row : Row) (hlen : row.length = vars.length) :
    alignDict vars (bindingPairs vars row) = row := by
  induction vars generalizing row with
  | nil => cases row <;> first | rfl | cases hlen
  | cons v vs ih =>
    obtain ⟨hv, hvs⟩ := List.nodup_cons.mp hnd
    cases row with
    | nil => cases hlen
    | cons c cs =>
      have ih := ih hvs cs (by simpa using hlen)
      cases c with
      | none => simpa [bindingPairs, alignDict, alookup_bindingPairs_notin hv] using ih
      | some t =>
        -- the new entry is for `v`, which is none of the later variables
        have e : alignDict vs ((v, t) :: bindingPairs vs cs) = alignDict vs (bindingPairs vs cs) :=
          List.map_congr_left fun w hw => by simp [alookup, show v ≠ w from fun e => hv (e ▸ hw)]
        show alookup v ((v, t) :: bindingPairs vs cs) :: alignDict vs ((v, t) :: bindingPairs vs cs) = some t :: cs
        rw [e, ih]; simp [alookup]

theorem alignCells_self (r : Row) : alignCells r.length r = r := by
  induction r with
  | nil => rfl
  | cons c cs ih => simp [alignCells, ih]

/-- the result as rdflib can hold it and the model represents it: distinct variables, rows aligned -/
structure Aligned (vars : List Str) (rows : List Row) : Prop where
  nodup : vars.Nodup
  len : ∀ r ∈ rows, r.length = vars.length

theorem map_align {vars : List Str} {rows : List Row} (h : Aligned vars rows) :
    (rows.map (bindingPairs vars)).map (alignDict vars) = rows := by
  rw [List.map_map]
  conv => rhs; rw [← List.map_id rows]
  exact List.map_congr_left fun r hr => alignDict_bindingPairs h.nodup r (h.len r hr)

end RV.C16

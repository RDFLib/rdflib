import RV.C16.Spec
/-
  C16 — the TSV string codec: `scanStr` undoes `escStr` for every string and every choice stream;
  IRIREF scanning.  The hexadecimal lemmas also serve the JSON `\uXXXX` escapes and the XML character references.
-/
namespace RV.C16
open Spec.Tsv

theorem ne_of_class {p : Char → Bool} {c a : Char} (hc : p c = true) (ha : p a = false) : c ≠ a := by
  rintro rfl; rw [ha] at hc; cases hc

theorem not_mem_of_all {p : Char → Bool} {a : Char} (ha : p a = false) {s : Str} (h : s.all p = true) : a ∉ s :=
  fun hm => ne_of_class (List.all_eq_true.mp h _ hm) ha rfl

theorem all_mono {p q : Char → Bool} (hpq : ∀ c, p c = true → q c = true) {s : Str} (h : s.all p = true) :
    s.all q = true :=
  List.all_eq_true.mpr fun c hc => hpq c (List.all_eq_true.mp h c hc)

theorem hexVal_hexDigit (lower : Bool) {d : Nat} (h : d < 16) : hexVal (hexDigit lower d) = some d := by
  have : ∀ d : Fin 16, hexVal (hexDigit lower d) = some d.val := by cases lower <;> decide +kernel
  exact this ⟨d, h⟩

theorem hexNum_hex4 (lower : Bool) (acc : Nat) {m : Nat} (hm : m < 65536) (rest : Str) :
    hexNum acc (hex4 lower m ++ rest) = hexNum (acc * 65536 + m) rest := by
  have hd (n : Nat) : hexVal (hexDigit lower (n % 16)) = some (n % 16) :=
    hexVal_hexDigit lower (Nat.mod_lt _ (by decide))
  simp only [hex4, List.cons_append, List.nil_append, hexNum, hd]
  congr 1
  omega

theorem hexNum_hex4_zero (lower : Bool) {m : Nat} (hm : m < 65536) : hexNum 0 (hex4 lower m) = some m := by
  simpa [hexNum] using hexNum_hex4 lower 0 hm []

theorem char_valid (c : Char) : c.toNat < 0xD800 ∨ 0xDFFF < c.toNat ∧ c.toNat < 0x110000 := c.valid

theorem chrOf_toNat (c : Char) : chrOf c.toNat = some c := by
  have : c.toNat.isValidChar := c.valid
  simp [chrOf, this, Char.ofNat_toNat]

theorem scanStr_raw {q c : Char} (h1 : c ≠ q) (h2 : c ≠ '\\') (h3 : c ≠ '\n') (h4 : c ≠ '\r') (tail : Str) :
    scanStr q (c :: tail) = (scanStr q tail).map (fun (s, rest) => (c :: s, rest)) := by
  rw [scanStr.eq_def]
  simp only [h1, h2, h3, h4, if_false]
  cases scanStr q tail <;> rfl

theorem scanStr_echar {q e d : Char} (hq : q ≠ '\\') (h : unescChar e = some d) (tail : Str) :
    scanStr q ('\\' :: e :: tail) = (scanStr q tail).map (fun (s, rest) => (d :: s, rest)) := by
  have he1 : e ≠ 'u' := by rintro rfl; cases h
  have he2 : e ≠ 'U' := by rintro rfl; cases h
  rw [scanStr.eq_def]
  simp only [Ne.symm hq, if_false, if_true, h, he1, he2]
  cases scanStr q tail <;> rfl

theorem scanStr_uchar {q : Char} (hq : q ≠ '\\') (lower : Bool) (c : Char) (tail : Str) :
    scanStr q (uchar lower c ++ tail) = (scanStr q tail).map (fun (s, rest) => (c :: s, rest)) := by
  have hlt := char_valid c
  unfold uchar
  split
  · next h =>
    have e := hexNum_hex4_zero lower h
    rw [List.cons_append, List.cons_append, scanStr.eq_def]
    simp only [hex4] at e
    simp only [Ne.symm hq, if_false, if_true, hex4, List.cons_append, List.nil_append, e,
      Option.bind_some, chrOf_toNat]
    cases scanStr q tail <;> rfl
  · have e : hexNum 0 (hex4 lower (c.toNat / 65536) ++ hex4 lower (c.toNat % 65536)) = some c.toNat := by
      rw [hexNum_hex4 lower 0 (show c.toNat / 65536 < 65536 by omega),
        ← List.append_nil (hex4 _ (_ % _)), hexNum_hex4 lower _ (Nat.mod_lt _ (by decide))]
      simp only [hexNum, Nat.zero_mul, Nat.zero_add, Nat.div_add_mod']
    rw [List.cons_append, List.cons_append, scanStr.eq_def]
    simp only [hex4, List.cons_append, List.nil_append] at e
    simp only [Ne.symm hq, if_false, if_true, hex4, List.cons_append, List.nil_append, e,
      Option.bind_some, chrOf_toNat, show ('U' : Char) ≠ 'u' by decide]
    cases scanStr q tail <;> rfl

/-- `w` spells the character `c` inside a literal quoted by `q`: as a UCHAR, as one of the ECHARs the reader's
    table `unescChar` decodes to `c`, or as itself when the grammar allows `c` raw -/
inductive Spelt (q c : Char) : Str → Prop
  | uchar (lower : Bool) : Spelt q c (uchar lower c)
  | echar (e : Char) : unescChar e = some c → Spelt q c ['\\', e]
  | raw : c ≠ q → c ≠ '\\' → c ≠ '\t' → c ≠ '\n' → c ≠ '\r' → Spelt q c [c]

theorem escChar_spelt {q : Char} (hq : q = '"' ∨ q = '\'') (k : Nat) (c : Char) : Spelt q c (escChar q k c) := by
  have hqq (x : Char) (hx : x = q ∨ x = otherQuote q) : unescChar x = some x := by
    rcases hq with rfl | rfl <;> rcases hx with rfl | rfl <;> rfl
  -- the branches of `escChar`, in the order of its definition
  fun_cases escChar q k c
  · exact .uchar _                                              -- 2 ≤ k: UCHAR
  · next h => subst h; exact .echar _ (hqq _ (.inl rfl))         -- the quote itself
  · next h => subst h; exact .echar '\\' rfl                     -- backslash
  · next h => subst h; exact .echar 't' rfl                      -- tab
  · next h => subst h; exact .echar 'n' rfl                      -- line feed
  · next h => subst h; exact .echar 'r' rfl                      -- carriage return
  · exact .raw ‹_› ‹_› ‹_› ‹_› ‹_›                               -- backspace, raw
  · next h _ => subst h; exact .echar 'b' rfl                    -- backspace, ECHAR
  · exact .raw ‹_› ‹_› ‹_› ‹_› ‹_›                               -- form feed, raw
  · next h _ => subst h; exact .echar 'f' rfl                    -- form feed, ECHAR
  · exact .raw ‹_› ‹_› ‹_› ‹_› ‹_›                               -- the other quote, raw
  · next h _ => subst h; exact .echar _ (hqq _ (.inr rfl))       -- the other quote, ECHAR
  · exact .raw ‹_› ‹_› ‹_› ‹_› ‹_›                               -- any other character

theorem scanStr_spelt {q c : Char} {w : Str} (hq : q ≠ '\\') (h : Spelt q c w) (tail : Str) :
    scanStr q (w ++ tail) = (scanStr q tail).map (fun (s, rest) => (c :: s, rest)) := by
  cases h with
  | uchar lower => exact scanStr_uchar hq lower c tail
  | echar e he => exact scanStr_echar hq he tail
  | raw h1 h2 _ h4 h5 => exact scanStr_raw h1 h2 h4 h5 tail

theorem scanStr_escStr {q : Char} (hq : q = '"' ∨ q = '\'') (ks : List Nat) (s rest : Str) :
    scanStr q (escStr q ks s ++ q :: rest) = some (s, rest) := by
  have hq1 : q ≠ '\\' := by rcases hq with rfl | rfl <;> decide
  induction s generalizing ks with
  | nil => simp only [escStr, List.nil_append]; rw [scanStr.eq_def]; simp
  | cons c cs ih =>
    simp only [escStr, List.append_assoc]
    rw [scanStr_spelt hq1 (escChar_spelt hq _ c), ih]; rfl

theorem scanIri_append {s : Str} (h : s.all iriChar = true) (rest : Str) :
    scanIri (s ++ '>' :: rest) = some (s, rest) := by
  induction s with
  | nil => simp [scanIri]
  | cons c cs ih =>
    have h' : iriChar c = true ∧ cs.all iriChar = true := by simpa using h
    have hc : c ≠ '>' := by rintro rfl; exact absurd h'.1 (by decide)
    simp [scanIri, hc, h'.1, ih h'.2]

end RV.C16

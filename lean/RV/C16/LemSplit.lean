import RV.C16.Model
import RV.C16.Spec
/-
  C16 — `splitOn` / `joinWith`, line splitting, `strip`.
-/
namespace RV.C16

theorem splitOn_of_not_mem {sep : Char} {s : Str} (h : sep ∉ s) : splitOn sep s = [s] := by
  induction s with
  | nil => rfl
  | cons c cs ih =>
    have hc : c ≠ sep := fun e => h (by simp [e])
    have hcs : sep ∉ cs := fun e => h (by simp [e])
    simp [splitOn, hc, ih hcs]

theorem splitOn_append_sep {sep : Char} {p : Str} (h : sep ∉ p) (rest : Str) :
    splitOn sep (p ++ sep :: rest) = p :: splitOn sep rest := by
  induction p with
  | nil => simp [splitOn]
  | cons c cs ih =>
    have hc : c ≠ sep := fun e => h (by simp [e])
    have hcs : sep ∉ cs := fun e => h (by simp [e])
    simp [splitOn, hc, ih hcs]

theorem splitOn_joinWith {sep : Char} {ps : List Str} (hne : ps ≠ []) (h : ∀ p ∈ ps, sep ∉ p) :
    splitOn sep (joinWith sep ps) = ps := by
  induction ps with
  | nil => exact absurd rfl hne
  | cons p qs ih =>
    cases qs with
    | nil => simpa [joinWith] using splitOn_of_not_mem (h p (by simp))
    | cons q qs =>
      obtain ⟨hp, hqs⟩ := List.forall_mem_cons.mp h
      simp only [joinWith]
      rw [splitOn_append_sep hp, ih (by simp) hqs]

theorem all_of_splitOn {p : Char → Bool} (sep : Char) (hsep : p sep = true) {s : Str}
    (h : ∀ x ∈ splitOn sep s, x.all p = true) : s.all p = true := by
  induction s with
  | nil => rfl
  | cons d ds ih =>
    unfold splitOn at h
    split at h
    · next e => simp only [List.all_cons, e, hsep, Bool.true_and]; exact ih fun x hx => h x (List.mem_cons_of_mem _ hx)
    · split at h
      · next heq =>             -- `splitOn sep ds = []`, unreachable
        have := h [d] (by simp)
        simp only [List.all_cons, List.all_nil, Bool.and_true] at this
        simp only [List.all_cons, this, Bool.true_and]
        exact ih (by simp [heq])
      · next x xs heq =>
        have := h (d :: x) (by simp)
        simp only [List.all_cons, Bool.and_eq_true] at this
        simp only [List.all_cons, this.1, Bool.true_and]
        exact ih fun y hy => by
          rw [heq] at hy
          rcases List.mem_cons.mp hy with rfl | hy
          · exact this.2
          · exact h y (List.mem_cons_of_mem _ hy)

theorem not_mem_joinWith {a sep : Char} (ha : a ≠ sep) {ps : List Str} (h : ∀ p ∈ ps, a ∉ p) :
    a ∉ joinWith sep ps := by
  induction ps with
  | nil => simp [joinWith]
  | cons p qs ih =>
    cases qs with
    | nil => simpa [joinWith] using h p (by simp)
    | cons q qs =>
      obtain ⟨hp, hqs⟩ := List.forall_mem_cons.mp h
      simp only [joinWith, List.mem_append, List.mem_cons, not_or]
      exact ⟨hp, ha, ih hqs⟩

open Spec.Tsv in
theorem splitOn_unlines {ls : List Str} (h : ∀ l ∈ ls, '\n' ∉ l) :
    splitOn '\n' (unlines ls) = ls ++ [[]] := by
  induction ls with
  | nil => rfl
  | cons l ls ih =>
    obtain ⟨hl, hls⟩ := List.forall_mem_cons.mp h
    simp only [unlines]
    rw [splitOn_append_sep hl, ih hls]
    rfl

theorem dropLastEmpty_append (ls : List Str) : dropLastEmpty (ls ++ [[]]) = ls := by
  induction ls with
  | nil => rfl
  | cons l ls ih =>
    cases ls with
    | nil => simp [dropLastEmpty]
    | cons m ms => simpa [dropLastEmpty] using ih

open Spec.Tsv in
theorem readLines_unlines {ls : List Str} (h : ∀ l ∈ ls, '\n' ∉ l) : readLines (unlines ls) = ls := by
  simp [readLines, splitOn_unlines h, dropLastEmpty_append]

theorem stripEnd_snoc (a : Str) {c : Char} (h : pySpace c = false) : stripEnd (a ++ [c]) = a ++ [c] := by
  induction a with
  | nil => simp [stripEnd, h]
  | cons d ds ih => rw [List.cons_append, stripEnd, ih]; cases ds <;> rfl

theorem joinWith_ends_nonspace {sep : Char} {ps : List Str} (hne : ps ≠ [])
    (h : ∀ x ∈ ps, x ≠ [] ∧ x.all (fun c => !pySpace c) = true) :
    ∃ a c, joinWith sep ps = a ++ [c] ∧ pySpace c = false := by
  induction ps with
  | nil => exact absurd rfl hne
  | cons p qs ih =>
    cases qs with
    | nil =>
      obtain ⟨hp, hs⟩ := h p (by simp)
      refine ⟨p.dropLast, p.getLast hp, (List.dropLast_concat_getLast hp).symm, ?_⟩
      simpa using List.all_eq_true.mp hs _ (List.getLast_mem hp)
    | cons q qs =>
      obtain ⟨a, c, e, hc⟩ := ih (by simp) (List.forall_mem_cons.mp h).2
      exact ⟨p ++ sep :: a, c, by rw [joinWith, e]; simp, hc⟩

theorem pyStrip_cons {c : Char} {cs : Str} (h1 : pySpace c = false) (h2 : stripEnd (c :: cs) = c :: cs) :
    pyStrip (c :: cs) = c :: cs := by
  simp [pyStrip, List.dropWhile, h1, h2]

end RV.C16

import RV.C16.Text
import RV.C16.LemTsvStr
/-
  C16 — XML text: an XML 1.0 parser undoes `escape` / `SPARQLXMLWriter._characters` (also under an encoding that
  lacks characters) on character data and `quoteattr` on attribute values, for every string of XML `Char`s.
-/
namespace RV.C16

theorem ref_amp : xmlRefBody ['a', 'm', 'p'] = some '&' := by decide +kernel
theorem ref_lt : xmlRefBody ['l', 't'] = some '<' := by decide +kernel
theorem ref_gt : xmlRefBody ['g', 't'] = some '>' := by decide +kernel
theorem ref_quot : xmlRefBody ['q', 'u', 'o', 't'] = some '"' := by decide +kernel
theorem ref_9 : xmlRefBody ['#', '9'] = some '\t' := by decide +kernel
theorem ref_10 : xmlRefBody ['#', '1', '0'] = some '\n' := by decide +kernel
theorem ref_13 : xmlRefBody ['#', '1', '3'] = some '\r' := by decide +kernel

/-- Both XML readers collect the body of a reference up to its `;` with the same code: `R acc` is the reader with `acc`
    collected so far, `K` the reader behind the reference. -/
theorem refBody_of {R : Str → Str → Option (Str × Str)} {K : Str → Option (Str × Str)}
    (hR : ∀ acc c r, R acc (c :: r) =
      if c = ';' then (match xmlRefBody acc with | some x => consSome x (K r) | none => none) else R (acc ++ [c]) r)
    {b : Str} (hb : ';' ∉ b) (acc tail : Str) :
    R acc (b ++ ';' :: tail) = match xmlRefBody (acc ++ b) with | some x => consSome x (K tail) | none => none := by
  induction b generalizing acc with
  | nil => simp [hR]
  | cons c cs ih =>
    have hc : c ≠ ';' := fun e => hb (e ▸ List.mem_cons_self ..)
    rw [List.cons_append, hR, if_neg hc, ih (fun h => hb (List.mem_cons_of_mem _ h))]
    simp

theorem readText_ref {b : Str} {x : Char} (hx : xmlRefBody b = some x) (br : Nat) (tail : Str) (hb : ';' ∉ b := by decide) :
    xmlReadText false br none ('&' :: (b ++ ';' :: tail)) = consSome x (xmlReadText false 0 none tail) := by
  rw [xmlReadText]
  simp only [show ('&' : Char) ≠ '<' by decide, if_false, if_true]
  rw [refBody_of (R := fun acc => xmlReadText false 0 (some acc)) (fun _ _ _ => by rw [xmlReadText]; rfl) hb,
    List.nil_append, hx]

theorem readAttr_ref {q : Char} (hq : q = '"' ∨ q = '\'') {b : Str} {x : Char} (hx : xmlRefBody b = some x)
    (tail : Str) (hb : ';' ∉ b := by decide) :
    xmlReadAttrQ q false none ('&' :: (b ++ ';' :: tail)) = consSome x (xmlReadAttrQ q false none tail) := by
  have hq' : '&' ≠ q := by rcases hq with rfl | rfl <;> decide
  rw [xmlReadAttrQ]
  simp only [hq', show ('&' : Char) ≠ '<' by decide, if_false, if_true]
  rw [refBody_of (R := fun acc => xmlReadAttrQ q false (some acc)) (fun _ _ _ => by rw [xmlReadAttrQ]; rfl) hb,
    List.nil_append, hx]

/-- The count `br` of `]` just read may be anything, before and after: the writer never leaves a `>` bare, so the `]]>`
    test of the reader is never met. -/
theorem readText_char (c : Char) (hx : xmlChar c = true) (br : Nat) (tail : Str) :
    ∃ br', xmlReadText false br none (xmlTextChar c ++ tail) = consSome c (xmlReadText false br' none tail) := by
  fun_cases xmlTextChar c
  · subst_vars; exact ⟨0, readText_ref ref_13 br tail⟩
  fun_cases xmlEscChar c
  · subst_vars; exact ⟨0, readText_ref ref_amp br tail⟩
  · subst_vars; exact ⟨0, readText_ref ref_gt br tail⟩
  · subst_vars; exact ⟨0, readText_ref ref_lt br tail⟩
  · refine ⟨if c = ']' then min 2 (br + 1) else 0, ?_⟩
    simp [xmlReadText, *]

open Spec.Tsv in
theorem natDigits_digits (n : Nat) : natDigits n ≠ [] ∧ (natDigits n).all isDigit = true := by
  have hd (d : Nat) (h : d < 10) : isDigit (hexDigit false d) = true :=
    (by decide +kernel : ∀ d : Fin 10, isDigit (hexDigit false d) = true) ⟨d, h⟩
  induction n using Nat.strongRecOn with
  | ind n ih =>
    rw [natDigits]
    split
    · next h => simp [hd n h]
    · simp [(ih (n / 10) (by omega)).2, hd _ (Nat.mod_lt n (by decide))]

open Spec.Tsv in
theorem refNum_natDigits (n : Nat) (r : Str) : refNum 10 0 (natDigits n ++ r) = refNum 10 n r := by
  have hd {d : Nat} (hd : d < 10) (acc : Nat) (r : Str) :
      refNum 10 acc (hexDigit false d :: r) = refNum 10 (acc * 10 + d) r := by
    simp [refNum, hexVal_hexDigit false (show d < 16 by omega), hd]
  induction n using Nat.strongRecOn generalizing r with
  | ind n ih =>
    rw [natDigits]
    split
    · next h => simpa using hd h 0 r
    · rw [List.append_assoc, ih (n / 10) (by omega), List.singleton_append, hd (Nat.mod_lt _ (by decide))]
      congr 1; omega

theorem xmlRefBody_decimal (c : Char) (hx : xmlChar c = true) : xmlRefBody ('#' :: natDigits c.toNat) = some c := by
  obtain ⟨hne, hall⟩ := natDigits_digits c.toNat
  cases e : natDigits c.toNat with
  | nil => exact absurd e hne
  | cons d ds =>
    have hnum : refNum 10 0 (d :: ds) = some c.toNat := by simpa [e, refNum] using refNum_natDigits c.toNat []
    have hd : d ≠ 'x' := ne_of_class (List.all_eq_true.mp (e ▸ hall) d (List.mem_cons_self ..)) rfl
    unfold xmlRefBody
    simp +decide [hd, hnum, refChar, chrOf_toNat, hx]

theorem readText_writeTextEnc (enc : Char → Bool) (s : Str) (hs : s.all xmlChar = true) (br : Nat) (rest : Str) :
    xmlReadText false br none (xmlWriteTextEnc enc s ++ '<' :: rest) = some (s, '<' :: rest) := by
  unfold xmlWriteTextEnc
  induction s generalizing br with
  | nil => simp [escAll, xmlReadText]
  | cons c cs ih =>
    have h' : xmlChar c = true ∧ cs.all xmlChar = true := by simpa using hs
    simp only [escAll, List.append_assoc, xmlTextCharEnc]
    split
    · obtain ⟨br', e⟩ := readText_char c h'.1 br (escAll (xmlTextCharEnc enc) cs ++ '<' :: rest)
      rw [e, ih h'.2]; rfl
    · have hb : ';' ∉ '#' :: natDigits c.toNat :=
        List.not_mem_cons_of_ne_of_not_mem (by decide) (not_mem_of_all rfl (natDigits_digits _).2)
      rw [xmlCharRef, List.cons_append, List.cons_append, List.append_assoc, List.singleton_append,
        ← List.cons_append, readText_ref (hb := hb) (xmlRefBody_decimal c h'.1), ih h'.2]; rfl

theorem escAll_eq_flatMap (f : Char → Str) (s : Str) : escAll f s = s.flatMap f := by
  induction s with
  | nil => rfl
  | cons c cs ih => simp [escAll, ih]

theorem xmlWriteTextEnc_true (s : Str) : xmlWriteTextEnc (fun _ => true) s = xmlWriteText s := by
  have : xmlTextCharEnc (fun _ => true) = xmlTextChar := by funext c; simp [xmlTextCharEnc]
  rw [xmlWriteTextEnc, this, xmlWriteText]

theorem readAttr_char {q : Char} (hq : q = '"' ∨ q = '\'') (c : Char) (hx : xmlChar c = true) (hcq : c ≠ q)
    (tail : Str) :
    xmlReadAttrQ q false none (xmlAttrChar c ++ tail) = consSome c (xmlReadAttrQ q false none tail) := by
  fun_cases xmlAttrChar c
  · subst_vars; exact readAttr_ref hq ref_10 tail
  · subst_vars; exact readAttr_ref hq ref_13 tail
  · subst_vars; exact readAttr_ref hq ref_9 tail
  fun_cases xmlEscChar c
  · subst_vars; exact readAttr_ref hq ref_amp tail
  · subst_vars; exact readAttr_ref hq ref_gt tail
  · subst_vars; exact readAttr_ref hq ref_lt tail
  · simp [xmlReadAttrQ, *]

theorem readAttr_escAll {q : Char} {f : Char → Str} (s : Str)
    (h : ∀ c ∈ s, ∀ tail, xmlReadAttrQ q false none (f c ++ tail) = consSome c (xmlReadAttrQ q false none tail))
    (rest : Str) : xmlReadAttrQ q false none (escAll f s ++ q :: rest) = some (s, rest) := by
  induction s with
  | nil => simp [escAll, xmlReadAttrQ]
  | cons c cs ih =>
    obtain ⟨hc, hcs⟩ := List.forall_mem_cons.mp h
    simp only [escAll, List.append_assoc]
    rw [hc, ih hcs]; rfl

theorem escAll_escAll (g f : Char → Str) (s : Str) : escAll g (escAll f s) = escAll (fun c => escAll g (f c)) s := by
  simp only [escAll_eq_flatMap, List.flatMap_assoc]

/-- the escapes bring in no double quote for `quotToRef` to replace -/
theorem quotToRef_attrChar {c : Char} (h : c ≠ '"') : escAll quotToRef (xmlAttrChar c) = xmlAttrChar c := by
  fun_cases xmlAttrChar c
  iterate 3 (subst_vars; decide +kernel)
  fun_cases xmlEscChar c
  iterate 3 (subst_vars; decide +kernel)
  simp [escAll, quotToRef, h]

theorem hasChar_iff (q : Char) (s : Str) : hasChar q s = true ↔ q ∈ s := by
  induction s with
  | nil => simp [hasChar]
  | cons c cs ih => simp [hasChar, ih, @eq_comm _ c]

/-- the escaped value holds no `q`, so neither does the value (a quote is written as itself) -/
theorem ne_quote_of_escaped {q : Char} (hq : q = '"' ∨ q = '\'') {s : Str} (h : hasChar q (escAll xmlAttrChar s) = false) :
    ∀ c ∈ s, c ≠ q := by
  rintro c hc rfl
  have : c ∈ s.flatMap xmlAttrChar := List.mem_flatMap.mpr ⟨c, hc, by rcases hq with rfl | rfl <;> decide⟩
  rw [← escAll_eq_flatMap, ← hasChar_iff, h] at this
  cases this

theorem xmlReadAttr_quoteattr (s : Str) (hs : s.all xmlChar = true) (rest : Str) :
    xmlReadAttr (quoteattr s ++ rest) = some (s, rest) := by
  have hall : ∀ c ∈ s, xmlChar c = true := by simpa using hs
  unfold quoteattr
  simp only []
  split
  · split
    · -- `"…"` with `&quot;`: the two passes fuse into one writer per character
      simp only [List.cons_append, List.append_assoc, xmlReadAttr, true_or, if_true, escAll_escAll]
      refine readAttr_escAll s (fun c hc tail => ?_) rest
      by_cases h : c = '"'
      · subst h; exact readAttr_ref (.inl rfl) ref_quot tail
      · rw [quotToRef_attrChar h]; exact readAttr_char (.inl rfl) c (hall c hc) h tail
    · next h2 =>   -- `'…'`: no `'` in the escaped value, so none in the value
      simp only [List.cons_append, List.append_assoc, xmlReadAttr, or_true, if_true]
      exact readAttr_escAll s (fun c hc => readAttr_char (.inr rfl) c (hall c hc)
        (ne_quote_of_escaped (.inr rfl) (by simpa using h2) c hc)) rest
  · next h1 =>
    simp only [List.cons_append, List.append_assoc, xmlReadAttr, true_or, if_true]
    exact readAttr_escAll s (fun c hc => readAttr_char (.inl rfl) c (hall c hc)
      (ne_quote_of_escaped (.inl rfl) (by simpa using h1) c hc)) rest

end RV.C16

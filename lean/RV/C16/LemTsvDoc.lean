import RV.C16.LemTsvCell
/-
  C16 — the whole TSV document: header, lines, rows.
-/
namespace RV.C16
open Spec.Tsv

/-- a variable name of the header: VARNAME, and no character Python's `str.strip()` would remove
    (U+1680 is the one VARNAME character that is also Python white space) -/
def varOk (v : Str) : Bool := validVarName v && v.all (fun c => !pySpace c)

/-- what the TSV theorem assumes of a table: legal variable names, rows aligned, terms with a TSV spelling -/
structure TsvOk (vars : List Str) (rows : List Row) : Prop where
  names : ∀ v ∈ vars, varOk v = true
  len : ∀ r ∈ rows, r.length = vars.length
  terms : ∀ r ∈ rows, rowAll tsvTermOk r = true

theorem varOk_iff {v : Str} : varOk v = true ↔ validVarName v = true ∧ v.all (fun c => !pySpace c) = true := by
  simp only [varOk, Bool.and_eq_true]

theorem tabLine_no_lf {ps : List Str} (h : ∀ p ∈ ps, p.all clean = true) : '\n' ∉ joinWith '\t' ps :=
  not_mem_joinWith (by decide) fun p hp => not_mem_of_all rfl (h p hp)

theorem splitOn_tabLine {ps : List Str} (h : ∀ p ∈ ps, p.all clean = true) (hne : ps ≠ []) :
    splitOn '\t' (joinWith '\t' ps) = ps :=
  splitOn_joinWith hne fun p hp => not_mem_of_all rfl (h p hp)

theorem readCells_renderCells (chs : List CellChoice) (r : Row) (h : rowAll tsvTermOk r = true) :
    readCells (renderCells chs r) = .ok r := by
  induction r generalizing chs with
  | nil => rfl
  | cons c cs ih =>
    cases c with
    | none => simp [renderCells, renderCell, readCells, readCell, ih chs.tail h]
    | some t =>
      have h' := rowAll_some h
      simp [renderCells, readCells, readCell_renderCell _ h'.1, ih chs.tail h'.2]

theorem renderCells_clean (chs : List CellChoice) (r : Row) (h : rowAll tsvTermOk r = true) :
    ∀ p ∈ renderCells chs r, p.all clean = true := by
  induction r generalizing chs with
  | nil => simp [renderCells]
  | cons c cs ih =>
    simp only [renderCells, List.mem_cons, forall_eq_or_imp]
    cases c with
    | none => exact ⟨rfl, ih chs.tail h⟩
    | some t => exact ⟨renderCell_clean _ (rowAll_some h).1, ih chs.tail (rowAll_some h).2⟩

theorem renderCells_length (chs : List CellChoice) (r : Row) : (renderCells chs r).length = r.length := by
  induction r generalizing chs with
  | nil => rfl
  | cons c cs ih => simp [renderCells, ih]

theorem readRows_renderLines (n : Nat) (chs : List (List CellChoice)) (rows : List Row)
    (hlen : ∀ r ∈ rows, r.length = n) (ht : ∀ r ∈ rows, rowAll tsvTermOk r = true) :
    readRows n (renderLines chs rows) = .ok rows := by
  induction rows generalizing chs with
  | nil => rfl
  | cons r rs ih =>
    obtain ⟨hr, hrs⟩ := List.forall_mem_cons.mp ht
    obtain ⟨rfl, hlens⟩ := List.forall_mem_cons.mp hlen
    have ih' := ih chs.tail hlens hrs
    simp only [renderLines, readRows]
    cases r with
    | nil =>
      rw [List.length_nil] at ih'
      simp [renderCells, joinWith, splitOn, readCells, readCell, alignCells, ih']
    | cons c cs =>
      -- the line is not skipped as blank (a row of two or more cells holds a tab), and its cells are the row
      have hne : renderCells (chs.headD []) (c :: cs) ≠ [] := by simp [renderCells]
      have hblank : ¬ (joinWith '\t' (renderCells (chs.headD []) (c :: cs)) = [] ∧ 1 < (c :: cs).length) := by
        rintro ⟨he, hl⟩
        cases cs with
        | nil => simp at hl
        | cons d ds => simp [renderCells, joinWith] at he
      rw [if_neg hblank, splitOn_tabLine (renderCells_clean _ _ hr) hne, readCells_renderCells _ _ hr]
      simp only [ih', alignCells_self]

theorem readVars_map {vars : List Str} (h : ∀ v ∈ vars, varOk v = true) :
    readVars (vars.map ('?' :: ·)) = .ok vars := by
  induction vars with
  | nil => rfl
  | cons v vs ih =>
    obtain ⟨hv, hvs⟩ := List.forall_mem_cons.mp h
    simp [readVars, readVar, (varOk_iff.mp hv).1, ih hvs]

theorem headerCells_noSpace {vars : List Str} (h : ∀ v ∈ vars, varOk v = true) :
    ∀ p ∈ vars.map ('?' :: ·), p ≠ [] ∧ p.all (fun c => !pySpace c) = true := by
  intro p hp
  obtain ⟨v, hv, rfl⟩ := List.mem_map.mp hp
  exact ⟨by simp, by simp only [List.all_cons, (varOk_iff.mp (h v hv)).2]; rfl⟩

theorem headerCells_clean {vars : List Str} (h : ∀ v ∈ vars, varOk v = true) :
    ∀ p ∈ vars.map ('?' :: ·), p.all clean = true :=
  fun p hp => all_clean_of (fun c => !pySpace c) (headerCells_noSpace h p hp).2

theorem read_header {vars : List Str} (h : ∀ v ∈ vars, varOk v = true) :
    (if header vars = [] then (.ok [] : Except Err (List Str))
     else readVars (splitOn '\t' (pyStrip (header vars)))) = .ok vars := by
  cases vars with
  | nil => rfl
  | cons v vs =>
    have e : header (v :: vs) = '?' :: joinWith '\t' (v :: vs.map ('?' :: ·)) := by cases vs <;> rfl
    -- `strip()` changes nothing: the line starts with `?` and ends in a character of a name
    obtain ⟨a, c, ea, hc⟩ :=
      joinWith_ends_nonspace (sep := '\t') (ps := (v :: vs).map ('?' :: ·)) (by simp) (headerCells_noSpace h)
    have hstrip : stripEnd (header (v :: vs)) = header (v :: vs) := by rw [header, ea, stripEnd_snoc a hc]
    rw [e] at hstrip
    have hne : header (v :: vs) ≠ [] := by rw [e]; simp
    rw [if_neg hne, e, pyStrip_cons rfl hstrip, ← e]
    show readVars (splitOn '\t' (joinWith '\t' ((v :: vs).map ('?' :: ·)))) = _
    rw [splitOn_tabLine (headerCells_clean h) (by simp), readVars_map h]

theorem readTsv_render (chs : List (List CellChoice)) {vars : List Str} {rows : List Row} (h : TsvOk vars rows) :
    readTsv (render chs vars rows) = .ok (.select vars rows) := by
  have hl : ∀ l ∈ header vars :: renderLines chs rows, '\n' ∉ l := by
    simp only [List.mem_cons, forall_eq_or_imp]
    refine ⟨tabLine_no_lf (headerCells_clean h.names), ?_⟩
    have ht := h.terms
    clear h
    induction rows generalizing chs with
    | nil => simp [renderLines]
    | cons r rs ih =>
      obtain ⟨hr, hrs⟩ := List.forall_mem_cons.mp ht
      simp only [renderLines, List.mem_cons, forall_eq_or_imp]
      exact ⟨tabLine_no_lf (renderCells_clean _ r hr), ih _ hrs⟩
  unfold readTsv render
  -- each bare `simp only` reduces the `match` / `let` of `readTsv` on the value the line before has exposed
  rw [readLines_unlines hl]
  simp only
  rw [read_header h.names]
  simp only
  simp only [readRows_renderLines vars.length chs rows h.len h.terms]

end RV.C16

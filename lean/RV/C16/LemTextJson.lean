import RV.C16.Text
import RV.C16.LemTsvStr
/-
  C16 — JSON strings: `scanstring` undoes every RFC 8259 spelling of a string
  (in particular Python's `encode_basestring` and `encode_basestring_ascii`).
-/
namespace RV.C16
open Spec.Tsv

theorem jsonScanP_raw {c : Char} (h1 : c ≠ '"') (h2 : c ≠ '\\') (h3 : ¬ c.toNat < 0x20) (tail : Str) :
    jsonScanP none (c :: tail) = consOk c (jsonScanP none tail) := by
  rw [jsonScanP.eq_def]
  simp only [h1, h2, h3, if_false, Option.isSome_none, Bool.false_eq_true, id]

theorem jsonScanP_short {e d : Char} (h : jsonUnshort e = some d ∧ e ≠ 'u') (tail : Str) :
    jsonScanP none ('\\' :: e :: tail) = consOk d (jsonScanP none tail) := by
  rw [jsonScanP.eq_def]
  simp only [show ('\\' : Char) ≠ '"' by decide, if_false, if_true, h.2, h.1, Option.isSome_none,
    Bool.false_eq_true, id]

/-- `scanstring` at a `\uXXXX` escape: the branch of the definition with the digits decoded -/
theorem jsonScanP_ju4 (lower : Bool) (pend : Option Nat) {n : Nat} (hn : n < 65536) (tail : Str) :
    jsonScanP pend (ju4 lower n ++ tail) =
      match pend, decide (0xDC00 ≤ n ∧ n ≤ 0xDFFF) with
      | some h, true => consOk (Char.ofNat (0x10000 + (h - 0xD800) * 1024 + (n - 0xDC00))) (jsonScanP none tail)
      | _, _ => (if pend.isSome then afterLone else id)
          (if 0xD800 ≤ n ∧ n ≤ 0xDBFF then jsonScanP (some n) tail else emitUnit n (jsonScanP none tail)) := by
  have e := hexNum_hex4_zero lower hn
  simp only [hex4] at e
  simp only [ju4, hex4, List.cons_append, List.nil_append]
  rw [jsonScanP.eq_def]
  simp only [show ('\\' : Char) ≠ '"' by decide, if_false, if_true, e]
  rfl

theorem jsonScanP_ju4_char (lower : Bool) (c : Char) (h : c.toNat < 65536) (tail : Str) :
    jsonScanP none (ju4 lower c.toNat ++ tail) = consOk c (jsonScanP none tail) := by
  have hs : ¬ (0xD800 ≤ c.toNat ∧ c.toNat ≤ 0xDBFF) := by have := char_valid c; omega
  rw [jsonScanP_ju4 lower none h]
  simp only [hs, Option.isSome_none, Bool.false_eq_true, if_false, id, emitUnit, chrOf_toNat]

theorem jsonScanP_jsonU (lower : Bool) (c : Char) (tail : Str) :
    jsonScanP none (jsonU lower c ++ tail) = consOk c (jsonScanP none tail) := by
  have hv := char_valid c
  unfold jsonU
  split
  · next h => exact jsonScanP_ju4_char lower c h tail
  · generalize hhi : 0xD800 + (c.toNat - 65536) / 1024 % 1024 = hi
    generalize hlo : 0xDC00 + (c.toNat - 65536) % 1024 = lo
    rw [List.append_assoc, jsonScanP_ju4 lower none (by omega), jsonScanP_ju4 lower (some hi) (by omega)]
    have e : 0x10000 + (hi - 0xD800) * 1024 + (lo - 0xDC00) = c.toNat := by omega
    simp only [show 0xD800 ≤ hi ∧ hi ≤ 0xDBFF by omega, show 0xDC00 ≤ lo ∧ lo ≤ 0xDFFF by omega, and_self,
      decide_true, Option.isSome_none, Bool.false_eq_true, if_false, if_true, id, e, Char.ofNat_toNat]

theorem jsonUnshort_jsonShort {c e : Char} (h : jsonShort c = some e) : jsonUnshort e = some c ∧ e ≠ 'u' := by
  revert h
  fun_cases jsonShort c <;> intro h <;> cases h
  all_goals subst_vars; decide +kernel

theorem jsonShort_none {c : Char} (h : jsonShort c = none) : c ≠ '"' ∧ c ≠ '\\' := by
  constructor <;> (intro e; subst e; revert h; decide)

theorem jsonScanP_pyEscChar (c : Char) (tail : Str) :
    jsonScanP none (pyEscChar c ++ tail) = consOk c (jsonScanP none tail) := by
  unfold pyEscChar
  split
  · next e h =>
    exact jsonScanP_short (jsonUnshort_jsonShort h) tail
  · next h =>
    obtain ⟨h1, h2⟩ := jsonShort_none h
    split
    · next hlt => exact jsonScanP_ju4_char true c (by omega) tail
    · next hge => exact jsonScanP_raw h1 h2 hge tail

theorem jsonScanP_pyEscCharAscii (c : Char) (tail : Str) :
    jsonScanP none (pyEscCharAscii c ++ tail) = consOk c (jsonScanP none tail) := by
  unfold pyEscCharAscii
  split
  · next hc =>
    split
    · next e h =>
      exact jsonScanP_short (jsonUnshort_jsonShort h) tail
    · exact jsonScanP_jsonU true c tail
  · next hc =>
    have hc' : c ≠ '\\' ∧ c ≠ '"' ∧ ¬ c.toNat < 0x20 ∧ ¬ 0x7e < c.toNat := by
      simpa [not_or] using hc
    exact jsonScanP_raw hc'.2.1 hc'.1 hc'.2.2.1 tail

theorem jsonScanP_jsonSpellChar (k : Nat) (c : Char) (tail : Str) :
    jsonScanP none (jsonSpellChar k c ++ tail) = consOk c (jsonScanP none tail) := by
  unfold jsonSpellChar
  split
  · exact jsonScanP_jsonU _ c tail
  · split
    · next h => obtain ⟨-, rfl⟩ := h; exact jsonScanP_short ⟨by decide, by decide⟩ tail
    · exact jsonScanP_pyEscChar c tail

theorem jsonScanP_close (rest : Str) : jsonScanP none ('"' :: rest) = .ok ([], rest, false) := by
  rw [jsonScanP.eq_def]; simp

theorem jsonScan_escAll {f : Char → Str}
    (hf : ∀ c tail, jsonScanP none (f c ++ tail) = consOk c (jsonScanP none tail)) (s rest : Str) :
    jsonScan (escAll f s ++ '"' :: rest) = .ok (s, rest, false) := by
  unfold jsonScan
  induction s with
  | nil => exact jsonScanP_close rest
  | cons c cs ih =>
    simp only [escAll, List.append_assoc]
    rw [hf, ih]; rfl

theorem jsonScan_jsonSpell (ks : List Nat) (s rest : Str) :
    jsonScan (jsonSpell ks s ++ '"' :: rest) = .ok (s, rest, false) := by
  unfold jsonScan
  induction s generalizing ks with
  | nil => exact jsonScanP_close rest
  | cons c cs ih =>
    simp only [jsonSpell, List.append_assoc]
    rw [jsonScanP_jsonSpellChar, ih]; rfl

/-- Python's minimal writer is the all-zero choice stream of the reference writer -/
theorem escAll_pyEscChar_eq_spell (s : Str) : escAll pyEscChar s = jsonSpell [] s := by
  induction s with
  | nil => rfl
  | cons c cs ih => simp [escAll, jsonSpell, jsonSpellChar, ih]

theorem jsonLoadsStr_pyDumpsStr (ascii : Bool) (s : Str) : jsonLoadsStr (pyDumpsStr ascii s) = .ok s := by
  unfold jsonLoadsStr pyDumpsStr
  have : jsonScan (escAll (if ascii then pyEscCharAscii else pyEscChar) s ++ ['"']) = .ok (s, [], false) := by
    cases ascii
    · exact escAll_pyEscChar_eq_spell s ▸ jsonScan_jsonSpell [] s []
    · exact jsonScan_escAll jsonScanP_pyEscCharAscii s []
  simp only [this]

end RV.C16

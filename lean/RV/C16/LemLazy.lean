import RV.C16.Model
/-
  C16 — the lazily evaluated result: whatever was consumed, materialised rows ++ pending rows is the full table,
  for histories of one iterator at a time (`Lazy`) and of several live iterators (`Multi`); the rows handed out by the
  iterators that read from the generator are, in history order, the bound rows of a prefix of the table.
-/
namespace RV.C16

/-! `force.mat` — rows already in `_bindings` followed by the rows the generator still holds — is what no step changes. -/

theorem pull_force_mat (k : Nat) (g mat out : List Row) : (pull k g mat out).1.force.mat = mat ++ g := by
  fun_induction pull k g mat out <;> simp_all [Lazy.force]

theorem step_force_mat (s : Lazy) (o : HOp) : (s.step o).1.force.mat = s.force.mat := by
  cases o with
  | force => cases h : s.gen <;> simp [Lazy.step, Lazy.force, h]
  | take k =>
    unfold Lazy.step
    cases h : s.gen with
    | none => rfl
    | some g => rw [pull_force_mat]; simp [Lazy.force, h]

theorem run_force_mat (s : Lazy) (ops : List HOp) : (s.run ops).force.mat = s.force.mat := by
  induction ops generalizing s with
  | nil => rfl
  | cons o os ih => simp only [Lazy.run]; rw [ih, step_force_mat]

/-- the operation reads `Result.bindings` (`len`, `bool`, `.bindings`, any serialisation) -/
def isForce : MOp → Bool
  | .force => true
  | _ => false

/-- What every history over the table `full` keeps true.  `log` = the rows handed out from the generator so far,
    `nf` = no read of `Result.bindings` so far.  `_bindings` followed by what the generator still holds is the table; a
    cleared attribute means the generator holds nothing more; and `log` is the bound rows of a prefix `pre` of the
    table, which is exactly `_bindings` as long as the generator holds rows or nothing has read `Result.bindings`. -/
structure MInv (full : List Row) (s : Multi) (log : List Row) (nf : Bool) : Prop where
  all : s.mat ++ s.pending = full
  dry : s.attr = false → s.pending = []
  pre : ∃ pre rest, pre ++ rest = full ∧ log = pre.filter rowBound ∧ (s.pending ≠ [] ∨ nf = true → s.mat = pre)

/-- a step that leaves `_bindings`, the generator and the attribute alone and hands out no generator row
    (`out = []`) keeps the invariant: it does not look at the iterators -/
theorem MInv.frame {full : List Row} {s s' : Multi} {log out : List Row} {nf : Bool} (h : MInv full s log nf)
    (hm : s'.mat = s.mat) (hp : s'.pending = s.pending) (ha : s'.attr = s.attr) (ho : out = []) :
    MInv full s' (log ++ out) nf := by
  obtain ⟨h1, h2, h3⟩ := h
  exact ⟨by rw [hm, hp]; exact h1, by rw [ha, hp]; exact h2, by rw [hm, hp, ho, List.append_nil]; exact h3⟩

theorem MInv.force_mat {full : List Row} {s : Multi} {log : List Row} {nf : Bool} (h : MInv full s log nf) :
    s.force.mat = full := by
  unfold Multi.force
  split
  · exact h.all
  · next ha => rw [← h.all, h.dry (by simpa using ha), List.append_nil]

/-- one run of the `for b in self._genbindings` loop (`pulled` = the rows it takes from the generator) -/
theorem genStep_spec {g mat m p : List Row} {o : Option Row} (h : genStep g mat = (m, p, o)) :
    ∃ pulled, m = mat ++ pulled ∧ pulled ++ p = g ∧ pulled.filter rowBound = o.toList ∧ (o = none → p = []) := by
  induction g generalizing mat with
  | nil => cases h; exact ⟨[], (List.append_nil _).symm, rfl, rfl, fun _ => rfl⟩
  | cons b g ih =>
    by_cases hb : rowBound b = true
    · rw [genStep, if_pos hb] at h
      cases h
      exact ⟨[b], rfl, rfl, List.filter_cons_of_pos hb, fun h => (by cases h)⟩
    · rw [genStep, if_neg hb] at h
      obtain ⟨pulled, h1, h2, h3, h4⟩ := ih h
      exact ⟨b :: pulled, by rw [h1, List.append_assoc]; rfl, by rw [List.cons_append, h2],
        by rw [List.filter_cons_of_neg hb, h3], h4⟩

theorem doGen_inv {full : List Row} {s : Multi} {log : List Row} {nf : Bool} (i : Nat) (h : MInv full s log nf) :
    MInv full (s.doGen i).1 (log ++ genYields [(s.doGen i).2]) nf := by
  obtain ⟨hall, hdry, pre, rest, hsplit, hlog, hpre⟩ := h
  by_cases hp : s.pending = []
  · -- a dry generator: nothing is pulled, nothing is handed out
    have e : s.doGen i = ({ s with pending := [], attr := false, its := setIt s.its i .done }, .stop) := by
      simp [Multi.doGen, hp, genStep]
    rw [e]
    exact { all := by simpa [hp] using hall, dry := fun _ => rfl,
            pre := ⟨pre, rest, hsplit, by simpa [genYields] using hlog, by simpa [hp] using hpre⟩ }
  · -- a live generator: `_bindings` is the prefix, and both grow by the rows pulled
    unfold Multi.doGen
    rcases hg : genStep s.pending s.mat with ⟨m, p, o⟩
    obtain ⟨pulled, h1, h2, h3, h4⟩ := genStep_spec hg
    have hm : m = pre ++ pulled := by rw [h1, hpre (.inl hp)]
    have hall' : m ++ p = full := by rw [h1, List.append_assoc, h2, hall]
    have hlog' : log ++ o.toList = (pre ++ pulled).filter rowBound := by rw [List.filter_append, hlog, h3]
    cases o with
    | some r =>
      exact { all := hall', dry := fun ha => absurd (hdry ha) hp, pre := ⟨pre ++ pulled, p, hm ▸ hall', hlog', fun _ => hm⟩ }
    | none =>
      obtain rfl : p = [] := h4 rfl
      exact { all := hall', dry := fun _ => rfl,
              pre := ⟨pre ++ pulled, [], hm ▸ hall', by simpa [genYields] using hlog', fun _ => hm⟩ }

theorem mstep_inv {full : List Row} {s : Multi} {log : List Row} {nf : Bool} (o : MOp) (h : MInv full s log nf) :
    MInv full (s.step o).1 (log ++ genYields [(s.step o).2]) (nf && !isForce o) := by
  have hlist (i idx : Nat) : MInv full (s.doList i idx).1 (log ++ genYields [(s.doList i idx).2]) nf := by
    unfold Multi.doList; split <;> exact h.frame rfl rfl rfl rfl
  cases o with
  | openIt => rw [show (nf && !isForce .openIt) = nf by simp [isForce]]; exact h.frame rfl rfl rfl rfl
  | force =>
    have hp : s.force.pending = [] := by
      unfold Multi.force; split
      · rfl
      · next ha => exact h.dry (by simpa using ha)
    obtain ⟨pre, rest, h1, h2, -⟩ := h.pre
    -- `size` is no generator row: the log stays
    show MInv full s.force (log ++ []) _
    exact { all := by rw [hp, List.append_nil]; exact h.force_mat, dry := fun _ => hp,
            pre := ⟨pre, rest, h1, by rw [List.append_nil]; exact h2, by
              rintro (hc | hc)
              · exact absurd hp hc
              · simp [isForce] at hc⟩ }
  | next i =>
    rw [show (nf && !isForce (.next i)) = nf by simp [isForce]]
    simp only [Multi.step]
    split
    · exact h.frame rfl rfl rfl rfl      -- no such iterator
    · split                              -- a fresh iterator: generator mode iff the attribute is set
      · exact doGen_inv i h
      · exact hlist i 0
    · exact doGen_inv i h                -- suspended in the generator loop
    · exact hlist i _                    -- suspended in the list loop
    · exact h.frame rfl rfl rfl rfl      -- exhausted

theorem genYields_cons (o : MOut) (os : List MOut) : genYields (o :: os) = genYields [o] ++ genYields os := by
  cases o with
  | row r b => cases b <;> rfl
  | _ => rfl

theorem mrun_inv {full : List Row} (ops : List MOp) {s : Multi} {log : List Row} {nf : Bool}
    (h : MInv full s log nf) :
    MInv full (s.run ops).1 (log ++ genYields (s.run ops).2) (nf && !ops.any isForce) := by
  induction ops generalizing s log nf with
  | nil => simpa [Multi.run, genYields] using h
  | cons o os ih =>
    have h2 := ih (mstep_inv o h)
    simp only [Multi.run]
    rw [genYields_cons, ← List.append_assoc]
    simpa [Bool.and_assoc, Bool.not_or] using h2

theorem inv_lazy (full : List Row) : MInv full (Multi.lazy full) [] true :=
  { all := rfl, dry := fun h => (by cases h), pre := ⟨[], full, rfl, rfl, fun _ => rfl⟩ }

theorem inv_listed (full : List Row) : MInv full (Multi.listed full) [] false :=
  { all := List.append_nil _, dry := fun _ => rfl,
    pre := ⟨[], full, rfl, rfl, by
      rintro (h | h)
      · exact absurd rfl h
      · cases h⟩ }

end RV.C16

import RV.C16.LemTsvDoc
import RV.C16.LemXml
import RV.C16.LemCsv
import RV.C16.LemLazy
import RV.C16.LemTextXml
import RV.C16.LemDoc
import RV.C16.Tables
/-
  C16 — "SPARQL results survive their exchange formats": property statements and theorems.

  Hypotheses of the statements, defined where their lemmas are (the rest is in the model files):
    Aligned, rowAll, langOk (LemTable)     distinct variables, one cell per variable; every bound term of a row; legal tag
    xmlTermOk, xmlSafeTerm (LemXml)        non-empty IRI / label / datatype; every character an XML 1.0 `Char`
    tsvTermOk (LemTsvCell), TsvOk (LemTsvDoc)   IRIREF / BLANK_NODE_LABEL / LANGTAG syntax; legal names, aligned rows
    cellStr (LemCsv), isForce (LemLazy)    `str` of a cell; the operation reads `Result.bindings`
-/
namespace RV.C16
open Spec.Tsv

/-- JSON: serialise, parse back: same variables in order, same row sequence, every cell the same term
    or unbound — rows in which nothing is bound included — and both booleans. -/
def Statement_json_roundtrip : Prop :=
  (∀ b, ofJson (toJson (.ask b)) = .ok (.ask b)) ∧
  ∀ vars rows, Aligned vars rows → (∀ r ∈ rows, rowAll langOk r = true) →
    ofJson (toJson (.select vars rows)) = .ok (.select vars rows)

/-- XML at tree level (element tree written = element tree read). -/
def Statement_xml_tree_roundtrip : Prop :=
  (∀ b, ofXml (toXml (.ask b)) = .ok (.ask b)) ∧
  ∀ vars rows, Aligned vars rows → (∀ r ∈ rows, rowAll xmlTermOk r = true) →
    ofXml (toXml (.select vars rows)) = .ok (.select vars rows)

/-- XML through the text level, at full strength: every table of legal terms — control characters
    included, as the property's quantifier says. -/
def Statement_xml_roundtrip : Prop :=
  (∀ b, xmlRoundTrip (.ask b) = .ok (.ask b)) ∧
  ∀ vars rows, Aligned vars rows → (∀ r ∈ rows, rowAll xmlTermOk r = true) →
    xmlRoundTrip (.select vars rows) = .ok (.select vars rows)

/-- every character of every string of the table is an XML 1.0 `Char` (decidable) -/
def XmlSafe (vars : List Str) (rows : List Row) : Prop :=
  (∀ v ∈ vars, v.all xmlChar = true) ∧ ∀ r ∈ rows, rowAll xmlSafeTerm r = true

/-- character data through `SPARQLXMLWriter._characters` and an XML 1.0 parser comes back unchanged
    (carriage returns included) whenever XML can carry the characters at all -/
def Statement_xml_text_survives : Prop :=
  ∀ s : Str, s.all xmlChar = true → wireText s = some s

/-- the TSV string codec: for both quote characters, every string, every choice of optional escapes
    and whatever follows the closing quote -/
def Statement_tsv_cell_roundtrip : Prop :=
  ∀ q : Char, q = '"' ∨ q = '\'' → ∀ (ks : List Nat) (s rest : Str),
    scanStr q (escStr q ks s ++ q :: rest) = some (s, rest)

/-- the TSV reader recovers exactly the table from every W3C-conformant rendering of it: every choice
    stream, rows with no bound cell, leading / trailing unbound columns, zero rows, zero variables. -/
def Statement_tsv_reader_complete : Prop :=
  ∀ (chs : List (List CellChoice)) (vars : List Str) (rows : List Row), TsvOk vars rows →
    readTsv (render chs vars rows) = .ok (.select vars rows)

/-- the string value the CSV form must preserve: `str(term)`; a blank node's label in the `_:label` form
    CSV prescribes; nothing for an unbound cell -/
def csvSpec : Cell → Str
  | none => []
  | some (.bnode l) => '_' :: ':' :: l
  | some t => strOf t

/-- CSV keeps the variables and the row sequence (the table read back is the cell-wise image of the
    table written: same number of rows, each with the same cells in order), and the image of every cell
    has the cell's string value. -/
def Statement_csv_preserves : Prop :=
  ∀ vars rows, (∀ r ∈ rows, r.length = vars.length) →
    ∃ f : Cell → Cell, (∀ c, cellStr (f c) = csvSpec c) ∧
      csvRoundTrip (.select vars rows) = .ok (.select vars (rows.map (fun r => r.map f)))

/-- the reader model's ECHAR decoding is exactly `rdflib.compat._string_escape_map`
    (`Tables.stringEscapeMap` is generated from rdflib's source) -/
def Statement_escape_table : Prop :=
  (∀ p ∈ Tables.stringEscapeMap, unescChar p.1 = some p.2) ∧
  ∀ e d, unescChar e = some d → (e, d) ∈ Tables.stringEscapeMap

/-- the result container: whatever part of a lazily evaluated result was handed out before — by fresh
    iterators advanced any number of times, by `len` / `bool` / `bindings`, in any order — `Result.bindings`
    (what every serializer writes) is then the full table, rows in which nothing is bound included; the same
    for a result built from a list. -/
def Statement_bindings_complete : Prop :=
  ∀ (full : List Row) (ops : List HOp),
    ((Lazy.run ⟨[], some full⟩ ops).force.mat = full) ∧ ((Lazy.run ⟨full, none⟩ ops).force.mat = full)

/-- several iterators alive at once over one result, interleaved arbitrarily with `len` / `bool` / `bindings` /
    serialisations: after ANY history, what a serializer writes (`Result.bindings`) is the full table —
    for a lazily evaluated result and for one built from a list. -/
def Statement_bindings_complete_interleaved : Prop :=
  ∀ (full : List Row) (ops : List MOp),
    ((Multi.lazy full).run ops).1.force.mat = full ∧ ((Multi.listed full).run ops).1.force.mat = full

/-- what the code guarantees about the rows handed out: the iterators that read from the evaluator's generator
    hand out, taken together and in the order of the history, exactly the rows with a binding of a PREFIX of
    the table — no row twice, none skipped, table order — however their `next()` calls interleave. -/
def Statement_gen_yields_prefix : Prop :=
  ∀ (full : List Row) (ops : List MOp),
    ∃ pre rest, pre ++ rest = full ∧ genYields ((Multi.lazy full).run ops).2 = pre.filter rowBound

/-- The generator-reading iterators hand out the bound rows of the whole table once the generator is dry, provided
    nothing read `Result.bindings` in between
    (a `len()` / serialisation moves the remaining rows into the list, and the live iterators then stop early). -/
def Statement_gen_yields_all_when_dry : Prop :=
  ∀ (full : List Row) (ops : List MOp),
    ops.any isForce = false → ((Multi.lazy full).run ops).1.pending = [] →
      genYields ((Multi.lazy full).run ops).2 = full.filter rowBound

/-- JSON strings: `json.loads`' string scanner (`scanstring`, strict) recovers every string from EVERY RFC 8259
    spelling of it — per character raw, two-character escape, `\/`, `\uXXXX` in either case, a surrogate pair above
    U+FFFF; control characters, quotes, backslashes, non-BMP characters included — whatever follows the closing quote. -/
def Statement_json_text_roundtrip : Prop :=
  ∀ (ks : List Nat) (s rest : Str), jsonScan (jsonSpell ks s ++ '"' :: rest) = .ok (s, rest, false)

/-- JSON strings as Python's two encoders write them — `encode_basestring` (`ensure_ascii=False`, what rdflib's
    writer passes) and `encode_basestring_ascii` (the `json.dumps` default) — are read back by `json.loads`, for every string: cell
    values, variable names, keys. -/
def Statement_json_py_text_roundtrip : Prop :=
  ∀ (ascii : Bool) (s : Str), jsonLoadsStr (pyDumpsStr ascii s) = .ok s

/-- CSV text: Python's `csv.reader` (the `_csv.c` state machine over the lines of a `newline=""` source) recovers EVERY
    field table — any number of rows and fields, zero included, any characters: delimiters, quotes, CR, LF, CR LF inside
    fields, empty fields, the record that is one empty field — from what `csv.writer` writes (QUOTE_MINIMAL, doubled
    quotes, CR LF), and from every other RFC 4180 rendering: fields quoted without need, bare LF line ends. -/
def Statement_csv_text_roundtrip : Prop :=
  ∀ (qss : List (List Bool)) (lf : Bool) (t : List (List Str)), csvParse (csvRender qss lf t) = .ok t

/-- rdflib's CSV writer and reader composed through the TEXT behave exactly as the field-table model that
    `csv_preserves` is about: nothing is lost or altered by quoting (known lossy cases are those of `csv_preserves`:
    a blank node comes back labelled `_:label`, IRIs outside http(s) and typed / tagged literals come back as plain
    literals with the same string value). -/
def Statement_csv_text_preserves : Prop :=
  (∀ r, csvTextRoundTrip r = csvRoundTrip r) ∧
  ∀ vars rows, (∀ r ∈ rows, r.length = vars.length) →
    ∃ f : Cell → Cell, (∀ c, cellStr (f c) = csvSpec c) ∧
      csvTextRoundTrip (.select vars rows) = .ok (.select vars (rows.map (fun r => r.map f)))

/-- XML character data: what `SPARQLXMLWriter._characters` / `XMLGenerator.characters` write for a string (`&amp;`
    `&lt;` `&gt;`, carriage return as `&#13;`) is delivered unchanged by an XML 1.0 parser (references, end-of-line
    normalisation, the `Char` range, no `]]>`), for every string XML can carry — lexical forms, IRIs, labels. -/
def Statement_xml_chardata_roundtrip : Prop :=
  ∀ (s rest : Str), s.all xmlChar = true → xmlReadContent (xmlWriteText s ++ '<' :: rest) = some (s, '<' :: rest)

/-- XML attribute values: what `quoteattr` writes (tab, LF, CR as character references; the quote character chosen by
    what the value holds, `&quot;` when it holds both) is delivered unchanged after attribute-value normalisation —
    variable names, datatype IRIs, language tags. -/
def Statement_xml_attr_roundtrip : Prop :=
  ∀ (s rest : Str), s.all xmlChar = true → xmlReadAttr (quoteattr s ++ rest) = some (s, rest)

/-- `serialize(format="xml", encoding=E)`: whatever the encoding can spell (`enc`, any predicate), character data written
    by `_characters` and re-spelled by `XMLGenerator`'s `xmlcharrefreplace` error handler (`&#N;` for every character the
    encoding lacks) is delivered unchanged. -/
def Statement_xml_chardata_any_encoding : Prop :=
  ∀ (enc : Char → Bool) (s rest : Str), s.all xmlChar = true →
    xmlReadContent (xmlWriteTextEnc enc s ++ '<' :: rest) = some (s, '<' :: rest)

/-- the JSON DOCUMENT: `json.loads` as modelled — white space, `{ } [ ] : ,`, `true` / `false` / `null`, strings
    through `scanstring` — undoes `json.dumps` (default separators, `ensure_ascii=False`) on every number-free tree; hence
    rdflib's JSON writer and reader composed through the document TEXT give back every result: same variables in order,
    same rows, every cell the same term or unbound, rows in which nothing is bound included, both booleans. -/
def Statement_json_doc_roundtrip : Prop :=
  (∀ j, numFree j = true → jsonParse (jsonWrite j) = .ok j) ∧
  (∀ b, jsonDocRoundTrip (.ask b) = .ok (.ask b)) ∧
  ∀ vars rows, Aligned vars rows → (∀ r ∈ rows, rowAll langOk r = true) →
    jsonDocRoundTrip (.select vars rows) = .ok (.select vars rows)

theorem json_roundtrip : Statement_json_roundtrip :=
  ⟨ofJson_toJson_ask, fun _ _ => ofJson_toJson_select⟩

theorem xml_tree_roundtrip : Statement_xml_tree_roundtrip :=
  ⟨ofXml_toXml_ask, fun _ _ => ofXml_toXml_select⟩

/-- known finding C16-K1: XML 1.0 has no spelling for U+0001 -/
theorem xml_roundtrip_witness : ¬ Statement_xml_roundtrip := by
  intro h
  have := h.2 [['a']] [[some (.plain ['\x01'])]] ⟨by decide +kernel, by decide +kernel⟩ (by decide +kernel)
  have e : xmlRoundTrip (.select [['a']] [[some (.plain ['\x01'])]]) = .error .parse := rfl
  rw [e] at this
  cases this

/-- U+0001 and its like are the only obstacle: tables whose characters XML can carry do round-trip -/
theorem xml_roundtrip_partial :
    (∀ b, xmlRoundTrip (.ask b) = .ok (.ask b)) ∧
    ∀ vars rows, Aligned vars rows → (∀ r ∈ rows, rowAll xmlTermOk r = true) → XmlSafe vars rows →
      xmlRoundTrip (.select vars rows) = .ok (.select vars rows) := by
  refine ⟨ofXml_toXml_ask, ?_⟩
  intro vars rows h hl hs
  simp only [xmlRoundTrip, wireResult, wireStrs_of_safe hs.1, wireRows_of_safe hs.2]
  exact ofXml_toXml_select h hl

theorem xml_text_survives : Statement_xml_text_survives := fun _ => wireText_of_xmlChars

/-- regression witness for `fix: SPARQL XML result writer writes a carriage return as a character
    reference`: the previous writer turned `a\rb` into `a\nb` -/
theorem xml_old_writer_loses_cr : wireTextOld ['a', '\r', 'b'] = some ['a', '\n', 'b'] := by decide +kernel

theorem tsv_cell_roundtrip : Statement_tsv_cell_roundtrip := fun _ => scanStr_escStr

theorem tsv_reader_complete : Statement_tsv_reader_complete := fun chs _ _ => readTsv_render chs

/-- regression witness for `fix: TSV result reader keeps rows in which no variable is bound`
    (DESIGN §7.2 #20): the previous reader returned one row for this two-row document -/
theorem tsv_old_reader_drops_unbound_rows :
    readTsvOld (render [] [['a'], ['b']] [[none, none], [some (.iri ['x']), some (.iri ['y'])]])
      = .ok (.select [['a'], ['b']] [[some (.iri ['x']), some (.iri ['y'])]]) := by rfl

theorem csv_preserves : Statement_csv_preserves := by
  intro vars rows h
  refine ⟨fun c => csvConvert (csvField c), ?_, csvRoundTrip_select vars rows h⟩
  intro c
  rw [cellStr_csvConvert]
  cases c with
  | none => rfl
  | some t => cases t <;> rfl

theorem escape_table : Statement_escape_table := by
  refine ⟨by decide +kernel, ?_⟩
  intro e d
  fun_cases unescChar e <;> intro h <;> cases h
  all_goals subst_vars; decide +kernel

theorem bindings_complete : Statement_bindings_complete := by
  intro full ops
  rw [run_force_mat, run_force_mat]
  exact ⟨rfl, rfl⟩

/-- regression witness for `fix: Result.__iter__ keeps rows in which nothing is bound …`: the previous
    `__iter__` did not record an all-unbound row it pulled from the generator — one `next()` on a
    two-row result whose first row is all-unbound left `bindings` with one row -/
theorem old_iter_forgets_unbound_rows :
    ((pullOld 1 [[none], [some (.iri ['x'])]] [] []).1.force.mat) = [[some (.iri ['x'])]] := by decide +kernel

theorem bindings_complete_interleaved : Statement_bindings_complete_interleaved :=
  fun full ops => ⟨(mrun_inv ops (inv_lazy full)).force_mat, (mrun_inv ops (inv_listed full)).force_mat⟩

theorem gen_yields_prefix : Statement_gen_yields_prefix := by
  intro full ops
  obtain ⟨pre, rest, h1, h2, -⟩ := (mrun_inv ops (inv_lazy full)).pre
  exact ⟨pre, rest, h1, by simpa using h2⟩

theorem gen_yields_all_when_dry : Statement_gen_yields_all_when_dry := by
  intro full ops hnf hdry
  have h := mrun_inv ops (inv_lazy full)
  obtain ⟨pre, rest, -, h2, h3⟩ := h.pre
  have hall := h.all
  rw [hdry, List.append_nil, h3 (.inr (by simp [hnf]))] at hall
  simpa [hall] using h2

/-- not guaranteed (and false): that one iterator sees the whole table.  Two iterators advanced alternately
    over a two-row lazy result get one row each. -/
theorem interleaved_iterators_share_rows :
    ((Multi.lazy [[some (.iri ['x'])], [some (.iri ['y'])]]).run [.openIt, .openIt, .next 0, .next 1, .next 0, .next 1]).2
      = [.opened, .opened, .row [some (.iri ['x'])] true, .row [some (.iri ['y'])] true, .stop, .stop] := by decide +kernel

theorem json_text_roundtrip : Statement_json_text_roundtrip := jsonScan_jsonSpell

theorem json_py_text_roundtrip : Statement_json_py_text_roundtrip := jsonLoadsStr_pyDumpsStr

/-- non-vacuity / regression anchors of the text level: a string with a quote, a backslash, a control character, a
    line feed, U+007F, a Latin-1 and a non-BMP character, in Python's two spellings -/
example : pyDumpsStr false ['a', '"', '\\', '\x01', '\n', '\x7f', 'é', Char.ofNat 0x1F600]
    = "\"a\\\"\\\\\\u0001\\n\x7fé😀\"".toList := by decide +kernel
example : pyDumpsStr true ['a', '"', '\\', '\x01', '\n', '\x7f', 'é', Char.ofNat 0x1F600]
    = "\"a\\\"\\\\\\u0001\\n\\u007f\\u00e9\\ud83d\\ude00\"".toList := by decide +kernel
/-- a lone surrogate escape is outside the model, an unknown escape is an error -/
example : (jsonLoadsStr ['"', '\\', 'u', 'd', '8', '3', 'd', '"'] matches .error .unmodelled) = true := by decide +kernel
example : (jsonLoadsStr ['"', '\\', 'x', '4', '1', '"'] matches .error .value) = true := by decide +kernel

theorem csv_text_roundtrip : Statement_csv_text_roundtrip := csvParse_csvRender

theorem csv_text_preserves : Statement_csv_text_preserves :=
  ⟨csvTextRoundTrip_eq, fun vars rows h => by rw [csvTextRoundTrip_eq]; exact csv_preserves vars rows h⟩

/-- the writer on a record with a delimiter, a quote, a line break, an empty field; the record of one empty field; the
    empty record -/
example : csvWrite [[['a', ','], ['"'], ['\r', '\n'], []], [[]], []]
    = "\"a,\",\"\"\"\",\"\r\n\",\r\n\"\"\r\n\r\n".toList := by decide +kernel

theorem xml_chardata_roundtrip : Statement_xml_chardata_roundtrip :=
  fun s rest h => xmlWriteTextEnc_true s ▸ readText_writeTextEnc (fun _ => true) s h 0 rest

theorem xml_attr_roundtrip : Statement_xml_attr_roundtrip := fun s rest h => xmlReadAttr_quoteattr s h rest

/-- the three quoting branches of `quoteattr` -/
example : quoteattr ['a', '<', '\n'] = "\"a&lt;&#10;\"".toList := by decide +kernel
example : quoteattr ['a', '"'] = "'a\"'".toList := by decide +kernel
example : quoteattr ['\'', '"'] = "\"'&quot;\"".toList := by decide +kernel

theorem xml_chardata_any_encoding : Statement_xml_chardata_any_encoding :=
  fun enc s rest h => readText_writeTextEnc enc s h 0 rest

/-- known finding C16-K1 at the text level: the writer has no spelling for U+0001, the document is not well-formed -/
theorem xml_chardata_witness : xmlReadContent (xmlWriteText ['\x01'] ++ ['<']) = none := by decide +kernel

/-- without the `&#13;` of `_characters` a carriage return comes back as a line feed (regression anchor of C16-F3) -/
theorem xml_chardata_raw_cr : xmlReadContent ['a', '\r', 'b', '<'] = some (['a', '\n', 'b'], ['<']) := by decide +kernel

theorem json_doc_roundtrip : Statement_json_doc_roundtrip :=
  ⟨jsonParse_jsonWrite,
   fun b => by rw [jsonDocRoundTrip_eq]; exact ofJson_toJson_ask b,
   fun _ _ h hl => by rw [jsonDocRoundTrip_eq]; exact ofJson_toJson_select h hl⟩

/-- the document of a one-row result, as `json.dumps` writes it -/
example : jsonWrite (toJson (.select [['a']] [[some (.lang ['x', '"'] ['e', 'n'])]]))
    = "{\"results\": {\"bindings\": [{\"a\": {\"type\": \"literal\", \"value\": \"x\\\"\", \"xml:lang\": \"en\"}}]}, \"head\": {\"vars\": [\"a\"]}}".toList := by
  decide +kernel
/-- no trailing comma, no number -/
example : (jsonParse "[true,]".toList matches .error .value) = true := by decide +kernel
example : (jsonParse "[1]".toList matches .error .unmodelled) = true := by decide +kernel

/-! ### Non-vacuity: the hypotheses are met by concrete, non-trivial tables -/

/-- two variables; a row with a tagged literal full of specials and an unbound cell, a row in which
    nothing is bound, a row with a typed literal and a blank node -/
def sampleRows : List Row :=
  [[some (.lang ['a', '\t', '"', '\\', '\n', '\r', '\''] ['e', 'n', '-', 'U', 'S']), none],
   [none, none],
   [some (.typed ['-', '1', '.', '5'] xsdDecimal), some (.bnode ['b', '.', '1'])]]

example : Aligned [['x'], ['y']] sampleRows := ⟨by decide +kernel, by decide +kernel⟩
example : ∀ r ∈ sampleRows, rowAll langOk r = true := by decide +kernel
example : ∀ r ∈ sampleRows, rowAll xmlTermOk r = true := by decide +kernel
example : XmlSafe [['x'], ['y']] sampleRows := ⟨by decide +kernel, by decide +kernel⟩
example : TsvOk [['x'], ['y']] sampleRows := ⟨by decide +kernel, by decide +kernel, by decide +kernel⟩
/-- the bare-token choice is really available for the sample's decimal -/
example : shortOk ['-', '1', '.', '5'] xsdDecimal = true := by decide +kernel
/-- a zero-variable table with two solutions is a `TsvOk` table too -/
example : TsvOk [] [[], []] := ⟨by decide +kernel, by decide +kernel, by decide +kernel⟩

end RV.C16

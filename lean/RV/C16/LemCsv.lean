import RV.C16.Text
import RV.C16.LemTable
/-
  C16 — CSV.  Field-table level: the field written for a cell is the string value of the cell read back.
  Text level: Python's `csv.reader` state machine (over the lines of a `newline=""` source) undoes `csv.writer` — and
  every RFC 4180 rendering (fields quoted without need, bare LF line ends) — for every field table.
-/
namespace RV.C16

/-- `str(term)` of a cell; an unbound cell is the empty field -/
def cellStr : Cell → Str
  | none => []
  | some t => strOf t

theorem cellStr_csvConvert (f : Str) : cellStr (csvConvert f) = f := by
  unfold csvConvert
  split
  · rfl
  · rfl
  · split <;> rfl

theorem csvRoundTrip_select (vars : List Str) (rows : List Row) (h : ∀ r ∈ rows, r.length = vars.length) :
    csvRoundTrip (.select vars rows)
      = .ok (.select vars (rows.map (fun r => r.map (fun c => csvConvert (csvField c))))) := by
  simp only [csvRoundTrip, toCsv, ofCsv, List.map_map]
  congr 2
  apply List.map_congr_left
  intro r hr
  have hl := h r hr
  simp only [Function.comp]
  rw [← hl, alignCells_self, List.map_map]
  have := alignCells_self (r.map (csvConvert ∘ csvField))
  rwa [List.length_map] at this

/-- One step of `parse_process_char`.  `hc` is decided when `c` is a literal; where `c` is a variable it has to be passed
    (last), else the `decide` fails: so also in `Feeds.cons` and `csvRun_startRecord`. -/
theorem csvRun_char {m m' : CsvM} {c : Char} (h : csvChar m c = .ok m') (mid : Bool) (rest : Str)
    (hc : c ≠ '\r' ∧ c ≠ '\n' := by decide) :
    csvRun m mid (c :: rest) = csvRun m' true rest := by
  rw [csvRun, h]; simp [hc.1, hc.2]

/-- `Feeds m w m'`: the characters `w`, with more text behind them, take the reader from `m` to `m'` without completing a
    record.  (`csvRun` looks at its flag `mid` only when the text is over, so it does not matter here.) -/
def Feeds (m : CsvM) (w : Str) (m' : CsvM) : Prop :=
  ∀ mid tail, tail ≠ [] → csvRun m mid (w ++ tail) = csvRun m' true tail

namespace Feeds

theorem nil (m : CsvM) : Feeds m [] m
  | _, [], h => absurd rfl h
  | _, _ :: _, _ => by rw [List.nil_append, csvRun, csvRun]

theorem cons {m m' m'' : CsvM} {c : Char} {w : Str} (h : csvChar m c = .ok m') (hw : Feeds m' w m'')
    (hc : c ≠ '\r' ∧ c ≠ '\n' := by decide) : Feeds m (c :: w) m'' :=
  fun mid tail ht => by rw [List.cons_append, csvRun_char h (hc := hc)]; exact hw true tail ht

/-- inside a quoted field every character but the quote is kept, a line end too: the record goes on in the next line -/
theorem consQ {c : Char} (hc : c ≠ '"') {fld : Str} {fs : List Str} {w : Str} {m : CsvM}
    (hw : Feeds ⟨.inQuoted, fld ++ [c], fs⟩ w m) : Feeds ⟨.inQuoted, fld, fs⟩ (c :: w) m := by
  intro mid tail ht
  rw [List.cons_append, csvRun]
  simp only [csvChar, hc, if_false, CsvM.add]
  split
  · -- `c` ends a line: `EOL` leaves IN_QUOTED_FIELD alone
    simp only [csvEolStep, reduceCtorEq, if_false]
    rw [← hw false tail ht]
  · exact hw true tail ht

end Feeds

theorem feeds_quoteBody (f fld : Str) (fs : List Str) :
    Feeds ⟨.inQuoted, fld, fs⟩ (csvQuoteBody f ++ ['"']) ⟨.quoteInQuoted, fld ++ f, fs⟩ := by
  induction f generalizing fld with
  | nil => rw [List.append_nil]; exact .cons rfl (.nil _)
  | cons c cs ih =>
    rw [List.append_cons fld c cs]
    by_cases hc : c = '"'
    · subst hc; exact .cons rfl (.cons rfl (ih _))
    · rw [csvQuoteBody, if_neg hc]; exact .consQ hc (ih _)

theorem not_special {c : Char} (h : csvSpecial c = false) : c ≠ ',' ∧ c ≠ '"' ∧ c ≠ '\r' ∧ c ≠ '\n' := by
  refine ⟨?_, ?_, ?_, ?_⟩ <;> (intro e; subst e; revert h; decide)

theorem feeds_plainChar {c : Char} (h : csvSpecial c = false) {st : CsvSt} (hst : st = .startField ∨ st = .inField)
    {fld : Str} {fs : List Str} {w : Str} {m : CsvM} (hw : Feeds ⟨.inField, fld ++ [c], fs⟩ w m) :
    Feeds ⟨st, fld, fs⟩ (c :: w) m := by
  obtain ⟨h1, h2, hc⟩ := not_special h
  rcases hst with rfl | rfl <;>
    exact .cons (by simp [csvChar, csvStartField, h1, h2, hc.1, hc.2, CsvM.add]) hw hc

theorem feeds_plainBody (f fld : Str) (fs : List Str) (h : f.any csvSpecial = false) :
    Feeds ⟨.inField, fld, fs⟩ f ⟨.inField, fld ++ f, fs⟩ := by
  induction f generalizing fld with
  | nil => rw [List.append_nil]; exact .nil _
  | cons c cs ih =>
    have h' : csvSpecial c = false ∧ cs.any csvSpecial = false := by simpa using h
    rw [List.append_cons fld c cs]
    exact feeds_plainChar h'.1 (.inr rfl) (ih _ h'.2)

/-- the machine just after the characters of a field `f` (the record so far being `fs`) -/
inductive After : Str → List Str → CsvM → Prop
  | quoted (f fs) : After f fs ⟨.quoteInQuoted, f, fs⟩
  | plain (f fs) : After f fs ⟨.inField, f, fs⟩
  | empty (fs) : After [] fs ⟨.startField, [], fs⟩

theorem feeds_field (q : Bool) (f : Str) (fs : List Str) :
    ∃ m', After f fs m' ∧ Feeds ⟨.startField, [], fs⟩ (csvWriteField q f) m' := by
  unfold csvWriteField
  split
  · exact ⟨_, .quoted f fs, .cons rfl (feeds_quoteBody f [] fs)⟩
  · next hq =>
    cases f with
    | nil => exact ⟨_, .empty fs, .nil _⟩
    | cons c cs =>
      have h' : q = false ∧ csvSpecial c = false ∧ cs.any csvSpecial = false := by simpa using hq
      exact ⟨_, .plain _ fs, feeds_plainChar (fld := []) h'.2.1 (.inl rfl) (feeds_plainBody cs [c] fs h'.2.2)⟩

theorem csvRun_comma {f : Str} {fs : List Str} {m : CsvM} (h : After f fs m) (mid : Bool) (tail : Str) :
    csvRun m mid (',' :: tail) = csvRun ⟨.startField, [], fs ++ [f]⟩ true tail := by
  cases h <;> exact csvRun_char rfl mid tail

/-- The line end after a field completes the record: in each of the three states CR or LF saves the field and goes to
    EAT_CRNL, which swallows the LF of CR LF; `EOL` then finds the record complete. -/
theorem csvRun_eol {f : Str} {fs : List Str} {m : CsvM} (h : After f fs m) (lf mid : Bool) (rest : Str) :
    csvRun m mid (csvEol lf ++ rest) = consRec (fs ++ [f]) (csvRun csvFresh false rest) := by
  cases lf <;> cases h <;> simp +decide [csvEol, csvRun, csvChar, csvStartField, CsvM.save, csvEolStep, nextIsLF]

theorem csvRun_fields (lf : Bool) (rest : Str) (r : List Str) (f : Str) (fs : List Str) (qs : List Bool) (mid : Bool) :
    csvRun ⟨.startField, [], fs⟩ mid (csvRenderFields qs (f :: r) ++ (csvEol lf ++ rest))
      = consRec (fs ++ f :: r) (csvRun csvFresh false rest) := by
  induction r generalizing f fs qs mid with
  | nil =>
    obtain ⟨m', ha, e⟩ := feeds_field (qs.headD false) f fs
    rw [csvRenderFields, e mid _ (by cases lf <;> simp [csvEol]), csvRun_eol ha]
  | cons g r' ih =>
    obtain ⟨m', ha, e⟩ := feeds_field (qs.headD false) f fs
    rw [csvRenderFields, List.append_assoc, e mid _ (by simp), List.cons_append, csvRun_comma ha, ih, List.append_assoc]
    rfl

/-- START_RECORD falls through to START_FIELD on every character that does not end a line -/
theorem csvRun_startRecord {c : Char} (mid : Bool) (rest : Str) (hc : c ≠ '\r' ∧ c ≠ '\n' := by decide) :
    csvRun csvFresh mid (c :: rest) = csvRun ⟨.startField, [], []⟩ mid (c :: rest) := by
  rw [csvRun, csvRun]; simp [csvFresh, csvChar, hc.1, hc.2, csvStartField, CsvM.save, CsvM.add]

/-- the first field of a record may be read from START_FIELD, unless it is written as nothing and a line end follows -/
theorem csvRun_firstField {q : Bool} {f x : Str} (mid : Bool) (hx : f = [] → ∃ t, x = ',' :: t) :
    csvRun csvFresh mid (csvWriteField q f ++ x) = csvRun ⟨.startField, [], []⟩ mid (csvWriteField q f ++ x) := by
  unfold csvWriteField
  split
  · exact csvRun_startRecord mid _
  · next hq =>
    cases f with
    | nil => obtain ⟨t, rfl⟩ := hx rfl; exact csvRun_startRecord mid t
    | cons c cs =>
      have h' : q = false ∧ csvSpecial c = false ∧ cs.any csvSpecial = false := by simpa using hq
      exact csvRun_startRecord mid _ (not_special h'.2.1).2.2

theorem csvRun_row (qs : List Bool) (lf : Bool) (row : List Str) (rest : Str) :
    csvRun csvFresh false (csvRenderRow qs lf row ++ rest) = consRec row (csvRun csvFresh false rest) := by
  unfold csvRenderRow
  split
  · -- the record of one empty field: `""`
    have key := csvRun_fields lf rest (r := []) (f := []) (fs := []) (qs := [true]) false
    exact (csvRun_startRecord (c := '"') false _).trans (by simpa [csvRenderFields, csvWriteField, csvQuoteBody] using key)
  · next hne =>
    cases row with
    | nil => cases lf <;> simp +decide [csvRenderFields, csvEol, csvRun, csvChar, csvEolStep, csvFresh, nextIsLF]
    | cons f r =>
      -- the right side is what `csvRun_fields` gives from START_FIELD; START_RECORD falls through to it
      have key := csvRun_fields lf rest r f (fs := []) qs false
      rw [List.nil_append] at key
      rw [List.append_assoc, ← key]
      cases r with
      | nil => exact csvRun_firstField false fun e => absurd (e ▸ rfl) hne
      | cons g r' =>
        rw [csvRenderFields, List.append_assoc]
        exact csvRun_firstField false fun _ => ⟨_, rfl⟩

theorem csvParse_csvRender (qss : List (List Bool)) (lf : Bool) (t : List (List Str)) :
    csvParse (csvRender qss lf t) = .ok t := by
  unfold csvParse
  induction t generalizing qss with
  | nil => simp [csvRender, csvRun, csvFresh]
  | cons r rs ih => simp only [csvRender]; rw [csvRun_row, ih]; rfl

theorem csvTextRoundTrip_eq (r : Result) : csvTextRoundTrip r = csvRoundTrip r := by
  unfold csvTextRoundTrip csvRoundTrip
  cases toCsv r with
  | error e => rfl
  | ok t => simp only [csvWrite, csvParse_csvRender]

end RV.C16

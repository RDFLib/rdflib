import RV.C16.LemTable
/-
  C16 — the XML round trip at tree level and through the Piece-level text model `wireText`.
-/
namespace RV.C16

/-- a term the XML form can carry at tree level: legal language tag, non-empty IRI / label / datatype -/
def xmlTermOk : Term → Bool
  | .iri s => !s.isEmpty
  | .bnode s => !s.isEmpty
  | .plain _ => true
  | .typed _ d => !d.isEmpty
  | .lang _ l => validLang l

theorem truthy_cons (c : Char) (cs : Str) : truthy (some (c :: cs)) = some (c :: cs) := rfl

/-- the element and attribute names the reader has to tell apart (as met ≠ tested for) -/
theorem tag_facts :
    tUri ≠ tLiteral ∧ tBnode ≠ tLiteral ∧ tBnode ≠ tUri ∧ aDatatype ≠ aXmlLang
    ∧ tHead ≠ tBoolean ∧ tResults ≠ tBoolean ∧ tHead ≠ tResults ∧ tResults ≠ tHead := by
  decide +kernel

attribute [local simp] alookup_self alookup_ne alookup.eq_1 tag_facts Xml.tag Xml.attrs Xml.text Xml.kids

theorem parse_termToXml {t : Term} (h : xmlTermOk t = true) : parseXmlTerm (termToXml t) = .ok t := by
  cases t with
  | plain s => simp [termToXml, parseXmlTerm, truthy]
  | lang s l =>
    cases l with
    | nil => cases h
    | cons c cs => simp [termToXml, parseXmlTerm, truthy, mkLiteral_lang h]
  | iri s | bnode s | typed _ s =>
    cases s with
    | nil => cases h
    | cons c cs => simp [termToXml, parseXmlTerm, truthy]

theorem parseXmlBindings_bindingToXml (vars : List Str) (row : Row) (h : rowAll xmlTermOk row = true) :
    parseXmlBindings (bindingToXml vars row) = .ok (bindingPairs vars row) := by
  fun_induction bindingToXml vars row with
  | case1 v vs t cs ih =>
    have h' := rowAll_some h
    simp [bindingPairs, parseXmlBindings, parse_termToXml h'.1, ih h'.2]
  | case2 v vs cs ih => exact ih h
  | case3 => simp [bindingPairs, parseXmlBindings]

theorem ofXml_toXml_select {vars : List Str} {rows : List Row} (h : Aligned vars rows)
    (hl : ∀ r ∈ rows, rowAll xmlTermOk r = true) :
    ofXml (toXml (.select vars rows)) = .ok (.select vars rows) := by
  have hrows : parseXmlResults (rows.map (fun r => .node tResult [] [] (bindingToXml vars r)))
      = .ok (rows.map (bindingPairs vars)) := by
    clear h
    induction rows with
    | nil => rfl
    | cons r rs ih =>
      obtain ⟨hr, hrs⟩ := List.forall_mem_cons.mp hl
      simp [parseXmlResults, parseXmlBindings_bindingToXml vars r hr, ih hrs]
  have hvars (vs : List Str) : headVars (vs.map (fun v => Xml.node tVariable [(aName, v)] [] [])) = .ok vs := by
    induction vs with
    | nil => rfl
    | cons v vs ih => simp [headVars, ih]
  simp [toXml, ofXml, headXml, findTag, allHeadVars, hvars, hrows, map_align h]

theorem ofXml_toXml_ask (b : Bool) : ofXml (toXml (.ask b)) = .ok (.ask b) := by
  cases b <;> simp [toXml, ofXml, headXml, findTag] <;> rfl

theorem wireText_of_xmlChars {s : Str} (h : s.all xmlChar = true) : wireText s = some s := by
  unfold wireText
  induction s with
  | nil => rfl
  | cons c cs ih =>
    have hc : xmlChar c = true ∧ cs.all xmlChar = true := by simpa using h
    by_cases e : c = '\r'
    · subst e
      simp [writeChars, readPieces, ih hc.2]
      decide
    · simp [writeChars, readPieces, e, hc.1, ih hc.2]

theorem wireAttr_of_xmlChars {s : Str} (h : s.all xmlChar = true) : wireAttr s = some s := by
  simp [wireAttr, h]

def xmlSafeTerm : Term → Bool
  | .iri s => s.all xmlChar
  | .bnode s => s.all xmlChar
  | .plain s => s.all xmlChar
  | .typed s d => s.all xmlChar && d.all xmlChar
  | .lang s l => s.all xmlChar && l.all xmlChar

theorem wireTerm_of_safe {t : Term} (h : xmlSafeTerm t = true) : wireTerm t = some t := by
  cases t with
  | typed s d | lang s d =>
    have h' : s.all xmlChar = true ∧ d.all xmlChar = true := by simpa [xmlSafeTerm] using h
    simp [wireTerm, wireText_of_xmlChars h'.1, wireAttr_of_xmlChars h'.2]
  | _ => simp [wireTerm, wireText_of_xmlChars h]

theorem wireRows_of_safe {rows : List Row} (h : ∀ r ∈ rows, rowAll xmlSafeTerm r = true) :
    wireRows rows = some rows := by
  have hrow (r : Row) (h : rowAll xmlSafeTerm r = true) : wireRow r = some r := by
    fun_induction wireRow r <;> simp_all [rowAll, wireTerm_of_safe]
  induction rows with
  | nil => rfl
  | cons r rs ih =>
    obtain ⟨hr, hrs⟩ := List.forall_mem_cons.mp h
    simp [wireRows, hrow r hr, ih hrs]

theorem wireStrs_of_safe {vs : List Str} (h : ∀ v ∈ vs, v.all xmlChar = true) : wireStrs vs = some vs := by
  induction vs with
  | nil => rfl
  | cons v vs ih =>
    obtain ⟨hv, hvs⟩ := List.forall_mem_cons.mp h
    simp [wireStrs, wireAttr_of_xmlChars hv, ih hvs]

end RV.C16

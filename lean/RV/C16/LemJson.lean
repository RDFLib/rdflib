import RV.C16.LemTable
/-
  C16 — the JSON round trip at tree level.
-/
namespace RV.C16

theorem key_facts :
    kValue ≠ kType ∧ kDatatype ≠ kType ∧ kDatatype ≠ kValue ∧ kXmlLang ≠ kType ∧ kXmlLang ≠ kValue
    ∧ kXmlLang ≠ kDatatype ∧ kDatatype ≠ kXmlLang
    ∧ kLiteral ≠ kUri ∧ kBnode ≠ kUri ∧ kBnode ≠ kLiteral ∧ kBnode ≠ kTypedLiteral
    ∧ kHead ≠ kBoolean ∧ kResults ≠ kBoolean ∧ kHead ≠ kResults ∧ kResults ≠ kHead ∧ kBoolean ≠ kHead := by
  decide +kernel

-- `key_facts` lists looked-up ≠ stored for `alookup_ne`, and stored ≠ looked-up for the top level, where `alookup` is unfolded
attribute [local simp] alookup_self alookup_ne alookup.eq_1 key_facts

theorem parse_termToJson {t : Term} (h : langOk t = true) : parseJsonTerm (termToJson t) = .ok t := by
  cases t with
  | lang s l => simp [termToJson, parseJsonTerm, jStr, jOptStr, mkLiteral_lang h]
  | _ => simp [termToJson, parseJsonTerm, jStr, jOptStr, Except.map]

theorem parseJsonBinding_bindingToJson (vars : List Str) (row : Row) (h : rowAll langOk row = true) :
    parseJsonBinding (bindingToJson vars row) = .ok (bindingPairs vars row) := by
  fun_induction bindingToJson vars row with
  | case1 v vs t cs ih =>
    have h' := rowAll_some h
    simp [bindingPairs, parseJsonBinding, parse_termToJson h'.1, ih h'.2]
  | case2 v vs cs ih => exact ih h
  | case3 => simp [bindingPairs, parseJsonBinding]

theorem ofJson_toJson_select {vars : List Str} {rows : List Row} (h : Aligned vars rows)
    (hl : ∀ r ∈ rows, rowAll langOk r = true) :
    ofJson (toJson (.select vars rows)) = .ok (.select vars rows) := by
  have hrows : parseJsonRows (rows.map (fun r => .obj (bindingToJson vars r))) = .ok (rows.map (bindingPairs vars)) := by
    clear h
    induction rows with
    | nil => rfl
    | cons r rs ih =>
      obtain ⟨hr, hrs⟩ := List.forall_mem_cons.mp hl
      simp [parseJsonRows, parseJsonBinding_bindingToJson vars r hr, ih hrs]
  have hvars (vs : List Str) : jStrs (vs.map .str) = .ok vs := by
    induction vs with
    | nil => rfl
    | cons v vs ih => simp [jStrs, jStr, ih]
  simp [toJson, ofJson, alookup, hrows, hvars, map_align h]

theorem ofJson_toJson_ask (b : Bool) : ofJson (toJson (.ask b)) = .ok (.ask b) := by
  simp [toJson, ofJson]

end RV.C16

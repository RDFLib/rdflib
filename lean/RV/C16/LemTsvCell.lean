import RV.C16.LemSplit
import RV.C16.LemTsvStr
import RV.C16.LemTable
/-
  C16 — one TSV cell: the reader gives back the term under every rendering choice (bare numeric tokens: the
  first-match classification `DOUBLE | DECIMAL | INTEGER` finds the datatype whose production the token matches),
  and a rendered cell contains neither a tab nor a line feed.
-/
namespace RV.C16
open Spec.Tsv

/-- a term with a TSV spelling: IRIs (also datatypes) within IRIREF, labels within BLANK_NODE_LABEL,
    language tags within LANGTAG -/
def tsvTermOk : Term → Bool
  | .iri s => s.all iriChar
  | .bnode l => validLabel l
  | .plain _ => true
  | .typed _ d => d.all iriChar
  | .lang _ l => validLang l

theorem all_of_nonemptyAll {p : Char → Bool} {s : Str} (h : nonemptyAll p s = true) : s.all p = true := by
  simp only [nonemptyAll, Bool.and_eq_true] at h; exact h.2

/-- the characters of bare numeric tokens -/
def bareChar (c : Char) : Bool := isDigit c || c == '.' || isExpChar c || c == '+' || c == '-'

theorem isDigit_bare (c : Char) (h : isDigit c = true) : bareChar c = true := by simp [bareChar, h]

theorem dropWhile_of_all {p : Char → Bool} {s : Str} (h : s.all p = true) : s.dropWhile p = [] := by
  simpa using List.dropWhile_append_of_pos (l₂ := []) (List.all_eq_true.mp h)

theorem isDouble_false_of_class {p : Char → Bool} (hp : p 'e' = false ∧ p 'E' = false) {u : Str}
    (h : u.all p = true) : isDouble u = false := by
  -- no exponent character: `dropWhile` leaves nothing for `isExponent` to accept
  have := dropWhile_of_all (all_mono (q := fun c => !isExpChar c) (fun c hc => by
    simp [isExpChar, ne_of_class hc hp.1, ne_of_class hc hp.2]) h)
  simp [isDouble, this, isExponent]

theorem isDecimal_chars {u : Str} (h : isDecimal u = true) : u.all (fun c => isDigit c || c == '.') = true := by
  refine all_of_splitOn '.' rfl fun x hx => ?_
  unfold isDecimal at h
  split at h
  · next a b heq =>
    rw [heq] at hx
    simp only [Bool.and_eq_true] at h
    simp only [List.mem_cons, List.not_mem_nil, or_false] at hx
    rcases hx with rfl | rfl
    · exact all_mono (fun c hc => by simp [hc]) h.1
    · exact all_mono (fun c hc => by simp [hc]) (all_of_nonemptyAll h.2)
  · cases h

theorem classify_of_numOk {u d : Str} (h : numOk u d = true) : classifyUnsigned u = some d := by
  simp only [numOk, Bool.or_eq_true, Bool.and_eq_true, beq_iff_eq] at h
  rcases h with (⟨rfl, hi⟩ | ⟨rfl, hd⟩) | ⟨rfl, hb⟩
  · have hn : '.' ∉ u := not_mem_of_all rfl (all_of_nonemptyAll hi)
    simp [classifyUnsigned, isDouble_false_of_class (p := isDigit) ⟨rfl, rfl⟩ (all_of_nonemptyAll hi), isDecimal,
      splitOn_of_not_mem hn, hi]
  · simp [classifyUnsigned, isDouble_false_of_class ⟨rfl, rfl⟩ (isDecimal_chars hd), hd]
  · simp [classifyUnsigned, hb]

theorem isExponent_bare : ∀ {e : Str}, isExponent e = true → e.all bareChar = true
  | [], h => by cases h
  | [c], h => by simp [isExponent] at h
  | c :: s :: r', h => by
    simp only [isExponent, Bool.and_eq_true] at h
    obtain ⟨hc, hr⟩ := h
    have hcb : bareChar c = true := by simp [bareChar, hc]
    split at hr
    · next hs =>
      have hsb : bareChar s = true := by
        simp only [Bool.or_eq_true, beq_iff_eq] at hs; rcases hs with rfl | rfl <;> rfl
      simp only [List.all_cons, hcb, hsb, all_mono isDigit_bare (all_of_nonemptyAll hr), Bool.and_self]
    · simp only [List.all_cons, hcb, Bool.true_and]
      exact all_mono isDigit_bare (all_of_nonemptyAll hr)

theorem isMantissa_bare {m : Str} (h : isMantissa m = true) : m.all bareChar = true := by
  refine all_of_splitOn '.' rfl fun x hx => all_mono isDigit_bare ?_
  unfold isMantissa at h
  split at h
  · next a heq =>
    rw [heq] at hx
    simp only [List.mem_cons, List.not_mem_nil, or_false] at hx
    exact hx ▸ all_of_nonemptyAll h
  · next a b heq =>
    rw [heq] at hx
    simp only [List.mem_cons, List.not_mem_nil, or_false] at hx
    simp only [Bool.or_eq_true, Bool.and_eq_true] at h
    rcases hx with rfl | rfl
    · rcases h with ⟨ha, _⟩ | ⟨ha, _⟩
      · exact all_of_nonemptyAll ha
      · simp only [List.isEmpty_iff] at ha; subst ha; rfl
    · rcases h with ⟨_, hb⟩ | ⟨_, hb⟩
      · exact hb
      · exact all_of_nonemptyAll hb
  · cases h

theorem numOk_bare {u d : Str} (h : numOk u d = true) : u.all bareChar = true := by
  simp only [numOk, Bool.or_eq_true, Bool.and_eq_true, beq_iff_eq] at h
  rcases h with (⟨_, hi⟩ | ⟨_, hd⟩) | ⟨_, hb⟩
  · exact all_mono isDigit_bare (all_of_nonemptyAll hi)
  · exact all_mono (fun c hc => by simpa [bareChar] using Or.inl (Or.inl (Or.inl hc))) (isDecimal_chars hd)
  · simp only [isDouble, Bool.and_eq_true] at hb
    rw [← List.takeWhile_append_dropWhile (p := fun c => !isExpChar c) (l := u), List.all_append,
      isMantissa_bare hb.1, isExponent_bare hb.2]; rfl

theorem quote_cases (ch : CellChoice) : quote ch = '"' ∨ quote ch = '\'' := by
  unfold quote; split <;> simp

theorem readCell_bare {c : Char} {u : Str} (h : bareChar c = true) :
    readCell (c :: u) = match readNumeric (c :: u) with | some t => .ok (some t) | none => .error .parse := by
  have hne (a : Char) (ha : bareChar a = false) : c ≠ a := ne_of_class h ha
  -- `c` opens no literal, IRI or label and begins neither `true` nor `false`
  simp only [readCell, readBare, show sTrue = ['t', 'r', 'u', 'e'] by decide +kernel,
    show sFalse = ['f', 'a', 'l', 's', 'e'] by decide +kernel, List.cons.injEq, hne '"' rfl, hne '\'' rfl, hne '<' rfl,
    hne '_' rfl, hne 't' rfl, hne 'f' rfl, false_and, or_self, if_false]
  cases readNumeric (c :: u) <;> rfl

theorem shortOk_cases {s d : Str} (h : shortOk s d = true) :
    (d = xsdBoolean ∧ (s = sTrue ∨ s = sFalse)) ∨ (∃ u, s = '-' :: u ∧ numOk u d = true) ∨
    (∃ c u, s = c :: u ∧ c ≠ '+' ∧ c ≠ '-' ∧ numOk s d = true) := by
  simp only [shortOk, Bool.or_eq_true, Bool.and_eq_true, beq_iff_eq] at h
  rcases h with h | h
  · exact .inl h
  · cases s with
    | nil => cases h
    | cons c u =>
      simp only at h
      by_cases h1 : c = '+'
      · rw [if_pos h1] at h; cases h
      rw [if_neg h1] at h
      by_cases h2 : c = '-'
      · rw [if_pos h2] at h; exact .inr (.inl ⟨u, by rw [h2], h⟩)
      · rw [if_neg h2] at h; exact .inr (.inr ⟨c, u, rfl, h1, h2, h⟩)

theorem readCell_short {s d : Str} (h : shortOk s d = true) : readCell s = .ok (some (.typed s d)) := by
  rcases shortOk_cases h with ⟨rfl, rfl | rfl⟩ | ⟨u, rfl, hn⟩ | ⟨c, u, rfl, h1, h2, hn⟩
  · rfl
  · rfl
  · rw [readCell_bare rfl]
    simp +decide [readNumeric, classify_of_numOk hn]
  · have hb := numOk_bare hn
    simp only [List.all_cons, Bool.and_eq_true] at hb
    rw [readCell_bare hb.1]
    simp [readNumeric, h1, h2, classify_of_numOk hn]

theorem readCell_renderCell (ch : CellChoice) {t : Term} (h : tsvTermOk t = true) :
    readCell (renderCell ch (some t)) = .ok (some t) := by
  have hq := quote_cases ch
  cases t with
  | iri s => simp +decide [renderCell, readCell, scanIri_append h]
  | bnode l => simp +decide [renderCell, readCell, show validLabel l = true from h]
  | plain s => simp [renderCell, quoted, readCell, hq, readLiteral, scanStr_escStr hq, Except.map]
  | lang s l =>
    have hl : validLang l = true := h
    simp [renderCell, quoted, readCell, hq, readLiteral, scanStr_escStr hq, Except.map, hl, mkLiteral_lang hl]
  | typed s d =>
    simp only [renderCell]
    split
    · next hs => exact readCell_short (by simp only [Bool.and_eq_true] at hs; exact hs.2)
    · simp [quoted, readCell, hq, readLiteral, scanStr_escStr hq, Except.map,
        scanIri_append h]

/-- neither tab nor line feed, which end cells and lines -/
def clean (c : Char) : Bool := c != '\t' && c != '\n'

theorem all_clean_of (p : Char → Bool) {s : Str} (h : s.all p = true)
    (hp : p '\t' = false ∧ p '\n' = false := by decide) :
    s.all clean = true :=
  all_mono (fun c hc => by simp [clean, ne_of_class hc hp.1, ne_of_class hc hp.2]) h

theorem spelt_clean {q c : Char} {w : Str} (h : Spelt q c w) : w.all clean = true := by
  cases h with
  | uchar lower =>
    have hd (n : Nat) : clean (hexDigit lower (n % 16)) = true :=
      (by cases lower <;> decide +kernel : ∀ d : Fin 16, clean (hexDigit lower d) = true) ⟨_, Nat.mod_lt _ (by decide)⟩
    have h4 (n : Nat) : (hex4 lower n).all clean = true := by
      simp only [hex4, List.all_cons, hd, List.all_nil, Bool.and_self]
    unfold uchar; split <;> simp [h4, clean]
  | echar e he =>
    have h1 : e ≠ '\t' := by rintro rfl; cases he
    have h2 : e ≠ '\n' := by rintro rfl; cases he
    simp [clean, h1, h2]
  | raw _ _ h3 h4 _ => simp [clean, h3, h4]

theorem escStr_clean {q : Char} (hq : q = '"' ∨ q = '\'') (ks : List Nat) (s : Str) :
    (escStr q ks s).all clean = true := by
  induction s generalizing ks with
  | nil => rfl
  | cons c cs ih => simp only [escStr, List.all_append, spelt_clean (escChar_spelt hq _ c), ih, Bool.and_self]

theorem quoted_clean (ch : CellChoice) (s : Str) : (quoted ch s).all clean = true := by
  have hq := quote_cases ch
  have hqc : clean (quote ch) = true := by rcases hq with h | h <;> rw [h] <;> rfl
  simp [quoted, escStr_clean hq, hqc]

theorem validLang_clean {l : Str} (h : validLang l = true) : l.all clean = true := by
  refine all_clean_of (fun c => isAlnum c || c == '-') (all_of_splitOn '-' rfl fun x hx => ?_)
  unfold validLang at h
  split at h
  · cases h
  · next hd tl heq =>
    rw [heq] at hx
    simp only [Bool.and_eq_true] at h
    rcases List.mem_cons.mp hx with rfl | hx
    · exact all_mono (fun c hc => by simp [isAlnum, hc]) (all_of_nonemptyAll h.1)
    · exact all_mono (fun c hc => by simp [hc]) (all_of_nonemptyAll (List.all_eq_true.mp h.2 x hx))

theorem validLabel_clean {l : Str} (h : validLabel l = true) : l.all clean = true := by
  cases l with
  | nil => rfl
  | cons a r =>
    simp only [validLabel, Bool.and_eq_true] at h
    refine all_clean_of (fun x => pnChars x || x == '.') ?_
    have ha : pnChars a = true := by rcases Bool.or_eq_true _ _ |>.mp h.1.1 with h | h <;> simp [pnChars, varTail, h]
    simp only [List.all_cons, ha, Bool.true_or, h.1.2, Bool.and_self]

theorem shortOk_clean {s d : Str} (h : shortOk s d = true) : s.all clean = true := by
  rcases shortOk_cases h with ⟨-, rfl | rfl⟩ | ⟨u, rfl, hn⟩ | ⟨c, u, rfl, -, -, hn⟩
  · decide +kernel
  · decide +kernel
  · exact all_clean_of bareChar (by simp only [List.all_cons, numOk_bare hn]; rfl)
  · exact all_clean_of bareChar (numOk_bare hn)

theorem renderCell_clean (ch : CellChoice) {t : Term} (ht : tsvTermOk t = true) :
    (renderCell ch (some t)).all clean = true := by
  cases t with
  | iri s => simp [renderCell, all_clean_of iriChar ht, clean]
  | bnode l => simp [renderCell, validLabel_clean ht, clean]
  | plain s => exact quoted_clean ch s
  | lang s l => simp [renderCell, quoted_clean, validLang_clean ht, clean]
  | typed s d =>
    simp only [renderCell]
    split
    · next hs => exact shortOk_clean (by simp only [Bool.and_eq_true] at hs; exact hs.2)
    · simp [quoted_clean, all_clean_of iriChar ht, clean]

end RV.C16

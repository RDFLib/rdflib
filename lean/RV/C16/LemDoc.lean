import RV.C16.Doc
import RV.C16.LemTextJson
import RV.C16.LemJson
/-
  C16 — the JSON document: `json.loads` as modelled undoes `json.dumps` on every number-free tree, hence on the
  tree of every result.
-/
namespace RV.C16

theorem skipWs_cons (c : Char) (h : jWs c = false) (r : Str) : skipWs (c :: r) = c :: r := by
  simp [skipWs, h]

theorem skipWs_space (r : Str) : skipWs (' ' :: r) = skipWs r := by
  rw [skipWs, if_pos (by decide)]

theorem scanKey_escAll (s rest : Str) : scanKey (escAll pyEscChar s ++ '"' :: rest) = .ok (s, rest) := by
  simp [scanKey, jsonScan_escAll jsonScanP_pyEscChar s rest]

theorem jsonWrite_head (j : Json) (t : Str) :
    ∃ c r, jsonWrite j ++ t = c :: r ∧ jWs c = false ∧ c ≠ ']' := by
  cases j with
  | bool b => cases b <;> exact ⟨_, _, by rw [jsonWrite, List.cons_append], by decide⟩
  | str s => exact ⟨'"', _, by rw [jsonWrite, pyDumpsStr, List.cons_append], by decide⟩
  | _ => exact ⟨_, _, by rw [jsonWrite, List.cons_append], by decide⟩

theorem skipWs_write (j : Json) (t : Str) : skipWs (jsonWrite j ++ t) = jsonWrite j ++ t := by
  obtain ⟨c, r, e, h, -⟩ := jsonWrite_head j t
  rw [e, skipWs_cons c h]

theorem closes_write (j : Json) (t : Str) : closes ']' (jsonWrite j ++ t) = none := by
  obtain ⟨c, r, e, -, h1⟩ := jsonWrite_head j t
  simp [e, closes, h1]

theorem items_true (x : Json) (r : List Json) : jsonWriteItems true (x :: r) = jsonWrite x ++ jsonWriteItems false r := by
  simp [jsonWriteItems]
theorem items_false (x : Json) (r : List Json) :
    jsonWriteItems false (x :: r) = ',' :: ' ' :: jsonWriteItems true (x :: r) := by
  simp [jsonWriteItems]

theorem members_true (k : Str) (v : Json) (r : List (Str × Json)) :
    jsonWriteMembers true ((k, v) :: r)
      = '"' :: (escAll pyEscChar k ++ '"' :: ':' :: ' ' :: (jsonWrite v ++ jsonWriteMembers false r)) := by
  simp [jsonWriteMembers, pyDumpsStr]
theorem members_false (kv : Str × Json) (r : List (Str × Json)) :
    jsonWriteMembers false (kv :: r) = ',' :: ' ' :: jsonWriteMembers true (kv :: r) := by
  simp [jsonWriteMembers]

/- Fuel goes down by one at every call; `jsize j` counts the calls on `jsonWrite j`, so fuel `≥ jsize j` is enough (the rows
   with fuel `0` only say that `jsize` is positive). -/
mutual
theorem parse_write : (j : Json) → numFree j = true → ∀ (f : Nat) (rest : Str), jsize j ≤ f →
    parseValue f (jsonWrite j ++ rest) = .ok (j, rest)
  | .num, h, _, _, _ => by cases h
  | j, _, 0, _, hf => by cases j <;> simp [jsize] at hf
  | .null, _, _ + 1, _, _ | .bool true, _, _ + 1, _, _ | .bool false, _, _ + 1, _, _ => rfl
  | .str s, _, f + 1, rest, _ => by
    rw [jsonWrite, pyDumpsStr, List.cons_append, List.append_assoc, parseValue]
    simp [scanKey_escAll, mapFst]
  | .arr [], _, _ + 1, _, _ | .obj [], _, _ + 1, _, _ => rfl
  | .arr (x :: r), h, f + 1, rest, hf => by
    have := parseItems_write (x :: r) (by simp) (by simpa [numFree] using h) f rest (by simp [jsize] at hf; omega)
    rw [items_true, List.append_assoc] at this
    rw [jsonWrite, List.cons_append, List.append_assoc, parseValue]
    -- after `[`: the first item starts at once and is not `]`
    rw [items_true, List.append_assoc, skipWs_write, closes_write]
    simp +decide only [if_false, if_true, List.singleton_append, this, mapFst]
  | .obj ((k, v) :: r), h, f + 1, rest, hf => by
    have := parseMembers_write ((k, v) :: r) (by simp) (by simpa [numFree] using h) f rest (by simp [jsize] at hf; omega)
    rw [members_true, List.cons_append] at this
    rw [jsonWrite, List.cons_append, List.append_assoc, parseValue]
    -- after `{`: the first key's quote follows at once
    rw [members_true, List.cons_append, skipWs_cons '"' rfl]
    simp +decide only [if_false, if_true, closes, List.singleton_append, this, mapFst]
theorem parseItems_write : (xs : List Json) → xs ≠ [] → numFreeItems xs = true → ∀ (f : Nat) (rest : Str),
    jsizeItems xs ≤ f → parseItems f (jsonWriteItems true xs ++ ']' :: rest) = .ok (xs, rest)
  | [], h, _, _, _, _ => absurd rfl h
  | x :: r, _, _, 0, _, hf => by simp [jsizeItems] at hf
  | x :: r, _, hn, f + 1, rest, hf => by
    have hn' : numFree x = true ∧ numFreeItems r = true := by simpa [numFreeItems] using hn
    have hs : 1 + jsize x + jsizeItems r ≤ f + 1 := by simpa [jsizeItems] using hf
    rw [items_true, List.append_assoc, parseItems, parse_write x hn'.1 f _ (by omega)]
    cases r with
    | nil => simp +decide [jsonWriteItems, skipWs]
    | cons y r' =>
      have ih := parseItems_write (y :: r') (by simp) hn'.2 f rest (by omega)
      rw [items_true, List.append_assoc] at ih
      rw [items_false, items_true]
      simp +decide only [List.cons_append, List.append_assoc, skipWs_cons ',' rfl, if_true,
        skipWs_space, skipWs_write, ih, mapFst]
theorem parseMembers_write : (kvs : List (Str × Json)) → kvs ≠ [] → numFreeMembers kvs = true →
    ∀ (f : Nat) (rest : Str), jsizeMembers kvs ≤ f →
      parseMembers f (jsonWriteMembers true kvs ++ '}' :: rest) = .ok (kvs, rest)
  | [], h, _, _, _, _ => absurd rfl h
  | (k, v) :: r, _, _, 0, _, hf => by simp [jsizeMembers] at hf
  | (k, v) :: r, _, hn, f + 1, rest, hf => by
    have hn' : numFree v = true ∧ numFreeMembers r = true := by simpa [numFreeMembers] using hn
    have hs : 1 + jsize v + jsizeMembers r ≤ f + 1 := by simpa [jsizeMembers] using hf
    rw [members_true, List.cons_append, parseMembers]
    simp only [if_true, List.append_assoc, List.cons_append, scanKey_escAll,
      skipWs_cons ':' rfl, skipWs_space, skipWs_write,
      parse_write v hn'.1 f _ (show jsize v ≤ f by omega)]
    cases r with
    | nil => simp +decide [jsonWriteMembers, skipWs]
    | cons kv r' =>
      obtain ⟨k2, v2⟩ := kv
      have ih := parseMembers_write ((k2, v2) :: r') (by simp) hn'.2 f rest (by omega)
      simp only [members_true, List.cons_append, List.append_assoc] at ih
      rw [members_false, members_true]
      simp +decide only [List.cons_append, List.append_assoc, skipWs_cons ',' rfl, if_true,
        skipWs_space, skipWs_cons '"' rfl, ih, mapFst]
end

mutual
theorem jsize_le : (j : Json) → jsize j ≤ (jsonWrite j).length
  | .arr xs => by have := jsizeItems_le xs true; simp [jsize, jsonWrite] at this ⊢; omega
  | .obj kvs => by have := jsizeMembers_le kvs true; simp [jsize, jsonWrite] at this ⊢; omega
  | .str s => by simp [jsize, jsonWrite, pyDumpsStr]
  | .null | .bool true | .bool false | .num => by simp [jsize, jsonWrite]
theorem jsizeItems_le : (xs : List Json) → (first : Bool) →
    jsizeItems xs ≤ (jsonWriteItems first xs).length + (if first then 1 else 0)
  | [], _ => by simp [jsizeItems]
  | x :: r, first => by
    have h1 := jsize_le x
    have h2 := jsizeItems_le r false
    cases first <;> simp [jsizeItems, jsonWriteItems] at h2 ⊢ <;> omega
theorem jsizeMembers_le : (kvs : List (Str × Json)) → (first : Bool) →
    jsizeMembers kvs ≤ (jsonWriteMembers first kvs).length + (if first then 1 else 0)
  | [], _ => by simp [jsizeMembers]
  | (k, v) :: r, first => by
    have h1 := jsize_le v
    have h2 := jsizeMembers_le r false
    cases first <;> simp [jsizeMembers, jsonWriteMembers] at h2 ⊢ <;> omega
end

theorem jsonParse_jsonWrite (j : Json) (h : numFree j = true) : jsonParse (jsonWrite j) = .ok j := by
  unfold jsonParse
  have := parse_write j h ((jsonWrite j).length + 1) [] (by have := jsize_le j; omega)
  have hw := skipWs_write j []
  rw [List.append_nil] at this hw
  rw [hw, this]
  rfl

theorem numFree_binding (vars : List Str) (row : Row) : numFreeMembers (bindingToJson vars row) = true := by
  have (t : Term) : numFree (termToJson t) = true := by cases t <;> rfl
  fun_induction bindingToJson vars row <;> simp [numFreeMembers, *]

theorem numFree_toJson (r : Result) : numFree (toJson r) = true := by
  have hrows (vars : List Str) (rows : List Row) :
      numFreeItems (rows.map (fun r => Json.obj (bindingToJson vars r))) = true := by
    induction rows with
    | nil => rfl
    | cons r rs ih => simp [numFreeItems, numFree, numFree_binding, ih]
  have hstrs (vs : List Str) : numFreeItems (vs.map Json.str) = true := by
    induction vs with
    | nil => rfl
    | cons v vs ih => simp [numFreeItems, numFree, ih]
  cases r with
  | ask b => rfl
  | select vars rows => simp [toJson, numFree, numFreeMembers, hrows, hstrs]

theorem jsonDocRoundTrip_eq (r : Result) : jsonDocRoundTrip r = ofJson (toJson r) := by
  simp [jsonDocRoundTrip, jsonParse_jsonWrite _ (numFree_toJson r)]

end RV.C16

import RV.C02.Lemmas
/-
  C02 — "Dataset keeps named graphs isolated; the union view is the union of its graphs".

  Specification: a mathematical mapping  graph name → set of triples  plus the set of
  known (created, not removed) names.

  Order: specification, observations, all statements; then `step_keeps`, `Sim`, the reads, the proofs, witnesses.
-/
namespace RV.C02

structure Spec where
  has : Key → Triple → Prop      -- graph name ↦ its set of triples
  known : Key → Prop             -- names that exist (for a Dataset the default graph always does)

def Spec.init (cfg : Cfg) : Spec :=
  ⟨fun _ _ => False, fun k => cfg.isDs = true ∧ k = cfg.dflt⟩

def Spec.add (σ : Spec) (t : Triple) (k : Key) : Spec :=
  ⟨fun k' t' => (k' = k ∧ t' = t) ∨ σ.has k' t', fun k' => k' = k ∨ σ.known k'⟩

/-- a Graph object of another store handed to the dataset is merged into the graph of its name -/
def Spec.merge (σ : Spec) (g : GArg) : Spec :=
  ⟨fun k t => σ.has k t ∨ (t, k) ∈ g.adds, fun k => σ.known k ∨ ∃ t, (t, k) ∈ g.adds⟩

/-- remove the matches from graph `k` (`ctx = some k`) or from every graph (`ctx = none`) -/
def Spec.remove (σ : Spec) (pat : TPat) (ctx : Option Key) : Spec :=
  ⟨fun k t => σ.has k t ∧ ¬(pat.matches t = true ∧ (ctx = none ∨ ctx = some k)), σ.known⟩

def Spec.create (σ : Spec) (k : Key) : Spec :=
  ⟨σ.has, fun k' => k' = k ∨ σ.known k'⟩

/-- `remove_graph`: empties and forgets only that graph; the default graph always exists -/
def Spec.removeGraph (cfg : Cfg) (σ : Spec) (k : Key) : Spec :=
  ⟨fun k' t => k' ≠ k ∧ σ.has k' t, fun k' => (k' ≠ k ∧ σ.known k') ∨ k' = cfg.dflt⟩

def Spec.addN (σ : Spec) : List (Triple × GArg) → Spec
  | [] => σ
  | (t, g) :: r =>
    match g.key with
    | none => σ.merge g
    | some k => ((σ.merge g).add t k).addN r

def Spec.step (cfg : Cfg) (σ : Spec) : Op → Spec
  | .add t g => (σ.merge (g.getD .none)).add t ((g.getD .none).key.getD cfg.dflt)
  | .addN qs => σ.addN qs
  | .remove tq => (σ.merge tq.garg).remove tq.pat tq.garg.key
  | .graph g =>
    if cfg.isDs then
      (match g.key with
       | none => σ
       | some k => (σ.merge g).create k)
    else σ
  | .removeGraph k => if cfg.isDs then σ.removeGraph cfg k else σ
  | .removeContext k => σ.remove TPat.all (some k)
  | .vadd k t => σ.add t k
  | .vremove k p => σ.remove p (some k)
  | .triples tq c => (σ.merge tq.garg).merge c
  | .contains tq => σ.merge tq.garg
  | .quads tq => σ.merge tq.garg
  | .graphs => σ
  | .choices c => σ.merge c

def Spec.run (cfg : Cfg) (σ : Spec) (ops : List Op) : Spec := ops.foldl (Spec.step cfg) σ

def Spec.stepS (cfg : Cfg) (σ : Spec) : SOp → Spec
  | .op o => σ.step cfg o
  | .setUnion _ => σ

def Spec.runS (cfg : Cfg) (σ : Spec) (ops : List SOp) : Spec := ops.foldl (Spec.stepS cfg) σ

/-- what a read restricted to `e` (`none` = no graph given) must see -/
def Spec.sees (cfg : Cfg) (σ : Spec) (e : Option Key) (t : Triple) : Prop :=
  match e with
  | none => if cfg.du = true then ∃ k, σ.has k t else σ.has cfg.dflt t
  | some k => if cfg.du = true ∧ k = cfg.dflt then ∃ k', σ.has k' t else σ.has k t

/-- what `triples_choices` restricted to `e` must see: no graph given = the merged view under
    `default_union`, the default graph otherwise; a given graph = that graph -/
def Spec.seesChoice (cfg : Cfg) (σ : Spec) (e : Option Key) (t : Triple) : Prop :=
  match e with
  | none => if cfg.du = true then ∃ k, σ.has k t else σ.has cfg.dflt t
  | some k => σ.has k t

/-! ### Observations of the model (pure functions of the state) -/

/-- content of graph `k` as an independently constructed `Graph(store, k)` shows it -/
def content (m : Mem) (k : Key) (t : Triple) : Prop := t ∈ vTriples m k TPat.all

/-- `ds.triples(pat, context=e)` on state `m` -/
def obsTriples (cfg : Cfg) (m : Mem) (pat : TPat) (e : Option Key) : List Triple :=
  (m.triples pat (resolveCtx cfg e)).map (·.1)

/-- `(pat, e) in ds` on state `m` -/
def obsContains (cfg : Cfg) (m : Mem) (pat : TPat) (e : Option Key) : Bool :=
  !(obsTriples cfg m pat e).isEmpty

/-- `ds.quads((pat, e))` on state `m` -/
def obsQuads (m : Mem) (pat : TPat) (e : Option Key) : List Quad := expandCtxs (m.triples pat e)

/-- `ds.triples_choices(ch, context=e)` on state `m` -/
def obsChoices (cfg : Cfg) (m : Mem) (ch : Choice) (e : Option Key) : List Triple :=
  ch.pats.flatMap (fun p => (m.triples p (resolveChoiceCtx cfg e)).map (·.1))

/-- all observables the property names, on one state -/
structure Agree (cfg : Cfg) (m : Mem) (σ : Spec) : Prop where
  quads : ∀ q, q ∈ obsQuads m TPat.all none ↔ σ.has q.2 q.1
  quadsPat : ∀ pat e q, q ∈ obsQuads m pat e ↔
      σ.has q.2 q.1 ∧ pat.matches q.1 = true ∧ (∀ k, e = some k → σ.has k q.1)
  quadsNodup : ∀ pat e, (obsQuads m pat e).Nodup
  graphs : ∀ k, k ∈ (cgGraphs cfg m).2 ↔ σ.known k
  graphsNodup : (cgGraphs cfg m).2.Nodup
  graphsOf : ∀ t k, k ∈ cgGraphsOf m t ↔ σ.has k t
  view : ∀ k pat t, t ∈ vTriples m k pat ↔ σ.has k t ∧ pat.matches t = true
  viewNodup : ∀ k pat, (vTriples m k pat).Nodup
  viewContains : ∀ k pat, vContains m k pat = true ↔ ∃ t, σ.has k t ∧ pat.matches t = true
  triples : ∀ pat e t, t ∈ obsTriples cfg m pat e ↔ pat.matches t = true ∧ σ.sees cfg e t
  triplesNodup : ∀ pat e, (obsTriples cfg m pat e).Nodup
  contains : ∀ pat e, obsContains cfg m pat e = true ↔ ∃ t, pat.matches t = true ∧ σ.sees cfg e t
  choices : ∀ ch e t, t ∈ obsChoices cfg m ch e ↔
      (∃ p ∈ ch.pats, p.matches t = true) ∧ σ.seesChoice cfg e t
  viewChoices : ∀ k ch t, t ∈ vChoices m k ch ↔ (∃ p ∈ ch.pats, p.matches t = true) ∧ σ.has k t

/-- The answers of the reading API calls are the pure observations of the state they leave. -/
def Statement_api_outputs_are_observations : Prop :=
  ∀ (cfg : Cfg) (m : Mem) (tq : TQ) (c : GArg),
    (cgTriples cfg m tq c).2 = obsTriples cfg (step cfg m (.triples tq c)) tq.pat (effKey tq c) ∧
    (cgContains cfg m tq).2 = obsContains cfg (step cfg m (.contains tq)) tq.pat tq.garg.key ∧
    (cgQuads cfg m tq).2 = obsQuads (step cfg m (.quads tq)) tq.pat tq.garg.key

/-- ⊢ For every history (adds, addN, removes, remove-by-pattern, graph creation / removal,
    through the dataset and through independent views, reads interleaved anywhere), every
    observable of the model is the one of the mapping  name → triple set. -/
def Statement_ds_refine_history : Prop :=
  ∀ (cfg : Cfg) (ops : List Op),
    Agree cfg (run cfg Mem.empty ops) (Spec.run cfg (Spec.init cfg) ops)

/-- the graphs an operation may change (`none` = every graph) -/
def Op.targets (cfg : Cfg) : Op → Option (List Key)
  | .add _ g => some ((g.getD .none).key.getD cfg.dflt :: (g.getD .none).adds.map (·.2))
  | .addN qs => some (qs.filterMap (·.2.key))
  | .remove tq =>
    match tq.garg.key with
    | none => none
    | some k => some [k]
  | .graph g => some (g.adds.map (·.2))
  | .removeGraph k => some [k]
  | .removeContext k => some [k]
  | .vadd k _ => some [k]
  | .vremove k _ => some [k]
  | .triples tq c => some (tq.garg.adds.map (·.2) ++ c.adds.map (·.2))
  | .contains tq => some (tq.garg.adds.map (·.2))
  | .quads tq => some (tq.garg.adds.map (·.2))
  | .graphs => some []
  | .choices c => some (c.adds.map (·.2))

/-- Operations on graph `g` leave the content of every other graph unchanged
    (in particular reads with identifiers / same-store views change no graph at all). -/
def Statement_isolation : Prop :=
  ∀ (cfg : Cfg) (m : Mem) (op : Op) (ks : List Key), op.targets cfg = some ks →
    ∀ h, h ∉ ks → ∀ t, content (step cfg m op) h t ↔ content m h t

/-- A triple shared by two graphs survives its removal from one of them. -/
def Statement_shared_triple_survives : Prop :=
  ∀ (cfg : Cfg) (m : Mem) (t : Triple) (g h : Key) (p : TPat), g ≠ h → content m h t →
    content (step cfg m (.remove (.quad p (.ident g)))) h t ∧
    content (step cfg m (.vremove g p)) h t

/-- Removing with no graph given removes the matches from every graph and nothing else. -/
def Statement_remove_all_graphs : Prop :=
  ∀ (cfg : Cfg) (m : Mem) (tq : TQ), tq.garg.key = none →
    ∀ h t, content (step cfg m (.remove tq)) h t ↔ (content m h t ∧ ¬ tq.pat.matches t = true)

/-- `remove_graph(k)`: `k` becomes empty and (unless it is the default graph) is no longer
    listed; every other graph keeps its content and its listing. -/
def Statement_remove_graph_spec : Prop :=
  ∀ (cfg : Cfg) (m : Mem) (k : Key), cfg.isDs = true →
    (∀ t, ¬ content (step cfg m (.removeGraph k)) k t) ∧
    (∀ h, h ≠ k → ∀ t, content (step cfg m (.removeGraph k)) h t ↔ content m h t) ∧
    (k ≠ cfg.dflt → k ∉ (cgGraphs cfg (step cfg m (.removeGraph k))).2) ∧
    (∀ h, h ≠ k → (h ∈ (cgGraphs cfg (step cfg m (.removeGraph k))).2 ↔ h ∈ (cgGraphs cfg m).2))

/-- The default graph of a Dataset is listed by `graphs()` in every state. -/
def Statement_default_always_exists : Prop :=
  ∀ (cfg : Cfg) (m : Mem), cfg.isDs = true → cfg.dflt ∈ (cgGraphs cfg m).2

/-- ⊢ A read restricted to a graph that is empty or unknown returns nothing (both
    `default_union` values; under `default_union` the name of the default graph denotes the
    merged view, which is `union_view`). -/
def Statement_empty_or_unknown_is_empty : Prop :=
  ∀ (cfg : Cfg) (m : Mem) (tq : TQ) (c : GArg) (k : Key),
    ¬(cfg.du = true ∧ k = cfg.dflt) →
    (effKey tq c = some k → (∀ t, ¬ content (cgTriples cfg m tq c).1 k t) →
        (cgTriples cfg m tq c).2 = []) ∧
    (tq.garg.key = some k → (∀ t, ¬ content (cgContains cfg m tq).1 k t) →
        (cgContains cfg m tq).2 = false) ∧
    (tq.garg.key = some k → (∀ t, ¬ content (cgQuads cfg m tq).1 k t) →
        (cgQuads cfg m tq).2 = [])

/-- A read with no graph given: the union of all graphs under `default_union` (each triple once),
    the default graph otherwise; naming the default graph under `default_union` is the same. -/
def Statement_union_view : Prop :=
  ∀ (cfg : Cfg) (m : Mem) (pat : TPat),
    (∀ t, t ∈ obsTriples cfg m pat none ↔
        pat.matches t = true ∧ (if cfg.du = true then ∃ k, content m k t else content m cfg.dflt t)) ∧
    (obsTriples cfg m pat none).Nodup ∧
    (cfg.du = true → obsTriples cfg m pat (some cfg.dflt) = obsTriples cfg m pat none)

/-- `triples_choices` is a finite union of `triples` reads over one resolved graph; restricted to
    an empty or unknown graph it returns nothing (both `default_union` values, the default graph
    included: this entry point has no default ↔ union mapping); with no graph given it reads the
    merged view under `default_union` and the default graph otherwise; and whenever the graph
    is not the default graph under `default_union` it is literally the union of the `triples`
    answers for the dispatched patterns. -/
def Statement_triples_choices : Prop :=
  ∀ (cfg : Cfg) (m : Mem) (ch : Choice) (c : GArg),
    (cgTriplesChoices cfg m ch c).2 = obsChoices cfg (step cfg m (.choices c)) ch c.key ∧
    (∀ e t, t ∈ obsChoices cfg m ch e ↔
        ∃ p ∈ ch.pats, t ∈ (m.triples p (resolveChoiceCtx cfg e)).map (·.1)) ∧
    (∀ k, c.key = some k → (∀ t, ¬ content (cgTriplesChoices cfg m ch c).1 k t) →
        (cgTriplesChoices cfg m ch c).2 = []) ∧
    (∀ t, t ∈ obsChoices cfg m ch none ↔
        (∃ p ∈ ch.pats, p.matches t = true) ∧
          (if cfg.du = true then ∃ k, content m k t else content m cfg.dflt t)) ∧
    (∀ k t, t ∈ obsChoices cfg m ch (some k) ↔ (∃ p ∈ ch.pats, p.matches t = true) ∧ content m k t) ∧
    (∀ e, (∀ k, e = some k → ¬(cfg.du = true ∧ k = cfg.dflt)) →
        obsChoices cfg m ch e = ch.pats.flatMap (fun p => obsTriples cfg m p e))

/-- A pattern whose predicate is a property path is evaluated over exactly the graph a plain
    pattern with the same graph arguments is read from (4th element of the quad, `context=`
    keyword — which wins — or none), for `triples` and for `in`. -/
def Statement_path_pattern_graph : Prop :=
  ∀ (cfg : Cfg) (m : Mem) (tq : TQ) (c : GArg),
    cgPathGraph cfg tq c = resolveCtx cfg (effKey tq c) ∧
    (cgTriples cfg m tq c).2 = ((cgTriples cfg m tq c).1.triples tq.pat (cgPathGraph cfg tq c)).map (·.1) ∧
    cgPathGraphContains cfg tq = resolveCtx cfg tq.garg.key ∧
    (cgContains cfg m tq).2 =
      !(((cgContains cfg m tq).1.triples tq.pat (cgPathGraphContains cfg tq)).map (·.1)).isEmpty

/-- the graphs whose *registry entry* (being listed by `graphs()` / `contexts()`) an operation
    may change -/
def Op.regTargets (cfg : Cfg) : Op → List Key
  | .add _ g => (g.getD .none).key.getD cfg.dflt :: (g.getD .none).adds.map (·.2)
  | .addN qs => qs.filterMap (·.2.key)
  | .remove tq => tq.garg.adds.map (·.2)
  | .graph g => g.key.toList ++ g.adds.map (·.2)
  | .removeGraph k => [k]
  | .removeContext _ => []
  | .vadd k _ => [k]
  | .vremove _ _ => []
  | .triples tq c => tq.garg.adds.map (·.2) ++ c.adds.map (·.2)
  | .contains tq => tq.garg.adds.map (·.2)
  | .quads tq => tq.garg.adds.map (·.2)
  | .graphs => []
  | .choices c => c.adds.map (·.2)

/-- ⊢ Registry isolation.  Step: an operation addressed to graph `g` changes the registry entry
    (listing by `graphs()`, and registration in the store apart from the lazily re-created default
    graph) of no other graph — removals never unregister, `remove_graph` unregisters only its graph.
    History: a graph that no operation of a history addresses keeps its triple set and its
    listing over the whole history. -/
def Statement_registry_isolation : Prop :=
  (∀ (cfg : Cfg) (m : Mem) (op : Op) (h : Key), h ∉ op.regTargets cfg →
      ((h ∈ (cgGraphs cfg (step cfg m op)).2 ↔ h ∈ (cgGraphs cfg m).2) ∧
       (h ≠ cfg.dflt → (h ∈ (step cfg m op).allc ↔ h ∈ m.allc)))) ∧
  (∀ (cfg : Cfg) (m : Mem) (ops : List Op) (h : Key),
      (∀ op ∈ ops, ∃ ks, op.targets cfg = some ks ∧ h ∉ ks) → (∀ op ∈ ops, h ∉ op.regTargets cfg) →
      ((∀ t, content (run cfg m ops) h t ↔ content m h t) ∧
       (h ∈ (cgGraphs cfg (run cfg m ops)).2 ↔ h ∈ (cgGraphs cfg m).2)))

/-- ⊢ After every history (switches of `default_union` included) the merged view is the union of
    the *listed* graphs: a read without a graph under `default_union` yields exactly the triples
    of the graphs `graphs()` lists (the default graph's otherwise); every quad of `quads()` /
    `__iter__` names a listed graph; `len()` is the number of distinct triples of the merged view
    whatever `default_union` is. -/
def Statement_union_of_registered_graphs : Prop :=
  ∀ (cfg : Cfg) (sops : List SOp),
    let s := runS (cfg, Mem.empty) sops
    (∀ pat t, t ∈ obsTriples s.1 s.2 pat none ↔
        pat.matches t = true ∧
          (if s.1.du = true then ∃ k, k ∈ (cgGraphs s.1 s.2).2 ∧ content s.2 k t else content s.2 s.1.dflt t)) ∧
    (∀ q, q ∈ obsQuads s.2 TPat.all none → q.2 ∈ (cgGraphs s.1 s.2).2) ∧
    (dsIter s.1 s.2).2 = obsQuads s.2 TPat.all none ∧
    cgLen s.2 = (obsTriples { s.1 with du := true } s.2 TPat.all none).length ∧
    (∀ k, vLen s.2 k = (vTriples s.2 k TPat.all).length)

/-- ⊢ Switching `default_union` at run time changes nothing in the store (no graph's triple set,
    no listing, not `quads()`, not `len()`), and after any history with switches anywhere every
    observable is the one the mapping prescribes under the *current* value of the switch: the
    specification ignores the switches altogether. -/
def Statement_default_union_switch : Prop :=
  (∀ (s : Cfg × Mem) (b : Bool), (stepS s (.setUnion b)).2 = s.2 ∧ (stepS s (.setUnion b)).1.du = b ∧
      (stepS s (.setUnion b)).1.dflt = s.1.dflt ∧ (stepS s (.setUnion b)).1.isDs = s.1.isDs) ∧
  (∀ (cfg : Cfg) (sops : List SOp),
      Agree (runS (cfg, Mem.empty) sops).1 (runS (cfg, Mem.empty) sops).2
        (Spec.runS cfg (Spec.init cfg) sops))

/-! ### Every operation is a sequence of store calls on the graphs it addresses (`step_keeps`; the simulation and the
    two frames are instances) -/

/-- `op` may change the content of graph `k` (`targets = none`: of any graph) -/
def Op.reaches (cfg : Cfg) (op : Op) (k : Key) : Prop := ∀ ks, op.targets cfg = some ks → k ∈ ks

/-- `op` may change the content and the registration of graph `k` -/
def Op.addresses (cfg : Cfg) (op : Op) (k : Key) : Prop := op.reaches cfg k ∧ k ∈ op.regTargets cfg

/-- `R` survives the six store calls the layer makes, the mapping following: `add`, `merge` (`_graph` of a foreign
    Graph), `removeGraph` on graphs `op` addresses; `remove` on graphs it reaches (a removal never unregisters);
    `create` on graphs it may register; `touch` (the default graph re-created by `contexts()`) always. -/
structure Keeps (cfg : Cfg) (op : Op) (R : Mem → Spec → Prop) : Prop where
  add : ∀ {m σ} t k, op.addresses cfg k → R m σ → R (m.add t k) (σ.add t k)
  merge : ∀ {m σ} g, (∀ k ∈ g.adds.map (·.2), op.addresses cfg k) → R m σ → R (graphEff cfg m g) (σ.merge g)
  remove : ∀ {m σ} p ctx, (∀ k, ctxOk ctx k = true → op.reaches cfg k) → R m σ → R (m.remove p ctx) (σ.remove p ctx)
  create : ∀ {m σ} k, k ∈ op.regTargets cfg → R m σ → R (m.addGraph k) (σ.create k)
  removeGraph : ∀ {m σ} k, cfg.isDs = true → op.addresses cfg k → R m σ →
    R (dsRemoveGraph cfg m k) (σ.removeGraph cfg k)
  touch : ∀ {m σ}, R m σ → R (touch cfg m) σ

section
variable {cfg : Cfg} {op : Op} {R : Mem → Spec → Prop} {m : Mem} {σ : Spec}

theorem reaches_of {l : List Key} {k : Key} (e : op.targets cfg = some l) (hk : k ∈ l) : op.reaches cfg k :=
  fun _ e' => Option.some.inj (e.symm.trans e') ▸ hk

theorem addresses_of {k : Key} (e : op.targets cfg = some (op.regTargets cfg)) (hk : k ∈ op.regTargets cfg) :
    op.addresses cfg k :=
  ⟨reaches_of e hk, hk⟩

theorem cgAddN_keeps (K : Keeps cfg op R) (qs : List (Triple × GArg))
    (hq : ∀ k ∈ qs.filterMap (·.2.key), op.addresses cfg k) :
    ∀ {m σ}, R m σ → R (cgAddN cfg m qs).1 (σ.addN qs) := by
  induction qs with
  | nil => exact id
  | cons x r ih =>
    intro m σ h
    obtain ⟨t, g⟩ := x
    rw [cgAddN, Spec.addN]
    cases hk : g.key with
    | none => exact K.merge g (adds_nil_of_key_none hk ▸ fun _ hq => nomatch hq) h
    | some k =>
      rw [List.filterMap_cons, hk] at hq
      have hk' := hq k List.mem_cons_self
      exact ih (fun k' hk' => hq k' (List.mem_cons_of_mem _ hk'))
        (K.add t k hk' (K.merge g (fun _ h' => eq_of_mem_adds_keys hk h' ▸ hk') h))

theorem step_keeps (K : Keeps cfg op R) (h : R m σ) : R (step cfg m op) (σ.step cfg op) := by
  have single : ∀ {k : Key}, op.targets cfg = some [k] → ∀ k', ctxOk (some k) k' = true → op.reaches cfg k' :=
    fun e _ hk => ctxOk_some.mp hk ▸ reaches_of e List.mem_cons_self
  cases op with
  | add t g =>
    rw [step_add]
    exact K.add _ _ (addresses_of rfl List.mem_cons_self)
      (K.merge _ (fun _ hk => addresses_of rfl (List.mem_cons_of_mem _ hk)) h)
  | addN qs => exact cgAddN_keeps K qs (fun _ hk => addresses_of rfl hk) h
  | remove tq =>
    -- here and at `graph` the rows of `targets` and `regTargets` differ: the halves of `addresses` are built apart
    rw [step_remove, Spec.step]
    cases hk : tq.garg.key with
    | none =>
      have e : Op.targets cfg (.remove tq) = none := by rw [Op.targets, hk]
      exact K.remove _ _ (fun _ _ ks e' => nomatch e.symm.trans e')
        (K.merge _ (by rw [adds_nil_of_key_none hk]; exact fun _ hq => nomatch hq) h)
    | some k =>
      have e : Op.targets cfg (.remove tq) = some [k] := by rw [Op.targets, hk]
      exact K.remove _ _ (single e)
        (K.merge _ (fun _ hk' => ⟨eq_of_mem_adds_keys hk hk' ▸ reaches_of e List.mem_cons_self, hk'⟩) h)
  | graph g =>
    simp only [step, Spec.step, dsGraph]
    split
    · cases hk : g.key with
      | none => exact h
      | some k =>
        have e : Op.regTargets cfg (.graph g) = k :: g.adds.map (·.2) := by rw [Op.regTargets, hk]; rfl
        exact K.create k (e ▸ List.mem_cons_self)
          (K.merge g (fun _ hk' => ⟨reaches_of rfl hk', e ▸ List.mem_cons_of_mem _ hk'⟩) h)
    · exact h
  | removeGraph k =>
    simp only [step, Spec.step]
    split
    · next hd => exact K.removeGraph k hd (addresses_of rfl List.mem_cons_self) h
    · exact h
  | removeContext k => exact K.remove _ _ (single rfl) h
  | vadd k t => exact K.add t k (addresses_of rfl List.mem_cons_self) h
  | vremove k p => exact K.remove p _ (single rfl) h
  | triples tq c =>
    rw [step_triples]
    exact K.merge c (fun _ hk => addresses_of rfl (List.mem_append_right _ hk))
      (K.merge _ (fun _ hk => addresses_of rfl (List.mem_append_left _ hk)) h)
  | contains tq => rw [step_contains]; exact K.merge _ (fun _ hk => addresses_of rfl hk) h
  | quads tq => rw [step_quads]; exact K.merge _ (fun _ hk => addresses_of rfl hk) h
  | graphs => exact K.touch h
  | choices c => exact K.merge c (fun _ hk => addresses_of rfl hk) h

/-- for a property of the store alone (the mapping is a dummy) -/
theorem step_keeps_store {P : Mem → Prop} (K : Keeps cfg op fun m _ => P m) (h : P m) : P (step cfg m op) :=
  step_keeps (σ := Spec.init cfg) K h

end

/-- `σ` is the mapping `m` stands for (pairs, listed graphs), and `m` is well formed -/
structure Sim (cfg : Cfg) (m : Mem) (σ : Spec) : Prop where
  has : ∀ t k, (t, k) ∈ m.qs ↔ σ.has k t
  known : ∀ k, listed cfg m k ↔ σ.known k
  wf : WF m

section
variable {cfg : Cfg} {m : Mem} {σ : Spec}

theorem content_iff {k : Key} {t : Triple} : content m k t ↔ (t, k) ∈ m.qs :=
  mem_vTriples.trans (and_iff_right (matches_all t))

theorem sim_init (cfg : Cfg) : Sim cfg Mem.empty (Spec.init cfg) :=
  ⟨fun _ _ => ⟨fun h => absurd h List.not_mem_nil, False.elim⟩,
   fun _ => ⟨fun h => h.elim (fun e => absurd e List.not_mem_nil) id, Or.inr⟩, WF.empty⟩

theorem sim_step (h : Sim cfg m σ) (op : Op) : Sim cfg (step cfg m op) (σ.step cfg op) :=
  step_keeps (R := Sim cfg)
    { add := fun t k _ h => by
        refine ⟨fun t' k' => ?_, fun k' => ?_, h.wf.add t k⟩
        · simp only [Mem.add, mem_sinsert, Spec.add, Prod.mk.injEq, h.has, and_comm]
        · rw [listed_add, h.known]; rfl
      merge := fun g _ h => by
        refine ⟨fun t k => ?_, fun k => ?_, h.wf.graphEff cfg g⟩
        · simp only [mem_graphEff_qs, Spec.merge, h.has]
        · rw [listed_graphEff, h.known]; rfl
      remove := fun pat ctx _ h => by
        refine ⟨fun t k => ?_, h.known, h.wf.remove pat ctx⟩
        simp only [Mem.remove, mem_removeQ, Spec.remove, h.has, ctxOk_iff]
      create := fun k _ h => ⟨h.has, fun k' => by rw [listed_addGraph, h.known]; rfl, h.wf.addGraph k⟩
      removeGraph := fun k hd _ h => by
        refine ⟨fun t k' => ?_, fun k' => ?_, h.wf.dsRemoveGraph cfg k⟩
        · rw [mem_dsRemoveGraph_qs, h.has, and_comm]; rfl
        · rw [listed_dsRemoveGraph hd, h.known]; rfl
      touch := fun h => ⟨(touch_qs cfg _).symm ▸ h.has, fun k => listed_touch.trans (h.known k), h.wf.touch cfg⟩ } h

theorem sim_run {cfg : Cfg} (ops : List Op) :
    ∀ {m : Mem} {σ : Spec}, Sim cfg m σ → Sim cfg (run cfg m ops) (σ.run cfg ops) := by
  induction ops with
  | nil => intro m σ h; exact h
  | cons op ops ih => intro m σ h; exact ih (sim_step h op)

/-! ### Reads: what the mapping lets a read see is what the store read yields

  Stated for any `σ` whose `has` is the set of pairs of `m`; `σ.has := content m` gives the
  statements about the model alone, `Sim.has` those about the specification. -/

theorem sees_iff (cfg : Cfg) (σ : Spec) (e : Option Key) (t : Triple) :
    σ.sees cfg e t ↔ inCtx (σ.has · t) (resolveCtx cfg e) := by
  unfold Spec.sees resolveCtx
  cases e with
  | none => cases cfg.du <;> exact Iff.rfl
  | some k =>
    cases cfg.du
    · exact Iff.rfl
    · by_cases hk : k = cfg.dflt
      · simp only [hk, and_self, if_true]; exact Iff.rfl
      · simp only [hk, and_false, if_false, if_true, Option.some.injEq]; exact Iff.rfl

theorem seesChoice_iff (cfg : Cfg) (σ : Spec) (e : Option Key) (t : Triple) :
    σ.seesChoice cfg e t ↔ inCtx (σ.has · t) (resolveChoiceCtx cfg e) := by
  unfold Spec.seesChoice resolveChoiceCtx
  cases e with
  | none => cases cfg.du <;> exact Iff.rfl
  | some k => exact Iff.rfl

theorem mem_obsTriples (h : ∀ t k, (t, k) ∈ m.qs ↔ σ.has k t)
    (pat : TPat) (e : Option Key) (t : Triple) :
    t ∈ obsTriples cfg m pat e ↔ pat.matches t = true ∧ σ.sees cfg e t := by
  rw [obsTriples, mem_triples_fst, sees_iff]
  exact and_congr_right fun _ => inCtx_congr (h t) _

theorem mem_obsChoices (h : ∀ t k, (t, k) ∈ m.qs ↔ σ.has k t)
    {ch : Choice} {e : Option Key} {t : Triple} :
    t ∈ obsChoices cfg m ch e ↔ (∃ p ∈ ch.pats, p.matches t = true) ∧ σ.seesChoice cfg e t := by
  rw [obsChoices, List.mem_flatMap, seesChoice_iff, ← inCtx_congr (h t)]
  constructor
  · rintro ⟨p, hp, h1⟩
    have := mem_triples_fst.mp h1
    exact ⟨⟨p, hp, this.1⟩, this.2⟩
  · rintro ⟨⟨p, hp, h1⟩, h2⟩
    exact ⟨p, hp, mem_triples_fst.mpr ⟨h1, h2⟩⟩

theorem mem_obsQuads (h : ∀ t k, (t, k) ∈ m.qs ↔ σ.has k t) (pat : TPat)
    (e : Option Key) (q : Quad) : q ∈ obsQuads m pat e ↔
      σ.has q.2 q.1 ∧ pat.matches q.1 = true ∧ (∀ k, e = some k → σ.has k q.1) := by
  obtain ⟨t, k⟩ := q
  rw [obsQuads, mem_quads_of_triples, inCtx_congr (h t), h]
  refine and_congr_right fun hq => and_congr_right fun _ => ?_
  cases e with
  | none => exact ⟨fun _ _ e => (nomatch e), fun _ => ⟨k, hq⟩⟩
  | some k' => exact ⟨fun h1 _ e => Option.some.inj e ▸ h1, fun h1 => h1 k' rfl⟩

theorem mem_vTriples_spec (h : ∀ t k, (t, k) ∈ m.qs ↔ σ.has k t) (k : Key) (pat : TPat) (t : Triple) :
    t ∈ vTriples m k pat ↔ σ.has k t ∧ pat.matches t = true :=
  mem_vTriples.trans (and_comm.trans (and_congr_left' (h t k)))

/-- the mapping a state denotes by itself -/
def specOf (cfg : Cfg) (m : Mem) : Spec := ⟨content m, fun k => k ∈ (cgGraphs cfg m).2⟩

theorem specOf_has (cfg : Cfg) (m : Mem) (t : Triple) (k : Key) : (t, k) ∈ m.qs ↔ (specOf cfg m).has k t :=
  content_iff.symm

theorem agree_of_sim (h : Sim cfg m σ) : Agree cfg m σ where
  quads q := (mem_obsQuads h.has _ _ q).trans ⟨fun x => x.1, fun x => ⟨x, rfl, fun _ e => (nomatch e)⟩⟩
  quadsPat := mem_obsQuads h.has
  quadsNodup _ _ := nodup_expandCtxs_map (nodup_selTriples _ _ _) fun _ _ => nodup_ctxsOf h.wf.qs
  graphs k := mem_cgGraphs.trans (h.known k)
  graphsNodup := (h.wf.touch cfg).allc
  graphsOf t k := mem_ctxsOf.trans (h.has t k)
  view := mem_vTriples_spec h.has
  viewNodup k pat := nodup_triples_fst m pat (some k)
  viewContains k pat := (notEmpty_iff _).trans (exists_congr (mem_vTriples_spec h.has k pat))
  triples := mem_obsTriples h.has
  triplesNodup pat _ := nodup_triples_fst m pat _
  contains pat e := (notEmpty_iff _).trans (exists_congr (mem_obsTriples h.has pat e))
  choices _ _ _ := mem_obsChoices h.has
  viewChoices k _ _ := mem_obsChoices (cfg := cfg) h.has (e := some k)

end

theorem cgTriples_snd (cfg : Cfg) (m : Mem) (tq : TQ) (c : GArg) :
    (cgTriples cfg m tq c).2 = obsTriples cfg (cgTriples cfg m tq c).1 tq.pat (effKey tq c) := by
  rw [cgTriples, obsTriples, pickCtx_key]

theorem effKey_tri_asView (p : TPat) (K : Option Key) : effKey (.tri p) (asView K) = K := by
  cases K <;> rfl

theorem cgContains_snd (cfg : Cfg) (m : Mem) (tq : TQ) :
    (cgContains cfg m tq).2 = obsContains cfg (cgContains cfg m tq).1 tq.pat tq.garg.key := by
  simp only [cgContains, obsContains, cgTriples_snd, effKey_tri_asView, spocKey_nodefault, TQ.pat]

theorem cgQuads_snd (cfg : Cfg) (m : Mem) (tq : TQ) :
    (cgQuads cfg m tq).2 = obsQuads (cgQuads cfg m tq).1 tq.pat tq.garg.key := by
  rw [cgQuads, obsQuads, spocKey_nodefault]

theorem api_outputs_are_observations : Statement_api_outputs_are_observations :=
  fun cfg m tq c => ⟨cgTriples_snd cfg m tq c, cgContains_snd cfg m tq, cgQuads_snd cfg m tq⟩

theorem ds_refine_history : Statement_ds_refine_history :=
  fun cfg ops => agree_of_sim (sim_run ops (sim_init cfg))

section
variable {cfg : Cfg} {m : Mem} {h : Key}

theorem not_mem_adds {g : GArg} {t : Triple} (hh : h ∉ g.adds.map (·.2)) : (t, h) ∉ g.adds :=
  fun e => hh (List.mem_map.mpr ⟨(t, h), e, rfl⟩)

theorem qs_graphEff_other {g : GArg} {t : Triple} (hh : h ∉ g.adds.map (·.2)) :
    (t, h) ∈ (graphEff cfg m g).qs ↔ (t, h) ∈ m.qs :=
  mem_graphEff_qs.trans (or_iff_left (not_mem_adds hh))

theorem qs_add_other {t0 t : Triple} {k : Key} (hk : h ≠ k) : (t, h) ∈ (m.add t0 k).qs ↔ (t, h) ∈ m.qs := by
  simp only [Mem.add, mem_sinsert, Prod.mk.injEq, hk, and_false, false_or]

end

theorem isolation : Statement_isolation := by
  intro cfg m op ks hks h hh t
  rw [content_iff, content_iff]
  have ne : ∀ {k}, op.reaches cfg k → h ≠ k := fun hk e => hh (e ▸ hk ks hks)
  exact step_keeps_store (P := fun m' => (t, h) ∈ m'.qs ↔ (t, h) ∈ m.qs)
    { add := fun _ _ hk ih => (qs_add_other (ne hk.1)).trans ih
      merge := fun g hg ih => (qs_graphEff_other fun x => ne (hg h x).1 rfl).trans ih
      remove := fun p ctx hc ih => (mem_removeQ.trans (and_iff_left fun x => hh (hc h x.2 ks hks))).trans ih
      create := fun _ _ ih => ih
      removeGraph := fun k _ hk ih => (mem_dsRemoveGraph_qs.trans (and_iff_left (ne hk.1))).trans ih
      touch := fun ih => (touch_qs cfg _).symm ▸ ih } Iff.rfl

theorem shared_triple_survives : Statement_shared_triple_survives := by
  intro cfg m t g h p hgh hc
  have hh : h ∉ [g] := fun e => hgh (List.mem_singleton.mp e).symm
  exact ⟨(isolation cfg m (.remove (.quad p (.ident g))) [g] rfl h hh t).mpr hc,
    (isolation cfg m (.vremove g p) [g] rfl h hh t).mpr hc⟩

theorem remove_all_graphs : Statement_remove_all_graphs := by
  intro cfg m tq hk h t
  rw [content_iff, content_iff, step_remove, hk]
  simp only [Mem.remove, mem_removeQ, mem_graphEff_qs, adds_nil_of_key_none hk, List.not_mem_nil, or_false,
    ctxOk_none, and_true]

theorem default_always_exists : Statement_default_always_exists :=
  fun _ _ hd => mem_cgGraphs.mpr (listed_dflt hd)

theorem remove_graph_spec : Statement_remove_graph_spec := by
  intro cfg m k hd
  have hs : step cfg m (.removeGraph k) = dsRemoveGraph cfg m k := if_pos hd
  rw [hs]
  refine ⟨fun t hc => ?_, fun h hh t => ?_, fun hk hc => ?_, fun h hh => ?_⟩
  · exact (mem_dsRemoveGraph_qs.mp (content_iff.mp hc)).2 rfl
  · rw [content_iff, content_iff, mem_dsRemoveGraph_qs]
    exact and_iff_left hh
  · exact ((listed_dsRemoveGraph hd).mp (mem_cgGraphs.mp hc)).elim (fun e => e.1 rfl) hk
  · rw [mem_cgGraphs, mem_cgGraphs, listed_dsRemoveGraph_other hd hh]

theorem obsTriples_nil {cfg : Cfg} {m : Mem} {k : Key} (pat : TPat)
    (hk : ¬(cfg.du = true ∧ k = cfg.dflt)) (he : ∀ t, ¬ content m k t) :
    obsTriples cfg m pat (some k) = [] := by
  rw [obsTriples, resolveCtx_some hk, triples_fst_eq]
  exact selTriples_nil fun t ht => he t (content_iff.mpr ht)

theorem empty_or_unknown_is_empty : Statement_empty_or_unknown_is_empty := by
  intro cfg m tq c k hk
  refine ⟨fun he hc => ?_, fun he hc => ?_, fun he hc => ?_⟩
  · rw [cgTriples_snd, he]
    exact obsTriples_nil _ hk hc
  · rw [cgContains_snd, he, obsContains, obsTriples_nil _ hk hc]
    rfl
  · rw [cgQuads_snd, he, obsQuads, Mem.triples, selTriples_nil (fun t ht => hc t (content_iff.mpr ht))]
    rfl

theorem union_view : Statement_union_view := by
  intro cfg m pat
  refine ⟨mem_obsTriples (specOf_has cfg m) pat none, nodup_triples_fst m pat _, fun hdu => ?_⟩
  rw [obsTriples, obsTriples, resolveCtx_dflt_du hdu, resolveCtx_none, if_pos hdu]

theorem resolveChoiceCtx_eq {cfg : Cfg} {e : Option Key}
    (h : ∀ k, e = some k → ¬(cfg.du = true ∧ k = cfg.dflt)) : resolveChoiceCtx cfg e = resolveCtx cfg e := by
  cases e with
  | none => rw [resolveCtx_none]; rfl
  | some k => rw [resolveCtx_some (h k rfl)]; rfl

theorem triples_choices : Statement_triples_choices := by
  intro cfg m ch c
  refine ⟨rfl, fun e t => ?_, fun k hk hc => ?_, fun t => mem_obsChoices (specOf_has cfg m),
    fun k t => mem_obsChoices (cfg := cfg) (specOf_has cfg m) (e := some k), fun e he => ?_⟩
  · simp only [obsChoices, List.mem_flatMap]
  · refine List.eq_nil_iff_forall_not_mem.mpr fun t ht => hc t ?_
    have : t ∈ obsChoices cfg (graphEff cfg m c) ch c.key := ht
    rw [hk] at this
    exact ((mem_obsChoices (specOf_has cfg _)).mp this).2
  · simp only [obsChoices, obsTriples, resolveChoiceCtx_eq he]

theorem path_pattern_graph : Statement_path_pattern_graph := by
  intro cfg m tq c
  refine ⟨?_, ?_, ?_, ?_⟩
  · rw [cgPathGraph, pickCtx_key]
  · rw [cgTriples, cgPathGraph]
  · rw [cgPathGraphContains, cgPathGraph, pickCtx_key, effKey_tri_asView, spocKey_nodefault]
  · simp only [cgContains, cgPathGraphContains, cgTriples, cgPathGraph]
    rfl

section
variable {cfg : Cfg} {m : Mem} {h : Key}

theorem listed_step_other {op : Op} (hh : h ∉ op.regTargets cfg) : listed cfg (step cfg m op) h ↔ listed cfg m h := by
  have ne : ∀ {k}, k ∈ op.regTargets cfg → h ≠ k := fun hk e => hh (e ▸ hk)
  exact step_keeps_store (P := fun m' => listed cfg m' h ↔ listed cfg m h)
    { add := fun _ _ hk ih => (listed_add.trans (or_iff_right (ne hk.2))).trans ih
      merge := fun g hg ih => (listed_graphEff.trans (or_iff_left fun ⟨_, ht⟩ => not_mem_adds
        (fun hk => ne (hg h hk).2 rfl) ht)).trans ih
      remove := fun _ _ _ ih => ih
      create := fun _ hk ih => (listed_addGraph.trans (or_iff_right (ne hk))).trans ih
      removeGraph := fun k hi hk ih => (listed_dsRemoveGraph_other hi (ne hk.2)).trans ih
      touch := fun ih => listed_touch.trans ih } Iff.rfl

theorem registry_step {op : Op} (hh : h ∉ op.regTargets cfg) :
    (h ∈ (cgGraphs cfg (step cfg m op)).2 ↔ h ∈ (cgGraphs cfg m).2) ∧
      (h ≠ cfg.dflt → (h ∈ (step cfg m op).allc ↔ h ∈ m.allc)) := by
  refine ⟨mem_cgGraphs.trans ((listed_step_other hh).trans mem_cgGraphs.symm), fun hd => ?_⟩
  rw [← listed_iff_allc (cfg := cfg) fun x => hd x.2, ← listed_iff_allc (cfg := cfg) fun x => hd x.2]
  exact listed_step_other hh

end

theorem registry_isolation : Statement_registry_isolation := by
  refine ⟨fun cfg m op h hh => registry_step hh, ?_⟩
  intro cfg m ops
  induction ops generalizing m with
  | nil => intro h _ _; exact ⟨fun _ => Iff.rfl, Iff.rfl⟩
  | cons op ops ih =>
    intro h h1 h2
    obtain ⟨ks, hks, hk⟩ := h1 op List.mem_cons_self
    have a := isolation cfg m op ks hks h hk
    have b := (registry_step (m := m) (h2 op List.mem_cons_self)).1
    have c := ih (step cfg m op) h (fun o ho => h1 o (List.mem_cons_of_mem _ ho))
      (fun o ho => h2 o (List.mem_cons_of_mem _ ho))
    exact ⟨fun t => (c.1 t).trans (a t), c.2.trans b⟩

/- The mapping runs under the initial configuration, the model under the current one: they differ in `du` only,
   hence the `isDs` / `dflt` equalities carried by the induction. -/
theorem specStep_congr {c c' : Cfg} (h1 : c.isDs = c'.isDs) (h2 : c.dflt = c'.dflt) (σ : Spec) (o : Op) :
    σ.step c o = σ.step c' o := by
  unfold Spec.step Spec.removeGraph
  rw [h1, h2]

theorem Sim.congr {c c' : Cfg} {m : Mem} {σ : Spec} (h1 : c.isDs = c'.isDs) (h2 : c.dflt = c'.dflt)
    (h : Sim c m σ) : Sim c' m σ :=
  ⟨h.has, by intro k; rw [← h.known, listed, listed, h1, h2], h.wf⟩

theorem sim_runS {cfg : Cfg} (sops : List SOp) :
    ∀ {s : Cfg × Mem} {σ : Spec}, s.1.isDs = cfg.isDs → s.1.dflt = cfg.dflt → Sim s.1 s.2 σ →
      (runS s sops).1.isDs = cfg.isDs ∧ (runS s sops).1.dflt = cfg.dflt ∧
      Sim (runS s sops).1 (runS s sops).2 (σ.runS cfg sops) := by
  induction sops with
  | nil => intro s σ h1 h2 h; exact ⟨h1, h2, h⟩
  | cons o r ih =>
    intro s σ h1 h2 h
    cases o with
    | op o =>
      have := sim_step h o
      rw [specStep_congr h1 h2] at this
      exact ih (s := (s.1, step s.1 s.2 o)) h1 h2 this
    | setUnion b =>
      exact ih (s := ({ s.1 with du := b }, s.2)) h1 h2
        (Sim.congr (c := s.1) (c' := { s.1 with du := b }) rfl rfl h)

theorem sim_reach (cfg : Cfg) (sops : List SOp) :
    Sim (runS (cfg, Mem.empty) sops).1 (runS (cfg, Mem.empty) sops).2 (Spec.runS cfg (Spec.init cfg) sops) :=
  (sim_runS sops (s := (cfg, Mem.empty)) rfl rfl (sim_init cfg)).2.2

theorem default_union_switch : Statement_default_union_switch :=
  ⟨fun _ _ => ⟨rfl, rfl, rfl, rfl⟩, fun cfg sops => agree_of_sim (sim_reach cfg sops)⟩

theorem mem_cgGraphs_of_mem {cfg : Cfg} {m : Mem} (wf : WF m) {k : Key} {t : Triple} (h : (t, k) ∈ m.qs) :
    k ∈ (cgGraphs cfg m).2 :=
  mem_cgGraphs.mpr (listed_of_allc (wf.reg _ h))

theorem union_listed {cfg : Cfg} {m : Mem} (wf : WF m) (pat : TPat) (t : Triple) :
    t ∈ obsTriples cfg m pat none ↔ pat.matches t = true ∧
      (if cfg.du = true then ∃ k, k ∈ (cgGraphs cfg m).2 ∧ content m k t else content m cfg.dflt t) := by
  rw [(union_view cfg m pat).1 t]
  refine and_congr_right fun _ => ?_
  by_cases hdu : cfg.du = true
  · rw [if_pos hdu, if_pos hdu]
    exact exists_congr fun k => (and_iff_right_of_imp fun hk => mem_cgGraphs_of_mem wf (content_iff.mp hk)).symm
  · rw [if_neg hdu, if_neg hdu]

theorem union_of_registered_graphs : Statement_union_of_registered_graphs := by
  intro cfg sops s
  have wf : WF s.2 := (sim_reach cfg sops).wf
  refine ⟨union_listed wf, fun q hq => mem_cgGraphs_of_mem wf (mem_quads_of_triples.mp hq).1, rfl, ?_, fun _ => ?_⟩
  · rw [cgLen, Mem.len, obsTriples, triples_fst_eq, resolveCtx_none, if_pos rfl]
  · rw [vLen, Mem.len, vTriples, triples_fst_eq]

/-! ### Non-vacuity: a concrete history (two graphs sharing a triple, a created-but-empty
    graph 95, an unknown graph 94, removals) on which the hypotheses above are met -/

def exDs : Cfg := ⟨false, 99, true⟩
def exDu : Cfg := ⟨true, 99, true⟩
def exOps : List Op :=
  [.graph (.ident 95), .add (1, 10, 20) none, .add (1, 10, 20) (some (.ident 90)),
   .vadd 91 (1, 10, 20), .add (2, 10, 21) (some (.view 91)), .addN [((3, 11, 20), .foreign 92 [(3, 11, 22)])],
   .remove (.quad (some 1, none, none) (.ident 90)), .removeGraph 92, .graphs]

example : (run exDs Mem.empty exOps).qs = [((1, 10, 20), 99), ((1, 10, 20), 91), ((2, 10, 21), 91)] := by decide +kernel
example : (cgGraphs exDs (run exDs Mem.empty exOps)).2 = [95, 99, 90, 91] := by decide +kernel
-- the shared triple survived its removal from graph 90; graph 95 is empty, 94 unknown, 99 and 91 match
example : (cgTriples exDs (run exDs Mem.empty exOps) (.tri (none, none, none)) (.view 95)).2 = [] := by decide +kernel
example : (cgContains exDs (run exDs Mem.empty exOps) (.quad (some 1, some 10, some 20) (.ident 94))).2 = false := by decide +kernel
example : (cgContains exDs (run exDs Mem.empty exOps) (.quad (some 1, some 10, some 20) (.ident 91))).2 = true := by decide +kernel
example : (cgTriples exDs (run exDs Mem.empty exOps) .nil .none).2 = [(1, 10, 20)] := by decide +kernel
example : (cgTriples exDu (run exDu Mem.empty exOps) .nil .none).2 = [(1, 10, 20), (2, 10, 21)] := by decide +kernel
example : (cgTriples exDu (run exDu Mem.empty exOps) .nil (.view 95)).2 = [] := by decide +kernel
example : WF (run exDs Mem.empty exOps) := (sim_run exOps (sim_init exDs)).wf
-- a history with switches of default_union: graph 93 is addressed by no operation of `exOps` (isolation over
-- that history), the merged view after the switch is the union of the listed graphs, len counts it
def exSOps : List SOp :=
  (exOps.map SOp.op) ++ [.setUnion true, .op (.vadd 93 (7, 7, 7)), .setUnion false, .op (.remove (.tri (some 7, none, none))),
    .setUnion true]
example : (runS (exDs, Mem.empty) exSOps).1.du = true ∧
    (runS (exDs, Mem.empty) exSOps).2.qs = [((1, 10, 20), 99), ((1, 10, 20), 91), ((2, 10, 21), 91)] ∧
    (cgGraphs (runS (exDs, Mem.empty) exSOps).1 (runS (exDs, Mem.empty) exSOps).2).2 = [95, 99, 90, 91, 93] ∧
    cgLen (runS (exDs, Mem.empty) exSOps).2 = 2 ∧
    (cgTriples (runS (exDs, Mem.empty) exSOps).1 (runS (exDs, Mem.empty) exSOps).2 .nil .none).2 = [(1, 10, 20), (2, 10, 21)] := by
  decide +kernel
example : ∀ op ∈ exOps, (∃ ks, op.targets exDs = some ks ∧ 93 ∉ ks) ∧ 93 ∉ op.regTargets exDs := by decide +kernel
-- triples_choices: predicate list [10, 11]; the empty graph 95 yields nothing, no graph = default / union
example : (cgTriplesChoices exDs (run exDs Mem.empty exOps) (.pred none [10, 11] none) (.view 95)).2 = [] := by decide +kernel
example : (cgTriplesChoices exDs (run exDs Mem.empty exOps) (.pred none [10, 11] none) .none).2 = [(1, 10, 20)] := by decide +kernel
example : (cgTriplesChoices exDu (run exDu Mem.empty exOps) (.subj [] none none) .none).2 = [(1, 10, 20), (2, 10, 21)] := by decide +kernel
example : (cgTriplesChoices exDu (run exDu Mem.empty exOps) (.obj none none [21, 20]) (.ident 91)).2 = [(2, 10, 21), (1, 10, 20)] := by decide +kernel
-- a path pattern with graph 95 as 4th element is evaluated over graph 95; with no graph: default / union
example : cgPathGraph exDs (.quad (none, none, none) (.ident 95)) .none = some 95 := by decide +kernel
example : cgPathGraph exDs (.tri (none, none, none)) .none = some 99 ∧ cgPathGraph exDu (.tri (none, none, none)) .none = none := by decide +kernel

/-! ### Regression witnesses of the defects C02-F1 and C02-F3 (rdflib before the `fix:` commits) -/

/-- Python truthiness of a graph argument: a `Graph` is falsy when it is empty (`__len__`) -/
def truthy (m : Mem) : GArg → Bool
  | .none => false
  | .ident _ => true
  | .view k => m.len (some k) != 0
  | .foreign _ ts => !ts.isEmpty

/-- pre-fix `context or c` -/
def pickCtxBuggy (m : Mem) (context : GArg) (c : Option Key) : GArg :=
  if truthy m context then context else asView c

def cgTriplesBuggy (cfg : Cfg) (m : Mem) (tq : TQ) (context : GArg) : Mem × List Triple :=
  let m1 := spocEff cfg m tq
  let g := pickCtxBuggy m1 context (spocKey cfg tq false)
  let m2 := graphEff cfg m1 g
  (m2, (m2.triples tq.pat (resolveCtx cfg g.key)).map (·.1))

def cgContainsBuggy (cfg : Cfg) (m : Mem) (tq : TQ) : Mem × Bool :=
  let m1 := spocEff cfg m tq
  let r := cgTriplesBuggy cfg m1 (.tri tq.pat) (asView (spocKey cfg tq false))
  (r.1, !r.2.isEmpty)

/-- C02-F1: with `context or c` a read restricted to an empty (or unknown) graph was answered from
    the default graph (from the union under `default_union`), and the absent quad was "present". -/
theorem prefix_empty_graph_falls_back :
    (cgTriplesBuggy exDs (run exDs Mem.empty exOps) (.tri (none, none, none)) (.view 95)).2 = [(1, 10, 20)] ∧
    (cgContainsBuggy exDs (run exDs Mem.empty exOps) (.quad (some 1, some 10, some 20) (.ident 94))).2 = true ∧
    (cgTriplesBuggy exDu (run exDu Mem.empty exOps) .nil (.view 95)).2 = [(1, 10, 20), (2, 10, 21)] := by
  decide +kernel

/-- pre-fix `Dataset.graphs(triple)`: the default graph was appended whenever it was not among
    the graphs of the triple -/
def cgGraphsOfBuggy (cfg : Cfg) (m : Mem) (t : Triple) : List Key :=
  if cfg.isDs && !(ctxsOf t m.qs).contains cfg.dflt then ctxsOf t m.qs ++ [cfg.dflt] else ctxsOf t m.qs

/-- C02-F3: `graphs(t)` listed the default graph for a triple that is not in it. -/
theorem prefix_graphs_of_triple_lists_default :
    cgGraphsOfBuggy exDs (run exDs Mem.empty exOps) (2, 10, 21) = [91, 99] ∧
    ¬ content (run exDs Mem.empty exOps) 99 (2, 10, 21) ∧
    cgGraphsOf (run exDs Mem.empty exOps) (2, 10, 21) = [91] := by
  unfold content
  decide +kernel

end RV.C02

import RV.C01.Props
import RV.C02.Lemmas
import RV.C02.Conc
/-
  C02 — helper lemmas for the composition with C01.

  `Rel mc ma`: the concrete `Memory` model `mc` (C01's `NMem`) represents the abstract store `ma` (C02: set of quads +
  set of registered graphs).  It is C01's simulation relation `NSim mc (QKof ma)` (dictionaries well formed +
  `StSim` of the flattening, `Q = (· ∈ ma.qs)`, `K = (· ∈ ma.allc)`) with its fields spelled out, so that the
  statements of `PropsConc.lean` show C01's invariant; `Rel.toSim` / `rel_of_sim` pass between the two.
-/
namespace RV.C02.Conc
open RV RV.C02

def QKof (ma : Mem) : C01.QK := ⟨fun t g => (t, g) ∈ ma.qs, fun k => k ∈ ma.allc⟩

structure Rel (mc : CMem) (ma : Mem) : Prop where
  /-- every level of the three nested dictionaries has unique keys -/
  wf : C01.NWF mc
  /-- C01's representation invariant on the flattened indexes + context bookkeeping -/
  inv : C01.Inv mc.toMem
  nd : mc.toMem.allc.Nodup
  q : ∀ t g, C01.abs mc.toMem t g ↔ (t, g) ∈ ma.qs
  k : ∀ k, k ∈ mc.toMem.allc ↔ k ∈ ma.allc

section
variable {mc : CMem} {ma : Mem}

theorem Rel.toSim (h : Rel mc ma) : C01.NSim mc (QKof ma) :=
  ⟨h.wf, ⟨h.inv, h.nd, h.q, h.k⟩⟩

theorem Rel.obs (h : Rel mc ma) : C01.NStoreObsAgree mc (QKof ma) := C01.nstoreObsAgree_of h.toSim

theorem rel_of_sim {S : C01.QK} (h : C01.NSim mc S)
    (hq : ∀ t g, S.Q t g ↔ (t, g) ∈ ma.qs) (hk : ∀ k, S.K k ↔ k ∈ ma.allc) : Rel mc ma :=
  ⟨h.wf, h.sim.inv, h.sim.nd, fun t g => (h.sim.q t g).trans (hq t g), fun k => (h.sim.k k).trans (hk k)⟩

theorem rel_init : Rel C01.NMem.init Mem.empty :=
  rel_of_sim C01.nsim_init (fun t g => by simp [C01.QK.empty, C01.QSet.empty, Mem.empty])
    (fun k => by simp [C01.QK.empty, Mem.empty])

/-- `Model.lean` repeats C01's `Pat`, `matchPos`, `Pat.matches` word for word -/
theorem matches_eq (p : TPat) (t : Triple) : C01.Pat.matches p t = p.matches t := rfl

/-! ### store calls keep `Rel` (C01's `nsim_step`) -/

theorem rel_add (h : Rel mc ma) (t : Triple) (k : Key) : Rel (mc.add t k) (ma.add t k) := by
  refine rel_of_sim (C01.nsim_step h.toSim (.add t k)) (fun t' g => ?_) (fun k' => ?_)
  · simp only [C01.QK.step, QKof, Mem.add, mem_sinsert, Prod.mk.injEq]
    exact or_comm
  · simp only [C01.QK.step, QKof, Mem.add, mem_sinsert]
    exact or_comm

theorem rel_remove (h : Rel mc ma) (pat : TPat) (ctx : Option Key) :
    Rel (mc.remove pat ctx) (ma.remove pat ctx) := by
  refine rel_of_sim (C01.nsim_step h.toSim (.remove pat ctx)) (fun t g => ?_) (fun k => Iff.rfl)
  simp only [C01.QK.step, QKof, Mem.remove, mem_removeQ, ctxOk_iff, matches_eq]

theorem rel_addGraph (h : Rel mc ma) (k : Key) : Rel (mc.addGraph k) (ma.addGraph k) := by
  refine rel_of_sim (C01.nsim_step h.toSim (.addGraph k)) (fun t g => Iff.rfl) (fun k' => ?_)
  simp only [C01.QK.step, QKof, Mem.addGraph, mem_sinsert]
  exact or_comm

theorem rel_removeGraph (h : Rel mc ma) (k : Key) : Rel (mc.removeGraph k) (ma.removeGraph k) := by
  refine rel_of_sim (C01.nsim_step h.toSim (.removeGraph k)) (fun t g => ?_) (fun k' => ?_)
  · simp only [C01.QK.step, QKof, Mem.removeGraph, Mem.remove, mem_removeQ, matches_all, ctxOk_some, true_and]
  · simp only [C01.QK.step, QKof, Mem.removeGraph, mem_sremove]
    exact and_comm

/-- `Graph.__iadd__` of a foreign graph's triples (C01's `iadd`: `addN` with the identifier filter) is
    the abstract `addAll` -/
theorem rel_iadd (h : Rel mc ma) (k : Key) (ts : List Triple) : Rel (mc.iadd k ts) (ma.addAll k ts) := by
  refine rel_of_sim (C01.nsim_step h.toSim (.graph (.iadd k ts))) (fun t g => ?_) (fun k' => ?_)
  · simp only [C01.QK.step, C01.Spec.step, QKof, mem_addAll_qs, mem_map_pair]
  · simp only [C01.QK.step, C01.KSpec.step, QKof, mem_addAll_allc]
    exact or_congr_right (and_congr_right fun _ =>
      ⟨fun ⟨_, e⟩ => List.ne_nil_of_mem e, List.exists_mem_of_ne_nil _⟩)

/-- `Rel` reads the abstract store as two sets: registering a registered graph again changes nothing -/
theorem rel_addGraph_of_mem (h : Rel mc ma) {k : Key} (hk : k ∈ ma.allc) : Rel mc (ma.addGraph k) :=
  ⟨h.wf, h.inv, h.nd, h.q, fun k' => (h.k k').trans
    (mem_sinsert.trans (or_iff_right_of_imp fun e => e ▸ hk)).symm⟩

/-! ### store answers: members as in the abstract list (`mem_c…`), no duplicates (`nodup_c…`) -/

theorem qkof_sees {ctx : Option Key} {t : Triple} :
    (QKof ma).sees ctx t ↔ inCtx (fun c => (t, c) ∈ ma.qs) ctx := by
  simp only [C01.QK.sees, QKof, ← ctxOk_iff]
  exact exists_ctxOk

theorem ctriples_fst_eq (mc : CMem) (pat : TPat) (ctx : Option Key) :
    (mc.triplesC pat ctx).map (·.1) = mc.triples pat ctx := by
  rw [C01.NMem.triplesC, List.map_map]; exact List.map_id _

theorem mem_ctriples (h : Rel mc ma) {pat : TPat} {ctx : Option Key} (t : Triple) :
    t ∈ (mc.triplesC pat ctx).map (·.1) ↔ t ∈ (ma.triples pat ctx).map (·.1) := by
  rw [ctriples_fst_eq, mem_triples_fst, (h.obs.triples pat ctx).2 t, qkof_sees]
  exact and_comm

theorem mem_cchoices (h : Rel mc ma) (ch : Choice) (ctx : Option Key) (t : Triple) :
    t ∈ ch.pats.flatMap (fun p => (mc.triplesC p ctx).map (·.1)) ↔
      t ∈ ch.pats.flatMap (fun p => (ma.triples p ctx).map (·.1)) :=
  mem_flatMap_congr (fun _ => mem_ctriples h) t

theorem nodup_ctriples (h : Rel mc ma) {pat : TPat} {ctx : Option Key} :
    ((mc.triplesC pat ctx).map (·.1)).Nodup := by
  rw [ctriples_fst_eq]
  exact (h.obs.triples pat ctx).1

/-- `quads`.  The backward rewrites bring `q.1 ∈` the concrete list, where C01's `triple_ctxs` applies: the graphs
    yielded with a triple have no duplicates (`.2.1`) and are those it is in (`.2.2`) -/
theorem mem_cquads (h : Rel mc ma) {pat : TPat} {ctx : Option Key} (q : Quad) :
    q ∈ expandCtxs (mc.triplesC pat ctx) ↔ q ∈ expandCtxs (ma.triples pat ctx) := by
  rw [mem_quads_of_triples, ← mem_triples_fst, ← mem_ctriples h, ctriples_fst_eq, C01.NMem.triplesC,
    mem_expandCtxs_map, and_comm]
  exact and_congr_left fun ht => (h.obs.triple_ctxs pat ctx (q.1, _)
    (List.mem_map.mpr ⟨q.1, ht, rfl⟩)).2.2 q.2

theorem nodup_cquads (h : Rel mc ma) {pat : TPat} {ctx : Option Key} :
    (expandCtxs (mc.triplesC pat ctx)).Nodup :=
  nodup_expandCtxs_map (h.obs.triples pat ctx).1 fun t ht =>
    (h.obs.triple_ctxs pat ctx (t, _) (List.mem_map.mpr ⟨t, ht, rfl⟩)).2.1

theorem clen_eq (h : Rel mc ma) (ctx : Option Key) : mc.len ctx = ma.len ctx :=
  h.obs.len ctx (selTriples TPat.all ctx ma.qs) (nodup_selTriples _ _ _) fun t => by
    rw [mem_selTriples, qkof_sees]
    exact and_iff_right (matches_all t)

theorem mem_storeContexts (h : Rel mc ma) (k : Key) : k ∈ storeContexts mc ↔ k ∈ ma.allc :=
  h.obs.contexts_all.2 k

theorem nodup_storeContexts (h : Rel mc ma) : (storeContexts mc).Nodup :=
  h.obs.contexts_all.1

theorem mem_cgGraphsOf (h : Rel mc ma) (t : Triple) (k : Key) :
    k ∈ cgGraphsOf mc t ↔ k ∈ C02.cgGraphsOf ma t :=
  ((h.obs.contexts_of t.1 t.2.1 t.2.2).2 k).trans mem_ctxsOf.symm

theorem nodup_cgGraphsOf (h : Rel mc ma) (t : Triple) : (cgGraphsOf mc t).Nodup :=
  (h.obs.contexts_of t.1 t.2.1 t.2.2).1

theorem rel_cgGraphs (cfg : Cfg) (h : Rel mc ma) :
    Rel (cgGraphs cfg mc).1 (touch cfg ma) ∧ (cgGraphs cfg mc).2.Nodup ∧
      ∀ k, k ∈ (cgGraphs cfg mc).2 ↔ k ∈ (touch cfg ma).allc := by
  unfold cgGraphs
  by_cases c : (cfg.isDs && !decide (cfg.dflt ∈ storeContexts mc)) = true
  · rw [if_pos c]
    simp only [Bool.and_eq_true, Bool.not_eq_true', decide_eq_false_iff_not] at c
    simp only [touch, c.1, if_true]
    refine ⟨rel_addGraph h _, ?_, fun k => ?_⟩
    · refine List.nodup_append.mpr ⟨nodup_storeContexts h, List.pairwise_singleton _ _, fun a ha b hb e => ?_⟩
      exact c.2 (List.mem_singleton.mp hb ▸ e ▸ ha)
    · simp only [List.mem_append, List.mem_singleton, mem_storeContexts h, Mem.addGraph, mem_sinsert, or_comm]
  · rw [if_neg c]
    simp only [Bool.and_eq_true, Bool.not_eq_true', decide_eq_false_iff_not] at c
    -- the code registers the default graph only when it is absent, `touch` inserts it always: the same two sets
    have hm : cfg.isDs = true → cfg.dflt ∈ ma.allc := fun hd =>
      (mem_storeContexts h _).mp (Decidable.not_not.mp fun x => c ⟨hd, x⟩)
    refine ⟨?_, nodup_storeContexts h, fun k => ?_⟩
    · unfold touch
      by_cases hd : cfg.isDs = true
      · rw [if_pos hd]; exact rel_addGraph_of_mem h (hm hd)
      · rw [if_neg hd]; exact h
    · rw [mem_storeContexts h, mem_touch_allc]
      exact (or_iff_left_of_imp fun x => x.2 ▸ hm x.1).symm

theorem rel_graphEff (cfg : Cfg) (h : Rel mc ma) (g : GArg) :
    Rel (graphEff cfg mc g) (C02.graphEff cfg ma g) := by
  cases g with
  | foreign k ts => exact rel_iadd (rel_cgGraphs cfg h).1 k ts
  | _ => exact h

theorem rel_spocEff (cfg : Cfg) (h : Rel mc ma) (tq : TQ) :
    Rel (spocEff cfg mc tq) (C02.spocEff cfg ma tq) := by
  cases tq with
  | quad p g => exact rel_graphEff cfg h g
  | _ => exact h

theorem rel_cgAdd (cfg : Cfg) (h : Rel mc ma) (t : Triple) (g : Option GArg) :
    Rel (cgAdd cfg mc t g) (C02.cgAdd cfg ma t g) := by
  cases g with
  | none => exact rel_add h t _
  | some g =>
    simp only [cgAdd, C02.cgAdd, spocKey_default]
    exact rel_add (rel_spocEff cfg h _) t _

theorem rel_cgAddN {cfg : Cfg} (qs : List (Triple × GArg)) :
    ∀ {mc : CMem} {ma : Mem}, Rel mc ma →
      Rel (cgAddN cfg mc qs).1 (C02.cgAddN cfg ma qs).1 ∧ (cgAddN cfg mc qs).2 = (C02.cgAddN cfg ma qs).2 := by
  induction qs with
  | nil => intro mc ma h; exact ⟨h, rfl⟩
  | cons x r ih =>
    intro mc ma h
    obtain ⟨t, g⟩ := x
    simp only [cgAddN, C02.cgAddN]
    cases hk : g.key with
    | none => exact ⟨rel_graphEff cfg h g, rfl⟩
    | some k => exact ih (rel_add (rel_graphEff cfg h g) t k)

theorem rel_cgTriples (cfg : Cfg) (h : Rel mc ma) (tq : TQ) (c : GArg) :
    Rel (cgTriples cfg mc tq c).1 (C02.cgTriples cfg ma tq c).1 :=
  rel_graphEff cfg (rel_spocEff cfg h tq) _

theorem rel_cgContains (cfg : Cfg) (h : Rel mc ma) (tq : TQ) :
    Rel (cgContains cfg mc tq).1 (C02.cgContains cfg ma tq).1 :=
  rel_cgTriples cfg (rel_spocEff cfg h tq) _ _

theorem rel_dsGraph (cfg : Cfg) (h : Rel mc ma) (g : GArg) :
    Rel (dsGraph cfg mc g) (C02.dsGraph cfg ma g) := by
  unfold dsGraph C02.dsGraph
  cases g.key with
  | none => exact h
  | some k => exact rel_addGraph (rel_graphEff cfg h g) k

theorem rel_ite {c : Prop} [Decidable c] {a a' : CMem} {b b' : Mem} (h1 : c → Rel a b) (h2 : ¬c → Rel a' b') :
    Rel (if c then a else a') (if c then b else b') := by
  by_cases hc : c
  · rw [if_pos hc, if_pos hc]; exact h1 hc
  · rw [if_neg hc, if_neg hc]; exact h2 hc

theorem rel_dsRemoveGraph (cfg : Cfg) (h : Rel mc ma) (k : Key) :
    Rel (dsRemoveGraph cfg mc k) (C02.dsRemoveGraph cfg ma k) :=
  rel_ite (fun _ => rel_addGraph (rel_removeGraph h k) _) fun _ => rel_removeGraph h k

theorem rel_step (cfg : Cfg) (h : Rel mc ma) (op : Op) : Rel (step cfg mc op) (C02.step cfg ma op) := by
  cases op with
  | add t g => exact rel_cgAdd cfg h t g
  | addN qs => exact (rel_cgAddN qs h).1
  | remove tq => exact rel_remove (rel_spocEff cfg h tq) _ _
  | graph g => exact rel_ite (fun _ => rel_dsGraph cfg h g) fun _ => h
  | removeGraph k => exact rel_ite (fun _ => rel_dsRemoveGraph cfg h k) fun _ => h
  | removeContext k => exact rel_remove h TPat.all (some k)
  | vadd k t => exact rel_add h t k
  | vremove k p => exact rel_remove h p _
  | triples tq c => exact rel_cgTriples cfg h tq c
  | contains tq => exact rel_cgContains cfg h tq
  | quads tq => exact rel_spocEff cfg h tq
  | graphs => exact (rel_cgGraphs cfg h).1
  | choices c => exact rel_graphEff cfg h c

end

theorem rel_run {cfg : Cfg} (ops : List Op) :
    ∀ {mc : CMem} {ma : Mem}, Rel mc ma → Rel (run cfg mc ops) (C02.run cfg ma ops) := by
  induction ops with
  | nil => intro mc ma h; exact h
  | cons op ops ih => intro mc ma h; exact ih (rel_step cfg h op)

theorem rel_runS (sops : List SOp) :
    ∀ {cfg : Cfg} {mc : CMem} {ma : Mem}, Rel mc ma →
      (runS (cfg, mc) sops).1 = (C02.runS (cfg, ma) sops).1 ∧
        Rel (runS (cfg, mc) sops).2 (C02.runS (cfg, ma) sops).2 := by
  induction sops with
  | nil => intro cfg mc ma h; exact ⟨rfl, h⟩
  | cons o r ih =>
    intro cfg mc ma h
    cases o with
    | op o => exact ih (rel_step cfg h o)
    | setUnion b => exact ih (cfg := { cfg with du := b }) h

/-! ### answers of the layer's reading calls: concrete = abstract (as sets; the concrete ones duplicate-free) -/

section
variable {mc : CMem} {ma : Mem}

theorem cgTriples_out (cfg : Cfg) (h : Rel mc ma) (tq : TQ) (c : GArg) :
    (cgTriples cfg mc tq c).2.Nodup ∧
      ∀ t, t ∈ (cgTriples cfg mc tq c).2 ↔ t ∈ (C02.cgTriples cfg ma tq c).2 :=
  ⟨nodup_ctriples (rel_cgTriples cfg h tq c), mem_ctriples (rel_cgTriples cfg h tq c)⟩

theorem cgContains_out (cfg : Cfg) (h : Rel mc ma) (tq : TQ) :
    (cgContains cfg mc tq).2 = (C02.cgContains cfg ma tq).2 := by
  simp only [cgContains, C02.cgContains]
  rw [isEmpty_congr (cgTriples_out cfg (rel_spocEff cfg h tq) _ _).2]

theorem cgQuads_out (cfg : Cfg) (h : Rel mc ma) (tq : TQ) :
    (cgQuads cfg mc tq).2.Nodup ∧ ∀ q, q ∈ (cgQuads cfg mc tq).2 ↔ q ∈ (C02.cgQuads cfg ma tq).2 :=
  ⟨nodup_cquads (rel_spocEff cfg h tq), mem_cquads (rel_spocEff cfg h tq)⟩

theorem cgChoices_out (cfg : Cfg) (h : Rel mc ma) (ch : Choice) (c : GArg) (t : Triple) :
    t ∈ (cgTriplesChoices cfg mc ch c).2 ↔ t ∈ (C02.cgTriplesChoices cfg ma ch c).2 :=
  mem_cchoices (rel_graphEff cfg h c) ch _ t

theorem vContains_out (h : Rel mc ma) (k : Key) (p : TPat) : vContains mc k p = C02.vContains ma k p :=
  congrArg (!·) (isEmpty_congr (mem_ctriples h))

theorem vChoices_out (h : Rel mc ma) (k : Key) (ch : Choice) (t : Triple) :
    t ∈ vChoices mc k ch ↔ t ∈ C02.vChoices ma k ch :=
  mem_cchoices h ch (some k) t

end

end RV.C02.Conc

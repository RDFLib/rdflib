import RV.C08.LemOrder
import RV.C08.LemMods
/-
  C08 — the stable insertion sort that models Python's `sorted`: permutation, sortedness and stability on a
  strict weak order; a chain of such sorts, from the last key to the first, sorts lexicographically
  (`evalOrderBy`), and what that means in SPARQL's own terms.
-/
namespace RV.C08

variable {α : Type}

theorem perm_insertBy (lt : α → α → Bool) (x : α) (ys : List α) : (insertBy lt x ys).Perm (x :: ys) := by
  induction ys with
  | nil => exact List.Perm.refl _
  | cons y ys ih =>
    simp only [insertBy]
    split
    · exact List.Perm.refl _
    · exact (List.Perm.cons y ih).trans (List.Perm.swap x y ys)

theorem mem_insertBy {lt : α → α → Bool} {x z : α} {ys : List α} (h : z ∈ insertBy lt x ys) : z = x ∨ z ∈ ys :=
  List.mem_cons.1 ((perm_insertBy lt x ys).mem_iff.1 h)

theorem head_insertBy (lt : α → α → Bool) (x : α) (ys : List α) :
    (insertBy lt x ys).head? = some (match ys.head? with | none => x | some y => if lt x y then x else y) := by
  cases ys with
  | nil => rfl
  | cons y ys => simp only [insertBy, List.head?_cons]; split <;> rfl

theorem isort_snoc (lt : α → α → Bool) (xs : List α) (x : α) : isort lt (xs ++ [x]) = insertBy lt x (isort lt xs) := by
  have h : ∀ (xs acc : List α), isortAux lt acc (xs ++ [x]) = insertBy lt x (isortAux lt acc xs) := by
    intro xs
    induction xs with
    | nil => intro acc; rfl
    | cons y ys ih => intro acc; exact ih _
  exact h xs []

theorem perm_isort (lt : α → α → Bool) (xs : List α) : (isort lt xs).Perm xs := by
  induction xs using snoc_induction with
  | nil => exact .refl _
  | snoc xs x ih =>
    rw [isort_snoc]
    exact (perm_insertBy lt x _).trans ((ih.cons x).trans (List.perm_append_singleton x xs).symm)

theorem perm_pySorted (lt : α → α → Bool) (rev : Bool) (xs : List α) : (pySorted lt rev xs).Perm xs := by
  unfold pySorted
  split
  · exact (List.reverse_perm _).trans ((perm_isort lt _).trans (List.reverse_perm xs))
  · exact perm_isort lt xs

/-- `a` may stand before `b` after a stable sort by `lt`: `b` is not below `a`, and where the two tie, `R` (the order they
    had before) holds -/
def StableBefore (lt : α → α → Bool) (R : α → α → Prop) (a b : α) : Prop := lt b a = false ∧ (lt a b = true ∨ R a b)

theorem pairwise_insertBy {lt : α → α → Bool} {S : α → Prop} {R : α → α → Prop} (sw : StrictWeak lt S)
    (x : α) (hx : S x) : ∀ (ys : List α), (∀ y ∈ ys, S y) → ys.Pairwise (StableBefore lt R) → (∀ y ∈ ys, R y x) →
      (insertBy lt x ys).Pairwise (StableBefore lt R) := by
  intro ys
  induction ys with
  | nil => intro _ _ _; simp [insertBy]
  | cons y ys ih =>
    intro hS hp hR
    simp only [insertBy]
    have hy : S y := hS y (List.mem_cons_self)
    have hS' : ∀ z ∈ ys, S z := fun z hz => hS z (List.mem_cons_of_mem _ hz)
    rw [List.pairwise_cons] at hp
    cases hxy : lt x y with
    | true =>
      -- `x` goes in front: it is below the head, hence below everything behind the head
      have below : ∀ z ∈ y :: ys, lt x z = true := fun z hz => by
        rcases List.mem_cons.1 hz with rfl | hz
        · exact hxy
        · exact sw.lt_of_lt_of_not_lt hx hy (hS' z hz) hxy (hp.1 z hz).1
      exact List.pairwise_cons.2
        ⟨fun z hz => ⟨sw.asymm x z hx (hS z hz) (below z hz), Or.inl (below z hz)⟩, List.pairwise_cons.2 hp⟩
    | false =>
      simp only [Bool.false_eq_true, if_false]
      rw [List.pairwise_cons]
      refine ⟨?_, ih hS' hp.2 (fun z hz => hR z (List.mem_cons_of_mem _ hz))⟩
      intro z hz
      rcases mem_insertBy hz with rfl | hz'
      · exact ⟨hxy, Or.inr (hR y List.mem_cons_self)⟩
      · exact hp.1 z hz'

theorem pairwise_isort {lt : α → α → Bool} {S : α → Prop} {R : α → α → Prop} (sw : StrictWeak lt S)
    (xs : List α) (hS : ∀ x ∈ xs, S x) (hR : xs.Pairwise R) : (isort lt xs).Pairwise (StableBefore lt R) := by
  induction xs using snoc_induction with
  | nil => exact .nil
  | snoc xs x ih =>
    rw [isort_snoc]
    obtain ⟨h1, h2⟩ := List.pairwise_append.1 hR
    have hm : ∀ y, y ∈ isort lt xs → y ∈ xs := fun y => (perm_isort lt xs).mem_iff.1
    exact pairwise_insertBy sw x (hS x (by simp)) _ (fun y hy => hS y (List.mem_append_left _ (hm y hy)))
      (ih (fun y hy => hS y (List.mem_append_left _ hy)) h1) fun y hy => h2.2 y (hm y hy) x (List.mem_singleton_self x)

/-- `sorted(…, reverse=rev)` is a stable sort for the (possibly reversed) comparator:
    ties keep the order they had in the input, also when `reverse=True` -/
theorem pairwise_pySorted {lt : α → α → Bool} {S : α → Prop} {R : α → α → Prop} (sw : StrictWeak lt S)
    (rev : Bool) (xs : List α) (hS : ∀ x ∈ xs, S x) (hR : xs.Pairwise R) :
    (pySorted lt rev xs).Pairwise (StableBefore (dirLt lt rev) R) := by
  cases rev
  · exact pairwise_isort sw xs hS hR
  · simp only [pySorted, if_true]
    have h1 : xs.reverse.Pairwise (fun a b => R b a) := List.pairwise_reverse.2 hR
    have h2 := pairwise_isort (R := fun a b => R b a) sw xs.reverse (fun x hx => hS x (List.mem_reverse.1 hx)) h1
    rw [List.pairwise_reverse]
    refine h2.imp ?_
    intro a b hab
    simpa [StableBefore, dirLt] using hab

/-- `v` is a least element of `vals` for `lt`; `none` when there is nothing -/
def LeastOf (lt : α → α → Bool) (vals : List α) : Option α → Prop
  | none => vals = []
  | some m => m ∈ vals ∧ ∀ u ∈ vals, lt u m = false

theorem head_isort_least {lt : α → α → Bool} {S : α → Prop} (sw : StrictWeak lt S) {vals : List α} (hS : ∀ u ∈ vals, S u) :
    LeastOf lt vals (isort lt vals).head? := by
  have hp := perm_isort lt vals
  have hs := pairwise_isort (R := fun _ _ => True) sw vals hS (List.pairwise_of_forall fun _ _ => trivial)
  cases h : isort lt vals with
  | nil => exact List.perm_nil.1 (h ▸ hp).symm
  | cons m l =>
    rw [h] at hp hs
    have hm : m ∈ vals := hp.mem_iff.1 List.mem_cons_self
    refine ⟨hm, fun u hu => ?_⟩
    rcases List.mem_cons.1 (hp.mem_iff.2 hu) with rfl | hu
    · exact sw.irrefl (hS _ hm)
    · exact ((List.pairwise_cons.1 hs).1 u hu).1

theorem perm_evalOrderBy (keys : List (Expr × Bool)) (rows : List Row) :
    (evalOrderBy keys rows).Perm rows := by
  induction keys with
  | nil => exact List.Perm.refl _
  | cons k ks ih =>
    simp only [evalOrderBy, List.foldr_cons, sortByKey] at ih ⊢
    exact (perm_pySorted _ _ _).trans ih

theorem sorted_evalOrderBy (wd : Bool) (keys : List (Expr × Bool)) (rows : List Row)
    (h : ∀ k ∈ keys, ∀ r ∈ rows, okKey wd (evalE k.1 r) = true) :
    (evalOrderBy keys rows).Pairwise (fun a b => lexLt keys b a = false) := by
  induction keys with
  | nil => exact List.pairwise_of_forall fun _ _ => rfl
  | cons k ks ih =>
    have ih' := ih (fun k' hk' => h k' (List.mem_cons_of_mem _ hk'))
    have hS : ∀ r ∈ evalOrderBy ks rows, okKey wd (evalE k.1 r) = true :=
      fun r hr => h k List.mem_cons_self r ((perm_evalOrderBy ks rows).mem_iff.1 hr)
    -- ties of this pass keep the order of the passes before it: `R` is "not after, by the later keys" (`ih'`)
    have key := pairwise_pySorted ((strictWeak_keyLt wd).comap fun r => evalE k.1 r) k.2 (evalOrderBy ks rows) hS ih'
    show (sortByKey k (evalOrderBy ks rows)).Pairwise _
    unfold sortByKey
    refine key.imp ?_
    intro a b hab
    obtain ⟨h1, h2⟩ := hab
    simp only [lexLt, rowLt, Bool.or_eq_false_iff, Bool.and_eq_false_iff, Bool.not_eq_eq_eq_not]
    refine ⟨h1, ?_⟩
    rcases h2 with h2 | h2
    · exact Or.inl (Or.inr h2)
    · exact Or.inr h2

theorem lexLt_of_sparqlPrecedes (keys : List (Expr × Bool)) (a b : Row)
    (h : sparqlPrecedes keys a b = true) : lexLt keys a b = true := by
  induction keys with
  | nil => simp [sparqlPrecedes] at h
  | cons k ks ih =>
    obtain ⟨e, d⟩ := k
    simp only [sparqlPrecedes, Bool.or_eq_true, Bool.and_eq_true] at h
    simp only [lexLt, Bool.or_eq_true, Bool.and_eq_true, Bool.not_eq_eq_eq_not, Bool.not_true]
    rcases h with h | ⟨h1, h2⟩
    · exact Or.inl (by cases d <;> exact keyLt_of_sparqlLt h)
    · obtain ⟨e1, e2⟩ := keyLt_of_sparqlSame h1
      cases d with
      | false => exact Or.inr ⟨⟨e1, e2⟩, ih h2⟩
      | true => exact Or.inr ⟨⟨e2, e1⟩, ih h2⟩

end RV.C08

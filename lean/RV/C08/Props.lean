import RV.C08.LemAcc
import RV.C08.LemRewrite
import RV.C08.LemCal
/-
  C08 — "Solution modifiers and aggregates follow SPARQL (DISTINCT, ORDER, slice, GROUP)".
  The model (`Model.lean`) follows rdflib's code with the repairs of findings C08-F1 … F11 applied;
  the specification side is in `Spec.lean`.
-/
namespace RV.C08

/-! ## The tables probed from the live rdflib (`Tables.lean`) -/

/-- `type_promotion` never raises on numeric datatypes, is commutative, is idempotent up to the
    super type, and realises the chain integer ⊑ decimal ⊑ float ⊑ double of XPath numeric promotion -/
def Statement_type_promotion_table : Prop :=
  (∀ a ∈ DT.all, ∀ b ∈ DT.all, a.isNumericOp = true → b.isNumericOp = true → (typePromotion a b).isSome = true) ∧
  (∀ a ∈ DT.all, ∀ b ∈ DT.all, typePromotion a b = typePromotion b a) ∧
  (∀ a ∈ DT.all, typePromotion a a = some a.superType) ∧
  (∀ a ∈ DT.all, ∀ b ∈ DT.all, typePromotion a b = typePromotion a.superType b.superType ∧ a.superType.superType = a.superType) ∧
  (∀ a ∈ DT.all, a.isNumericOp = true → a.superType ∈ numericBase) ∧
  (typePromotion .integer .decimal = some .decimal ∧ typePromotion .decimal .float = some .float ∧
   typePromotion .float .double = some .double ∧ typePromotion .integer .float = some .float ∧
   typePromotion .integer .double = some .double ∧ typePromotion .decimal .double = some .double) ∧
  (∀ a ∈ numericBase, ∀ b ∈ numericBase, ∀ c ∈ numericBase,
     (typePromotion a b).bind (typePromotion · c) = (typePromotion b c).bind (typePromotion a ·))

theorem type_promotion_table : Statement_type_promotion_table := by
  have pair : ∀ a ∈ DT.all, ∀ b ∈ DT.all,
      (a.isNumericOp = true → b.isNumericOp = true → (typePromotion a b).isSome = true) ∧
      typePromotion a b = typePromotion b a ∧
      (typePromotion a b = typePromotion a.superType b.superType ∧ a.superType.superType = a.superType) := by
    decide +kernel
  exact ⟨fun a ha b hb => (pair a ha b hb).1, fun a ha b hb => (pair a ha b hb).2.1, by decide +kernel,
    fun a ha b hb => (pair a ha b hb).2.2, by decide +kernel, by decide +kernel, by decide +kernel⟩

/-- `_val` ranks are unbound < blank node < IRI < literal; the numeric datatypes of `rdflib.term` and of
    `operators.numeric` agree; datatype URIs are ranked injectively; all seven aggregates evaluate -/
def Statement_rank_tables : Prop :=
  (rankVariable < rankBNode ∧ rankBNode < rankIRI ∧ rankIRI < rankLiteral) ∧
  (∀ d ∈ DT.all, d.isNumericTerm = d.isNumericOp) ∧
  (∀ a ∈ DT.all, ∀ b ∈ DT.all, a.uriRank = b.uriRank → a = b) ∧
  aggregatesEvaluated = ["COUNT", "SAMPLE", "SUM", "AVG", "MIN", "MAX", "GROUP_CONCAT"]

theorem rank_tables : Statement_rank_tables := by
  refine ⟨by decide +kernel, by decide +kernel, by decide +kernel, by decide +kernel⟩

/-! ## Slice, Distinct, Reduced, Project (§18.5) -/

/-- LIMIT/OFFSET: exactly the slice -/
def Statement_slice_spec : Prop :=
  ∀ (α : Type) (o l : Nat) (xs : List α),
    evalSlice o (some l) xs = (xs.drop o).take l ∧ evalSlice o none xs = xs.drop o

theorem slice_spec : Statement_slice_spec :=
  fun _ o l xs =>
    ⟨(islice_skip o _ (fun s h => by cases h; exact Nat.le_add_right o l) o 0 xs (Nat.zero_add o)).trans
        (islice_take o _ o l (Nat.le_refl o)),
      (islice_skip o none (fun s h => nomatch h) o 0 xs (Nat.zero_add o)).trans (islice_all o _ o (Nat.le_refl o))⟩

/-- DISTINCT: every solution exactly once, the same set of solutions, order of first occurrence -/
def Statement_distinct_spec : Prop :=
  ∀ xs : List Row, (evalDistinct xs).Nodup ∧ (∀ x, x ∈ evalDistinct xs ↔ x ∈ xs) ∧
    (evalDistinct xs).Sublist xs ∧ evalDistinct xs = firstOcc xs

theorem distinct_spec : Statement_distinct_spec := by
  intro xs
  rw [evalDistinct_eq]
  exact ⟨nodup_firstOcc xs, fun _ => mem_firstOcc, sublist_firstOcc xs, rfl⟩

/-- REDUCED: between DISTINCT and the identity — no solution invented or multiplied, none lost -/
def Statement_reduced_between : Prop :=
  ∀ xs : List Row, (evalReduced xs).Sublist xs ∧ (∀ x, x ∈ evalReduced xs ↔ x ∈ xs)

theorem reduced_between : Statement_reduced_between := by
  intro xs
  refine ⟨sublist_reducedAux xs none, fun x => ⟨fun h => (sublist_reducedAux xs none).subset h, fun h => ?_⟩⟩
  rcases mem_reducedAux x xs none h with h | h
  · exact h
  · cases h

/-- projection keeps exactly the named variables (and keeps the number and order of solutions) -/
def Statement_project_spec : Prop :=
  ∀ (w : Nat) (pv : List Nat) (rows : List Row),
    (evalProject w pv rows).length = rows.length ∧
    ∀ (n : Nat) (h : n < rows.length), ∃ h' : n < (evalProject w pv rows).length,
      ((evalProject w pv rows)[n]).length = w ∧
      ∀ i, ((evalProject w pv rows)[n]).get i = if i < w ∧ i ∈ pv then (rows[n]).get i else none

theorem project_spec : Statement_project_spec := by
  intro w pv rows
  refine ⟨by simp [evalProject], fun n h => ⟨by simpa [evalProject] using h, ?_, ?_⟩⟩
  · simp [evalProject, length_projectRow]
  · intro i; simp [evalProject, get_projectRow]

/-! ## ORDER BY (§15.1, §18.5 OrderBy) -/

/-- ORDER BY returns the same multiset, arranged so that no later row precedes an earlier one under
    the SPARQL ordering of the sort keys (ASC/DESC, several keys) -/
def Statement_orderby_spec : Prop :=
  ∀ (keys : List (Expr × Bool)) (rows : List Row),
    (evalOrderBy keys rows).Perm rows ∧
    (evalOrderBy keys rows).Pairwise (fun a b => sparqlPrecedes keys b a = false)

def KeysOkAt (wd : Bool) (keys : List (Expr × Bool)) (rows : List Row) : Prop :=
  ∀ k ∈ keys, ∀ r ∈ rows, okKey wd (evalE k.1 r) = true

/-- every sort key value is one on which rdflib's literal comparison is consistent: either no key is an xsd:date /
    xsd:dateTime and the numeric datatype URIs sort between xsd:boolean and xsd:string (all but xsd:unsigned*), or dates
    are present and the numeric datatype URIs sort between xsd:dateTime and xsd:string (all but xsd:byte and xsd:unsigned*) -/
def KeysOk (keys : List (Expr × Bool)) (rows : List Row) : Prop := KeysOkAt false keys rows ∨ KeysOkAt true keys rows

instance (wd : Bool) (keys : List (Expr × Bool)) (rows : List Row) : Decidable (KeysOkAt wd keys rows) := by
  unfold KeysOkAt; infer_instance

instance (keys : List (Expr × Bool)) (rows : List Row) : Decidable (KeysOk keys rows) := by
  unfold KeysOk; infer_instance

instance (wd : Bool) (a : AggSpec) (rows : List Row) : Decidable (ValsOkAt wd a rows) := by
  unfold ValsOkAt; infer_instance

instance (a : AggSpec) (rows : List Row) : Decidable (ValsOk a rows) := by
  unfold ValsOk; infer_instance

/-- the repeated stable sort, last key first, sorts lexicographically -/
theorem stable_sort_chain (keys : List (Expr × Bool)) (rows : List Row) (h : KeysOk keys rows) :
    (evalOrderBy keys rows).Perm rows ∧ (evalOrderBy keys rows).Pairwise (fun a b => lexLt keys b a = false) := by
  refine ⟨perm_evalOrderBy keys rows, ?_⟩
  rcases h with h | h
  · exact sorted_evalOrderBy false keys rows h
  · exact sorted_evalOrderBy true keys rows h

theorem orderby_spec_partial (keys : List (Expr × Bool)) (rows : List Row) (h : KeysOk keys rows) :
    (evalOrderBy keys rows).Perm rows ∧
    (evalOrderBy keys rows).Pairwise (fun a b => sparqlPrecedes keys b a = false) := by
  refine ⟨perm_evalOrderBy keys rows, (stable_sort_chain keys rows h).2.imp fun {a b} hab => ?_⟩
  cases hp : sparqlPrecedes keys b a with
  | false => rfl
  | true => exact (lexLt_of_sparqlPrecedes keys b a hp).symm.trans hab

/-- known finding C08-K1 in the model: an xsd:unsignedInt next to a string and an integer.
    `"a" < 1u` and `5 < "a"` by datatype URI, `1u < 5` by value: the sort puts 5 before 1. -/
def k1Rows : List Row :=
  [[some (.num .unsignedInt 1 0)], [some (.str [97] [])], [some (.num .integer 5 0)]]

theorem orderby_spec_witness :
    ¬ ((evalOrderBy [(.var 0, false)] k1Rows).Pairwise (fun a b => sparqlPrecedes [(.var 0, false)] b a = false)) := by
  decide +kernel

example : ¬ KeysOk [(.var 0, false)] k1Rows := by decide +kernel

/-- non-vacuity of `orderby_spec_partial`: mixed kinds, numeric ties across datatypes, unbound, DESC -/
def exRows : List Row :=
  [[some (.num .integer 2 0), some (.str [98] [])], [none, some (.iri [97])],
   [some (.num .decimal 2 1), some (.bnode [120])], [some (.bool true), none],
   [some (.num .integer (-1) 0), some (.str [97] [])]]

example : KeysOk [(.var 0, true), (.var 1, false)] exRows := by decide +kernel
example : evalOrderBy [(.var 0, true), (.var 1, false)] exRows =
    [[some (.num .decimal 2 1), some (.bnode [120])], [some (.num .integer 2 0), some (.str [98] [])],
     [some (.num .integer (-1) 0), some (.str [97] [])], [some (.bool true), none], [none, some (.iri [97])]] := by
  decide +kernel

/-! ### xsd:dateTime / xsd:date sort keys -/

/-- how rdflib orders temporal keys (`Literal.__gt__` with `_TOTAL_ORDER_CASTERS`, CPython's `datetime` comparison):
    two xsd:dateTime — the one without timezone first, otherwise chronologically (instants for values with a timezone,
    local times for values without), two terms of one instant tied; two xsd:date — by proleptic ordinal; and between
    the classes, whatever the values: boolean < date < dateTime < string (datatype URIs).  `>` (MAX) is the converse. -/
def Statement_temporal_order : Prop :=
  (∀ f1 f2 : DTF, keyLt (some (.dateTime f1)) (some (.dateTime f2)) =
      (if f1.aware ≠ f2.aware then f2.aware else decide (f1.key < f2.key))) ∧
  (∀ f1 f2 : DF, keyLt (some (.date f1)) (some (.date f2)) = decide (f1.ord < f2.ord)) ∧
  (∀ (f : DF) (g : DTF), keyLt (some (.date f)) (some (.dateTime g)) = true ∧
      keyLt (some (.dateTime g)) (some (.date f)) = false) ∧
  (∀ (b : Bool) (f : DF) (g : DTF) (l lang : Str),
      keyLt (some (.bool b)) (some (.date f)) = true ∧ keyLt (some (.bool b)) (some (.dateTime g)) = true ∧
      keyLt (some (.date f)) (some (.str l lang)) = true ∧ keyLt (some (.dateTime g)) (some (.str l lang)) = true) ∧
  (∀ a b : Val, okKey true a = true → okKey true b = true → keyGt a b = keyLt b a)

theorem temporal_order : Statement_temporal_order := by
  -- between the classes the comparison never looks at the values: those clauses hold by evaluation
  refine ⟨fun f1 f2 => ?_, fun f1 f2 => ?_, fun f g => ⟨rfl, rfl⟩,
    fun b f g l lang => ⟨rfl, rfl, rfl, rfl⟩, fun _ _ ha hb => keyGt_flip true ha hb⟩
  · rw [keyLt_cls (.dateTime f1 f2)]
    simp only [litV, List.cons_lt_cons_iff, Rat.intCast_lt_intCast]
    cases f1.aware <;> cases f2.aware <;> simp <;> decide
  · exact (keyLt_cls (.date f1 f2)).trans (decide_eq_decide.2 (single_lt.trans Rat.natCast_lt_natCast))

/-- the model compares temporal values as points on the time line (`DF.ord` = `_ymd2ord`, `DTF.key` = ordinal, time of
    day and UTC offset in seconds — what CPython's `self - other` works with); CPython compares two dates, and two
    dateTimes with the same UTC offset (or both without), as FIELD TUPLES.  On valid field values the two agree, for
    `<` and for `==`; and an offset only shifts the point. -/
def Statement_calendar_order : Prop :=
  (∀ a b : DF, a.valid = true → b.valid = true →
      decide (a.ord < b.ord) = a.fieldsLt b ∧ (a.ord = b.ord ↔ a = b)) ∧
  (∀ a b : DTF, a.valid = true → b.valid = true → a.tz = b.tz →
      decide (a.key < b.key) = a.fieldsLt b ∧ (a.key = b.key ↔ a = b)) ∧
  (∀ (a : DTF) (z : Int), ({ a with tz := some z } : DTF).key = ({ a with tz := some 0 } : DTF).key - z * 60) ∧
  (∀ y, 1 ≤ y → daysBeforeYear (y + 1) = daysBeforeYear y + (if isLeap y then 366 else 365))

theorem calendar_order : Statement_calendar_order := by
  refine ⟨fun a b va vb => ⟨(DF.ord_reflects a b va vb).1, (DF.ord_reflects a b va vb).2, fun h => by rw [h]⟩,
    fun a b va vb htz => ⟨(DTF.key_reflects a b va vb htz).1, (DTF.key_reflects a b va vb htz).2, fun h => by rw [h]⟩,
    ?_, fun y hy => dby_succ y hy⟩
  intro a z
  simp only [DTF.key, Option.getD_some]
  omega

example : DTF.valid ⟨2020, 2, 29, 23, 59, 59, none⟩ = true ∧ DTF.valid ⟨2019, 2, 29, 0, 0, 0, none⟩ = false ∧
    DTF.valid ⟨1900, 2, 29, 0, 0, 0, some 60⟩ = false ∧ DTF.valid ⟨2000, 2, 29, 0, 0, 0, some 60⟩ = true ∧
    DTF.valid ⟨2020, 1, 1, 24, 0, 0, none⟩ = false ∧ ymd2ord 1 1 1 = 1 ∧ ymd2ord 2020 3 1 = 737485 ∧
    ymd2ord 9999 12 31 = 3652059 := by decide +kernel

/-- non-vacuity of `orderby_spec_partial` with temporal keys: dateTimes with and without timezone, one instant under
    two UTC offsets (tied, the second key decides), a date, a decimal, a string, a boolean, unbound -/
def tRows : List Row :=
  [[some (.dateTime ⟨2020, 1, 1, 5, 30, 0, some 330⟩), some (.num .integer 2 0)],
   [some (.str [97] []), none],
   [some (.dateTime ⟨2020, 1, 1, 0, 0, 0, some 0⟩), some (.num .integer 1 0)],
   [some (.dateTime ⟨2020, 3, 1, 0, 0, 0, none⟩), none],
   [some (.num .decimal (3 / 2) 1), none],
   [some (.date ⟨2020, 2, 29⟩), none],
   [none, none],
   [some (.dateTime ⟨2020, 2, 29, 23, 0, 0, some (-60)⟩), none],
   [some (.dateTime ⟨2020, 2, 29, 23, 59, 59, none⟩), none],
   [some (.bool true), none]]

example : KeysOk [(.var 0, false), (.var 1, true)] tRows := by decide +kernel
example : ¬ KeysOkAt false [(.var 0, false), (.var 1, true)] tRows := by decide +kernel
example : evalOrderBy [(.var 0, false), (.var 1, true)] tRows =
    [[none, none], [some (.bool true), none], [some (.date ⟨2020, 2, 29⟩), none],
     [some (.dateTime ⟨2020, 2, 29, 23, 59, 59, none⟩), none], [some (.dateTime ⟨2020, 3, 1, 0, 0, 0, none⟩), none],
     [some (.dateTime ⟨2020, 1, 1, 5, 30, 0, some 330⟩), some (.num .integer 2 0)],
     [some (.dateTime ⟨2020, 1, 1, 0, 0, 0, some 0⟩), some (.num .integer 1 0)],
     [some (.dateTime ⟨2020, 2, 29, 23, 0, 0, some (-60)⟩), none],
     [some (.num .decimal (3 / 2) 1), none], [some (.str [97] []), none]] := by decide +kernel

/-- known finding C08-K1 in the shape that dates add: `"5"^^xsd:byte < date < 1.0` by datatype URI but
    `1.0 < 5` by value — the reason why `KeysOk` with dates also excludes xsd:byte -/
def k1RowsByte : List Row :=
  [[some (.num .decimal 1 1)], [some (.date ⟨2020, 1, 1⟩)], [some (.num .byte 5 0)]]

theorem orderby_spec_witness_byte :
    ¬ ((evalOrderBy [(.var 0, false)] k1RowsByte).Pairwise (fun a b => sparqlPrecedes [(.var 0, false)] b a = false)) := by
  decide +kernel

example : ¬ KeysOk [(.var 0, false)] k1RowsByte := by decide +kernel

/-- LIMIT/OFFSET after ORDER BY: exactly that slice of the ordered sequence, itself in order -/
def Statement_slice_of_ordered : Prop :=
  ∀ (keys : List (Expr × Bool)) (rows : List Row) (o l : Nat), KeysOk keys rows →
    evalSlice o (some l) (evalOrderBy keys rows) = ((evalOrderBy keys rows).drop o).take l ∧
    (evalSlice o (some l) (evalOrderBy keys rows)).Pairwise (fun a b => sparqlPrecedes keys b a = false)

theorem slice_of_ordered : Statement_slice_of_ordered := by
  intro keys rows o l h
  have e := (slice_spec Row o l (evalOrderBy keys rows)).1
  refine ⟨e, ?_⟩
  rw [e]
  exact ((orderby_spec_partial keys rows h).2.sublist (List.drop_sublist _ _)).sublist (List.take_sublist _ _)

/-! ## GROUP BY (§18.5 Group, AggregateJoin) -/

/-- GROUP BY partitions the solutions by their key values: one row per distinct key (in order of first
    occurrence), whose aggregates have been fed exactly the solutions with that key, in order; every solution
    falls into exactly one group.  (Zero solutions: the single row without bindings of W3C test agg-empty-group.) -/
def Statement_group_partition : Prop :=
  ∀ (w : Nat) (ks : List Expr) (A : List AggSpec) (rows : List Row),
    aggregateJoin w (some ks) A rows =
      (if rows = [] then [emptyRow w]
       else (firstOcc (rows.map (keyOf ks))).map
         (fun k => bindAll A (foldAcc A (rows.filter (fun r => keyOf ks r = k))) (emptyRow w))) ∧
    (firstOcc (rows.map (keyOf ks))).Nodup ∧
    (∀ r ∈ rows, keyOf ks r ∈ firstOcc (rows.map (keyOf ks))) ∧
    foldAcc A rows = A.map (fun a => accRun a rows)

theorem group_partition : Statement_group_partition := by
  intro w ks A rows
  refine ⟨?_, nodup_firstOcc _, fun r hr => mem_firstOcc.2 (List.mem_map_of_mem hr), foldAcc_eq A rows⟩
  rw [aggregateJoin, groupAll_eq]
  cases rows with
  | nil => rfl
  | cons r rs => simp only [reduceCtorEq, if_false, List.map_cons, firstOcc, List.map_map]; rfl

/-- without GROUP BY (aggregates only) there is exactly one group, also over zero solutions -/
def Statement_implicit_group_single_row : Prop :=
  ∀ (w : Nat) (A : List AggSpec) (rows : List Row),
    aggregateJoin w none A rows = [bindAll A (foldAcc A rows) (emptyRow w)]

theorem implicit_group_single_row : Statement_implicit_group_single_row := by
  intro w A rows; rfl

/-! ## The set functions (§18.5.1).  `aggValue a rows` is what the accumulator of aggregate `a` binds after
    having been fed `rows`; `argVals a rows` are the argument's values, errors (unbound, type errors) left out —
    the reading rdflib implements and pins in its tests; on groups without errors it coincides with §18.5.1 read
    literally. -/

/-- COUNT(*) counts solutions, COUNT(expr) the non-error values; DISTINCT counts each once -/
def Statement_count_spec : Prop :=
  ∀ (a : AggSpec) (rows : List Row), a.kind = .count →
    aggValue a rows = some (.num .integer
      ((if a.star then (dedupIf a.dist rows).length else (dedupIf a.dist (argVals a rows)).length : Nat) : Rat) 0)

theorem count_spec : Statement_count_spec := by
  intro a rows hk
  obtain ⟨seen, seenRows, h⟩ := count_inv a hk rows
  simp [aggValue, h, AccSt.value]

/-- SUM adds the (DISTINCT) numeric values from the integer 0, LEFT TO RIGHT in solution order (`sumLR`, Spec.lean):
    exactly while only integers / decimals are involved, and — as CPython does once an xsd:double / xsd:float value has
    been met — by converting both operands to binary64 and rounding the exact sum to binary64 (`addNum`); its datatype is
    the XPath promotion of the datatypes.  Without floating operands this is the exact sum. -/
def Statement_sum_spec : Prop :=
  ∀ (a : AggSpec) (rows : List Row), a.kind = .sum →
    aggValue a rows = some (mkNum (promoteAll .integer ((numArgs a rows).map (·.1)))
      (sumLR (numArgs a rows)) (maxScale ((numArgs a rows).map (·.2.2)))) ∧
    (((numArgs a rows).map (·.1)).any DT.isFloating = false →
      sumLR (numArgs a rows) = sumRat ((numArgs a rows).map (·.2.1)))

theorem sum_spec : Statement_sum_spec := by
  intro a rows hk
  obtain ⟨seen, h⟩ := sum_inv a hk rows
  exact ⟨by simp [aggValue, h, AccSt.value, sumDT_getD], sumLR_exact _⟩

/-- `sumLR` is the fold of CPython's additions in solution order: the running value is a `float` from the first
    xsd:double / xsd:float operand on; from then on every step is `round64 (round64 running + round64 next)` (round to
    nearest, ties to even; `F.roundF`, Float.lean); before, it is exact.  The datatype of the SUM is floating exactly
    when an operand is.  Because of the rounding the SUM of doubles depends on the order of the solutions
    (0.1 + 0.2 + 0.3 = 0.6000000000000001, 0.3 + 0.2 + 0.1 = 0.6; 2^53 + 1 + 1 = 2^53, 1 + 1 + 2^53 = 2^53 + 2). -/
def Statement_sum_double_spec : Prop :=
  sumLR [] = 0 ∧
  (∀ (ns : List (DT × Rat × Nat)) (n : DT × Rat × Nat),
    sumLR (ns ++ [n]) = addNum (((ns ++ [n]).map (·.1)).any DT.isFloating) (sumLR ns) n.2.1) ∧
  (∀ v x : Rat, addNum true v x = F.roundF (F.roundF v + F.roundF x) ∧ addNum false v x = v + x) ∧
  (∀ (ds : List DT), (∀ d ∈ ds, d.isNumericOp = true) →
    (promoteAll .integer ds).isFloating = ds.any DT.isFloating) ∧
  (∀ v : Rat, F.roundF (-v) = - F.roundF v)

theorem sum_double_spec : Statement_sum_double_spec := by
  refine ⟨rfl, fun ns n => ?_, fun v x => ⟨rfl, rfl⟩, fun ds h => ?_, fun v => ?_⟩
  · rw [sumLR_snoc]; simp [List.any_append]
  · rw [(promoteAll_num ds .integer (by decide) h).2]; rfl
  · exact roundF_neg v

/-- the xsd:double operand nearest to `m · 10^-s` -/
def dbl (m : Int) (s : Nat) : DT × Rat × Nat := (.double, F.roundF (mkRat m (pow10 s)), s)

/-- order dependence of a SUM over doubles, on the concrete binary64 values -/
theorem sum_double_order_witness :
    sumLR [dbl 1 1, dbl 2 1, dbl 3 1] ≠ sumLR [dbl 3 1, dbl 2 1, dbl 1 1] ∧
    F.floatLex (sumLR [dbl 1 1, dbl 2 1, dbl 3 1]) = "0.6000000000000001".toList.map Char.toNat ∧
    F.floatLex (sumLR [dbl 3 1, dbl 2 1, dbl 1 1]) = "0.6".toList.map Char.toNat ∧
    sumLR [dbl 90071992547409920 1, dbl 1 0, dbl 1 0] = 9007199254740992 ∧
    sumLR [dbl 1 0, dbl 1 0, dbl 90071992547409920 1] = 9007199254740994 ∧
    -- a decimal met after a double is converted to binary64 first; before, decimals add exactly
    sumLR [(.decimal, 1 / 10, 1), (.decimal, 2 / 10, 1), dbl 3 1] = F.roundF (F.roundF (3 / 10) + F.roundF (3 / 10)) := by
  decide +kernel

/-- AVG = Sum / Count over the (DISTINCT) numeric values, integer 0 for none; xsd:decimal unless a value is
    xsd:float/xsd:double.  Without floating values: the exact quotient, and the decimal TERM is determined too (its lexical
    form has `avgScale q (largest scale among the values)` fraction digits — what Python's `Decimal(sum) / Decimal(count)`
    gives, see `decimal_scale_spec`).  With a floating value: the left-to-right binary64 sum `sumLR` divided by the count
    and rounded to binary64 (`float / int`), with a floating datatype. -/
def Statement_avg_spec : Prop :=
  ∀ (a : AggSpec) (rows : List Row), a.kind = .avg →
    let ns := numArgs a rows
    let q := sumRat (ns.map (·.2.1)) / ((ns.length : Nat) : Rat)
    (ns = [] → aggValue a rows = some (.num .integer 0 0)) ∧
    (ns ≠ [] → (ns.map (·.1)).any DT.isFloating = false →
      aggValue a rows = some (.num .decimal q (avgScale q (maxScale (ns.map (·.2.2)))))) ∧
    (ns ≠ [] → (ns.map (·.1)).any DT.isFloating = true →
      ∃ d, d.isFloating = true ∧ aggValue a rows = some (mkNum d (F.roundF (sumLR ns / ((ns.length : Nat) : Rat))) 0))

theorem avg_spec : Statement_avg_spec := by
  intro a rows hk
  obtain ⟨seen, h⟩ := avg_inv a hk rows
  by_cases hn : numArgs a rows = []
  · exact ⟨fun _ => by simp [aggValue, h, AccSt.value, hn], fun c => absurd hn c, fun c => absurd hn c⟩
  · obtain ⟨d0, hd, _, hfl⟩ := avgDT_spec (numArgs_ops a rows) hn
    have hlen : (numArgs a rows).length ≠ 0 := fun e => hn (List.length_eq_zero_iff.1 e)
    refine ⟨fun c => absurd c hn, fun _ hf => ?_, fun _ hf => ?_⟩
    · rw [hf] at hfl
      simp [aggValue, h, AccSt.value, hlen, hd, hfl, sumLR_exact _ hf]
    · rw [hf] at hfl
      exact ⟨d0, hfl, by simp [aggValue, h, AccSt.value, hlen, hd, hfl]⟩

/-- the scale of an AVG quotient: if `q · 10^m` is an integer for some `m < 30` then the least such `m` is found
    and the quotient keeps `max (scale of the sum) m` fraction digits; otherwise the marker `inexactScale`,
    the same for every non-terminating quotient (Python rounds those to 28 significant digits, a function of the
    value alone) -/
def Statement_decimal_scale_spec : Prop :=
  ∀ (q : Rat) (sumScale : Nat),
    (∀ m, decScale? q = some m →
      (q * ((pow10 m : Nat) : Rat)).den = 1 ∧ (∀ j, j < m → (q * ((pow10 j : Nat) : Rat)).den ≠ 1) ∧
      avgScale q sumScale = max sumScale m) ∧
    (decScale? q = none →
      (∀ j, j < 30 → (q * ((pow10 j : Nat) : Rat)).den ≠ 1) ∧ avgScale q sumScale = inexactScale)

theorem decimal_scale_spec : Statement_decimal_scale_spec := by
  intro q sc
  obtain ⟨h1, h2⟩ := decScaleAux_spec q 30 0
  constructor
  · intro m h
    rw [show decScaleAux q 30 0 = some m from h] at h1
    exact ⟨h2 m h, fun j hj => h1 j (Nat.zero_le _) hj, by simp [avgScale, h]⟩
  · intro h
    rw [show decScaleAux q 30 0 = none from h] at h1
    exact ⟨fun j hj => h1 j (Nat.zero_le _) (by simpa using hj), by simp [avgScale, h]⟩

/-- two decimal AVG results are the same TERM (and so collapse under DISTINCT) iff they have the same value and
    the same number of fraction digits; e.g. AVG{5, 0} = "2.5" = AVG{5.0, 0} ≠ "2.50" = AVG{5.00, 0}, and every
    group averaging to 1/3 yields the one term 0.3333333333333333333333333333 -/
def Statement_avg_term_identity : Prop :=
  ∀ (q1 q2 : Rat) (s1 s2 : Nat),
    (Term.num .decimal q1 (avgScale q1 s1) = Term.num .decimal q2 (avgScale q2 s2) ↔
      q1 = q2 ∧ avgScale q1 s1 = avgScale q1 s2) ∧
    (decScale? q1 = none → Term.num .decimal q1 (avgScale q1 s1) = Term.num .decimal q1 (avgScale q1 s2))

theorem avg_term_identity : Statement_avg_term_identity := by
  intro q1 q2 s1 s2
  constructor
  · constructor
    · intro h
      injection h with _ h2 h3
      subst h2
      exact ⟨rfl, h3⟩
    · rintro ⟨rfl, h⟩
      rw [h]
  · intro h
    simp [avgScale, h]

example : avgScale (5 / 2) 0 = 1 ∧ avgScale (5 / 2) 1 = 1 ∧ avgScale (5 / 2) 2 = 2 ∧ avgScale 3 0 = 0 ∧
    avgScale (1 / 3) 0 = inexactScale ∧ avgScale (5 / 4) 2 = 2 ∧ avgScale (1 / 8) 0 = 3 := by decide +kernel

/-- MIN/MAX: unbound for no values; otherwise a value of the group that no value of the group precedes
    (resp. that precedes no value of the group) in the SPARQL ordering (`minOk`, `maxOk` in Spec.lean) -/
def Statement_min_spec : Prop :=
  ∀ (a : AggSpec) (rows : List Row), a.kind = .min → minOk (aggValue a rows) (argVals a rows) = true

def Statement_max_spec : Prop :=
  ∀ (a : AggSpec) (rows : List Row), a.kind = .max → maxOk (aggValue a rows) (argVals a rows) = true

theorem min_spec_partial (a : AggSpec) (rows : List Row) (hk : a.kind = .min) (hok : ValsOk a rows) :
    minOk (aggValue a rows) (argVals a rows) = true :=
  hok.elim (minOk_aggValue false a hk rows) (minOk_aggValue true a hk rows)

theorem max_spec_partial (a : AggSpec) (rows : List Row) (hk : a.kind = .max) (hok : ValsOk a rows) :
    maxOk (aggValue a rows) (argVals a rows) = true :=
  hok.elim (maxOk_aggValue false a hk rows) (maxOk_aggValue true a hk rows)

/-- C08-K1 for MIN: over `1u, "a", 5` it answers 5 -/
theorem min_spec_witness :
    ¬ (minOk (aggValue ⟨.min, false, false, .var 0, none, 1⟩ k1Rows)
        (argVals ⟨.min, false, false, .var 0, none, 1⟩ k1Rows) = true) := by
  decide +kernel

/-- C08-K1 for MAX: over `5, "a", 1u` it answers 1u -/
def k1Rows' : List Row :=
  [[some (.num .integer 5 0)], [some (.str [97] [])], [some (.num .unsignedInt 1 0)]]

theorem max_spec_witness :
    ¬ (maxOk (aggValue ⟨.max, false, false, .var 0, none, 1⟩ k1Rows')
        (argVals ⟨.max, false, false, .var 0, none, 1⟩ k1Rows') = true) := by
  decide +kernel

/-- non-vacuity of the partial theorems: a group of mixed kinds with an unbound value -/
example : ValsOk ⟨.min, false, false, .var 0, none, 1⟩ exRows ∧
    aggValue ⟨.min, false, false, .var 0, none, 1⟩ exRows = some (.bool true) ∧
    aggValue ⟨.max, false, false, .var 0, none, 1⟩ exRows = some (.num .integer 2 0) := by
  refine ⟨by decide +kernel, by decide +kernel, by decide +kernel⟩

/-- non-vacuity with temporal values: MIN / MAX over the column of `tRows` -/
example : ValsOk ⟨.min, false, false, .var 0, none, 2⟩ tRows ∧
    aggValue ⟨.min, false, false, .var 0, none, 2⟩ tRows = some (.bool true) ∧
    aggValue ⟨.max, false, false, .var 0, none, 2⟩ tRows = some (.str [97] []) ∧
    aggValue ⟨.min, false, false, .var 0, none, 2⟩ (tRows.take 1 ++ (tRows.drop 2).take 2) =
      some (.dateTime ⟨2020, 3, 1, 0, 0, 0, none⟩) ∧
    aggValue ⟨.max, false, false, .var 0, none, 2⟩ (tRows.take 1 ++ (tRows.drop 2).take 2) =
      some (.dateTime ⟨2020, 1, 1, 5, 30, 0, some 330⟩) := by
  refine ⟨by decide +kernel, by decide +kernel, by decide +kernel, by decide +kernel, by decide +kernel⟩

/-- SAMPLE: a value of the group (the first one), unbound iff there is none -/
def Statement_sample_spec : Prop :=
  ∀ (a : AggSpec) (rows : List Row), a.kind = .sample →
    aggValue a rows = (argVals a rows).head? ∧
    (∀ m, aggValue a rows = some m → m ∈ argVals a rows) ∧ (aggValue a rows = none ↔ argVals a rows = [])

theorem sample_spec : Statement_sample_spec := by
  intro a rows hk
  have h := sample_inv a hk rows
  have e : aggValue a rows = (argVals a rows).head? := by simp [aggValue, h, AccSt.value]
  refine ⟨e, ?_, ?_⟩
  · intro m hm
    rw [e] at hm
    exact List.mem_of_mem_head? hm
  · rw [e]; cases argVals a rows <;> simp

/-- a variable that has the same value (or no value) in every solution of a non-empty group — a GROUP BY key —
    SAMPLEs to that value.  With `rewrite_correct` (variables in HAVING, and in ORDER BY unless they are SELECT
    aliases, are always rewritten to SAMPLEs, whether or not the clause contains an aggregate) this is the law for `HAVING (?key …)` and
    `ORDER BY ?key` on a key that is not selected. -/
def Statement_sample_of_group_key : Prop :=
  ∀ (v : Nat) (x : Val) (rows : List Row), rows ≠ [] → (∀ r ∈ rows, r.get v = x) →
    aggValue ⟨.sample, false, false, .var v, none, 0⟩ rows = x

theorem sample_of_group_key : Statement_sample_of_group_key := by
  intro v x rows hne h
  rw [(sample_spec ⟨.sample, false, false, .var v, none, 0⟩ rows rfl).1]
  cases rows with
  | nil => exact absurd rfl hne
  | cons r rs =>
    have hr : evalE (Expr.var v) r = x := h r List.mem_cons_self
    cases x with
    | some t => simp [argVals, hr]
    | none =>
      have : argVals ⟨.sample, false, false, .var v, none, 0⟩ (r :: rs) = [] := by
        simp only [argVals, List.filterMap_eq_nil_iff]
        intro a ha; exact h a ha
      rw [this]; rfl

/-- GROUP_CONCAT: the STR() forms of the (DISTINCT) values joined by the separator (default one space) -/
def Statement_groupconcat_spec : Prop :=
  ∀ (a : AggSpec) (rows : List Row), a.kind = .gconcat →
    aggValue a rows = some (.str (joinStr (a.sep.getD [32]) ((dedupIf a.dist (argVals a rows)).map lexOf)) [])

theorem groupconcat_spec : Statement_groupconcat_spec := by
  intro a rows hk
  obtain ⟨seen, h⟩ := gc_inv a hk rows
  simp [aggValue, h, AccSt.value]

/-- the defined results for the empty group: COUNT 0, SUM 0, AVG 0 (xsd:integer), MIN/MAX/SAMPLE unbound,
    GROUP_CONCAT "" -/
def Statement_empty_group_values : Prop :=
  ∀ (a : AggSpec),
    aggValue a [] = (match a.kind with
      | .count => some (.num .integer 0 0)
      | .sum => some (.num .integer 0 0)
      | .avg => some (.num .integer 0 0)
      | .min => none
      | .max => none
      | .sample => none
      | .gconcat => some (.str [] []))

theorem empty_group_values : Statement_empty_group_values := by
  intro a
  obtain ⟨k, d, s, arg, sep, res⟩ := a
  -- the initial state of each accumulator, read out
  cases k <;> rfl

/-! ## HAVING and the order of the stages -/

/-- HAVING keeps exactly the groups (rows after aggregation) whose condition evaluates to true, in order -/
def Statement_having_filters_groups : Prop :=
  ∀ (e : Expr) (rows : List Row),
    (filterRows e rows).Sublist rows ∧
    ∀ r, r ∈ filterRows e rows ↔ r ∈ rows ∧ evalE e r = some (.bool true)

theorem having_filters_groups : Statement_having_filters_groups := by
  intro e rows
  refine ⟨List.filter_sublist, fun r => ?_⟩
  rw [filterRows, List.mem_filter, ebvTrue_iff]

/-- the stages of an aggregate query, in the order of SPARQL §18.2.4/18.2.5: AggregateJoin over the rewritten
    aggregates, aliases of the sampled SELECT variables, HAVING, SELECT expressions, ORDER BY, projection,
    DISTINCT/REDUCED, OFFSET/LIMIT -/
theorem query_stages (q : Query) (input : List Row) (h : q.isAggregate = true) :
    let t := translateAggregates q
    let w := q.nuser + t.A.length
    let grouped := t.aliases.foldl (fun rows al => extend (.var al.1) al.2 rows)
      (aggregateJoin w q.group t.A
        (q.groupAs.foldl (fun rows ga => extend ga.2 ga.1 rows) (input.map (padRow w))))
    evalQuery q input =
      applySlice q.offset q.limit
        (applyModifier q.modifier
          (evalProject q.nuser (q.proj.map Proj.name)
            (evalOrderBy t.order (extendProj t.proj (applyHaving t.having grouped))))) := by
  simp only [evalQuery, groupStage, h, if_true]

/-- `translateAggregates` is correct: (a) the row AggregateJoin builds for a group carries, at each `__agg_n__`,
    the value of that aggregate over the group; (b) it keeps doing so while Extend binds user variables;
    (c) on any such row the rewritten SELECT expressions, HAVING condition and ORDER BY keys evaluate to what the
    original expressions mean on the group (`evalG`: aggregates over the group, bare variables SAMPLEd, SELECT
    aliases read from the row); (d) every plain SELECT variable is bound, through its alias pair, to a SAMPLE of
    itself.  Covers an aggregate inside an expression, the implicit SAMPLE, HAVING after aliasing, and
    ORDER BY on an alias next to an aggregate. -/
def Statement_rewrite_correct : Prop :=
  ∀ (q : Query),
    (∀ (w : Nat) (rows : List Row),
      Carries q.nuser (translateAggregates q).A rows
        (bindAll (translateAggregates q).A (foldAcc (translateAggregates q).A rows) (emptyRow w))) ∧
    (∀ (rows : List Row) (g : Row) (v : Nat) (x : Val), v < q.nuser →
      Carries q.nuser (translateAggregates q).A rows g → Carries q.nuser (translateAggregates q).A rows (g.set v x)) ∧
    (∀ (rows : List Row) (g : Row), Carries q.nuser (translateAggregates q).A rows g →
      Forall2 (ProjAgrees rows g) q.proj (translateAggregates q).proj ∧
      (match q.having, (translateAggregates q).having with
       | none, none => True
       | some h, some h' => evalE h' g = evalG [] rows g h
       | _, _ => False) ∧
      Forall2 (KeyAgrees (q.proj.filterMap Proj.alias?) rows g) q.order (translateAggregates q).order) ∧
    (∀ al ∈ (translateAggregates q).aliases, Proj.var al.2 ∈ q.proj ∧ ∃ i, al.1 = q.nuser + i ∧
      (translateAggregates q).A[i]? = some ⟨.sample, false, false, .var al.2, none, q.nuser + i⟩)

theorem rewrite_correct : Statement_rewrite_correct := by
  intro q
  -- the four passes of `translateAggregates`, each extending the aggregate list of the one before
  rw [translateAggregates_eq q]
  obtain ⟨gP, proj⟩ := rewriteProj_spec q.nuser q.proj []
  obtain ⟨gH, having⟩ := having_spec q.nuser q.having _
  obtain ⟨gO, order⟩ := rewriteOrder_spec q.nuser (q.proj.filterMap Proj.alias?) q.order _
  obtain ⟨gS, aliases⟩ := sampleVars_spec q.nuser q.proj _
  exact ⟨fun w rows => groupRow_carries _ w _ ((gP.trans (gH.trans (gO.trans gS))).numbered (.nil _)) rows,
    fun rows g v x hv hc => hc.set hv x,
    fun rows g hc => ⟨proj _ rows g (gH.trans (gO.trans gS)).prefix hc, having _ rows g (gO.trans gS).prefix hc,
      order _ rows g gS.prefix hc⟩, aliases⟩

/-- non-vacuity: `SELECT ?g (SUM(?v) + 1 AS ?x) … GROUP BY ?g HAVING (COUNT(?v) > 1) ORDER BY DESC(?x) COUNT(?v)` -/
def exQuery : Query :=
  { nuser := 3, groupAs := [], group := some [.var 0],
    proj := [.var 0, .expr 2 (.add (.agg .sum false false (.var 1) none) (.const (.num .integer 1 0)))],
    having := some (.cmp .gt (.agg .count false false (.var 1) none) (.const (.num .integer 1 0))),
    order := [(.var 2, true), (.agg .count false false (.var 1) none, false)],
    modifier := .none, offset := none, limit := none }

example : ((translateAggregates exQuery).A.map (·.kind), (translateAggregates exQuery).A.map (·.res),
    (translateAggregates exQuery).aliases) =
    ([.sum, .count, .count, .sample], [3, 4, 5, 6], [(6, 0)]) := by decide +kernel

def exInput : List Row :=
  [[some (.num .integer 1 0), some (.num .integer 2 0)], [some (.num .integer 2 0), some (.num .decimal (5 / 2) 1)],
   [some (.num .integer 1 0), some (.num .integer 4 0)], [some (.num .integer 2 0), none],
   [some (.num .integer 2 0), some (.num .integer 1 0)], [some (.num .integer 3 0), some (.num .integer 9 0)]]

example : evalQuery exQuery exInput =
    [[some (.num .integer 1 0), none, some (.num .integer 7 0)],
     [some (.num .integer 2 0), none, some (.num .decimal (9 / 2) 1)]] := by decide +kernel

end RV.C08

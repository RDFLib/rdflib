import RV.C08.LemSort
/-
  C08 — the accumulators (Counter, Sum, Average, Extremum, Sample, GroupConcat) against the set
  functions of §18.5.1, by an invariant over the solutions fed so far; at the end the two facts of arithmetic that
  the statements about SUM and AVG quote (`roundF_neg`, `decScaleAux_spec`).
-/
namespace RV.C08
variable {α : Type}

theorem argVals_snoc (a : AggSpec) (rows : List Row) (r : Row) :
    argVals a (rows ++ [r]) = argVals a rows ++ (match evalE a.arg r with | some t => [t] | none => []) := by
  simp only [argVals, List.filterMap_append, List.filterMap_cons, List.filterMap_nil]
  cases evalE a.arg r <;> rfl

theorem accRun_snoc (a : AggSpec) (rows : List Row) (r : Row) :
    accRun a (rows ++ [r]) = (accRun a rows).update a r := by
  simp [accRun, List.foldl_append]

theorem contains_iff_mem [DecidableEq α] (xs : List α) (x : α) : xs.contains x = true ↔ x ∈ xs := by simp

theorem dedupIf_nil [DecidableEq α] (d : Bool) : dedupIf d ([] : List α) = [] := by cases d <;> rfl

/-- the `seen` set of a DISTINCT accumulator holds exactly the values met; without DISTINCT it is not looked at -/
def SeenOk (dist : Bool) (seen vals : List α) : Prop := dist = true → ∀ t, t ∈ seen ↔ t ∈ vals

theorem SeenOk.nil {dist : Bool} : SeenOk dist ([] : List α) [] := fun _ _ => Iff.rfl

/-- one more value: skipped iff it is no new first occurrence (`firstOcc` compares with `DecidableEq`, `contains` with
    `BEq`: hence both) -/
theorem SeenOk.step [DecidableEq α] [BEq α] [LawfulBEq α] {dist : Bool} {seen vals : List α} (h : SeenOk dist seen vals) (t : α) :
    if (dist && seen.contains t) = true then
      dedupIf dist (vals ++ [t]) = dedupIf dist vals ∧ SeenOk dist seen (vals ++ [t])
    else dedupIf dist (vals ++ [t]) = dedupIf dist vals ++ [t] ∧
      SeenOk dist (if dist then t :: seen else seen) (vals ++ [t]) := by
  cases dist with
  | false => exact ⟨rfl, fun d => nomatch d⟩
  | true =>
    have hs := h rfl
    simp only [Bool.true_and, List.contains_iff_mem, dedupIf, if_true, firstOcc_snoc, ← hs t]
    split
    · rename_i m
      refine ⟨rfl, fun _ u => ?_⟩
      rw [List.mem_append, List.mem_singleton, hs u]
      exact ⟨Or.inl, fun h => h.elim id fun e => e ▸ (hs t).1 m⟩
    · refine ⟨rfl, fun _ u => ?_⟩
      rw [List.mem_append, List.mem_singleton, List.mem_cons, hs u, or_comm]

/-- the values an accumulator takes in: the `val`ues of the solutions on which `f` is defined
    (`val = evalE a.arg`, `f = some`: `argVals`; `f = numericOf`: `numTerms`; `val = some`: the solutions themselves) -/
def taken {γ β : Type} (val : Row → Option γ) (f : γ → Option β) (rows : List Row) : List γ :=
  (rows.filterMap val).filter fun t => (f t).isSome

theorem taken_snoc {γ β : Type} (val : Row → Option γ) (f : γ → Option β) (rows : List Row) (r : Row) :
    taken val f (rows ++ [r]) = taken val f rows ++
      match (val r).bind fun t => (f t).map fun _ => t with
      | some t => [t]
      | none => [] := by
  rw [taken, List.filterMap_append, List.filter_append]
  cases h : val r with
  | none => simp [taken, h]
  | some t => cases h' : f t <;> simp [h, h', taken]

/-- COUNT, GROUP_CONCAT, SUM and AVG at once: an accumulator whose update skips a value exactly when DISTINCT is on and
    the value has been seen holds `f` of the (first occurrences of the) values taken in.  `hup` may use that what the
    state holds came from some values (SUM and AVG: the earlier operands are numeric) -/
theorem acc_inv {γ β : Type} [DecidableEq γ] [BEq γ] [LawfulBEq γ] (val : Row → Option γ) (f : γ → Option β)
    (a : AggSpec) (mk : List β → List γ → AccSt) (h0 : initAcc a = mk [] [])
    (hnone : ∀ bs seen r, val r = none → (mk bs seen).update a r = mk bs seen)
    (hirr : ∀ bs seen r t, val r = some t → f t = none → (mk bs seen).update a r = mk bs seen)
    (hup : ∀ bs seen r t b, val r = some t → f t = some b → (∀ b' ∈ bs, ∃ t', f t' = some b') →
      (mk bs seen).update a r =
        if (a.dist && seen.contains t) = true then mk bs seen else mk (bs ++ [b]) (if a.dist then t :: seen else seen))
    (rows : List Row) :
    ∃ seen, accRun a rows = mk ((dedupIf a.dist (taken val f rows)).filterMap f) seen := by
  -- the induction carries along what `seen` holds
  suffices strong : ∃ seen, accRun a rows = mk ((dedupIf a.dist (taken val f rows)).filterMap f) seen ∧
      SeenOk a.dist seen (taken val f rows) from strong.imp fun _ h => h.1
  induction rows using snoc_induction with
  | nil => exact ⟨[], by rw [accRun, List.foldl_nil, h0, taken, List.filterMap_nil, List.filter_nil, dedupIf_nil]; rfl, .nil⟩
  | snoc rows r ih =>
    obtain ⟨seen, h, hseen⟩ := ih
    rw [accRun_snoc, h, taken_snoc]
    cases he : val r with
    | none =>
      rw [Option.bind_none, List.append_nil, hnone _ _ _ he]
      exact ⟨seen, rfl, hseen⟩
    | some t =>
      rw [Option.bind_some]
      cases hf : f t with
      | none =>
        rw [Option.map_none, List.append_nil, hirr _ _ _ _ he hf]
        exact ⟨seen, rfl, hseen⟩
      | some b =>
        have k := hseen.step t
        rw [Option.map_some, hup _ _ _ _ _ he hf fun b' hb' => by
          obtain ⟨t', _, ht'⟩ := List.mem_filterMap.1 hb'; exact ⟨t', ht'⟩]
        split <;> rename_i c
        · rw [if_pos c] at k; exact ⟨seen, by rw [k.1], k.2⟩
        · rw [if_neg c] at k
          exact ⟨_, by rw [k.1, List.filterMap_append, List.filterMap_cons, hf]; rfl, k.2⟩

theorem taken_some {γ : Type} (val : Row → Option γ) (rows : List Row) : taken val some rows = rows.filterMap val := by
  simp [taken]

theorem count_inv (a : AggSpec) (hk : a.kind = .count) (rows : List Row) :
    ∃ seen seenRows, accRun a rows =
      .counter (if a.star then (dedupIf a.dist rows).length else (dedupIf a.dist (argVals a rows)).length) seen seenRows := by
  cases hs : a.star with
  | false =>
    obtain ⟨seen, h⟩ := acc_inv (fun r => evalE a.arg r) some a (fun bs seen => .counter bs.length seen [])
      (h0 := by rw [initAcc, hk]; rfl) (hnone := fun bs seen r he => by simp [AccSt.update, hs, he])
      (hirr := fun bs seen r t he hf => nomatch hf)
      (hup := fun bs seen r t b he hf _ => by cases hf; simp [AccSt.update, hs, he, addSeen]) rows
    exact ⟨seen, [], by simpa [taken_some, argVals] using h⟩
  | true =>
    obtain ⟨seen, h⟩ := acc_inv some some a (fun bs seen => .counter bs.length [] seen)
      (h0 := by rw [initAcc, hk]; rfl) (hnone := fun bs seen r he => nomatch he)
      (hirr := fun bs seen r t he hf => nomatch hf)
      (hup := fun bs seen r t b he hf _ => by cases he; cases hf; simp [AccSt.update, hs]) rows
    exact ⟨[], seen, by simpa [taken_some] using h⟩

theorem gc_inv (a : AggSpec) (hk : a.kind = .gconcat) (rows : List Row) :
    ∃ seen, accRun a rows = .gc (dedupIf a.dist (argVals a rows)) seen := by
  obtain ⟨seen, h⟩ := acc_inv (fun r => evalE a.arg r) some a .gc (h0 := by rw [initAcc, hk])
    (hnone := fun bs seen r he => by simp [AccSt.update, he]) (hirr := fun bs seen r t he hf => nomatch hf)
    (hup := fun bs seen r t b he hf _ => by cases hf; simp [AccSt.update, he, addSeen]) rows
  exact ⟨seen, by simpa [taken_some, argVals] using h⟩

theorem sumRat_snoc (x : Rat) : ∀ xs : List Rat, sumRat (xs ++ [x]) = sumRat xs + x := by
  intro xs
  induction xs with
  | nil => simp [sumRat, Rat.add_zero, Rat.zero_add]
  | cons y ys ih => simp [sumRat, ih, Rat.add_assoc]

theorem maxScale_snoc (x : Nat) : ∀ xs : List Nat, maxScale (xs ++ [x]) = max (maxScale xs) x := by
  intro xs
  induction xs with
  | nil => simp [maxScale]
  | cons y ys ih => simp [maxScale, ih, Nat.max_assoc]

theorem promoteAll_snoc (x : DT) : ∀ (xs : List DT) (d : DT),
    promoteAll d (xs ++ [x]) = (typePromotion (promoteAll d xs) x).getD (promoteAll d xs) := by
  intro xs
  induction xs with
  | nil => intro d; simp [promoteAll]
  | cons y ys ih => intro d; simp [promoteAll, ih]

theorem DT.mem_all (d : DT) : d ∈ DT.all := by cases d <;> decide +kernel

theorem promo_tab : (DT.all.all fun a => DT.all.all fun b => !(a.isNumericOp && b.isNumericOp) ||
    (typePromotion a b).any fun c => numericBase.contains c && c.isFloating == (a.isFloating || b.isFloating)) = true := by
  decide +kernel

theorem promo_num {a b : DT} (ha : a.isNumericOp = true) (hb : b.isNumericOp = true) :
    ∃ c, typePromotion a b = some c ∧ c ∈ numericBase ∧ c.isFloating = (a.isFloating || b.isFloating) := by
  have h := List.all_eq_true.1 (List.all_eq_true.1 promo_tab a (DT.mem_all a)) b (DT.mem_all b)
  rw [ha, hb] at h
  cases e : typePromotion a b with
  | none => rw [e] at h; cases h
  | some c => rw [e] at h; exact ⟨c, rfl, by simpa using h⟩

theorem numericBase_op : ∀ d ∈ numericBase, d.isNumericOp = true := by decide

theorem numericOf_op {t : Term} {n : DT × Rat × Nat} (h : numericOf t = some n) : n.1.isNumericOp = true := by
  cases t <;> simp only [numericOf, reduceCtorEq] at h
  split at h
  · rename_i e; cases h; exact e
  · cases h

theorem promoteAll_num : ∀ (ds : List DT) (d : DT), d.isNumericOp = true → (∀ x ∈ ds, x.isNumericOp = true) →
    (promoteAll d ds).isNumericOp = true ∧ (promoteAll d ds).isFloating = (d.isFloating || ds.any DT.isFloating) := by
  intro ds
  induction ds with
  | nil => intro d h _; exact ⟨h, by simp [promoteAll]⟩
  | cons x xs ih =>
    intro d h hx
    obtain ⟨c, hc, hcb, hfl⟩ := promo_num h (hx x List.mem_cons_self)
    obtain ⟨i1, i2⟩ := ih c (numericBase_op c hcb) (fun y hy => hx y (List.mem_cons_of_mem _ hy))
    simp only [promoteAll, hc, Option.getD_some, List.any_cons]
    exact ⟨i1, by rw [i2, hfl, Bool.or_assoc]⟩

theorem foldl_sumStep_fst : ∀ (ns : List (DT × Rat × Nat)) (acc : Bool × Rat),
    (ns.foldl sumStep acc).1 = (acc.1 || (ns.map (·.1)).any DT.isFloating) := by
  intro ns
  induction ns with
  | nil => intro acc; simp
  | cons n ns ih => intro acc; simp [List.foldl_cons, ih, sumStep, Bool.or_assoc]

theorem sumLR_snoc (ns : List (DT × Rat × Nat)) (n : DT × Rat × Nat) :
    sumLR (ns ++ [n]) = addNum ((ns.map (·.1)).any DT.isFloating || n.1.isFloating) (sumLR ns) n.2.1 := by
  simp only [sumLR, List.foldl_append, List.foldl_cons, List.foldl_nil, sumStep, foldl_sumStep_fst, Bool.false_or]

theorem sumLR_exact (ns : List (DT × Rat × Nat)) (h : (ns.map (·.1)).any DT.isFloating = false) :
    sumLR ns = sumRat (ns.map (·.2.1)) := by
  induction ns using snoc_induction with
  | nil => rfl
  | snoc ns n ih =>
    simp only [List.map_append, List.any_append, Bool.or_eq_false_iff, List.map_cons, List.map_nil, List.any_cons,
      List.any_nil, Bool.or_false] at h
    rw [sumLR_snoc, h.1, h.2, List.map_append, List.map_cons, List.map_nil, sumRat_snoc, ih h.1]
    rfl

/-- the datatype a running SUM carries -/
def sumDT (ns : List (DT × Rat × Nat)) : Option DT :=
  if ns = [] then none else some (promoteAll .integer (ns.map (·.1)))

theorem sumDT_getD (ns : List (DT × Rat × Nat)) : (sumDT ns).getD .integer = promoteAll .integer (ns.map (·.1)) := by
  unfold sumDT
  by_cases h : ns = []
  · subst h; rfl
  · simp [h]

/-- the datatype a running AVG carries: promotion starts from the first value's own datatype -/
def avgDT : List (DT × Rat × Nat) → Option DT
  | [] => none
  | n :: ns => some (promoteAll n.1 (ns.map (·.1)))

theorem avgDT_spec {ns : List (DT × Rat × Nat)} (hops : ∀ n ∈ ns, n.1.isNumericOp = true) (hne : ns ≠ []) :
    ∃ d, avgDT ns = some d ∧ d.isNumericOp = true ∧ d.isFloating = (ns.map (·.1)).any DT.isFloating := by
  cases ns with
  | nil => exact absurd rfl hne
  | cons n ns =>
    obtain ⟨h1, h2⟩ := promoteAll_num (ns.map (·.1)) n.1 (hops n List.mem_cons_self)
      (List.forall_mem_map.2 fun m hm => hops m (List.mem_cons_of_mem _ hm))
    exact ⟨_, rfl, h1, h2⟩

theorem sum_inv (a : AggSpec) (hk : a.kind = .sum) (rows : List Row) :
    ∃ seen, accRun a rows = .sum (sumLR (numArgs a rows)) (maxScale ((numArgs a rows).map (·.2.2)))
      (sumDT (numArgs a rows)) seen :=
  (acc_inv (fun r => evalE a.arg r) numericOf a (fun ns seen => .sum (sumLR ns) (maxScale (ns.map (·.2.2))) (sumDT ns) seen)
    (h0 := by rw [initAcc, hk]; rfl) (hnone := fun bs seen r he => by simp [AccSt.update, he])
    (hirr := fun bs seen r t he hf => by simp [AccSt.update, he, hf])
    (hup := fun ns seen r t n he hf hns => by
      -- the running datatype promotes with the new one, and is floating exactly when an operand so far is
      obtain ⟨hb, hfl⟩ := promoteAll_num (ns.map (·.1)) .integer rfl
        (List.forall_mem_map.2 fun m hm => (hns m hm).elim fun _ h => numericOf_op h)
      obtain ⟨c, hc, _, hcf⟩ := promo_num hb (numericOf_op hf)
      simp only [AccSt.update, he, hf, sumDT_getD, hc, addSeen]
      split
      · rfl
      · rw [sumLR_snoc, hcf, hfl, show DT.integer.isFloating = false from rfl, Bool.false_or]
        simp [maxScale_snoc, sumDT, promoteAll_snoc, hc]) rows :)  -- `numArgs` unfolds to the values `acc_inv` speaks of

theorem avg_inv (a : AggSpec) (hk : a.kind = .avg) (rows : List Row) :
    ∃ seen, accRun a rows = .avg (sumLR (numArgs a rows)) (maxScale ((numArgs a rows).map (·.2.2)))
      (numArgs a rows).length (avgDT (numArgs a rows)) seen :=
  (acc_inv (fun r => evalE a.arg r) numericOf a (fun ns seen => .avg (sumLR ns) (maxScale (ns.map (·.2.2))) ns.length (avgDT ns) seen)
    (h0 := by rw [initAcc, hk]; rfl) (hnone := fun bs seen r he => by simp [AccSt.update, he])
    (hirr := fun bs seen r t he hf => by simp [AccSt.update, he, hf])
    (hup := fun ns seen r t n he hf hns => by
      -- the running datatype: the first value's own, then promoted; floating exactly when an operand so far is
      have key : ∃ c, avgNextDT (avgDT ns) n.1 = some c ∧
          c.isFloating = ((ns.map (·.1)).any DT.isFloating || n.1.isFloating) ∧ avgDT (ns ++ [n]) = some c := by
        cases ns with
        | nil => exact ⟨n.1, rfl, rfl, rfl⟩
        | cons m ns =>
          obtain ⟨d, hd, hop, hfl⟩ := avgDT_spec (fun m hm => (hns m hm).elim fun _ h => numericOf_op h)
            (List.cons_ne_nil m ns)
          obtain ⟨c, hc, _, hcf⟩ := promo_num hop (numericOf_op hf)
          cases hd
          exact ⟨c, hc, by rw [hcf, hfl], by simp [avgDT, promoteAll_snoc, hc]⟩
      obtain ⟨c, hc, hfl, hdt⟩ := key
      simp only [AccSt.update, he, hf, hc, addSeen]
      split
      · rfl
      · rw [sumLR_snoc, hfl, hdt]
        simp [maxScale_snoc]) rows :)

theorem numArgs_ops (a : AggSpec) (rows : List Row) : ∀ n ∈ numArgs a rows, n.1.isNumericOp = true := by
  intro n hn
  simp only [numArgs, List.mem_filterMap] at hn
  obtain ⟨t, _, ht⟩ := hn
  exact numericOf_op ht

theorem sample_inv (a : AggSpec) (hk : a.kind = .sample) (rows : List Row) :
    accRun a rows = .sample (argVals a rows).head? := by
  induction rows using snoc_induction with
  | nil => simp [accRun, initAcc, hk, argVals]
  | snoc rows r ih =>
    rw [accRun_snoc, ih, argVals_snoc]
    cases h : argVals a rows with
    | nil => cases he : evalE a.arg r <;> simp [AccSt.update, he]
    | cons t ts => simp [AccSt.update]

/-- MIN and MAX answer what `sorted` would put first, whatever the values: an accumulator that keeps the new value exactly
    when it is `lt` the kept one holds the head of the stable sort by `lt` of the values fed so far -/
theorem ext_inv (lt : Term → Term → Bool) (a : AggSpec) (h0 : initAcc a = .ext none)
    (hup : ∀ t c r, evalE a.arg r = some t → (AccSt.ext (some c)).update a r = .ext (some (if lt t c then t else c)))
    (rows : List Row) : accRun a rows = .ext (isort lt (argVals a rows)).head? := by
  induction rows using snoc_induction with
  | nil => exact h0
  | snoc rows r ih =>
    rw [accRun_snoc, ih, argVals_snoc]
    cases he : evalE a.arg r with
    | none => simp [AccSt.update, he]
    | some t =>
      rw [isort_snoc, head_insertBy]
      cases (isort lt (argVals a rows)).head? with
      | none => simp [AccSt.update, he]
      | some c => exact hup t c r he

def ValsOkAt (wd : Bool) (a : AggSpec) (rows : List Row) : Prop := ∀ t ∈ argVals a rows, okKey wd (some t) = true

/-- every argument value is a key on which the comparison is consistent: either without xsd:date / xsd:dateTime
    values (numeric datatype URIs between xsd:boolean and xsd:string), or with them (… between xsd:dateTime and xsd:string) -/
def ValsOk (a : AggSpec) (rows : List Row) : Prop := ValsOkAt false a rows ∨ ValsOkAt true a rows

theorem min_inv (wd : Bool) (a : AggSpec) (hk : a.kind = .min) (rows : List Row) (hok : ValsOkAt wd a rows) :
    LeastOf (fun t c => keyLt (some t) (some c)) (argVals a rows) (aggValue a rows) := by
  rw [aggValue, ext_inv (fun t c => keyLt (some t) (some c)) a (by rw [initAcc, hk]) fun t c r he => by
    simp [AccSt.update, he, hk]]
  exact head_isort_least ((strictWeak_keyLt wd).comap some) hok

theorem max_inv (wd : Bool) (a : AggSpec) (hk : a.kind = .max) (rows : List Row) (hok : ValsOkAt wd a rows) :
    LeastOf (fun t c => keyGt (some t) (some c)) (argVals a rows) (aggValue a rows) := by
  rw [aggValue, ext_inv (fun t c => keyGt (some t) (some c)) a (by rw [initAcc, hk]) fun t c r he => by
    simp [AccSt.update, he, hk]]
  exact head_isort_least ((strictWeak_keyGt wd).comap some) hok

theorem LeastOf.isMinOf {m : Term} {vals : List Term} (h : LeastOf (fun t c => keyLt (some t) (some c)) vals (some m)) :
    IsMinOf m vals := h

/-- `max` is run with `>`; on admitted values that is the converse of `<` -/
theorem LeastOf.isMaxOf (wd : Bool) {m : Term} {vals : List Term} (hok : ∀ t ∈ vals, okKey wd (some t) = true)
    (h : LeastOf (fun t c => keyGt (some t) (some c)) vals (some m)) : IsMaxOf m vals :=
  ⟨h.1, fun t ht => (keyGt_flip wd (hok t ht) (hok m h.1)).symm.trans (h.2 t ht)⟩

/-- a least element passes `minOk` / `maxOk` (the `match` is their body, `rel` being `sparqlLt` one way or the other),
    for any `rel` that the comparison contains on the values -/
theorem extOk_of_least {lt : Term → Term → Bool} (rel : Term → Term → Bool) {v : Val} {vals : List Term}
    (hrel : ∀ u ∈ vals, ∀ m ∈ vals, rel u m = true → lt u m = true) : LeastOf lt vals v →
    (match v with
      | none => vals.isEmpty
      | some m => vals.contains m && vals.all fun t => !rel t m) = true := by
  intro h
  cases v with
  | none => simp [show vals = [] from h]
  | some m =>
    simp only [Bool.and_eq_true, List.contains_iff_mem, List.all_eq_true, Bool.not_eq_eq_eq_not, Bool.not_true]
    refine ⟨h.1, fun t ht => ?_⟩
    cases hs : rel t m with
    | false => rfl
    | true => exact absurd ((hrel t ht m h.1 hs).symm.trans (h.2 t ht)) Bool.noConfusion

theorem minOk_aggValue (wd : Bool) (a : AggSpec) (hk : a.kind = .min) (rows : List Row) (hok : ValsOkAt wd a rows) :
    minOk (aggValue a rows) (argVals a rows) = true :=
  extOk_of_least (fun t m => sparqlLt (some t) (some m)) (fun _ _ _ _ => keyLt_of_sparqlLt) (min_inv wd a hk rows hok)

theorem maxOk_aggValue (wd : Bool) (a : AggSpec) (hk : a.kind = .max) (rows : List Row) (hok : ValsOkAt wd a rows) :
    maxOk (aggValue a rows) (argVals a rows) = true :=
  extOk_of_least (fun t m => sparqlLt (some m) (some t))
    (fun u hu m hm h => (keyGt_flip wd (hok u hu) (hok m hm)).trans (keyLt_of_sparqlLt h)) (max_inv wd a hk rows hok)

/-! ### arithmetic quoted by `sum_double_spec` and `decimal_scale_spec` -/

theorem roundF_neg (v : Rat) : F.roundF (-v) = - F.roundF v := by
  unfold F.roundF
  have hn : (-v).num = -v.num := Rat.neg_num v
  have hd : (-v).den = v.den := Rat.neg_den v
  rw [hn, hd, Int.natAbs_neg]
  by_cases h0 : v.num = 0
  · simp [h0, F.roundPQ, F.meRat]
  · by_cases h : v.num < 0
    · have h' : ¬ (-v.num < 0) := by omega
      rw [if_neg h', if_pos h, Rat.neg_neg]
    · have h' : -v.num < 0 := by omega
      rw [if_pos h', if_neg h]

/-- `getD (s + f)`: when the search finds nothing, every scale from `s` up to the fuel fails -/
theorem decScaleAux_spec (v : Rat) : ∀ (f s : Nat),
    (∀ j, s ≤ j → j < (decScaleAux v f s).getD (s + f) → (v * ((pow10 j : Nat) : Rat)).den ≠ 1) ∧
    ∀ m, decScaleAux v f s = some m → (v * ((pow10 m : Nat) : Rat)).den = 1
  | 0, s => ⟨fun j h1 h2 => absurd h2 (Nat.not_lt.2 h1), fun m h => nomatch h⟩
  | f + 1, s => by
    obtain ⟨ih1, ih2⟩ := decScaleAux_spec v f (s + 1)
    rw [decScaleAux]
    split <;> rename_i hd
    · exact ⟨fun j h1 h2 => absurd h2 (Nat.not_lt.2 h1), fun m h => by cases h; exact beq_iff_eq.1 hd⟩
    · refine ⟨fun j h1 h2 => ?_, ih2⟩
      by_cases e : j = s
      · subst e; exact fun c => hd (beq_iff_eq.2 c)
      · exact ih1 j (by omega) (by rw [Nat.add_right_comm]; exact h2)

end RV.C08

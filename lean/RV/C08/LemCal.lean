import RV.C08.Model
/-
  C08 — CPython's calendar arithmetic: the proleptic ordinal `_ymd2ord` is strictly monotone in the field tuple
  (year, month, day) on valid dates, so comparing ordinals / seconds on the time line (what the model does) is the
  same as comparing field tuples (what `date.__lt__` and the same-offset path of `datetime._cmp` do).
-/
namespace RV.C08

def yearLen (y : Nat) : Nat := if isLeap y then 366 else 365

theorem div_succ (k p : Nat) : (p + 1) / k = p / k + ((p + 1) % k == 0).toNat := by
  rw [Nat.succ_div]
  by_cases h : (p + 1) % k = 0 <;> simp [Nat.dvd_iff_mod_eq_zero, h]

theorem mod_of_mod {n a b : Nat} (hd : b ∣ a) (h : (n % a == 0) = true) : (n % b == 0) = true := by
  rw [beq_iff_eq] at h ⊢
  rw [← Nat.mod_mod_of_dvd n hd, h, Nat.zero_mod]

/-- `daysBeforeYear (p + 1)` without truncated subtraction -/
theorem dby_eq (p : Nat) : daysBeforeYear (p + 1) + p / 100 = p * 365 + p / 4 + p / 400 := by
  have h : p / 100 ≤ p / 4 := Nat.div_le_div_left (by decide) (by decide)
  simp only [daysBeforeYear, Nat.add_sub_cancel]
  rw [Nat.add_right_comm, Nat.sub_add_cancel (Nat.le_trans h (Nat.le_add_left _ _))]

/-- the Gregorian rule in terms of the three divisibility tests, each of which implies the one before -/
theorem leap_rule : ∀ b4 b100 b400 : Bool, (b400 → b100) → (b100 → b4) →
    (if (b4 && (!b100 || b400)) then 366 else 365) + b100.toNat = 365 + b4.toNat + b400.toNat := by decide

theorem dby_succ (y : Nat) (hy : 1 ≤ y) : daysBeforeYear (y + 1) = daysBeforeYear y + yearLen y := by
  obtain ⟨p, rfl⟩ : ∃ p, y = p + 1 := ⟨y - 1, by omega⟩
  have e1 := dby_eq p
  have e2 := dby_eq (p + 1)
  -- each quotient goes up by one exactly when its divisibility test succeeds
  rw [div_succ 4, div_succ 100, div_succ 400] at e2
  have k : yearLen (p + 1) + _ = _ := leap_rule ((p + 1) % 4 == 0) ((p + 1) % 100 == 0) ((p + 1) % 400 == 0)
    (mod_of_mod (by decide)) (mod_of_mod (by decide))
  omega

theorem dby_mono (y1 : Nat) (h1 : 1 ≤ y1) : ∀ y2, y1 < y2 → daysBeforeYear y1 + yearLen y1 ≤ daysBeforeYear y2 := by
  intro y2
  induction y2 with
  | zero => intro h; omega
  | succ n ih =>
    intro h
    by_cases e : y1 = n
    · subst e; rw [dby_succ _ h1]; exact Nat.le_refl _
    · have := ih (by omega)
      rw [dby_succ n (by omega)]
      omega

/-- `_DAYS_BEFORE_MONTH` is the running sum of `_DAYS_IN_MONTH` -/
theorem dbm_succ (y m : Nat) (h1 : 1 ≤ m) (h2 : m ≤ 11) :
    daysBeforeMonth y (m + 1) = daysBeforeMonth y m + daysInMonth y m := by
  unfold daysBeforeMonth daysInMonth
  generalize isLeap y = leap
  -- `m` last, so that `h2` bounds the quantifier the kernel evaluates
  revert leap h1
  revert m
  decide +kernel

theorem dbm_mono (y m1 : Nat) (h1 : 1 ≤ m1) : ∀ m2, m1 < m2 → m2 ≤ 12 →
    daysBeforeMonth y m1 + daysInMonth y m1 ≤ daysBeforeMonth y m2 := by
  intro m2
  induction m2 with
  | zero => intro h; omega
  | succ n ih =>
    intro h h2
    by_cases e : m1 = n
    · subst e; rw [dbm_succ y m1 h1 (by omega)]; exact Nat.le_refl _
    · have := ih (by omega) (by omega)
      rw [dbm_succ y n (by omega) (by omega)]
      omega

theorem dbm_last (y m : Nat) (h1 : 1 ≤ m) (h2 : m ≤ 12) : daysBeforeMonth y m + daysInMonth y m ≤ yearLen y := by
  have e12 : daysBeforeMonth y 12 + daysInMonth y 12 = yearLen y := by
    unfold daysBeforeMonth daysInMonth yearLen
    generalize isLeap y = leap
    revert leap
    decide
  by_cases e : m = 12
  · subst e; omega
  · have := dbm_mono y m h1 12 (by omega) (Nat.le_refl _)
    omega

theorem validYMD_iff (y m d : Nat) : validYMD y m d = true ↔ (1 ≤ y ∧ 1 ≤ m ∧ m ≤ 12 ∧ 1 ≤ d ∧ d ≤ daysInMonth y m) := by
  simp [validYMD]

theorem ymd2ord_lt {y1 m1 d1 y2 m2 d2 : Nat} (v1 : validYMD y1 m1 d1 = true) (v2 : validYMD y2 m2 d2 = true)
    (h : y1 < y2 ∨ (y1 = y2 ∧ (m1 < m2 ∨ (m1 = m2 ∧ d1 < d2)))) : ymd2ord y1 m1 d1 < ymd2ord y2 m2 d2 := by
  obtain ⟨a1, a2, a3, a4, a5⟩ := (validYMD_iff _ _ _).1 v1
  obtain ⟨b1, b2, b3, b4, b5⟩ := (validYMD_iff _ _ _).1 v2
  unfold ymd2ord
  rcases h with h | ⟨rfl, h | ⟨rfl, h⟩⟩
  · have k1 := dby_mono y1 a1 y2 h
    have k2 := dbm_last y1 m1 a2 a3
    omega
  · have k := dbm_mono y1 m1 a2 m2 h b3
    omega
  · omega

theorem reflects_of_mono {α β : Type} [LT β] [DecidableLT β] [Std.Asymm (α := β) (· < ·)] {S : α → Prop} {T : α → α → Bool}
    {f : α → β} (mono : ∀ a b, S a → S b → T a b = true → f a < f b) {a b : α} (ha : S a) (hb : S b)
    (tri : T a b = true ∨ a = b ∨ T b a = true) : decide (f a < f b) = T a b ∧ (f a = f b → a = b) := by
  have no : ∀ {a b}, S a → S b → f b < f a ∨ f b = f a → T a b = false := fun ha hb h =>
    Bool.eq_false_iff.2 fun t => h.elim (Std.not_gt_of_lt (mono _ _ ha hb t)) fun e => Std.lt_irrefl (e ▸ mono _ _ ha hb t)
  rcases tri with h | h | h
  · have m := mono a b ha hb h
    exact ⟨(decide_eq_true m).trans h.symm, fun e => absurd (e ▸ m) Std.lt_irrefl⟩
  · subst h
    exact ⟨(decide_eq_false Std.lt_irrefl).trans (no ha ha (Or.inr rfl)).symm, fun _ => rfl⟩
  · have m := mono b a hb ha h
    exact ⟨(decide_eq_false (Std.not_gt_of_lt m)).trans (no ha hb (Or.inl m)).symm, fun e => absurd (e ▸ m) Std.lt_irrefl⟩

/-- one more leading field in front of a trichotomous comparison of field tuples -/
theorem tri_cons {P E Q : Prop} (x y : Nat) (h : P ∨ E ∨ Q) :
    (x < y ∨ (x = y ∧ P)) ∨ (x = y ∧ E) ∨ (y < x ∨ (y = x ∧ Q)) := by
  rcases Nat.lt_trichotomy x y with r | r | r
  · exact Or.inl (Or.inl r)
  · rcases h with h | h | h
    · exact Or.inl (Or.inr ⟨r, h⟩)
    · exact Or.inr (Or.inl ⟨r, h⟩)
    · exact Or.inr (Or.inr (Or.inr ⟨r.symm, h⟩))
  · exact Or.inr (Or.inr (Or.inl r))

theorem DF.fieldsLt_tri (a b : DF) : a.fieldsLt b = true ∨ a = b ∨ b.fieldsLt a = true := by
  simp only [DF.fieldsLt, decide_eq_true_eq]
  rcases tri_cons a.y b.y (tri_cons a.mo b.mo (Nat.lt_trichotomy a.d b.d)) with h | h | h
  · exact Or.inl h
  · cases a; cases b; simp only [DF.mk.injEq]; exact Or.inr (Or.inl ⟨h.1, h.2.1, h.2.2⟩)
  · exact Or.inr (Or.inr h)

theorem DF.ord_reflects (a b : DF) (va : a.valid = true) (vb : b.valid = true) :
    decide (a.ord < b.ord) = a.fieldsLt b ∧ (a.ord = b.ord → a = b) :=
  reflects_of_mono (S := fun f : DF => f.valid = true) (fun _ _ va vb h => ymd2ord_lt va vb (of_decide_eq_true h)) va vb
    (DF.fieldsLt_tri a b)

/-! ### seconds on the time line: (ordinal, hour, minute, second) in mixed radix, shifted by the offset -/

theorem DTF.valid_iff (f : DTF) : f.valid = true ↔ (validYMD f.y f.mo f.d = true ∧ f.h < 24 ∧ f.mi < 60 ∧ f.s < 60) := by
  simp [DTF.valid]

theorem DTF.fieldsLt_tri (a b : DTF) (htz : a.tz = b.tz) : a.fieldsLt b = true ∨ a = b ∨ b.fieldsLt a = true := by
  simp only [DTF.fieldsLt, decide_eq_true_eq]
  rcases tri_cons a.y b.y (tri_cons a.mo b.mo (tri_cons a.d b.d (tri_cons a.h b.h (tri_cons a.mi b.mi
    (Nat.lt_trichotomy a.s b.s))))) with h | h | h
  · exact Or.inl h
  · cases a; cases b; simp only [DTF.mk.injEq]
    obtain ⟨h1, h2, h3, h4, h5, h6⟩ := h
    exact Or.inr (Or.inl ⟨h1, h2, h3, h4, h5, h6, htz⟩)
  · exact Or.inr (Or.inr h)

theorem DTF.key_mono {a b : DTF} (va : a.valid = true) (vb : b.valid = true) (htz : a.tz = b.tz)
    (h : a.fieldsLt b = true) : a.key < b.key := by
  obtain ⟨wa, ha1, ha2, ha3⟩ := (DTF.valid_iff a).1 va
  obtain ⟨wb, hb1, hb2, hb3⟩ := (DTF.valid_iff b).1 vb
  simp only [DTF.key, htz]
  -- the date fields decide through the ordinal, the rest is mixed radix
  have o : ymd2ord a.y a.mo a.d < ymd2ord b.y b.mo b.d ∨ (ymd2ord a.y a.mo a.d = ymd2ord b.y b.mo b.d ∧
      (a.h < b.h ∨ (a.h = b.h ∧ (a.mi < b.mi ∨ (a.mi = b.mi ∧ a.s < b.s))))) := by
    rcases of_decide_eq_true h with h | ⟨e1, h | ⟨e2, h | ⟨e3, h⟩⟩⟩
    · exact Or.inl (ymd2ord_lt wa wb (Or.inl h))
    · exact Or.inl (ymd2ord_lt wa wb (Or.inr ⟨e1, Or.inl h⟩))
    · exact Or.inl (ymd2ord_lt wa wb (Or.inr ⟨e1, Or.inr ⟨e2, h⟩⟩))
    · exact Or.inr ⟨by rw [e1, e2, e3], h⟩
  omega

theorem DTF.key_reflects (a b : DTF) (va : a.valid = true) (vb : b.valid = true) (htz : a.tz = b.tz) :
    decide (a.key < b.key) = a.fieldsLt b ∧ (a.key = b.key → a = b) :=
  reflects_of_mono (S := fun f : DTF => f.valid = true ∧ f.tz = b.tz)
    (fun _ _ va vb h => DTF.key_mono va.1 vb.1 (va.2.trans vb.2.symm) h) ⟨va, htz⟩ ⟨vb, rfl⟩ (DTF.fieldsLt_tri a b htz)

end RV.C08

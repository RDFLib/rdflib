import RV.C08.LemMods
/-
  C08 — `translateAggregates`: replacing aggregates by `__agg_n__` variables (and bare variables by SAMPLE)
  and evaluating on the row AggregateJoin builds for a group = evaluating the expression on the group.
-/
namespace RV.C08

theorem Row.get_set (r : Row) (i j : Nat) (v : Val) : (r.set i v).get j = if i = j then v else r.get j := by
  unfold Row.get
  fun_induction Row.set r i v generalizing j with
  | case1 v => cases j <;> rfl
  | case2 i v ih => cases j with
    | zero => rfl
    | succ j => simpa using ih j
  | case3 x xs v => cases j <;> rfl
  | case4 x xs i v ih => cases j with
    | zero => rfl
    | succ j => simpa using ih j

theorem get_emptyRow (w i : Nat) : (emptyRow w).get i = none := by
  rw [emptyRow, Row.get, List.getD_eq_getElem?_getD, List.getElem?_replicate]
  split <;> rfl

/-! ### the accumulators do not look at the result variable -/

theorem update_res (a : AggSpec) (n : Nat) (st : AccSt) (r : Row) :
    st.update { a with res := n } r = st.update a r := by
  cases st <;> rfl

theorem aggValue_res (a : AggSpec) (n : Nat) (rows : List Row) : aggValue { a with res := n } rows = aggValue a rows := by
  simp only [aggValue, accRun, update_res]
  show (List.foldl _ (initAcc a) rows).value _ = _
  cases List.foldl (fun st r => st.update a r) (initAcc a) rows <;> rfl

/-! ### numbered aggregate lists: `__agg_n__` is variable `base + n - 1` -/

def Numbered (base : Nat) (A : List AggSpec) : Prop := ∀ i a, A[i]? = some a → a.res = base + i

theorem Numbered.nil (base : Nat) : Numbered base [] := by intro i a h; simp at h

theorem Numbered.snoc {base : Nat} {A : List AggSpec} (h : Numbered base A) (a : AggSpec) (ha : a.res = base + A.length) :
    Numbered base (A ++ [a]) := by
  intro i x hx
  rcases Nat.lt_trichotomy i A.length with hi | rfl | hi
  · rw [List.getElem?_append_left hi] at hx; exact h i x hx
  · rw [List.getElem?_concat_length] at hx; cases hx; exact ha
  · rw [List.getElem?_eq_none (by rw [List.length_append]; exact hi)] at hx; cases hx

theorem Numbered.cons {base : Nat} {a : AggSpec} {A : List AggSpec} (h : Numbered base (a :: A)) : a.res = base ∧ Numbered (base + 1) A :=
  ⟨h 0 a rfl, fun i x hx => by rw [h (i + 1) x hx]; omega⟩

/-- what a pass of `translateAggregates` does to the aggregate list: it appends, and each new entry is numbered by its
    position.  So the list a pass returns extends the one it got, and stays numbered. -/
inductive Grows (base : Nat) : List AggSpec → List AggSpec → Prop
  | refl (A) : Grows base A A
  | snoc {A B} (a : AggSpec) : Grows base A B → a.res = base + B.length → Grows base A (B ++ [a])

theorem Grows.trans {base : Nat} {A B C : List AggSpec} (h1 : Grows base A B) (h2 : Grows base B C) : Grows base A C := by
  induction h2 with
  | refl => exact h1
  | snoc a _ e ih => exact .snoc a ih e

theorem Grows.prefix {base : Nat} {A B : List AggSpec} (h : Grows base A B) : A <+: B := by
  induction h with
  | refl => exact List.prefix_refl _
  | snoc a _ _ ih => exact ih.trans (List.prefix_append _ _)

theorem Grows.numbered {base : Nat} {A B : List AggSpec} (h : Grows base A B) (hA : Numbered base A) : Numbered base B := by
  induction h with
  | refl => exact hA
  | snoc a _ e ih => exact ih.snoc a e

theorem aggsE_grows (base : Nat) : ∀ (e : Expr) (A : List AggSpec), Grows base A (aggsE base e A).2 := by
  intro e
  induction e with
  | var v | const t => intro A; exact .refl _
  | add a b iha ihb | sub a b iha ihb | cmp _ a b iha ihb | and a b iha ihb => intro A; exact (iha A).trans (ihb _)
  | agg k d s arg sep _ => intro A; exact .snoc _ (.refl _) rfl

theorem prefix_getElem? {α : Type} {A B : List α} (h : A <+: B) {i : Nat} {a : α} (ha : A[i]? = some a) :
    B[i]? = some a := by
  obtain ⟨hi, rfl⟩ := List.getElem?_eq_some_iff.1 ha
  exact List.prefix_iff_getElem?.1 h i hi

/-- the row carries, at every `__agg_n__` position, the value of that aggregate over the group -/
def Carries (base : Nat) (A : List AggSpec) (rows : List Row) (g : Row) : Prop :=
  ∀ i a, A[i]? = some a → g.get (base + i) = aggValue a rows

theorem Carries.last {base : Nat} {A A0 : List AggSpec} {rows : List Row} {g : Row} (hc : Carries base A rows g)
    (a : AggSpec) (hp : A0 ++ [{ a with res := base + A0.length }] <+: A) :
    g.get (base + A0.length) = aggValue a rows := by
  rw [hc _ _ (prefix_getElem? hp List.getElem?_concat_length)]
  exact aggValue_res a _ rows

theorem Carries.set {base : Nat} {A : List AggSpec} {rows : List Row} {g : Row} (hc : Carries base A rows g)
    {v : Nat} (hv : v < base) (x : Val) : Carries base A rows (g.set v x) := by
  intro i a ha
  rw [Row.get_set, if_neg (by omega)]
  exact hc i a ha

/-- rewrite_correct for one expression -/
theorem aggsE_eval {base : Nat} (keep : List Nat) {rows : List Row} {g : Row} {A : List AggSpec}
    (hc : Carries base A rows g) : ∀ (e : Expr) (A0 : List AggSpec), (aggsE base (sampleE keep e) A0).2 <+: A →
      evalE (aggsE base (sampleE keep e) A0).1 g = evalG keep rows g e := by
  intro e
  induction e with
  | var v =>
    intro A0 hp
    by_cases hk : keep.contains v = true
    · simp only [sampleE, hk, if_true, aggsE, evalE, evalG]
    · simp only [sampleE, hk, evalG] at hp ⊢
      exact hc.last ⟨.sample, false, false, .var v, none, 0⟩ hp
  | const t => intro A0 _; rfl
  | add a b iha ihb | sub a b iha ihb | cmp _ a b iha ihb | and a b iha ihb =>
    intro A0 hp
    simp only [sampleE, aggsE] at hp ⊢
    simp only [evalE, evalG]
    rw [iha A0 ((aggsE_grows base _ _).prefix.trans hp), ihb _ hp]
  | agg k d s arg sep _ => intro A0 hp; exact hc.last ⟨k, d, s, arg, sep, 0⟩ hp

theorem bindAll_get_of_ne (g : AggSpec → AccSt) : ∀ (A : List AggSpec) (row : Row) (j : Nat),
    (∀ a ∈ A, a.res ≠ j) → (bindAll A (A.map g) row).get j = row.get j
  | [], _, _, _ => rfl
  | a :: as, row, j, h => by
    rw [List.map_cons, bindAll, bindAll_get_of_ne g as _ j fun x hx => h x (List.mem_cons_of_mem _ hx)]
    cases (g a).value a with
    | none => rfl
    | some t => exact (Row.get_set ..).trans (if_neg (h a List.mem_cons_self))

theorem bindAll_carries (g : AggSpec → AccSt) : ∀ (A : List AggSpec) (row : Row) (base : Nat),
    Numbered base A → (∀ k, row.get (base + k) = none) →
    ∀ i a, A[i]? = some a → (bindAll A (A.map g) row).get (base + i) = (g a).value a
  | [], _, _, _, _, i, a, ha => by simp at ha
  | a0 :: as, row, base, hw, hrow, i, a, ha => by
    obtain ⟨h0, hw'⟩ := hw.cons
    rw [List.map_cons, bindAll]
    cases i with
    | zero =>
      cases ha
      -- the later result variables lie above `base`
      rw [bindAll_get_of_ne g as _ _ fun x hx => by
        obtain ⟨k, hk⟩ := List.getElem?_of_mem hx
        rw [hw' k x hk]; omega]
      cases (g a0).value a0 with
      | none => exact hrow 0
      | some t => exact (Row.get_set ..).trans (if_pos h0)
    | succ i =>
      rw [← Nat.succ_add_eq_add_succ]
      refine bindAll_carries g as _ (base + 1) hw' (fun k => ?_) i a ha
      rw [Nat.succ_add_eq_add_succ]
      cases (g a0).value a0 with
      | none => exact hrow _
      | some t => exact (Row.get_set ..).trans ((if_neg (by omega)).trans (hrow _))

theorem groupRow_carries (base w : Nat) (A : List AggSpec) (hn : Numbered base A) (rows : List Row) :
    Carries base A rows (bindAll A (foldAcc A rows) (emptyRow w)) := by
  rw [foldAcc_eq]
  exact bindAll_carries _ A (emptyRow w) base hn fun k => get_emptyRow _ _

theorem rewriteProj_spec (base : Nat) : ∀ (ps : List Proj) (A0 : List AggSpec),
    Grows base A0 (rewriteProj base ps A0).2 ∧
    ∀ (A : List AggSpec) (rows : List Row) (g : Row), (rewriteProj base ps A0).2 <+: A → Carries base A rows g →
      Forall2 (ProjAgrees rows g) ps (rewriteProj base ps A0).1
  | [], _ => ⟨.refl _, fun _ _ _ _ _ => Forall2.nil⟩
  | .var _ :: ps, A0 =>
    have ⟨g1, f1⟩ := rewriteProj_spec base ps A0
    ⟨g1, fun A rows g hp hc => Forall2.cons rfl (f1 A rows g hp hc)⟩
  | .expr v e :: ps, A0 =>
    have ⟨g1, f1⟩ := rewriteProj_spec base ps (aggsE base (sampleE [v] e) A0).2
    ⟨(aggsE_grows base _ A0).trans g1, fun A rows g hp hc =>
      Forall2.cons ⟨rfl, aggsE_eval [v] hc e A0 (g1.prefix.trans hp)⟩ (f1 A rows g hp hc)⟩

theorem rewriteOrder_spec (base : Nat) (keep : List Nat) : ∀ (ks : List (Expr × Bool)) (A0 : List AggSpec),
    Grows base A0 (rewriteOrder base keep ks A0).2 ∧
    ∀ (A : List AggSpec) (rows : List Row) (g : Row), (rewriteOrder base keep ks A0).2 <+: A → Carries base A rows g →
      Forall2 (KeyAgrees keep rows g) ks (rewriteOrder base keep ks A0).1
  | [], _ => ⟨.refl _, fun _ _ _ _ _ => Forall2.nil⟩
  | (e, _) :: ks, A0 =>
    have ⟨g1, f1⟩ := rewriteOrder_spec base keep ks (aggsE base (sampleE keep e) A0).2
    ⟨(aggsE_grows base _ A0).trans g1, fun A rows g hp hc =>
      Forall2.cons ⟨rfl, aggsE_eval keep hc e A0 (g1.prefix.trans hp)⟩ (f1 A rows g hp hc)⟩

/-- the HAVING step of `translateAggregates` -/
def havingPass (base : Nat) (h : Option Expr) (A0 : List AggSpec) : Option Expr × List AggSpec :=
  match h with
  | none => (none, A0)
  | some e => (some (aggsE base (sampleE [] e) A0).1, (aggsE base (sampleE [] e) A0).2)

theorem having_spec (base : Nat) (h : Option Expr) (A0 : List AggSpec) :
    Grows base A0 (havingPass base h A0).2 ∧
    ∀ (A : List AggSpec) (rows : List Row) (g : Row), (havingPass base h A0).2 <+: A → Carries base A rows g →
      match h, (havingPass base h A0).1 with
      | none, none => True
      | some h, some h' => evalE h' g = evalG [] rows g h
      | _, _ => False := by
  cases h with
  | none => exact ⟨.refl _, fun _ _ _ _ _ => trivial⟩
  | some e => exact ⟨aggsE_grows base _ A0, fun A rows g hp hc => aggsE_eval [] hc e A0 hp⟩

theorem sampleVars_spec (base : Nat) : ∀ (ps : List Proj) (A0 : List AggSpec),
    Grows base A0 (sampleVars base ps A0).2 ∧
    ∀ al ∈ (sampleVars base ps A0).1, Proj.var al.2 ∈ ps ∧ ∃ i, al.1 = base + i ∧
      (sampleVars base ps A0).2[i]? = some ⟨.sample, false, false, .var al.2, none, base + i⟩ := by
  intro ps
  induction ps with
  | nil => intro A0; exact ⟨.refl _, fun _ h => by cases h⟩
  | cons p ps ih =>
    intro A0
    cases p with
    | var v =>
      obtain ⟨g1, f1⟩ := ih (A0 ++ [⟨.sample, false, false, .var v, none, base + A0.length⟩])
      refine ⟨(Grows.snoc _ (.refl _) rfl).trans g1, ?_⟩
      intro al hal
      simp only [sampleVars, List.mem_cons] at hal
      rcases hal with rfl | hal
      · refine ⟨List.mem_cons_self, A0.length, rfl, ?_⟩
        exact prefix_getElem? g1.prefix (by simp)
      · obtain ⟨m, i, hi⟩ := f1 al hal
        exact ⟨List.mem_cons_of_mem _ m, i, hi⟩
    | expr v e =>
      obtain ⟨g1, f1⟩ := ih A0
      refine ⟨g1, ?_⟩
      intro al hal
      obtain ⟨m, i, hi⟩ := f1 al hal
      exact ⟨List.mem_cons_of_mem _ m, i, hi⟩

theorem translateAggregates_eq (q : Query) : translateAggregates q =
    let p := rewriteProj q.nuser q.proj []
    let h := havingPass q.nuser q.having p.2
    let o := rewriteOrder q.nuser (q.proj.filterMap Proj.alias?) q.order h.2
    let s := sampleVars q.nuser q.proj o.2
    { A := s.2, proj := p.1, having := h.1, order := o.1, aliases := s.1 } := rfl

end RV.C08

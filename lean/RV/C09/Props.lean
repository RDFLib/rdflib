import RV.C09.LitLemmas
import RV.C09.FloatLemmas
/-
  C09 — "Literal ↔ Python value mapping is faithful and normalisation is idempotent".
  Each property is stated as `def Statement_x : Prop` and proved as `theorem x : Statement_x`.  Where the code falsifies
  the full statement there is `x_witness : ¬ Statement_x` and `x_partial`, the same statement under a hypothesis
  (for `term_eq_implies_eq`: `Denotes` in place of `Built`);
  `Statement_term_eq_implies_eq` and `Statement_datetime_roundtrip` are stated only (proved: `term_eq_implies_eq_partial`,
  `datetime_roundtrip_partial`).

  Vocabulary: `RV/C09/Claims.lean` (Supported, Covered, ValueIs, Built, Denotes, ExactBack),
  XSD lexical spaces and values: `RV/C09/Spec.lean`, model of rdflib: `RV/C09/Model.lean`.
  xsd:float/double: `RV/C09/FloatModel.lean` (exact integer / rational arithmetic; Lean's `Float` is never used).
-/
namespace RV.C09

/-! ## 0. Regenerated tables (re-proved against the live `rdflib.term` on every run) -/

/-- every modelled datatype is a key of `XSDToPython` and maps to the converter the model applies -/
def Statement_converter_table : Prop :=
  ∀ d ∈ Dt.all, lookupStr d.name Tables.xsdToPython = some d.conv.tableName

theorem converter_table : Statement_converter_table := by
  unfold Statement_converter_table; decide +kernel

/-- each integer checker of `_check_well_formed_types` accepts at least the XSD value range of its
    datatype, and exactly that range except for `integer`/`long` (no checker) and `unsignedLong`
    (no upper bound in the code) -/
def Statement_integer_bounds_table : Prop :=
  ∀ d ∈ Dt.all, d.conv = .int →
    (d.bounds = none ∨ ∃ b, d.bounds = some b ∧ covers b (Spec.xsdBounds d) = true) ∧
    (d = .integer ∨ d = .long ∨ d = .unsignedLong ∨ d.bounds = some (Spec.xsdBounds d))

theorem integer_bounds_table : Statement_integer_bounds_table := int_bounds_table

/-- the rule lists give int → xsd:integer, bool → xsd:boolean (before int), Decimal → xsd:decimal,
    str → no datatype, datetime before date, and the model's numeric set is `_NUMERIC_LITERAL_TYPES` -/
def Statement_rule_tables : Prop :=
  (Tables.genericRules.map (fun r => (r.1, r.2.1))).take 11 =
    [("str", "-"), ("float", "double"), ("bool", "boolean"), ("int", "integer"), ("int", "integer"),
     ("Decimal", "decimal"), ("datetime", "dateTime"), ("date", "date"), ("time", "time"),
     ("Duration", "duration"), ("timedelta", "dayTimeDuration")] ∧
  (∀ d ∈ Dt.all, isNumeric (some d) = (d.conv == .int || d == .decimal)) ∧
  ("bytes", "hexBinary") ∈ Tables.specificRules ∧ ("timedelta", "yearMonthDuration") ∈ Tables.specificRules ∧
  ("Duration", "yearMonthDuration") ∈ Tables.specificRules

theorem rule_tables : Statement_rule_tables := by
  unfold Statement_rule_tables; decide +kernel

/-! ## 1. Python value → literal -/

/-- `Literal(v)` has the documented datatype and a lexical form in that datatype's XSD lexical space -/
def Statement_py_to_lit_valid : Prop :=
  ∀ v, Supported v → ∃ l, mkValue v none = some l ∧ l.dt = genericDt v ∧ Spec.validLexOpt l.dt l.lex = true

theorem py_to_lit_valid : Statement_py_to_lit_valid := by
  intro v hv
  cases v with
  | int i => exact ⟨_, mkValue_int i, rfl, validLex_integer_intRepr i⟩
  | bool b => exact ⟨_, mkValue_bool b, rfl, by simp [Spec.validLexOpt, Spec.validLex, boolVal_boolLex]⟩
  | dec n c e => exact ⟨_, mkValue_dec n c e, rfl, (pyDecimal_fmtF n c e).2⟩
  | str s => exact ⟨_, mkValue_str s, rfl, rfl⟩
  | _ => exact absurd hv (by simp [Supported])

/-- `Literal(v).toPython()` is `v`, and reading the lexical form back (`Literal(str(l), datatype=l.datatype)`)
    gives a value Python-equal to `v` (for a Decimal: possibly with another exponent) -/
def Statement_lit_to_py_back : Prop :=
  ∀ v, Supported v → ∃ l, mkValue v none = some l ∧ l.value = some v ∧
    ∃ v', castLex l.dt l.lex = some v' ∧ pyEq v' v = true

theorem lit_to_py_back : Statement_lit_to_py_back := by
  intro v hv
  cases v with
  | int i => exact ⟨_, mkValue_int i, rfl, .int i, castLex_intRepr i, by simp [pyEq]⟩
  | bool b => exact ⟨_, mkValue_bool b, rfl, .bool b, castLex_boolLex b, by simp [pyEq]⟩
  | dec n c e =>
    exact ⟨_, mkValue_dec n c e, rfl, fmtFBack n c e, by rw [castLex_decimal, (pyDecimal_fmtF n c e).1],
      pyEq_fmtFBack n c e⟩
  | str s => exact ⟨_, mkValue_str s, rfl, .str s, rfl, by simp [pyEq]⟩
  | _ => exact absurd hv (by simp [Supported])

/-! ## 2. lexical form → value -/

/-- a valid lexical form of a recognised datatype gives, without the ill-typed flag, the value XSD
    assigns to it — with either setting of `normalize` -/
def Statement_lex_to_value_xsd : Prop :=
  ∀ (d : Dt) (s : Str) (nz : Bool), Spec.validLex d s = true →
    ∃ l, mkLex (some d) s nz = some l ∧ l.ill = some false ∧ ValueIs d s l.value

/-- proved for the integer family (bounds, leading zeros, `+`, `-0`), decimal (`.5`, `5.`, signs),
    boolean, the string family, hexBinary and base64Binary -/
theorem lex_to_value_xsd_partial : ∀ (d : Dt) (s : Str) (nz : Bool), Covered d = true →
    Spec.validLex d s = true → ∃ l, mkLex (some d) s nz = some l ∧ l.ill = some false ∧ ValueIs d s l.value := by
  intro d s nz hc hv
  obtain ⟨v, lx, hcast, hvalue, hwf, hprint, _⟩ := covered_valid hc hv
  obtain ⟨l, hl, hill, hval⟩ := mkLex_ok nz (postProcess_covered hv) hcast hwf (by rw [hprint]; rfl)
  exact ⟨l, hl, hill, hval ▸ hvalue⟩

/-- the code falsifies the full statement: `24:00:00` is a valid xsd:time (finding C09-K1) -/
theorem lex_to_value_xsd_witness : ¬ Statement_lex_to_value_xsd := by
  intro h
  obtain ⟨l, hl, hill, _⟩ := h .time "24:00:00".toList false (by decide +kernel)
  have : mkLex (some .time) "24:00:00".toList false =
      some ⟨"24:00:00".toList, some .time, none, some true⟩ := by decide +kernel
  rw [this] at hl
  cases hl
  cases hill

/-! ## 3. normalisation -/

/-- normalisation replaces a valid form only by a valid form of the same XSD value -/
def Statement_normalize_same_value : Prop :=
  ∀ (d : Dt) (s : Str), Spec.validLex d s = true →
    ∃ l, mkLex (some d) s true = some l ∧ Spec.validLex d l.lex = true ∧ Spec.sameValue d s l.lex

theorem normalize_same_value_partial : ∀ (d : Dt) (s : Str), Covered d = true → Spec.validLex d s = true →
    ∃ l, mkLex (some d) s true = some l ∧ Spec.validLex d l.lex = true ∧ Spec.sameValue d s l.lex := by
  intro d s hc hv
  obtain ⟨v, lx, hcast, _, _, hprint, hvalid, hsame⟩ := covered_valid hc hv
  -- the normalised form is the printed one: valid, so nothing is processed away
  refine ⟨_, mkLex_true_of (by rw [postProcess_covered hv]; exact hcast) hprint, ?_, ?_⟩
  · rw [postProcess_covered hvalid]; exact hvalid
  · rw [postProcess_covered hvalid]; exact hsame

/-- the code falsifies the full statement: `2000-01-01Z` is rewritten to `2000-01-01` (finding C09-K3) -/
theorem normalize_same_value_witness : ¬ Statement_normalize_same_value := by
  intro h
  obtain ⟨l, hl, _, hs⟩ := h .date "2000-01-01Z".toList (by decide +kernel)
  have : mkLex (some .date) "2000-01-01Z".toList true =
      some ⟨"2000-01-01".toList, some .date, some (.date 2000 1 1), some false⟩ := by decide +kernel
  rw [this] at hl
  cases hl
  revert hs
  show ¬ ((Spec.dateVal "2000-01-01Z".toList).1 = (Spec.dateVal "2000-01-01".toList).1)
  decide +kernel

/-- normalising an already normalised literal changes nothing: after one `normalize()` the literal is
    a fixpoint (lexical form, datatype, value and flag) — for every literal the constructors produce,
    every datatype of the model (dates, times, durations and hexBinary included) -/
def Statement_normalize_idempotent : Prop :=
  ∀ l n1, Built l → l.normalize = some n1 → n1.normalize = some n1

theorem normalize_idempotent : Statement_normalize_idempotent :=
  fun _ _ hb h => normalize_fixpoint (coherent_built hb) h

/-! ## 4. value-space equality -/

/-- `eq` is Python equality of the mapped values on comparable pairs: two numeric literals that are
    not ill-typed; two literals of the same non-string datatype; two plain / xsd:string literals -/
def Statement_eq_agrees : Prop :=
  ∀ a b x y, Built a → Built b → a.value = some x → b.value = some y →
    ((isNumeric a.dt = true ∧ isNumeric b.dt = true ∧ a.ill ≠ some true ∧ b.ill ≠ some true) ∨
      (a.dt = b.dt ∧ isStringDt a.dt = false) ∨ (isStringDt a.dt = true ∧ isStringDt b.dt = true)) →
    a.eq b = some (pyEq x y)

theorem eq_agrees : Statement_eq_agrees := by
  intro a b x y ha hb hx hy hcmp
  unfold Lit.eq
  rcases hcmp with ⟨h1, h2, h3, h4⟩ | ⟨h1, h2⟩ | ⟨h1, h2⟩
  · simp [h1, h2, h3, h4, hx, hy]
  · split  -- the numeric branch of `Lit.eq`, or the last one (same datatype, both values)
    · simp [hx, hy]
    · simp [← h1, h2, hx, hy]
  · have h3 := string_value_of_built ha h1
    have h4 := string_value_of_built hb h2
    rw [hx] at h3; rw [hy] at h4
    cases h3; cases h4
    simp [isNumeric_not_string h1, h1, h2, pyEq]

/-- value-space equality holds whenever term equality does -/
def Statement_term_eq_implies_eq : Prop :=
  ∀ a b, Built a → Built b → a.termEq b = true → a.eq b = some true

/-- proved for literals whose lexical form denotes their value (`denotes_cases`, `denotes_cases_dates_durations`
    say which literals these are) -/
theorem term_eq_implies_eq_partial : ∀ a b, Denotes a → Denotes b → a.termEq b = true → a.eq b = some true := by
  intro a b ha hb h
  obtain ⟨hdt, hlex⟩ : a.dt = b.dt ∧ a.lex = b.lex := by simpa [Lit.termEq] using h
  -- both values are what the one converter reads from the one lexical form
  have hval : ∀ x y, a.value = some x → b.value = some y → pyEq x y = true := by
    intro x y hx hy
    have h1 := ha x hx
    rw [hdt, hlex, hb y hy] at h1
    cases h1
    exact pyEq_refl _
  unfold Lit.eq
  cases hx : a.value with
  | none => cases b.value <;> simp [hdt, hlex]
  | some x =>
    cases hy : b.value with
    | none => simp [hdt, hlex]
    | some y => simp [hdt, hlex, hval x y hx hy]

/-- the lexical form denotes the value for every literal built with `normalize=False`, every normalised literal of
    the integer family, boolean, the string family, hexBinary, base64Binary or without datatype, `Literal(v)` for
    int/bool/str, and re-typed or copied literals -/
theorem denotes_cases :
    (∀ dt s l, mkLex dt s false = some l → Denotes l) ∧
    (∀ dt s l, ExactBack dt = true → mkLex dt s true = some l → Denotes l) ∧
    (∀ v l, Supported v → (∀ n c e, v ≠ .dec n c e) → mkValue v none = some l → Denotes l) ∧
    (∀ old d, Denotes (mkFromLit old (some d))) ∧
    (∀ old, Denotes old → Denotes (mkFromLit old none)) := by
  refine ⟨?_, fun _ _ _ hx => denotes_mkLex_true (fun _ _ => readback_exact hx (postProcess_idem _ _)), ?_,
    denotes_mkFromLit_some, fun _ => denotes_mkFromLit_none⟩
  · intro dt s l h
    rw [mkLex_false] at h
    cases h
    exact fun v hv => hv
  · intro v l hs hd h
    cases v with
    | int i => rw [mkValue_int] at h; cases h; intro w hw; cases hw; exact castLex_intRepr i
    | bool b => rw [mkValue_bool] at h; cases h; intro w hw; cases hw; exact castLex_boolLex b
    | dec n c e => exact absurd rfl (hd n c e)
    | str s => rw [mkValue_str] at h; cases h; intro w hw; cases hw; rfl
    | _ => exact absurd hs (by simp [Supported])

/-- the same for every *normalised* literal of xsd:date and of the three duration datatypes (what `duration_isoformat` /
    `date.isoformat()` write is read back by `parse_xsd_duration` / `parse_xsd_date` as the very same value), base64Binary
    (`ExactBack`, last clause), `Literal(date)`, `Literal(timedelta)` and `Literal(Duration)` with years, months not both zero:
    by `term_eq_implies_eq_partial` term-equal literals of these kinds are `eq` -/
theorem denotes_cases_dates_durations :
    (∀ (d : Dt) s l, (d.conv = .date ∨ d.conv = .duration) → mkLex (some d) s true = some l → Denotes l) ∧
    (∀ y m d l, validYMD y m d = true → mkValue (.date y m d) none = some l → Denotes l) ∧
    (∀ us l, tdInRange us = true → mkValue (.timedelta us) none = some l → Denotes l) ∧
    (∀ y m us l, 0 ≤ m ∧ m < 12 → tdInRange us = true → ¬ (y = 0 ∧ m = 0) →
      mkValue (.duration y m us) none = some l → Denotes l) ∧
    ExactBack (some .base64Binary) = true := by
  refine ⟨fun _ _ _ hd => denotes_mkLex_true (fun _ _ => readback_date_dur hd), ?_, ?_, ?_, rfl⟩
  · intro y m d l hv h
    cases h
    intro w hw; cases hw
    exact (parseXsdDate_dateIso hv).1
  · intro us l hr h
    obtain ⟨lx, hl, rfl⟩ := mkPy_fields h
    intro w hw; cases hw
    simpa [castLex, Dt.conv, coalesceDt, genericDt, postProcess] using parse_durationIso_timedelta hr hl
  · intro y m us l hm hr hne h
    obtain ⟨lx, hl, rfl⟩ := mkPy_fields h
    intro w hw; cases hw
    have := parse_durationIso hm hr hl
    rw [dHasYM_true hne] at this
    simpa [castLex, Dt.conv, coalesceDt, genericDt, postProcess] using this

/-- `lit.eq(v)` for a plain Python object `v` of a kind `eq` documents for the literal's datatype
    (`eqPyDomain`: str ↔ plain / xsd:string, bool ↔ xsd:boolean, int / Decimal ↔ the numeric types,
    date / time / datetime ↔ xsd:date / time / dateTime, timedelta / Duration ↔ all three duration datatypes)
    is Python equality of the mapped value with `v` — in particular `lit.eq(lit.toPython())` is True; outside
    that domain it answers `NotImplemented` -/
def Statement_eq_python_value : Prop :=
  (∀ l v x, Built l → eqPyDomain l.dt v = true → l.value = some x → l.eqPy v = some (pyEq x v)) ∧
  (∀ l x, Built l → l.value = some x → eqPyDomain l.dt x = true → l.eqPy x = some true) ∧
  (∀ (l : Lit) v, eqPyDomain l.dt v = false → l.eqPy v = none)

theorem eq_python_value : Statement_eq_python_value := by
  have key : ∀ l v x, Built l → eqPyDomain l.dt v = true → l.value = some x → l.eqPy v = some (pyEq x v) := by
    intro l v x hb hd hv
    unfold Lit.eqPy
    rw [if_pos hd]
    cases v with
    | str s =>
      have hx := string_value_of_built hb hd
      rw [hv] at hx; cases hx
      simp [pyEq]
    | _ => simp [hv]
  refine ⟨key, fun l x hb hv hd => ?_, fun l v h => by simp [Lit.eqPy, h]⟩
  rw [key l x x hb hd hv, pyEq_refl]

/-- every duration datatype, every date/time datatype and every numeric datatype is in the domain of its value kind
    (the tables `eq` tests against must not lose a member) -/
theorem eq_python_domain_tables :
    (∀ d ∈ Dt.all, d.conv = .duration → eqPyDomain (some d) (.timedelta 0) = true ∧ eqPyDomain (some d) (.duration 0 0 0) = true) ∧
    (∀ d ∈ Dt.all, (d.conv = .date ∨ d.conv = .time ∨ d.conv = .dateTime) → eqPyDomain (some d) (.date 1 1 1) = true) ∧
    (∀ d ∈ Dt.all, (d.conv = .int ∨ d.conv = .decimal) → eqPyDomain (some d) (.int 0) = true ∧ eqPyDomain (some d) (.dec false 0 0) = true) := by
  refine ⟨?_, ?_, ?_⟩ <;> decide +kernel

/-! ## 4b. literals made from literals (first branch of `__new__`) -/

/-- `Literal(old, datatype=d)` is `Literal(str(old), datatype=d, normalize=False)` with `ill_typed = None`:
    same lexical form (white-space facet applied), same datatype, same value — so the value clauses of §2
    carry over to re-typed literals, and (`denotes_cases`) a re-typed literal is `eq` to every term-equal one that
    denotes its value. -/
def Statement_retype_is_lex : Prop :=
  ∀ (old : Lit) (d : Dt), ∃ l, mkLex (some d) old.lex false = some l ∧
    (mkFromLit old (some d)).lex = l.lex ∧ (mkFromLit old (some d)).dt = l.dt ∧
    (mkFromLit old (some d)).value = l.value ∧ (mkFromLit old (some d)).ill = none

theorem retype_is_lex : Statement_retype_is_lex :=
  fun old d => ⟨_, mkFromLit_some_eq_mkLex old d, rfl, rfl, rfl, rfl⟩

/-- `Literal(old)` of a built literal is the same term with the same value (`ill_typed` is not copied) -/
def Statement_copy_same : Prop :=
  ∀ old, Built old → (mkFromLit old none).lex = old.lex ∧ (mkFromLit old none).dt = old.dt ∧
    (mkFromLit old none).value = old.value

theorem copy_same : Statement_copy_same :=
  fun _ h => by rw [mkFromLit_none (coherent_built h)]; exact ⟨rfl, rfl, rfl⟩

/-! ## 5. durations: the repo-owned printer and parser -/

/-- what `duration_isoformat` writes, `parse_xsd_duration` reads back as the same value — for every
    timedelta (`isDur = false`) and every Duration with whole years and `0 ≤ months < 12` (the
    constructor's invariant) inside timedelta's range, on integer microseconds (after fix C09-F3 there
    is no float on this path).  A Duration of 0 years 0 months comes back as the equal timedelta. -/
def Statement_duration_roundtrip : Prop :=
  ∀ (y m us : Int) (isDur : Bool) (lx : Str), 0 ≤ m ∧ m < 12 → tdInRange us = true →
    durationIso y m us isDur = some lx →
    parseXsdDuration lx = some (if isDur && !(y == 0 && m == 0) then .duration y m us else .timedelta us)

theorem duration_roundtrip : Statement_duration_roundtrip :=
  fun _ _ _ _ _ hm hr h => parse_durationIso hm hr h

/-- mixed signs have no XSD form: the printer refuses them (and only them) -/
def Statement_duration_printer_total : Prop :=
  ∀ (y m us : Int) (isDur : Bool),
    (durationIso y m us isDur).isSome = true ↔
      ¬ ((isDur && !(y == 0 && m == 0)) = true ∧ ((us < 0 ∧ ¬ (y * 12 + m < 0)) ∨ (0 < us ∧ y * 12 + m < 0)))

theorem duration_printer_total : Statement_duration_printer_total := by
  intro y m us isDur
  obtain ⟨_, _, _, heq⟩ := durationIso_eq y m us isDur
  rw [heq]
  show _ ↔ ¬ (dHasYM y m isDur = true ∧ _)
  rw [← dMixed_iff]
  cases dMixed y m us isDur <;> simp

/-- `Literal(timedelta)` / `Literal(Duration)`: documented datatype (xsd:dayTimeDuration / xsd:duration), a
    lexical form in that datatype's XSD lexical space, and the same value read back — for every timedelta in
    range and every Duration with whole years, `0 ≤ months < 12` and one sign -/
def Statement_duration_py_to_lit : Prop :=
  (∀ us : Int, tdInRange us = true →
    ∃ l, mkValue (.timedelta us) none = some l ∧ l.dt = some .dayTimeDuration ∧
      Spec.validLex .dayTimeDuration l.lex = true ∧ castLex l.dt l.lex = some (.timedelta us)) ∧
  (∀ (y m us : Int) (lx : Str), 0 ≤ m ∧ m < 12 → tdInRange us = true → durationIso y m us true = some lx →
    ∃ l, mkValue (.duration y m us) none = some l ∧ l.dt = some .duration ∧ l.lex = lx ∧
      Spec.validLex .duration l.lex = true ∧
      castLex l.dt l.lex = some (if y == 0 && m == 0 then .timedelta us else .duration y m us))

theorem duration_py_to_lit : Statement_duration_py_to_lit := by
  constructor
  · intro us hr
    -- a timedelta is never refused by the printer
    have hsome : (durationIso 0 0 us false).isSome = true := (duration_printer_total 0 0 us false).mpr (by simp)
    obtain ⟨lx, hlx⟩ := Option.isSome_iff_exists.mp hsome
    have hback := parse_durationIso_timedelta hr hlx
    have hval := (durLex_durationIso hlx).2 rfl
    exact ⟨_, mkValue_timedelta hlx, rfl, hval, by simpa [castLex_duration (d := .dayTimeDuration) rfl, dHasYM] using hback⟩
  · intro y m us lx hm hr hlx
    have hback := parse_durationIso hm hr hlx
    have hval := (durLex_durationIso hlx).1
    refine ⟨_, mkValue_duration hlx, rfl, rfl, hval, ?_⟩
    simp only [castLex_duration (d := .duration) rfl, hback, dHasYM, Bool.true_and]
    by_cases h0 : (y == 0 && m == 0) = true <;> simp [h0]

/-! ## 6. dates -/

/-- `Literal(date(y, m, d))` (any date CPython can hold): datatype xsd:date, a lexical form in the XSD
    lexical space, and `parse_xsd_date` reads it back as the same date -/
def Statement_date_roundtrip : Prop :=
  ∀ y m d, validYMD y m d = true →
    ∃ l, mkValue (.date y m d) none = some l ∧ l.dt = some .date ∧ Spec.validLex .date l.lex = true ∧
      castLex l.dt l.lex = some (.date y m d)

theorem date_roundtrip : Statement_date_roundtrip := by
  intro y m d hv
  obtain ⟨h1, h2⟩ := parseXsdDate_dateIso hv
  exact ⟨⟨dateIso y m d, some .date, some (.date y m d), none⟩, rfl, rfl, h2, h1⟩

/-- `Literal(time(...))`: datatype, a lexical form in the XSD lexical space and
    the same value read back — for every Python time, naive or aware (utcoffset strictly inside ±24 h) -/
def Statement_time_roundtrip : Prop :=
  ∀ h mi s us (tz : Option Int), ValidTime h mi s us →
    (match tz with | none => True | some off => -86400000000 < off ∧ off < 86400000000) →
    ∃ l, mkValue (.time h mi s us tz) none = some l ∧ l.dt = some .time ∧ Spec.validLex .time l.lex = true ∧
      castLex l.dt l.lex = some (.time h mi s us tz)

/-- the same for `Literal(datetime(...))` -/
def Statement_datetime_roundtrip : Prop :=
  ∀ y m d h mi s us (tz : Option Int), validYMD y m d = true → ValidTime h mi s us →
    (match tz with | none => True | some off => -86400000000 < off ∧ off < 86400000000) →
    ∃ l, mkValue (.datetime y m d h mi s us tz) none = some l ∧ l.dt = some .dateTime ∧
      Spec.validLex .dateTime l.lex = true ∧ castLex l.dt l.lex = some (.datetime y m d h mi s us tz)

/-- proved for naive values and for the utcoffsets XSD can write (whole minutes within ±14:00) -/
theorem time_roundtrip_partial : ∀ h mi s us (tz : Option Int), ValidTime h mi s us → XsdTz tz →
    ∃ l, mkValue (.time h mi s us tz) none = some l ∧ l.dt = some .time ∧ Spec.validLex .time l.lex = true ∧
      castLex l.dt l.lex = some (.time h mi s us tz) := by
  intro h mi s us tz ⟨h1, h2, h3, h4⟩ htz
  refine ⟨⟨timeIso h mi s us tz, some .time, some (.time h mi s us tz), none⟩, rfl, rfl, ?_, ?_⟩
  · simpa only [Spec.validLex] using timeLex_timeIso us h1 h2 h3 htz
  · simpa only [castLex_time] using pyTimeFromIso_timeIso h1 h2 h3 h4 (TzOk_of_XsdTz htz)

theorem datetime_roundtrip_partial : ∀ y m d h mi s us (tz : Option Int), validYMD y m d = true →
    ValidTime h mi s us → XsdTz tz →
    ∃ l, mkValue (.datetime y m d h mi s us tz) none = some l ∧ l.dt = some .dateTime ∧
      Spec.validLex .dateTime l.lex = true ∧ castLex l.dt l.lex = some (.datetime y m d h mi s us tz) := by
  intro y m d h mi s us tz hv ⟨h1, h2, h3, h4⟩ htz
  refine ⟨⟨datetimeIso y m d h mi s us tz, some .dateTime, some (.datetime y m d h mi s us tz), none⟩, rfl, rfl, ?_, ?_⟩
  · simpa only [Spec.validLex] using dateTimeLex_datetimeIso us hv h1 h2 h3 htz
  · simpa only [castLex_dateTime] using pyDateTimeFromIso_datetimeIso hv h1 h2 h3 h4 (TzOk_of_XsdTz htz)

/-- the value is still read back for whole-minute offsets up to ±23:59, which XSD cannot write (finding C09-K4) -/
theorem time_readback_wide : ∀ h mi s us (tz : Option Int), ValidTime h mi s us → TzOk tz →
    pyTimeFromIso (timeIso h mi s us tz) = some (.time h mi s us tz) :=
  fun _ _ _ _ _ ⟨h1, h2, h3, h4⟩ htz => pyTimeFromIso_timeIso h1 h2 h3 h4 htz

/-- the code falsifies the full statement: a utcoffset of one second is written `+00:00:01` (finding C09-K4) -/
theorem time_roundtrip_witness : ¬ Statement_time_roundtrip := by
  intro h
  obtain ⟨l, hl, _, hv, _⟩ := h 0 0 0 0 (some 1000000) ⟨by decide, by decide, by decide, by decide⟩ (by decide)
  have : mkValue (.time 0 0 0 0 (some 1000000)) none =
      some ⟨"00:00:00+00:00:01".toList, some .time, some (.time 0 0 0 0 (some 1000000)), none⟩ := by decide +kernel
  rw [this] at hl
  cases hl
  revert hv
  decide +kernel

/-! ## 7. the binary datatypes: xsd:hexBinary and xsd:base64Binary codecs -/

/-- `hexlify`/`_unhexlify` and `b64encode`/`b64decode` (the loop of `binascii.a2b_base64`, non-strict): what the
    encoder writes is in the XSD lexical space (for base64Binary: and denotes the bytes encoded) and is decoded to them again; and every
    form of the XSD lexical space (RFC 4648 alphabet and padding, for base64Binary a single space allowed after any
    character but the last) is decoded to the octets XSD assigns to it -/
def Statement_binary_codecs : Prop :=
  (∀ b : List Nat, (∀ x ∈ b, x < 256) →
    unhexlify (hexlify b) = some b ∧ Spec.hexLex (hexlify b) = true ∧
    b64decode (b64encode b) = some b ∧ Spec.b64Lex (b64encode b) = true ∧ Spec.b64ValOf (b64encode b) = b) ∧
  (∀ s, Spec.hexLex s = true → unhexlify s = some (Spec.hexVal s)) ∧
  (∀ s, Spec.b64Lex s = true → b64decode s = some (Spec.b64ValOf s)) ∧
  (∀ s b, (unhexlify s = some b ∨ b64decode s = some b) → ∀ x ∈ b, x < 256)

theorem binary_codecs : Statement_binary_codecs :=
  ⟨fun _ h => ⟨unhexlify_hexlify h, hexLex_hexlify h, b64decode_b64encode h, (b64Lex_b64encode h).1, (b64Lex_b64encode h).2⟩,
    fun _ h => unhexlify_xsd h, fun _ h => b64decode_xsd h,
    fun _ _ h => h.elim unhexlify_lt b64decode_lt⟩

/-! ## 8. xsd:double / xsd:float (model: `FloatModel.lean`, exact integer / rational arithmetic, no `Float`) -/

/-- both floating-point datatypes are keys of `XSDToPython` mapped to `float`, and the `float` rule writes xsd:double
    through a lexicaliser (regenerated tables) -/
theorem float_converter_table :
    lookupStr "double" Tables.xsdToPython = some "float" ∧ lookupStr "float" Tables.xsdToPython = some "float" ∧
    ("float", "double", "fn") ∈ Tables.genericRules ∧ "double" ∈ Tables.numericTypes ∧ "float" ∈ Tables.numericTypes := by
  decide +kernel

/-- `Literal(float)`: whatever `_float_to_xsd` writes — `NaN`, `INF`, `-INF` (fix C09-F1), or `repr` of a finite double in
    any of the layouts of `format_float_short` — is in the lexical space of xsd:double -/
def Statement_float_printer_valid : Prop :=
  ∀ v s, floatToXsd v = some s → Spec.doubleLex s = true

theorem float_printer_valid : Statement_float_printer_valid := fun _ _ h => doubleLex_floatToXsd h

/-- the special values and the signed zeros: XSD's spellings are read as the right value and written back in XSD's
    spelling (never Python's `inf` / `nan`), in both directions; overflow goes to INF and underflow to a signed zero as
    XSD's `floatingPointRound` prescribes -/
theorem float_specials :
    pyFloat "INF".toList = some (.inf false) ∧ pyFloat "+INF".toList = some (.inf false) ∧
    pyFloat "-INF".toList = some (.inf true) ∧ pyFloat "NaN".toList = some .nan ∧
    floatToXsd .nan = some "NaN".toList ∧ floatToXsd (.inf false) = some "INF".toList ∧
    floatToXsd (.inf true) = some "-INF".toList ∧
    pyFloat "-0".toList = some (.fin true 0 0) ∧ pyFloat "0".toList = some (.fin false 0 0) ∧
    floatToXsd (.fin true 0 0) = some "-0.0".toList ∧ floatToXsd (.fin false 0 0) = some "0.0".toList ∧
    pyFloat "-0.0".toList = some (.fin true 0 0) ∧ FVal.pyEq (.fin true 0 0) (.fin false 0 0) = true ∧
    FVal.pyEq .nan .nan = false ∧
    pyFloat "1e400".toList = some (.inf false) ∧ pyFloat "-1e-400".toList = some (.fin true 0 0) ∧
    Spec.doubleLex "inf".toList = false ∧ Spec.doubleLex "nan".toList = false ∧ Spec.doubleLex "1e".toList = false ∧
    Spec.doubleLex "-.5E-3".toList = true := by
  decide +kernel

/-- the defining property of `repr` for a non-zero double — the digits read back as the same double — holds by
    construction of the search (`readsBack`), for the decimal `D · 10^s` the digits denote -/
def Statement_float_digits_read_back : Prop :=
  ∀ neg m e ds decpt, m ≠ 0 → shortest neg m e = some (ds, decpt) →
    ∃ D s, roundDec neg D s = .fin neg m e ∧ D ≠ 0 ∧ ds = rstrip0 (digits D) ∧ decpt = s + (ndigits D : Int) ∧
      ds ≠ [] ∧ allDigits ds = true

theorem float_digits_read_back : Statement_float_digits_read_back :=
  fun _ _ _ _ _ hm h => shortest_spec hm h

/-- `Literal(float)` → lexical form → `float(str)` (the converter of xsd:double and xsd:float): the form is in the XSD lexical
    space and reads back as the very same double — every finite double in every layout `repr` uses (fixed, exponent,
    `.0` appended), both zeros, ±INF; NaN reads back as NaN.  The only thing not proved is that the 17-digit search
    always finds digits (`floatToXsd v = some s` is a hypothesis; the driver would answer `raise`, never observed). -/
def Statement_float_roundtrip : Prop :=
  ∀ v s, v.canonical → floatToXsd v = some s → Spec.doubleLex s = true ∧ pyFloat s = some v

theorem float_roundtrip : Statement_float_roundtrip := by
  intro v s hc h
  cases v with
  | nan | inf => exact floatToXsd_special (fun _ _ _ e => by cases e) h
  | fin neg m e => exact ⟨doubleLex_floatToXsd h, pyFloat_floatToXsd hc h⟩

/-! ## 9. field-level values of xsd:date, xsd:time, xsd:dateTime -/

/-- the value XSD assigns, field by field, for the three date/time datatypes — on every form of the lexical space that
    CPython's `date` / `time` / `datetime` can hold (year 0001…9999, not the end-of-day form `24:00:00`):
    * xsd:time: hour, minute, second and zone (minutes → microseconds) exactly as XSD reads them; the fraction truncated to
      microseconds — equal to XSD's fraction whenever it has at most six significant digits (else finding C09-K2);
      then the time of day Python compares (`todMicros`) is XSD's local time, and for zoned values
      `todMicros − utcoffset` is XSD's position on the timeline;
    * xsd:dateTime: year, month, day and the same time fields;
    * xsd:date: year, month, day; a zone is dropped (this is exactly finding C09-K3).
    With either setting of `normalize`; never flagged ill-typed. -/
def Statement_lex_to_value_fields : Prop :=
  (∀ (s : Str) (nz : Bool), Spec.timeLex s = true → (Spec.timeVal s).hour ≠ 24 →
    ∃ l us, mkLex (some .time) s nz = some l ∧ l.ill = some false ∧
      l.value = some (.time (Spec.timeVal s).hour (Spec.timeVal s).minute (Spec.timeVal s).second us
        ((Spec.timeVal s).tz.map (· * 60000000))) ∧
      ((Spec.timeVal s).frac.length ≤ 6 →
        us = Spec.fracMicros (Spec.timeVal s).frac ∧
        todMicros (Spec.timeVal s).hour (Spec.timeVal s).minute (Spec.timeVal s).second us = (Spec.timeVal s).localMicros ∧
        ∀ z, (Spec.timeVal s).tz = some z →
          some (todMicros (Spec.timeVal s).hour (Spec.timeVal s).minute (Spec.timeVal s).second us - z * 60000000) =
            (Spec.timeVal s).utcMicros)) ∧
  (∀ (s : Str) (nz : Bool), Spec.dateTimeLex s = true →
    1 ≤ (Spec.dateTimeVal s).1.year ∧ (Spec.dateTimeVal s).1.year ≤ 9999 → (Spec.dateTimeVal s).2.hour ≠ 24 →
    ∃ l us, mkLex (some .dateTime) s nz = some l ∧ l.ill = some false ∧
      l.value = some (.datetime (Spec.dateTimeVal s).1.year.toNat (Spec.dateTimeVal s).1.month (Spec.dateTimeVal s).1.day
        (Spec.dateTimeVal s).2.hour (Spec.dateTimeVal s).2.minute (Spec.dateTimeVal s).2.second us
        ((Spec.dateTimeVal s).2.tz.map (· * 60000000))) ∧
      ((Spec.dateTimeVal s).2.frac.length ≤ 6 → us = Spec.fracMicros (Spec.dateTimeVal s).2.frac)) ∧
  (∀ (s : Str) (nz : Bool), Spec.dateLex s = true →
    1 ≤ (Spec.dateVal s).1.year ∧ (Spec.dateVal s).1.year ≤ 9999 →
    ∃ l, mkLex (some .date) s nz = some l ∧ l.ill = some false ∧
      l.value = some (.date (Spec.dateVal s).1.year.toNat (Spec.dateVal s).1.month (Spec.dateVal s).1.day))

theorem lex_to_value_fields : Statement_lex_to_value_fields := by
  refine ⟨?_, ?_, ?_⟩
  · intro s nz h h24
    obtain ⟨us, hp, hus⟩ := pyTimeFromIso_xsd h h24
    obtain ⟨l, h1, h2, h3⟩ := mkLex_ok (d := .time) nz rfl hp rfl rfl
    refine ⟨l, us, h1, h2, h3, fun hl => ?_⟩
    have e := hus hl
    refine ⟨e, ?_, ?_⟩
    · simp [todMicros, Spec.TimeV.localMicros, e]
    · intro z hz
      simp [todMicros, Spec.TimeV.utcMicros, Spec.TimeV.localMicros, hz, e]
  · intro s nz h hy h24
    obtain ⟨us, hp, hus⟩ := pyDateTimeFromIso_xsd h hy h24
    obtain ⟨l, h1, h2, h3⟩ := mkLex_ok (d := .dateTime) nz rfl hp rfl rfl
    exact ⟨l, us, h1, h2, h3, hus⟩
  · intro s nz h hy
    have hp := parseXsdDate_xsd h hy
    obtain ⟨l, h1, h2, h3⟩ := mkLex_ok (d := .date) nz rfl hp rfl rfl
    exact ⟨l, h1, h2, h3⟩

/-! ## Non-vacuity: the hypotheses are met by concrete, non-trivial instances -/

-- `time_roundtrip_partial`, `time_readback_wide`: the zone hypotheses
example : XsdTz (some (-50400000000)) ∧ ¬ XsdTz (some 1000000) ∧ TzOk (some 86340000000) := by
  simp only [XsdTz, TzOk]; decide
-- `date_roundtrip`
example : validYMD 2024 2 29 = true ∧ validYMD 1900 2 29 = false ∧ dateIso 33 1 1 = "0033-01-01".toList := by decide +kernel

-- `duration_roundtrip`
example : durationIso (-2) 10 (-273906700000) true = some "-P1Y2M3DT4H5M6.7S".toList ∧
    tdInRange (-273906700000) = true := by decide +kernel

-- `binary_codecs`, `lex_to_value_xsd_partial` on base64Binary
example : Spec.validLex .base64Binary "YW Jj ZA==".toList = true ∧ Covered .base64Binary = true ∧
    b64decode "YW Jj ZA==".toList = some [97, 98, 99, 100] ∧ Spec.validLex .base64Binary "YWJj ".toList = false ∧
    b64decode "YQ=".toList = none ∧ b64decode "YQ=a=".toList = some [97, 6] ∧ b64decode "YQ=YQ==".toList = some [97, 6, 16] ∧ b64encode [97, 98, 99, 100] = "YWJjZA==".toList := by
  decide +kernel
-- `float_roundtrip`
example : floatToXsd (.fin false 7205759403792794 (-56)) = some "0.1".toList ∧
    pyFloat "0.1".toList = some (.fin false 7205759403792794 (-56)) ∧
    floatToXsd (.fin true 5000000000000000 1) = some "-1e+16".toList ∧
    floatToXsd (.fin false 1 (-1074)) = some "5e-324".toList ∧ pyFloat "5e-324".toList = some (.fin false 1 (-1074)) := by
  decide +kernel
-- `lex_to_value_fields`
example : Spec.timeLex "23:59:59.1230000-14:00".toList = true ∧ (Spec.timeVal "23:59:59.1230000-14:00".toList).hour ≠ 24 ∧
    (Spec.timeVal "23:59:59.1230000-14:00".toList).frac.length ≤ 6 ∧
    (Spec.timeVal "23:59:59.1230000-14:00".toList).utcMicros = some 136799123000 ∧
    Spec.dateTimeLex "9999-12-31T00:00:00Z".toList = true ∧ (Spec.dateTimeVal "9999-12-31T00:00:00Z".toList).1.year = 9999 ∧
    Spec.dateLex "0001-02-28+05:30".toList = true ∧ (Spec.dateVal "0001-02-28+05:30".toList).1.year = 1 := by
  decide +kernel
-- `lex_to_value_xsd_partial`, `normalize_same_value_partial`
example : Spec.validLex .unsignedByte "+0255".toList = true ∧ Covered .unsignedByte = true := by decide +kernel
example : Spec.validLex .decimal "-.50".toList = true ∧ Covered .decimal = true := by decide +kernel
-- `normalize_idempotent`: `Built`, and a normalisation that changes the lexical form
example : ∃ l, mkLex (some .integer) ['-', '0'] true = some l ∧ l.lex = ['0'] ∧ Built l :=
  ⟨⟨['0'], some .integer, some (.int 0), some false⟩, by decide +kernel, rfl, Built.lex (dt := some .integer) (s := ['-', '0']) (nz := true) (by decide +kernel)⟩
example : ∃ l n1, Built l ∧ l.normalize = some n1 ∧ n1.lex ≠ l.lex :=
  ⟨⟨['0', 'F'], some .hexBinary, some (.bytes [15]), some false⟩, ⟨['0', 'f'], some .hexBinary, some (.bytes [15]), some false⟩,
    Built.lex (dt := some .hexBinary) (s := ['0', 'F']) (nz := false) (by decide +kernel), by decide +kernel, by decide +kernel⟩
-- `denotes_cases_dates_durations`
example : mkLex (some .duration) "P14M".toList true = some ⟨"P1Y2M".toList, some .duration, some (.duration 1 2 0), some false⟩ ∧
    mkLex (some .date) "2024-02-29".toList true = some ⟨"2024-02-29".toList, some .date, some (.date 2024 2 29), some false⟩ := by
  decide +kernel
-- `term_eq_implies_eq_partial`
example : ∃ a b, Denotes a ∧ Denotes b ∧ a.termEq b = true ∧ a.lex = ['1', '2'] :=
  ⟨⟨['1', '2'], some .integer, some (.int 12), some false⟩, ⟨['1', '2'], some .integer, some (.int 12), none⟩,
    denotes_mkLex_true (dt := some .integer) (s := ['+', '0', '1', '2']) (fun _ _ => readback_exact rfl rfl) (by decide +kernel),
    denotes_cases.2.2.1 (.int 12) _ trivial (by intro _ _ _ h; cases h) (by decide +kernel), by decide +kernel, rfl⟩

end RV.C09

import RV.C09.B64Lemmas
import RV.C09.DurLemmas
import RV.C09.DateLemmas
/-
  C09 — lemmas at the level of `Lit`: the constructors, normalisation, `eq`, and when a lexical form denotes its value.
-/
namespace RV.C09

theorem validLex_int {d : Dt} (h : d.conv = .int) (s : Str) :
    Spec.validLex d s = (Spec.intLex s && Spec.inBounds (Spec.xsdBounds d) (Spec.intVal s)) := by
  cases d <;> first | rfl | cases h

theorem castLex_int {d : Dt} (h : d.conv = .int) (s : Str) : castLex (some d) s = (pyInt s).map .int := by
  simp [castLex, h]

theorem castLex_duration {d : Dt} (h : d.conv = .duration) (s : Str) : castLex (some d) s = parseXsdDuration s := by
  simp only [castLex, h]

theorem castLex_decimal (s : Str) : castLex (some .decimal) s = pyDecimal s := rfl
theorem castLex_boolean (s : Str) : castLex (some .boolean) s = some (.bool (parseBoolean s)) := rfl
theorem castLex_time (s : Str) : castLex (some .time) s = pyTimeFromIso s := rfl
theorem castLex_dateTime (s : Str) : castLex (some .dateTime) s = pyDateTimeFromIso s := rfl
theorem castLex_hex (s : Str) : castLex (some .hexBinary) s = (unhexlify s).map .bytes := rfl
theorem castLex_b64 (s : Str) : castLex (some .base64Binary) s = (b64decode s).map .bytes := rfl

theorem wellFormed_int {d : Dt} (h : d.conv = .int) {s : Str} (hv : Spec.validLex d s = true) :
    wellFormed d s (some (.int (Spec.intVal s))) = true := by
  rw [validLex_int h, Bool.and_eq_true] at hv
  have hb : (d == Dt.boolean) = false := by cases d <;> first | rfl | cases h
  unfold wellFormed
  simp only [hb, Bool.false_and]
  rcases (int_bounds_table d (Dt.mem_all d) h).1 with hn | ⟨⟨lo, hi⟩, hs, hc⟩
  · simp [hn]
  · rw [hs]; simpa [inOpt_eq_inBounds] using inBounds_of_covers hc hv.2

theorem conv_table (d : Dt) :
    (d.conv = .decimal → d = .decimal) ∧ (d.conv = .boolean → d = .boolean) ∧ (d.conv = .hex → d = .hexBinary) ∧
    (d.conv = .b64 → d = .base64Binary) ∧
    (d.conv = .duration → d = .duration ∨ d = .dayTimeDuration ∨ d = .yearMonthDuration) ∧
    (d.conv = .none → d = .string ∨ d = .normalizedString ∨ d = .token ∨ d = .language ∨ d = .anyURI) ∧
    (d.conv ≠ .int → d.conv ≠ .boolean → d ≠ .boolean ∧ d.bounds = none) ∧
    (d.conv ≠ .none → d ≠ .normalizedString ∧ d ≠ .token) := by
  have := Dt.mem_all d
  revert d
  decide +kernel

theorem conv_decimal {d : Dt} (h : d.conv = .decimal) : d = .decimal := (conv_table d).1 h
theorem conv_boolean {d : Dt} (h : d.conv = .boolean) : d = .boolean := (conv_table d).2.1 h
theorem conv_hex {d : Dt} (h : d.conv = .hex) : d = .hexBinary := (conv_table d).2.2.1 h
theorem conv_b64 {d : Dt} (h : d.conv = .b64) : d = .base64Binary := (conv_table d).2.2.2.1 h

theorem dur_conv_cases {d : Dt} (h : d.conv = .duration) : d = .duration ∨ d = .dayTimeDuration ∨ d = .yearMonthDuration :=
  (conv_table d).2.2.2.2.1 h

theorem conv_none_cases {d : Dt} (h : d.conv = .none) :
    d = .string ∨ d = .normalizedString ∨ d = .token ∨ d = .language ∨ d = .anyURI :=
  (conv_table d).2.2.2.2.2.1 h

theorem no_checker {d : Dt} (h1 : d.conv ≠ .int) (h2 : d.conv ≠ .boolean) : d ≠ .boolean ∧ d.bounds = none :=
  (conv_table d).2.2.2.2.2.2.1 h1 h2

theorem conv_not_ws {d : Dt} (h : d.conv ≠ .none) : d ≠ .normalizedString ∧ d ≠ .token :=
  (conv_table d).2.2.2.2.2.2.2 h

/-- the two datatypes with a white-space facet: where `postProcess` and `fixWs` do something -/
def isWsDt (dt : Option Dt) : Bool := dt == some .normalizedString || dt == some .token

theorem postProcess_of_not_ws {dt : Option Dt} (h : isWsDt dt = false) (t : Str) : postProcess dt t = t := by
  simp only [isWsDt, Bool.or_eq_false_iff] at h
  simp only [postProcess, h.1, h.2, Bool.false_eq_true, if_false]

theorem fixWs_of_not_ws {dt : Option Dt} (h : isWsDt dt = false) (lx : Str) (v : Option PyVal) : fixWs dt lx v = v := by
  unfold isWsDt at h
  simp only [fixWs, h, Bool.false_eq_true, if_false]

theorem isWsDt_conv {d : Dt} (h : isWsDt (some d) = true) : d.conv = .none := by
  simp only [isWsDt, Bool.or_eq_true, beq_iff_eq, Option.some.injEq] at h
  rcases h with rfl | rfl <;> rfl

theorem castLex_conv_none {d : Dt} (h : d.conv = .none) (t : Str) : castLex (some d) t = some (.str t) := by
  simp only [castLex, h]

theorem fixWs_of_ws {dt : Option Dt} (h : isWsDt dt = true) (lx s : Str) : fixWs dt lx (some (.str s)) = some (.str lx) := by
  unfold isWsDt at h
  simp only [fixWs, h, if_true]

theorem mkFromLit_ws (old : Lit) {d : Dt} (h : isWsDt (some d) = true) :
    mkFromLit old (some d) =
      ⟨postProcess (some d) old.lex, some d, some (.str (postProcess (some d) old.lex)), none⟩ := by
  simp only [mkFromLit, castLex_conv_none (isWsDt_conv h), fixWs_of_ws h]

theorem mkFromLit_not_ws (old : Lit) {d : Dt} (h : isWsDt (some d) = false) :
    mkFromLit old (some d) = ⟨old.lex, some d, castLex (some d) old.lex, none⟩ := by
  simp only [mkFromLit, postProcess_of_not_ws h, fixWs_of_not_ws h]

theorem mkFromLit_none_not_ws {old : Lit} (h : isWsDt old.dt = false) :
    mkFromLit old none = ⟨old.lex, old.dt, old.value, none⟩ := by
  simp only [mkFromLit, postProcess_of_not_ws h, fixWs_of_not_ws h]

theorem postProcess_of_conv {d : Dt} (h : d.conv ≠ .none) (s : Str) : postProcess (some d) s = s := by
  have := conv_not_ws h
  exact postProcess_of_not_ws (by simp [isWsDt, this.1, this.2]) s

theorem wellFormed_nobounds {d : Dt} (h1 : d.conv ≠ .int) (h2 : d.conv ≠ .boolean) (s : Str) (v : Option PyVal) :
    wellFormed d s v = v.isSome := by
  obtain ⟨hb, hn⟩ := no_checker h1 h2
  have : (d == Dt.boolean) = false := by simpa using hb
  simp [wellFormed, this, hn]

theorem mkValue_int (i : Int) : mkValue (.int i) none = some ⟨intRepr i, some .integer, some (.int i), none⟩ := rfl
theorem mkValue_bool (b : Bool) : mkValue (.bool b) none = some ⟨boolLex b, some .boolean, some (.bool b), none⟩ := rfl
theorem mkValue_dec (n : Bool) (c : Nat) (e : Int) :
    mkValue (.dec n c e) none = some ⟨fmtF n c e, some .decimal, some (.dec n c e), none⟩ := rfl
theorem mkValue_str (s : Str) : mkValue (.str s) none = some ⟨s, none, some (.str s), none⟩ := rfl

theorem mkValue_timedelta {us : Int} {lx : Str} (h : durationIso 0 0 us false = some lx) :
    mkValue (.timedelta us) none = some ⟨lx, some .dayTimeDuration, some (.timedelta us), none⟩ := by
  simp [mkValue, mkPy, pyLex, h, coalesceDt, genericDt, postProcess]

theorem mkValue_duration {y m us : Int} {lx : Str} (h : durationIso y m us true = some lx) :
    mkValue (.duration y m us) none = some ⟨lx, some .duration, some (.duration y m us), none⟩ := by
  simp [mkValue, mkPy, pyLex, h, coalesceDt, genericDt, postProcess]

theorem castLex_intRepr (i : Int) : castLex (some .integer) (intRepr i) = some (.int i) := by
  rw [castLex_int rfl, pyInt_intRepr]; rfl

theorem castLex_boolLex (b : Bool) : castLex (some .boolean) (boolLex b) = some (.bool b) := by
  rw [castLex_boolean, parseBoolean_boolLex]

theorem validLex_integer_intRepr (i : Int) : Spec.validLex .integer (intRepr i) = true := by
  simp [Spec.validLex, intLex_intRepr, Spec.inBounds, Spec.xsdBounds]

theorem pyEq_dec_self (n : Bool) (c : Nat) (e : Int) : pyEq (.dec n c e) (.dec n c e) = true := by
  simp only [pyEq]
  by_cases hc : c = 0
  · simp [hc]
  · simp [hc, scaledEq]

theorem pyEq_fmtFBack (n : Bool) (c : Nat) (e : Int) : pyEq (fmtFBack n c e) (.dec n c e) = true := by
  unfold fmtFBack
  split
  · rename_i he
    simp only [pyEq]
    by_cases hc : c = 0
    · simp [hc]
    · have h10 : 10 ^ e.toNat ≠ 0 := Nat.pos_iff_ne_zero.mp (Nat.pow_pos (by decide))
      have : c * 10 ^ e.toNat ≠ 0 := Nat.mul_ne_zero hc h10
      have hmin : min 0 e = 0 := Int.min_eq_left he
      simp [hc, this, scaledEq, hmin]
  · exact pyEq_dec_self n c e

theorem pyEq_refl (v : PyVal) : pyEq v v = true := by
  cases v with
  | dec n c e => exact pyEq_dec_self n c e
  | time h mi s us tz => cases tz <;> simp [pyEq]
  | datetime y m d h mi s us tz => cases tz <;> simp [pyEq]
  | _ => simp [pyEq]

theorem mkLex_false (dt : Option Dt) (s : Str) :
    mkLex dt s false = some ⟨postProcess dt s, dt, castLex dt (postProcess dt s),
      dt.map (fun d => !wellFormed d (postProcess dt s) (castLex dt (postProcess dt s)))⟩ := by
  simp only [mkLex]
  split
  · rename_i hf; simp at hf
  · rfl

theorem mkLex_true_of {dt : Option Dt} {s lx : Str} {pv : PyVal} (hv : castLex dt (postProcess dt s) = some pv)
    (hl : pyLex pv dt = some lx) :
    mkLex dt s true = some ⟨postProcess dt lx, dt, some pv,
      dt.map (fun d => !wellFormed d (postProcess dt s) (some pv))⟩ := by
  simp only [mkLex, hv, hl]

theorem mkLex_fields {dt : Option Dt} {s : Str} {nz : Bool} {l : Lit} (h : mkLex dt s nz = some l) :
    l.value = castLex dt (postProcess dt s) ∧ l.dt = dt ∧
      (l.lex = postProcess dt s ∨
        ∃ pv lx, castLex dt (postProcess dt s) = some pv ∧ pyLex pv dt = some lx ∧ l.lex = postProcess dt lx) := by
  simp only [mkLex] at h
  split at h
  · rename_i pv hv
    split at h
    · rename_i lx hlx; cases h; exact ⟨hv.symm, rfl, Or.inr ⟨pv, lx, hv, hlx, rfl⟩⟩
    · cases h
  · cases h; exact ⟨rfl, rfl, Or.inl rfl⟩

theorem mkLex_ok {d : Dt} {s : Str} {v : PyVal} (nz : Bool) (hpp : postProcess (some d) s = s)
    (hv : castLex (some d) s = some v) (hw : wellFormed d s (some v) = true) (hp : (pyLex v (some d)).isSome = true) :
    ∃ l, mkLex (some d) s nz = some l ∧ l.ill = some false ∧ l.value = some v := by
  obtain ⟨lx, hlx⟩ := Option.isSome_iff_exists.mp hp
  cases nz with
  | false => exact ⟨_, mkLex_false _ _, by simp [hpp, hv, hw], by simp [hpp, hv]⟩
  | true => exact ⟨_, mkLex_true_of (by rw [hpp]; exact hv) hlx, by simp [hpp, hw], rfl⟩


/-- the one case analysis over the covered families, behind `lex_to_value_xsd_partial` and `normalize_same_value_partial` -/
theorem covered_valid {d : Dt} {s : Str} (hc : Covered d = true) (hv : Spec.validLex d s = true) :
    ∃ v lx, castLex (some d) s = some v ∧ ValueIs d s (some v) ∧ wellFormed d s (some v) = true ∧
      pyLex v (some d) = some lx ∧ Spec.validLex d lx = true ∧ Spec.sameValue d s lx := by
  unfold Covered at hc
  generalize hcv : d.conv = cv at hc
  cases cv with
  | int =>
    have hv' := hv
    rw [validLex_int hcv, Bool.and_eq_true] at hv'
    refine ⟨.int (Spec.intVal s), intRepr (Spec.intVal s), ?_, by simp [ValueIs, hcv], wellFormed_int hcv hv, rfl, ?_, ?_⟩
    · rw [castLex_int hcv, pyInt_xsd hv'.1]; rfl
    · rw [validLex_int hcv, intLex_intRepr, intVal_intRepr]; simpa using hv'.2
    · cases d <;> first | exact (intVal_intRepr _).symm | cases hcv
  | decimal =>
    obtain rfl := conv_decimal hcv
    obtain ⟨n, c, k, h1, h2⟩ := pyDecimal_xsd (show Spec.decLex s = true from hv)
    refine ⟨.dec n c (-(k : Int)), fmtF n c (-(k : Int)), h1, ⟨n, c, k, rfl, h2⟩, rfl, rfl, (pyDecimal_fmtF n c _).2, ?_⟩
    show Spec.ratEq (Spec.decVal s) (Spec.decVal (fmtF n c (-(k : Int))))
    rw [decVal_fmtF, h2]; rfl
  | boolean =>
    obtain rfl := conv_boolean hcv
    obtain ⟨b, hb⟩ := Option.isSome_iff_exists.mp (show (Spec.boolVal? s).isSome = true from hv)
    have ⟨hp, hw⟩ := parseBoolean_xsd hb
    refine ⟨.bool b, boolLex b, by rw [castLex_boolean, hp], ⟨b, hb, rfl⟩, ?_, rfl, ?_, ?_⟩
    · simpa [wellFormed, Tables.booleanCheckedLexically] using hw
    · show (Spec.boolVal? (boolLex b)).isSome = true
      rw [boolVal_boolLex]; rfl
    · show Spec.boolVal? s = Spec.boolVal? (boolLex b)
      rw [hb, boolVal_boolLex]
  | none =>
    refine ⟨.str s, s, castLex_conv_none hcv s, by simp [ValueIs, hcv],
      by rw [wellFormed_nobounds (by simp [hcv]) (by simp [hcv])]; rfl, rfl, hv, ?_⟩
    rcases conv_none_cases hcv with rfl | rfl | rfl | rfl | rfl <;> rfl
  | hex =>
    obtain rfl := conv_hex hcv
    have hu := unhexlify_xsd (show Spec.hexLex s = true from hv)
    have hlt := unhexlify_lt hu
    refine ⟨.bytes (Spec.hexVal s), hexlify (Spec.hexVal s), by rw [castLex_hex, hu]; rfl, by simp [ValueIs, Dt.conv],
      rfl, by simp [pyLex], hexLex_hexlify hlt, ?_⟩
    show Spec.hexVal s = Spec.hexVal (hexlify (Spec.hexVal s))
    have h2 := unhexlify_xsd (hexLex_hexlify hlt)
    rw [unhexlify_hexlify hlt] at h2
    exact Option.some.inj h2
  | b64 =>
    obtain rfl := conv_b64 hcv
    have hu := b64decode_xsd (show Spec.b64Lex s = true from hv)
    obtain ⟨e1, e2⟩ := b64Lex_b64encode (b64decode_lt hu)
    exact ⟨.bytes (Spec.b64ValOf s), b64encode (Spec.b64ValOf s), by rw [castLex_b64, hu]; rfl, by simp [ValueIs, Dt.conv],
      rfl, by simp [pyLex], e1, e2.symm⟩
  | _ => simp at hc

theorem postProcess_covered {d : Dt} {s : Str} (hv : Spec.validLex d s = true) : postProcess (some d) s = s := by
  by_cases hn : d.conv = .none
  · exact postProcess_valid hn hv
  · exact postProcess_of_conv hn s

theorem pyDecimal_kind {s : Str} {v : PyVal} (h : pyDecimal s = some v) : v.isStr = false ∧ v.isBytes = false := by
  have body : ∀ {n : Bool} {t : Str}, pyDecBody n t = some v → v.isStr = false ∧ v.isBytes = false := by
    intro n t ht
    simp only [pyDecBody] at ht
    -- with or without a point: refused, or `(pyExp …).map (.dec …)`
    split at ht <;> split at ht
    · cases ht
    · obtain ⟨e, _, rfl⟩ := Option.map_eq_some_iff.mp ht; exact ⟨rfl, rfl⟩
    · cases ht
    · obtain ⟨e, _, rfl⟩ := Option.map_eq_some_iff.mp ht; exact ⟨rfl, rfl⟩
  unfold pyDecimal at h
  split at h <;> exact body h

theorem pyTimeFromIso_kind {s : Str} {v : PyVal} (h : pyTimeFromIso s = some v) : v.isStr = false ∧ v.isBytes = false := by
  unfold pyTimeFromIso at h
  -- every branch returns `none` or a `.time …`
  repeat' split at h
  all_goals first | (cases h; done) | (cases h; exact ⟨rfl, rfl⟩)

theorem pyDateTimeFromIso_kind {s : Str} {v : PyVal} (h : pyDateTimeFromIso s = some v) :
    v.isStr = false ∧ v.isBytes = false := by
  unfold pyDateTimeFromIso at h
  -- every branch returns `none` or a `.datetime …`
  repeat' split at h
  all_goals first | (cases h; done) | (cases h; exact ⟨rfl, rfl⟩)

theorem castLex_kind {d : Dt} {s : Str} {v : PyVal} (h : castLex (some d) s = some v) :
    (v.isStr = true → d.conv = .none) ∧ (v.isBytes = true → d.conv = .hex ∨ d.conv = .b64) := by
  have plain : ∀ {c : Conv}, v.isStr = false ∧ v.isBytes = false → (v.isStr = true → c = .none) ∧
      (v.isBytes = true → c = .hex ∨ c = .b64) := by
    intro c ⟨h1, h2⟩; rw [h1, h2]; exact ⟨nofun, nofun⟩
  cases hc : d.conv <;> simp only [castLex, hc] at h
  · cases h; exact ⟨fun _ => rfl, nofun⟩
  · obtain ⟨_, _, rfl⟩ := Option.map_eq_some_iff.mp h; exact plain ⟨rfl, rfl⟩
  · exact plain (pyDecimal_kind h)
  · cases h; exact plain ⟨rfl, rfl⟩
  · obtain ⟨_, _, _, rfl, _⟩ := parseXsdDate_valid h; exact plain ⟨rfl, rfl⟩
  · exact plain (pyTimeFromIso_kind h)
  · exact plain (pyDateTimeFromIso_kind h)
  · rcases parseXsdDuration_spec h with ⟨_, rfl, _⟩ | ⟨_, _, _, rfl, _⟩ <;> exact plain ⟨rfl, rfl⟩
  · obtain ⟨_, _, rfl⟩ := Option.map_eq_some_iff.mp h; exact ⟨nofun, fun _ => Or.inl rfl⟩
  · obtain ⟨_, _, rfl⟩ := Option.map_eq_some_iff.mp h; exact ⟨nofun, fun _ => Or.inr rfl⟩

theorem castLex_str {dt : Option Dt} {s s' : Str} (h : castLex dt s = some (.str s')) : s' = s := by
  cases dt with
  | none => cases h; rfl
  | some d =>
    rw [castLex_conv_none ((castLex_kind h).1 rfl)] at h
    cases h; rfl

theorem castLex_bytes_lt {dt : Option Dt} {s : Str} {b : List Nat} (h : castLex dt s = some (.bytes b)) :
    (dt = some .hexBinary ∨ dt = some .base64Binary) ∧ ∀ x ∈ b, x < 256 := by
  cases dt with
  | none => cases h
  | some d =>
    rcases (castLex_kind h).2 rfl with hc | hc
    · obtain rfl := conv_hex hc
      obtain ⟨b', hb, e⟩ := Option.map_eq_some_iff.mp (castLex_hex s ▸ h)
      cases e; exact ⟨Or.inl rfl, unhexlify_lt hb⟩
    · obtain rfl := conv_b64 hc
      obtain ⟨b', hb, e⟩ := Option.map_eq_some_iff.mp (castLex_b64 s ▸ h)
      cases e; exact ⟨Or.inr rfl, b64decode_lt hb⟩

theorem bin_roundtrip {dt : Option Dt} {b : List Nat} (hd : dt = some .hexBinary ∨ dt = some .base64Binary)
    (hlt : ∀ x ∈ b, x < 256) :
    ∃ lx, pyLex (.bytes b) dt = some lx ∧ castLex dt lx = some (.bytes b) ∧ ∀ t, postProcess dt t = t := by
  rcases hd with rfl | rfl
  · exact ⟨hexlify b, by simp [pyLex], by rw [castLex_hex, unhexlify_hexlify hlt]; rfl, fun t => rfl⟩
  · exact ⟨b64encode b, by simp [pyLex], by rw [castLex_b64, b64decode_b64encode hlt]; rfl, fun t => rfl⟩


/-- What every `Built` literal satisfies (`coherent_built`): value, datatype and lexical form fit together, so that
    `normalize` rebuilds the literal from its value alone (`normalize_fixpoint`) and `Literal(old)` is a copy
    (`mkFromLit_none`). -/
structure Coherent (l : Lit) : Prop where
  processed : postProcess l.dt l.lex = l.lex
  str : ∀ s, l.value = some (.str s) → s = l.lex ∧ castLex l.dt l.lex = some (.str l.lex)
  bytes : ∀ b, l.value = some (.bytes b) → (l.dt = some .hexBinary ∨ l.dt = some .base64Binary) ∧ ∀ x ∈ b, x < 256
  other : ∀ v, l.value = some v → v.isStr = false → v.isBytes = false → l.dt.isSome = true

theorem castLex_stringDt {dt : Option Dt} (h : isStringDt dt = true) (t : Str) : castLex dt t = some (.str t) := by
  simp only [isStringDt, Bool.or_eq_true, beq_iff_eq] at h
  rcases h with rfl | rfl <;> rfl

theorem coherent_mkLex {dt : Option Dt} {s : Str} {nz : Bool} {l : Lit} (h : mkLex dt s nz = some l) : Coherent l := by
  obtain ⟨hv, hd, hlex⟩ := mkLex_fields h
  have hp : postProcess l.dt l.lex = l.lex := by
    rw [hd]; rcases hlex with e | ⟨_, _, _, _, e⟩ <;> rw [e] <;> exact postProcess_idem _ _
  -- a `str` value is the processed form given, also after normalisation (`str.__str__` is the identity)
  have key : ∀ t, castLex dt (postProcess dt s) = some (.str t) → t = l.lex := by
    intro t ht
    obtain rfl := castLex_str ht
    rcases hlex with e | ⟨pv, lx, hpv, hlx, e⟩
    · exact e.symm
    · rw [ht] at hpv; cases hpv; cases hlx
      rw [e, postProcess_idem]
  refine ⟨hp, ?_, ?_, ?_⟩
  · intro t ht
    rw [hv] at ht
    obtain rfl := key t ht
    exact ⟨rfl, by rw [hd, ← ht, castLex_str ht]⟩
  · intro b hb
    rw [hv] at hb
    rw [hd]; exact castLex_bytes_lt hb
  · intro v hv' hs _
    rw [hv] at hv'
    rw [hd]
    cases dt with
    | none => cases hv'; cases hs
    | some d => rfl

theorem mkPy_fields {v : PyVal} {dt : Option Dt} {l : Lit} (h : mkPy v dt = some l) :
    ∃ lx, pyLex v dt = some lx ∧ l = ⟨postProcess (coalesceDt dt v) lx, coalesceDt dt v, some v, none⟩ := by
  simp only [mkPy] at h
  split at h
  · rename_i lx hlx; cases h; exact ⟨lx, hlx, rfl⟩
  · cases h

theorem coalesceDt_some (d : Dt) (v : PyVal) : coalesceDt (some d) v = some d := rfl

theorem coherent_mkValue {v : PyVal} {l : Lit} (h : mkValue v none = some l) : Coherent l := by
  cases v with
  | str s => exact coherent_mkLex (show mkLex none s true = some l from h)
  | bytes b => cases h
  | _ =>
    all_goals
      simp only [mkValue] at h
      obtain ⟨lx, _, rfl⟩ := mkPy_fields h
      exact ⟨postProcess_idem _ _, nofun, nofun, fun _ _ _ _ => rfl⟩

theorem fixWs_eq_self {dt : Option Dt} {lx : Str} {v : Option PyVal} (h : ∀ t, v = some (.str t) → t = lx) :
    fixWs dt lx v = v := by
  unfold fixWs
  split
  · split
    · rename_i t; rw [h t rfl]
    · rfl
  · rfl

theorem mkFromLit_none {old : Lit} (hw : Coherent old) : mkFromLit old none = ⟨old.lex, old.dt, old.value, none⟩ := by
  simp only [mkFromLit, hw.processed, fixWs_eq_self (fun t ht => (hw.str t ht).1)]

theorem coherent_mkFromLit {old : Lit} (dt : Option Dt) (hw : Coherent old) : Coherent (mkFromLit old dt) := by
  cases dt with
  | none => rw [mkFromLit_none hw]; exact ⟨hw.processed, hw.str, hw.bytes, hw.other⟩
  | some d =>
    cases hws : isWsDt (some d) with
    | true =>
      rw [mkFromLit_ws old hws]
      refine ⟨postProcess_idem _ _, ?_, nofun, fun _ _ _ _ => rfl⟩
      intro t ht; cases ht; exact ⟨rfl, castLex_conv_none (isWsDt_conv hws) _⟩
    | false =>
      rw [mkFromLit_not_ws old hws]
      refine ⟨postProcess_of_not_ws hws _, ?_, fun b hb => castLex_bytes_lt hb, fun _ _ _ _ => rfl⟩
      intro t ht
      obtain rfl := castLex_str (show castLex (some d) old.lex = _ from ht)
      exact ⟨rfl, ht⟩

theorem coherent_built {l : Lit} (h : Built l) : Coherent l := by
  induction h with
  | lex h => exact coherent_mkLex h
  | py h => exact coherent_mkValue h
  | fromLit dt _ ih => exact coherent_mkFromLit dt ih

/-- after `mkLex` (the branch of `__new__` for a `str`) the late white-space assignment changes nothing -/
theorem fixWs_mkLex {dt : Option Dt} {s : Str} {nz : Bool} {l : Lit} (h : mkLex dt s nz = some l) :
    fixWs l.dt l.lex l.value = l.value :=
  fixWs_eq_self (fun t ht => ((coherent_mkLex h).str t ht).1)

theorem not_ws_of_stringDt {dt : Option Dt} (h : isStringDt dt = true) : isWsDt dt = false := by
  simp only [isStringDt, Bool.or_eq_true, beq_iff_eq] at h
  rcases h with rfl | rfl <;> rfl

theorem string_value_of_built {l : Lit} (h : Built l) (hs : isStringDt l.dt = true) :
    l.value = some (.str l.lex) := by
  induction h with
  | @lex dt s nz l h =>
    obtain ⟨hv, hd, hlex⟩ := mkLex_fields h
    rw [hd] at hs
    have hpp := postProcess_of_not_ws (not_ws_of_stringDt hs)
    rw [hv, castLex_stringDt hs, hpp]
    rcases hlex with e | ⟨pv, lx, hpv, hlx, e⟩
    · rw [e, hpp]
    · rw [castLex_stringDt hs, hpp] at hpv
      cases hpv; cases hlx
      rw [e, hpp]
  | @py v l h =>
    cases v with
    | str s => cases h; rfl
    | bytes b => cases h
    | _ =>
      all_goals
        simp only [mkValue] at h
        obtain ⟨lx, _, rfl⟩ := mkPy_fields h
        cases hs
  | @fromLit old dt _ ih =>
    cases dt with
    | some d =>
      have hs' : isStringDt (some d) = true := hs
      rw [mkFromLit_not_ws old (not_ws_of_stringDt hs')]
      exact castLex_stringDt hs' _
    | none =>
      have hs' : isStringDt old.dt = true := hs
      rw [mkFromLit_none_not_ws (not_ws_of_stringDt hs')]
      exact ih hs'

theorem normalize_mkPy {v : PyVal} {dt : Option Dt} {l : Lit} (hs : v.isStr = false) (hb : v.isBytes = false)
    (hd : dt.isSome = true) (h : mkPy v dt = some l) : l.normalize = some l := by
  obtain ⟨d, rfl⟩ := Option.isSome_iff_exists.mp hd
  obtain ⟨lx, hlx, rfl⟩ := mkPy_fields h
  -- `normalize` hands the value back to `mkValue`, which prints it again with the same datatype
  cases v with
  | str => cases hs
  | bytes => cases hb
  | _ => simp only [Lit.normalize, mkValue, mkPy, coalesceDt_some, hlx]

theorem normalize_fixpoint {l n1 : Lit} (hw : Coherent l) (h : l.normalize = some n1) : n1.normalize = some n1 := by
  -- each kind of value is rebuilt from the value alone (`Coherent` ties lexical form and datatype to it), so the second
  -- pass starts from the same input as the first
  cases hv : l.value with
  | none =>
    simp only [Lit.normalize, hv] at h
    cases h
    simp only [Lit.normalize, hv]
  | some v =>
    cases v with
    | bytes b =>
      obtain ⟨hdt, hlt⟩ := hw.bytes b hv
      obtain ⟨lx, hp, hc0, hpp⟩ := bin_roundtrip hdt hlt
      have hc : castLex l.dt (postProcess l.dt lx) = some (.bytes b) := by rw [hpp]; exact hc0
      simp only [Lit.normalize, hv, hp, mkLex_true_of hc hp] at h
      cases h
      simp only [Lit.normalize, hp, mkLex_true_of hc hp]
    | str s =>
      obtain ⟨rfl, hc⟩ := hw.str s hv
      have hp : pyLex (.str l.lex) l.dt = some l.lex := rfl
      have hc' : castLex l.dt (postProcess l.dt l.lex) = some (.str l.lex) := by rw [hw.processed]; exact hc
      simp only [Lit.normalize, hv, mkValue, mkLex_true_of hc' hp] at h
      cases h
      simp only [Lit.normalize, mkValue, mkLex_true_of hc' hp]
    | _ =>
      all_goals
        have hsome := hw.other _ hv rfl rfl
        simp only [Lit.normalize, hv, mkValue] at h
        exact normalize_mkPy rfl rfl hsome h


theorem denotes_mkLex_true {dt : Option Dt} {s : Str} {l : Lit}
    (back : ∀ pv lx, castLex dt (postProcess dt s) = some pv → pyLex pv dt = some lx →
      castLex dt (postProcess dt lx) = some pv)
    (h : mkLex dt s true = some l) : Denotes l := by
  obtain ⟨hv, hd, hlex⟩ := mkLex_fields h
  intro v hv'
  rw [hv] at hv'
  rcases hlex with e | ⟨pv, lx, hpv, hlx, e⟩
  · rw [hd, e]; exact hv'
  · rw [hd, e]
    rw [hv'] at hpv; cases hpv
    exact back v lx hv' hlx

theorem readback_exact {dt : Option Dt} (hx : ExactBack dt = true) {t lx : Str} {pv : PyVal}
    (ht : postProcess dt t = t) (hc : castLex dt t = some pv) (hl : pyLex pv dt = some lx) : castLex dt (postProcess dt lx) = some pv := by
  cases dt with
  | none => cases hc; cases hl; rfl
  | some d =>
    simp only [ExactBack] at hx
    generalize hcv : d.conv = cv at hx
    cases cv with
    | int =>
      rw [castLex_int hcv] at hc
      obtain ⟨i, _, rfl⟩ := Option.map_eq_some_iff.mp hc
      cases hl
      rw [postProcess_of_conv (by simp [hcv]), castLex_int hcv, pyInt_intRepr]; rfl
    | boolean =>
      obtain rfl := conv_boolean hcv
      cases hc; cases hl
      exact castLex_boolLex _
    | none =>
      rw [castLex_conv_none hcv] at hc
      cases hc; cases hl
      rw [ht]; exact castLex_conv_none hcv _
    | hex =>
      obtain rfl := conv_hex hcv
      obtain ⟨b, hb, rfl⟩ := Option.map_eq_some_iff.mp (castLex_hex t ▸ hc)
      obtain ⟨lx', h1, h2, h3⟩ := bin_roundtrip (Or.inl rfl) (unhexlify_lt hb)
      rw [h1] at hl; cases hl
      rw [h3]; exact h2
    | b64 =>
      obtain rfl := conv_b64 hcv
      obtain ⟨b, hb, rfl⟩ := Option.map_eq_some_iff.mp (castLex_b64 t ▸ hc)
      obtain ⟨lx', h1, h2, h3⟩ := bin_roundtrip (Or.inr rfl) (b64decode_lt hb)
      rw [h1] at hl; cases hl
      rw [h3]; exact h2
    | _ => simp at hx

theorem readback_dur {d : Dt} {pv : PyVal} {s : Str} (hc : parseXsdDuration s = some pv)
    {lx : Str} (hl : pyLex pv (some d) = some lx) : parseXsdDuration lx = some pv := by
  rcases parseXsdDuration_spec hc with ⟨us, rfl, hr⟩ | ⟨y, m, us, rfl, hm0, hm1, hr, hym⟩
  · simp only [pyLex] at hl
    split at hl
    · cases hl
      rename_i hz
      simp only [Bool.and_eq_true, beq_iff_eq] at hz
      rw [hz.2]; decide
    · exact parse_durationIso_timedelta hr hl
  · simp only [pyLex] at hl
    split at hl
    · rename_i hz
      simp only [Bool.and_eq_true, beq_iff_eq] at hz
      obtain ⟨_, ⟨hy0, hm0'⟩, _⟩ := hz
      subst hy0; subst hm0'
      simp [dHasYM] at hym
    · have := parse_durationIso ⟨hm0, hm1⟩ hr hl
      rw [hym] at this
      simpa using this

theorem readback_date_dur {d : Dt} (hd : d.conv = .date ∨ d.conv = .duration) {t lx : Str} {pv : PyVal}
    (hc : castLex (some d) t = some pv) (hl : pyLex pv (some d) = some lx) :
    castLex (some d) (postProcess (some d) lx) = some pv := by
  rw [postProcess_of_conv (by rcases hd with e | e <;> rw [e] <;> decide)]
  rcases hd with hcv | hcv <;> simp only [castLex, hcv] at hc ⊢
  · obtain ⟨a, b, c, rfl, hv⟩ := parseXsdDate_valid hc
    cases hl
    exact (parseXsdDate_dateIso hv).1
  · exact readback_dur hc hl

/-- a re-typed literal's lexical form denotes its value — because of the late white-space assignment -/
theorem denotes_mkFromLit_some (old : Lit) (d : Dt) : Denotes (mkFromLit old (some d)) := by
  intro v hv
  cases hws : isWsDt (some d) with
  | true =>
    rw [mkFromLit_ws old hws] at hv ⊢
    cases hv
    exact castLex_conv_none (isWsDt_conv hws) _
  | false =>
    rw [mkFromLit_not_ws old hws] at hv ⊢
    exact hv

theorem denotes_mkFromLit_none {old : Lit} (h : Denotes old) : Denotes (mkFromLit old none) := by
  intro v hv
  cases hws : isWsDt old.dt with
  | true =>
    cases hd : old.dt with
    | none => rw [hd] at hws; cases hws
    | some d =>
      rw [hd] at hws
      have hcv := isWsDt_conv hws
      simp only [mkFromLit, hd] at hv ⊢
      -- under a string datatype only a `str` is denoted, and the assignment replaces it by the processed form
      cases hov : old.value with
      | none => rw [hov] at hv; simp [fixWs] at hv
      | some w =>
        have := h w hov
        rw [hd, castLex_conv_none hcv] at this
        cases this
        rw [hov, fixWs_of_ws hws] at hv; cases hv
        exact castLex_conv_none hcv _
  | false =>
    rw [mkFromLit_none_not_ws hws] at hv ⊢
    exact h v hv

theorem mkFromLit_some_eq_mkLex (old : Lit) (d : Dt) :
    mkLex (some d) old.lex false = some { mkFromLit old (some d) with
      ill := some (!wellFormed d (postProcess (some d) old.lex) (castLex (some d) (postProcess (some d) old.lex))) } := by
  rw [mkLex_false, Option.map_some]
  by_cases hws : isWsDt (some d) = true
  · rw [mkFromLit_ws old hws, castLex_conv_none (isWsDt_conv hws)]
  · rw [mkFromLit_not_ws old (Bool.eq_false_iff.mpr hws), postProcess_of_not_ws (Bool.eq_false_iff.mpr hws)]

theorem isNumeric_not_string {d : Option Dt} (h : isStringDt d = true) : isNumeric d = false := by
  simp only [isStringDt, Bool.or_eq_true, beq_iff_eq] at h
  rcases h with h | h <;> subst h
  · rfl
  · decide

end RV.C09

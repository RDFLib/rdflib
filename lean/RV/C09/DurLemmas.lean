import RV.C09.Lemmas
/-
  C09 — durations: `parse_xsd_duration (duration_isoformat d) = d`, what the printer writes is in the XSD lexical
  space, what the parser can return.
-/
namespace RV.C09

/-- A number token as `duration_isoformat` writes it in front of its designator, and the text of a list of optional
    fields.  Tokens rather than numbers, so that the seconds field with its fraction is a field like the others: what
    is printed is read back by the groups of `ISO8601_PERIOD_REGEX` as the very same tokens (`fieldsInOrder_render`). -/
def renderTok (des : Char) (t : NumTok) : Str := t.ip ++ ((match t.fp with | none => [] | some f => '.' :: f) ++ [des])

def renderToks : List (Char × Option NumTok) → Str
  | [] => []
  | (des, some t) :: r => renderTok des t ++ renderToks r
  | (_, none) :: r => renderToks r

/-- what a group of the regular expression needs of a token to read it back (`tryField_renderTok`) -/
def OkTok : Option NumTok → Prop
  | none => True
  | some t => allDigits t.ip = true ∧ t.ip ≠ [] ∧ ∀ f, t.fp = some f → allDigits f = true ∧ f ≠ []

/-- a designator: none of the characters a number token is made of -/
def IsDes (c : Char) : Prop := c.isDigit = false ∧ c ≠ '.' ∧ c ≠ ','

/-- what `fieldsInOrder_render` needs of the designators: each group stops at its own letter and misses the others -/
def Des (ds : List Char) : Prop := ds.Nodup ∧ ∀ c ∈ ds, IsDes c

theorem Des.tail {c : Char} {ds : List Char} (h : Des (c :: ds)) : Des ds :=
  ⟨(List.nodup_cons.mp h.1).2, fun d hd => h.2 d (List.mem_cons_of_mem _ hd)⟩

theorem Des.head {c : Char} {ds : List Char} (h : Des (c :: ds)) : IsDes c := h.2 c List.mem_cons_self

theorem Des.not_mem {c : Char} {ds : List Char} (h : Des (c :: ds)) : c ∉ ds := (List.nodup_cons.mp h.1).1

theorem Des.skip {a b : Char} {ds : List Char} (h : Des (a :: b :: ds)) : Des (a :: ds) :=
  ⟨List.nodup_cons.mpr ⟨fun e => h.not_mem (List.mem_cons_of_mem _ e), h.tail.tail.1⟩,
    fun d hd => h.2 d (by rcases List.mem_cons.mp hd with e | e <;> simp [e])⟩

theorem des_date : Des ['Y', 'M', 'W', 'D'] := by unfold Des IsDes; decide
theorem des_time : Des ['H', 'M', 'S'] := by unfold Des IsDes; decide

/-- `duration_isoformat` leaves a zero field out -/
def optN (n : Nat) : Option Nat := if n != 0 then some n else none

def tokOf (on : Option Nat) : Option NumTok := on.map (fun n => (⟨digits n, none⟩ : NumTok))

attribute [simp] renderToks

theorem renderTok_int (des : Char) (ip : Str) : renderTok des ⟨ip, none⟩ = ip ++ [des] := rfl

theorem renderTok_frac (des : Char) (ip f : Str) : renderTok des ⟨ip, some f⟩ = ip ++ '.' :: (f ++ [des]) := rfl

theorem renderToks_int (des : Char) (n : Nat) (r : List (Char × Option NumTok)) :
    renderToks ((des, tokOf (some n)) :: r) = digits n ++ des :: renderToks r := by
  simp [tokOf, renderTok_int]

theorem renderToks_absent (des : Char) (r : List (Char × Option NumTok)) :
    renderToks ((des, tokOf none) :: r) = renderToks r := rfl

@[simp] theorem okTok_none : OkTok none := trivial

@[simp] theorem okTok_tokOf (on : Option Nat) : OkTok (tokOf on) := by
  cases on with
  | none => trivial
  | some n => exact ⟨allDigits_digits n, digits_ne_nil n, nofun⟩

theorem optN_getD (n : Nat) : (optN n).getD 0 = n := by
  unfold optN; split
  · rfl
  · rename_i h; simp at h; simp [h]

theorem optN_isSome (n : Nat) : (optN n).isSome = (n != 0) := by
  unfold optN; split <;> simp_all

theorem seg_eq (n : Nat) (des : Char) :
    (if n != 0 then digits n ++ [des] else []) = renderToks [(des, tokOf (optN n))] := by
  unfold optN
  split <;> simp [renderToks_int, renderToks_absent]

theorem renderToks_append (a b : List (Char × Option NumTok)) :
    renderToks (a ++ b) = renderToks a ++ renderToks b := by
  induction a with
  | nil => rfl
  | cons p r ih =>
    obtain ⟨d, ot⟩ := p
    cases ot <;> simp [ih]

theorem renderToks_cons (des : Char) (ot : Option NumTok) (r : List (Char × Option NumTok)) :
    renderToks ((des, ot) :: r) = renderToks [(des, ot)] ++ renderToks r :=
  renderToks_append [(des, ot)] r

theorem renderToks_one_nil {des : Char} {on : Option Nat} : renderToks [(des, tokOf on)] = [] ↔ on = none := by
  cases on <;> simp [renderToks_int, renderToks_absent, digits_ne_nil]

theorem tryField_renderTok {des c : Char} (hd : IsDes des) (hc : IsDes c) {t : NumTok} (ht : OkTok (some t)) (rest : Str) :
    tryField des (renderTok c t ++ rest) = if c = des then some (t, rest) else none := by
  obtain ⟨ip, fp⟩ := t
  obtain ⟨hi, hne, hf⟩ := ht
  have hie : ip.isEmpty = false := List.isEmpty_eq_false_iff.mpr hne
  cases fp with
  | none =>
    simp only [renderTok_int, List.append_assoc, List.cons_append, List.nil_append] at hi ⊢
    simp [tryField, span_digits_cons hi _ hc.1, hie, hc.2.1, hc.2.2]
  | some f =>
    obtain ⟨hfd, hfne⟩ := hf f rfl
    have hdd : (('.' : Char) == des) = false := by simpa using Ne.symm hd.2.1
    simp only [renderTok_frac, List.append_assoc, List.cons_append, List.nil_append] at hi ⊢
    simp [tryField, span_digits_cons hi '.' rfl, span_digits_cons hfd _ hc.1, hie, hdd,
      List.isEmpty_eq_false_iff.mpr hfne]

theorem tryField_nondigit {des c : Char} (hc : c.isDigit = false) (rest : Str) :
    tryField des (c :: rest) = none := by
  simp [tryField, takeDigits, hc]

theorem tryField_nil (des : Char) : tryField des [] = none := by
  simp [tryField, takeDigits]

theorem miss_render {des : Char} {fs : List (Char × Option NumTok)} {rest : Str}
    (hd : Des (des :: fs.map Prod.fst)) (hok : ∀ p ∈ fs, OkTok p.2)
    (hrest : tryField des rest = none) : tryField des (renderToks fs ++ rest) = none := by
  induction fs with
  | nil => exact hrest
  | cons p r ih =>
    obtain ⟨d', ot⟩ := p
    obtain ⟨hok1, hokr⟩ := List.forall_mem_cons.mp hok
    have ihr := ih hd.skip hokr
    cases ot with
    | none => exact ihr
    | some t =>
      simp only [renderToks, List.append_assoc]
      rw [tryField_renderTok hd.head hd.tail.head hok1, if_neg (fun (e : d' = des) => hd.not_mem (e ▸ List.mem_cons_self))]

theorem fieldsInOrder_render (fs : List (Char × Option NumTok)) (ds2 : List Char) (rest : Str)
    (hd : Des (fs.map Prod.fst)) (hok : ∀ p ∈ fs, OkTok p.2)
    (hrest : ∀ c ∈ fs.map Prod.fst, tryField c rest = none) :
    fieldsInOrder (fs.map Prod.fst ++ ds2) (renderToks fs ++ rest) =
      (fs.map Prod.snd ++ (fieldsInOrder ds2 rest).1, (fieldsInOrder ds2 rest).2) := by
  induction fs with
  | nil => rfl
  | cons p r ih =>
    obtain ⟨des, ot⟩ := p
    obtain ⟨hok1, hokr⟩ := List.forall_mem_cons.mp hok
    obtain ⟨hrest1, hrestr⟩ := List.forall_mem_cons.mp hrest
    have ihr := ih hd.tail hokr hrestr
    cases ot with
    | some t =>
      simp only [renderToks, List.map_cons, List.cons_append, List.append_assoc, fieldsInOrder,
        tryField_renderTok hd.head hd.head hok1, if_true, ihr]
    | none =>
      simp only [renderToks, List.map_cons, List.cons_append, fieldsInOrder, ihr, miss_render hd hokr hrest1]

theorem rstrip0_append_of_ne {a b : Str} (h : rstrip0 b ≠ []) : rstrip0 (a ++ b) = a ++ rstrip0 b := by
  induction a with
  | nil => rfl
  | cons c a ih =>
    simp only [List.cons_append, rstrip0, ih]
    cases hr : a ++ rstrip0 b with
    | nil =>
      have : rstrip0 b = [] := by
        cases a with
        | nil => simpa using hr
        | cons _ _ => simp at hr
      exact absurd this h
    | cons d t => rfl

theorem secondsToMicros_printed (s us : Nat) (hus : us < 1000000) :
    secondsToMicros (digits s) (rstrip0 (digitsW 6 us)) = s * 1000000 + us := by
  have hlen := digitsW6_length hus
  obtain ⟨z, hz⟩ := rstrip0_spec (digitsW 6 us)
  generalize rstrip0 (digitsW 6 us) = R at hz
  have hRlen : R.length + z = 6 := by
    have := congrArg List.length hz
    simp only [List.length_append, List.length_replicate, hlen] at this
    exact this.symm
  have htake : (R ++ ['0', '0', '0', '0', '0', '0']).take 6 = digitsW 6 us := by
    have : (['0', '0', '0', '0', '0', '0'] : Str) = List.replicate z '0' ++ List.replicate R.length '0' := by
      rw [List.replicate_append_replicate, Nat.add_comm, hRlen]; rfl
    rw [hz, this, ← List.append_assoc, List.take_append_of_le_length (by simp; omega)]
    rw [List.take_of_length_le (by simp; omega)]
  have hdrop : R.drop 6 = [] := List.drop_eq_nil_of_le (by omega)
  -- padded back to six digits the fraction is `digitsW 6 us`, and nothing lies beyond the sixth digit: no rounding
  unfold secondsToMicros
  simp [htake, hdrop, rstrip0, gtHalf, num_digits, num_digitsW]

def secSeg (s us : Nat) : Str :=
  if s != 0 || us != 0 then
    (if us != 0 then rstrip0 (digits s ++ '.' :: digitsW 6 us) else digits s) ++ ['S']
  else []

def secTok (s us : Nat) : Option NumTok :=
  if s != 0 || us != 0 then some ⟨digits s, if us != 0 then some (rstrip0 (digitsW 6 us)) else none⟩ else none

@[simp] theorem okTok_secTok (s us : Nat) : OkTok (secTok s us) := by
  unfold secTok
  split
  · refine ⟨allDigits_digits s, digits_ne_nil s, fun f hf => ?_⟩
    split at hf
    · rename_i hus
      cases hf
      exact ⟨allDigits_rstrip0 (allDigits_digitsW 6 us),
        rstrip0_ne_nil (by rw [num_digitsW]; simpa using hus)⟩
    · cases hf
  · trivial

theorem secSeg_eq (s us : Nat) : secSeg s us = renderToks [('S', secTok s us)] := by
  unfold secSeg secTok
  split
  · split
    · rename_i hus
      -- stripping zeros stops inside the fraction, which is not zero
      have hne := rstrip0_ne_nil (x := digitsW 6 us) (by rw [num_digitsW]; simpa using hus)
      have h1 : rstrip0 ('.' :: digitsW 6 us) = '.' :: rstrip0 (digitsW 6 us) := rstrip0_append_of_ne (a := ['.']) hne
      rw [rstrip0_append_of_ne (by rw [h1]; simp), h1]
      simp [renderTok_frac]
    · simp [renderTok_int]
  · rfl

theorem tokMicros_secTok (s us : Nat) (hlt : us < 1000000) : tokMicros (secTok s us) = s * 1000000 + us := by
  unfold secTok
  by_cases hus : us = 0
  · subst hus
    by_cases hs : s = 0
    · subst hs; rfl
    · have hz : num ['0', '0', '0', '0', '0', '0'] = 0 := by decide
      simp [hs, tokMicros, secondsToMicros, rstrip0, gtHalf, num_digits, hz]
  · have hb : (us != 0) = true := by simpa using hus
    simp only [hb, Bool.or_true, if_true, tokMicros, Option.getD_some]
    exact secondsToMicros_printed s us hlt

/-- the part of `dayTimeIso` after the days: `T` and the hour, minute and seconds fields, or nothing -/
def timePart (h mi s us : Nat) : Str :=
  if h != 0 || mi != 0 || s != 0 || us != 0 then
    'T' :: (renderToks [('H', tokOf (optN h)), ('M', tokOf (optN mi))] ++ secSeg s us)
  else []

theorem timePart_cases (h mi s us : Nat) :
    (timePart h mi s us = [] ∧ h = 0 ∧ mi = 0 ∧ s = 0 ∧ us = 0) ∨
    (timePart h mi s us = 'T' :: renderToks [('H', tokOf (optN h)), ('M', tokOf (optN mi)), ('S', secTok s us)] ∧
      (h != 0 || mi != 0 || s != 0 || us != 0) = true) := by
  unfold timePart
  split
  · rename_i hc
    exact Or.inr ⟨by rw [secSeg_eq, ← renderToks_append]; rfl, hc⟩
  · rename_i hc
    simp only [Bool.or_eq_true, bne_iff_ne, ne_eq, not_or, Decidable.not_not] at hc
    exact Or.inl ⟨rfl, hc.1.1.1, hc.1.1.2, hc.1.2, hc.2⟩

theorem tryField_timePart (des : Char) (h mi s us : Nat) : tryField des (timePart h mi s us) = none := by
  unfold timePart
  split
  · exact tryField_nondigit (by decide) _
  · exact tryField_nil des

abbrev timeOfMicros (u : Nat) : Str :=
  timePart (u / 1000000 / 60 / 60 % 24) (u / 1000000 / 60 % 60) (u / 1000000 % 60) (u % 1000000)

theorem dayTimeIso_eq (u : Nat) :
    dayTimeIso u = renderToks [('D', tokOf (optN (u / 1000000 / 60 / 60 / 24)))] ++ timeOfMicros u := by
  unfold timeOfMicros timePart
  rw [renderToks_cons 'H', ← seg_eq, ← seg_eq, ← seg_eq]
  simp only [dayTimeIso, secSeg, List.append_assoc]

/-- the date fields `duration_isoformat` can print (never weeks), in the order of the regular expression -/
abbrev dateFields (oy om od : Option Nat) : List (Char × Option NumTok) :=
  [('Y', tokOf oy), ('M', tokOf om), ('W', none), ('D', tokOf od)]

/-- no newline: `ISO8601_PERIOD_REGEX`'s `$` would drop a final one (`matchPeriod`) -/
def notNl (s : Str) : Bool := s.all (fun c => c != '\n')

theorem lastChar?_ne_nl : ∀ {s : Str}, notNl s = true → (lastChar? s == some '\n') = false := by
  intro s
  induction s with
  | nil => intro _; rfl
  | cons c s ih =>
    intro h
    simp only [notNl, List.all_cons, Bool.and_eq_true, bne_iff_ne, ne_eq] at h
    cases s with
    | nil => simpa [lastChar?] using h.1
    | cons d t =>
      simp only [lastChar?]
      exact ih (by simpa [notNl] using h.2)

theorem notNl_of_allDigits {s : Str} (h : allDigits s = true) : notNl s = true := by
  simp only [notNl, List.all_eq_true]
  intro c hc
  have : c ≠ '\n' := digit_ne (mem_allDigits h c hc) (by decide)
  simpa using this

theorem notNl_renderToks {fs : List (Char × Option NumTok)} (h : ∀ p ∈ fs, p.1 ≠ '\n') (hok : ∀ p ∈ fs, OkTok p.2) :
    notNl (renderToks fs) = true := by
  induction fs with
  | nil => rfl
  | cons p r ih =>
    obtain ⟨d, ot⟩ := p
    obtain ⟨hd, hr⟩ := List.forall_mem_cons.mp h
    obtain ⟨hok1, hokr⟩ := List.forall_mem_cons.mp hok
    have ihr := ih hr hokr
    cases ot with
    | none => exact ihr
    | some t =>
      obtain ⟨hi, _, hf⟩ := hok1
      have hfp : notNl (match t.fp with | none => [] | some f => '.' :: f) = true := by
        cases hfp : t.fp with
        | none => rfl
        | some f => simpa [notNl] using notNl_of_allDigits (hf f hfp).1
      simp only [renderToks, renderTok, notNl, List.all_append, List.all_cons, List.all_nil, Bool.and_eq_true] at ihr hfp ⊢
      exact ⟨⟨notNl_of_allDigits hi, hfp, by simpa using hd⟩, ihr⟩

theorem notNl_timePart (h mi s us : Nat) : notNl (timePart h mi s us) = true := by
  rcases timePart_cases h mi s us with ⟨e, _⟩ | ⟨e, _⟩ <;> rw [e]
  · rfl
  · simp only [notNl, List.all_cons, Bool.and_eq_true]
    exact ⟨by decide, notNl_renderToks (by simp) (by simp)⟩

theorem periodBody_render (neg : Bool) {oy om od : Option Nat} {h mi s us : Nat}
    (hne : renderToks (dateFields oy om od) ++ timePart h mi s us ≠ []) :
    periodBody neg (renderToks (dateFields oy om od) ++ timePart h mi s us) =
      some ⟨neg, tokOf oy, tokOf om, none, tokOf od, tokOf (optN h), tokOf (optN mi), secTok s us⟩ := by
  have hdate : fieldsInOrder ['Y', 'M', 'W', 'D']
      (renderToks (dateFields oy om od) ++ timePart h mi s us) =
      ([tokOf oy, tokOf om, none, tokOf od], timePart h mi s us) := by
    simpa [fieldsInOrder] using fieldsInOrder_render (dateFields oy om od) [] (timePart h mi s us)
      des_date (by simp) (fun c _ => tryField_timePart c h mi s us)
  unfold periodBody
  rw [List.isEmpty_eq_false_iff.mpr hne, hdate]
  simp only [Bool.false_eq_true, if_false]
  rcases timePart_cases h mi s us with ⟨e, rfl, rfl, rfl, rfl⟩ | ⟨e, _⟩ <;> rw [e]
  · rfl
  · have ht : fieldsInOrder ['H', 'M', 'S'] (renderToks [('H', tokOf (optN h)), ('M', tokOf (optN mi)), ('S', secTok s us)]) =
        ([tokOf (optN h), tokOf (optN mi), secTok s us], []) := by
      simpa [fieldsInOrder] using
        fieldsInOrder_render [('H', tokOf (optN h)), ('M', tokOf (optN mi)), ('S', secTok s us)] [] []
          des_time (by simp) (fun c _ => tryField_nil c)
    simp [ht]

theorem matchPeriod_render (neg : Bool) {oy om od : Option Nat} {h mi s us : Nat}
    (hne : renderToks (dateFields oy om od) ++ timePart h mi s us ≠ []) :
    matchPeriod ((if neg then ['-', 'P'] else ['P']) ++
        (renderToks (dateFields oy om od) ++ timePart h mi s us)) =
      some ⟨neg, tokOf oy, tokOf om, none, tokOf od, tokOf (optN h), tokOf (optN mi), secTok s us⟩ := by
  have hnl : notNl ((if neg then ['-', 'P'] else ['P']) ++
      (renderToks (dateFields oy om od) ++ timePart h mi s us)) = true := by
    simp only [notNl, List.all_append, Bool.and_eq_true]
    exact ⟨by cases neg <;> decide, notNl_renderToks (by simp) (by simp), notNl_timePart h mi s us⟩
  unfold matchPeriod
  rw [lastChar?_ne_nl hnl]
  cases neg with
  | true => simpa using periodBody_render true hne
  | false => simpa using periodBody_render false hne

/-- the conditions of `duration_isoformat`: there is a year-month part to print; a `-` goes in front -/
def dHasYM (y m : Int) (isDur : Bool) : Bool := isDur && !(y == 0 && m == 0)
def dMinus (y m us : Int) (isDur : Bool) : Bool := (dHasYM y m isDur && decide (y * 12 + m < 0)) || decide (us < 0)

/-- the two refusals of `duration_isoformat` (`dMixed_iff`: exactly the mixed signs) -/
def dMixed (y m us : Int) (isDur : Bool) : Bool :=
  (decide (us < 0) && dHasYM y m isDur && !(dHasYM y m isDur && decide (y * 12 + m < 0))) ||
    (decide (0 < us) && (dHasYM y m isDur && decide (y * 12 + m < 0)))

theorem dMixed_iff (y m us : Int) (isDur : Bool) : dMixed y m us isDur = true ↔
    dHasYM y m isDur = true ∧ ((us < 0 ∧ ¬ (y * 12 + m < 0)) ∨ (0 < us ∧ y * 12 + m < 0)) := by
  unfold dMixed
  cases dHasYM y m isDur <;> simp <;> omega

/-- the year and the month field the printer writes: `|12 y + m|` split by 12, a zero year left out, the months left
    out when `m` is zero -/
def dOy (y m : Int) (isDur : Bool) : Option Nat :=
  if dHasYM y m isDur && (y * 12 + m).natAbs / 12 != 0 then some ((y * 12 + m).natAbs / 12) else none
def dOm (y m : Int) (isDur : Bool) : Option Nat :=
  if dHasYM y m isDur && m != 0 then some ((y * 12 + m).natAbs % 12) else none

/-- the control flow of `duration_isoformat`, conditions and text kept as variables -/
theorem iso_shape (c1 c2 minus : Bool) (ret : Str) :
    (if c1 = true then none else if c2 = true then none
      else if ret.isEmpty = true then some (if minus = true then ['-', 'P', '0', 'D'] else ['P', '0', 'D'])
      else some ((if minus = true then ['-', 'P'] else ['P']) ++ ret)) =
    if (c1 || c2) = true then none
    else some ((if minus = true then ['-', 'P'] else ['P']) ++ (if ret.isEmpty = true then ['0', 'D'] else ret)) := by
  cases c1 <;> cases c2 <;> cases minus <;> cases ret <;> rfl

/-- The day field as printed: `optN d`, but `some 0` when nothing else is printed (the empty text is written `0D`).
    Either way it is a field denoting `d`, and the text is not empty. -/
theorem zeroD (ym tp : Str) (d : Nat) :
    ∃ od, od.getD 0 = d ∧ ym ++ (renderToks [('D', tokOf od)] ++ tp) ≠ [] ∧
      (if (ym ++ (renderToks [('D', tokOf (optN d))] ++ tp)).isEmpty = true then ['0', 'D']
        else ym ++ (renderToks [('D', tokOf (optN d))] ++ tp)) = ym ++ (renderToks [('D', tokOf od)] ++ tp) := by
  by_cases he : ym ++ (renderToks [('D', tokOf (optN d))] ++ tp) = []
  · obtain ⟨h1, h2, h3⟩ : ym = [] ∧ renderToks [('D', tokOf (optN d))] = [] ∧ tp = [] := by simpa using he
    refine ⟨some 0, ?_, ?_, ?_⟩
    · have := optN_getD d
      rw [renderToks_one_nil.mp h2] at this
      exact this
    · simp [renderToks_int, digits_ne_nil]
    · rw [he, h1, h3]; rfl
  · exact ⟨optN d, optN_getD d, he, by rw [if_neg (by simpa using he)]⟩

/-- The normal form of `duration_isoformat` that the duration proofs rest on: the refusals are `dMixed`, the sign is
    `dMinus`, and every printed piece is a `renderToks` (`hym`, `dayTimeIso_eq`, `zeroD` for the day field). -/
theorem durationIso_eq (y m us : Int) (isDur : Bool) :
    ∃ od, od.getD 0 = us.natAbs / 1000000 / 60 / 60 / 24 ∧
      renderToks (dateFields (dOy y m isDur) (dOm y m isDur) od) ++
        timeOfMicros us.natAbs ≠ [] ∧
      durationIso y m us isDur = if dMixed y m us isDur = true then none
        else some ((if dMinus y m us isDur = true then ['-', 'P'] else ['P']) ++
          (renderToks (dateFields (dOy y m isDur) (dOm y m isDur) od) ++
            timeOfMicros us.natAbs)) := by
  have hym : (if (isDur && !(y == 0 && m == 0)) = true then
        (if ((y * 12 + m).natAbs / 12 != 0) = true then digits ((y * 12 + m).natAbs / 12) ++ ['Y'] else []) ++
        (if (m != 0) = true then digits ((y * 12 + m).natAbs % 12) ++ ['M'] else []) else []) =
      renderToks [('Y', tokOf (dOy y m isDur)), ('M', tokOf (dOm y m isDur))] := by
    simp only [dOy, dOm, dHasYM]
    rcases Bool.eq_false_or_eq_true (isDur && !(y == 0 && m == 0)) with hb | hb <;>
      simp only [hb, Bool.true_and, Bool.false_and, Bool.false_eq_true, if_false, if_true]
    · split <;> split <;> simp [renderToks_int, renderToks_absent]
    · rfl
  have hdt : (if us == 0 then [] else dayTimeIso us.natAbs) = dayTimeIso us.natAbs := by
    by_cases h : us = 0
    · subst h; rfl
    · rw [if_neg (by simpa using h)]
  have h4 : ∀ od tp, renderToks (dateFields (dOy y m isDur) (dOm y m isDur) od) ++ tp =
      renderToks [('Y', tokOf (dOy y m isDur)), ('M', tokOf (dOm y m isDur))] ++ (renderToks [('D', tokOf od)] ++ tp) := by
    intro od tp
    exact (congrArg (· ++ tp) (renderToks_append [('Y', _), ('M', _)] [('W', none), ('D', tokOf od)])).trans
      (List.append_assoc _ _ _)
  obtain ⟨od, h1, h2, h3⟩ := zeroD (renderToks [('Y', tokOf (dOy y m isDur)), ('M', tokOf (dOm y m isDur))])
    (timeOfMicros us.natAbs) (us.natAbs / 1000000 / 60 / 60 / 24)
  refine ⟨od, h1, by rw [h4]; exact h2, ?_⟩
  rw [h4, ← h3, ← dayTimeIso_eq]
  unfold durationIso
  simp only [hym, hdt, iso_shape]
  rfl

theorem tokInt_tokOf (on : Option Nat) : tokInt (tokOf on) = on.getD 0 := by
  cases on <;> simp [tokOf, tokInt, num_digits]

theorem tokInt_none : tokInt none = 0 := rfl


/-- `parse_xsd_duration` after the regular expression: from the numbers read to the value (the body of `durOfRaw`;
    `durOfRaw_eq` holds by `rfl` and breaks if the model changes) -/
def durOfFields (neg : Bool) (years months : Nat) (us : Int) : Option PyVal :=
  if !tdInRange us then none
  else if years == 0 && months == 0 then
    let v := if neg then -us else us
    if tdInRange v then some (.timedelta v) else none
  else
    let y1 : Int := (years + months / 12 : Nat)
    let m1 : Int := (months % 12 : Nat)
    if neg then
      if !tdInRange (-us) then none
      else some (.duration (-y1 + (-m1) / 12) ((-m1) % 12) (-us))
    else some (.duration y1 m1 us)

theorem durOfRaw_eq (r : DurRaw) : durOfRaw r = durOfFields r.neg (tokInt r.y) (tokInt r.mo)
    (((((((tokInt r.w * 7 + tokInt r.d) * 24 + tokInt r.h) * 60 + tokInt r.mi) * 60 : Nat) : Int) * 1000000)
      + (tokMicros r.s : Nat)) := rfl

/-- `Duration.__init__`'s `fquotmod` and the negation in `parse_xsd_duration` together are floor division of the signed
    total of months by 12; the timedelta part must be in range before and after the negation -/
theorem durOfFields_eq (neg : Bool) (Y M : Nat) (U : Int) :
    durOfFields neg Y M U =
      if tdInRange U = true ∧ tdInRange (if neg then -U else U) = true then
        some (if Y = 0 ∧ M = 0 then .timedelta (if neg then -U else U)
          else .duration ((if neg then -((Y * 12 + M : Nat) : Int) else ((Y * 12 + M : Nat) : Int)) / 12)
            ((if neg then -((Y * 12 + M : Nat) : Int) else ((Y * 12 + M : Nat) : Int)) % 12) (if neg then -U else U))
      else none := by
  unfold durOfFields
  by_cases h1 : tdInRange U = true
  · by_cases h2 : (Y = 0 ∧ M = 0)
    · obtain ⟨rfl, rfl⟩ := h2
      simp [h1]
    · have h2' : (Y == 0 && M == 0) = false := by simpa using h2
      cases neg
      · simp only [h1, h2', h2, Bool.not_true, Bool.false_eq_true, if_false, and_self, if_true]
        congr 2 <;> omega
      · simp only [h1, h2', h2, Bool.not_true, Bool.false_eq_true, if_false, if_true, true_and]
        by_cases h3 : tdInRange (-U) = true
        · simp only [h3, Bool.not_true, Bool.false_eq_true, if_false, if_true]
          congr 2 <;> omega
        · simp [h3]
  · simp [h1]

theorem dOy_getD (y m : Int) (isDur : Bool) :
    (dOy y m isDur).getD 0 = if dHasYM y m isDur = true then (y * 12 + m).natAbs / 12 else 0 := by
  unfold dOy
  cases dHasYM y m isDur
  · rfl
  · exact optN_getD _

theorem dOm_getD (y m : Int) (isDur : Bool) :
    (dOm y m isDur).getD 0 = if dHasYM y m isDur = true then (y * 12 + m).natAbs % 12 else 0 := by
  unfold dOm
  cases dHasYM y m isDur
  · rfl
  · by_cases h0 : m = 0
    · subst h0; simp; omega
    · simp [h0]

theorem recompose (U : Nat) :
    ((((((0 * 7 + U / 1000000 / 60 / 60 / 24) * 24 + U / 1000000 / 60 / 60 % 24) * 60 + U / 1000000 / 60 % 60) * 60 : Nat) : Int)
      * 1000000) + ((U / 1000000 % 60 * 1000000 + U % 1000000 : Nat) : Int) = (U : Int) := by
  omega

theorem dMinus_spec {y m us : Int} {isDur : Bool} (h : dMixed y m us isDur = false) :
    (if dMinus y m us isDur = true then -(us.natAbs : Int) else (us.natAbs : Int)) = us ∧
      (dHasYM y m isDur = true →
        (if dMinus y m us isDur = true then -((y * 12 + m).natAbs : Int) else ((y * 12 + m).natAbs : Int)) = y * 12 + m) := by
  have hn := mt (dMixed_iff y m us isDur).mpr (by rw [h]; exact Bool.false_ne_true)
  unfold dMinus
  generalize dHasYM y m isDur = b at hn ⊢
  cases b <;> simp only [Bool.true_and, Bool.false_and, Bool.false_or, Bool.or_eq_true, decide_eq_true_eq, true_and] at hn ⊢
  · exact ⟨by split <;> omega, fun hh => nomatch hh⟩
  · exact ⟨by split <;> omega, fun _ => by split <;> omega⟩

theorem tdInRange_neg_natAbs {us : Int} (h : tdInRange us = true) (hn : us ≤ 0) : tdInRange (-(us.natAbs : Int)) = true := by
  have : -(us.natAbs : Int) = us := by omega
  rw [this]; exact h

theorem parse_durationIso {y m us : Int} {isDur : Bool} {lx : Str}
    (hm : 0 ≤ m ∧ m < 12) (hr1 : tdInRange us = true)
    (h : durationIso y m us isDur = some lx) :
    parseXsdDuration lx =
      some (if dHasYM y m isDur then .duration y m us else .timedelta us) := by
  obtain ⟨od, hod, hne, heq⟩ := durationIso_eq y m us isDur
  rw [heq] at h
  cases hmx : dMixed y m us isDur with
  | true => rw [hmx, if_pos rfl] at h; cases h
  | false =>
    rw [hmx, if_neg Bool.false_ne_true] at h
    cases h
    obtain ⟨hsgn, hmin⟩ := dMinus_spec hmx
    have hUr : tdInRange (us.natAbs : Int) = true := by
      simp only [tdInRange, Bool.and_eq_true, decide_eq_true_eq] at hr1 ⊢
      omega
    unfold parseXsdDuration
    -- the regular expression returns the rendered fields as tokens; `durOfRaw` turns them back into numbers
    rw [matchPeriod_render (dMinus y m us isDur) hne]
    simp only [durOfRaw_eq, tokInt_tokOf, optN_getD, tokMicros_secTok _ _ (Nat.mod_lt _ (by decide)), tokInt_none]
    rw [hod, recompose, dOy_getD, dOm_getD, durOfFields_eq, hsgn, if_pos ⟨hUr, hr1⟩]
    cases hYM : dHasYM y m isDur with
    | false => simp only [Bool.false_eq_true, if_false, and_self, if_true]
    | true =>
      -- the months read are `|12 y + m|` split by 12; with the sign in front it is `12 y + m` again
      have hne0 : ¬ ((y * 12 + m).natAbs / 12 = 0 ∧ (y * 12 + m).natAbs % 12 = 0) := by
        intro e
        have : y = 0 ∧ m = 0 := by omega
        simp [dHasYM, this.1, this.2] at hYM
      simp only [if_true, if_neg hne0, Nat.div_add_mod', hmin hYM]
      congr 2 <;> omega

theorem parse_durationIso_timedelta {us : Int} {lx : Str} (hr : tdInRange us = true)
    (h : durationIso 0 0 us false = some lx) : parseXsdDuration lx = some (.timedelta us) :=
  parse_durationIso ⟨by decide, by decide⟩ hr h

theorem intField_eq (des : Char) (s : Str) :
    Spec.intField des s = (tryField des s).bind (fun p => if p.1.fp.isNone then some p.2 else none) := by
  simp only [Spec.intField, tryField]
  cases dropDigits s with
  | nil => cases (takeDigits s).isEmpty <;> rfl
  | cons c r =>
    -- no digits: both fail; digits and the designator: both return the rest
    cases (takeDigits s).isEmpty <;> by_cases hc : (c == des) = true <;>
      simp only [hc, Bool.not_true, Bool.not_false, Bool.false_and, Bool.true_and, Bool.false_eq_true, if_false, if_true,
        Option.bind_none, Option.bind_some, Option.isNone_none]
    -- digits and another character: the specification fails; the group can only go on with a fraction, which is filtered out
    split
    · split <;> (try split) <;> rfl
    · rfl

theorem intField_none {des : Char} {s : Str} (h : tryField des s = none) : Spec.intField des s = none := by
  rw [intField_eq, h]; rfl

theorem optField_render {des : Char} (on : Option Nat) (fs : List (Char × Option NumTok)) {rest : Str}
    (hd : Des (des :: fs.map Prod.fst)) (hok : ∀ p ∈ fs, OkTok p.2) (hrest : tryField des rest = none) :
    Spec.optField (Spec.intField des) (renderToks ((des, tokOf on) :: fs) ++ rest) = (renderToks fs ++ rest, on.isSome) := by
  have hdes : IsDes des := hd.2 des (by simp)
  cases on with
  | none => simp [renderToks_absent, Spec.optField, intField_none (miss_render hd hok hrest)]
  | some n =>
    simp [tokOf, Spec.optField, intField_eq, tryField_renderTok hdes hdes (okTok_tokOf (some n))]

theorem secTok_isSome (s us : Nat) : (secTok s us).isSome = (s != 0 || us != 0) := by
  unfold secTok; split
  · rename_i h; rw [h]; rfl
  · rename_i h; rw [Bool.eq_false_iff.mpr h]; rfl

theorem secField_render (s us : Nat) :
    Spec.optField Spec.secField (renderToks [('S', secTok s us)]) = ([], (s != 0 || us != 0)) := by
  rw [← secTok_isSome]
  have hok := okTok_secTok s us
  generalize secTok s us = ot at hok ⊢
  cases ot with
  | none => simp [Spec.optField, Spec.secField, takeDigits]
  | some t =>
    obtain ⟨ip, fp⟩ := t
    obtain ⟨hi, hne, hf⟩ := hok
    have hie : ip.isEmpty = false := List.isEmpty_eq_false_iff.mpr hne
    cases fp with
    | none =>
      simp [renderTok_int, Spec.optField, Spec.secField, span_digits_cons hi 'S' rfl, hie]
    | some f =>
      obtain ⟨hfd, hfne⟩ := hf f rfl
      simp [renderTok_frac, Spec.optField, Spec.secField, span_digits_cons hi '.' rfl,
        span_digits_cons hfd 'S' rfl, hie, List.isEmpty_eq_false_iff.mpr hfne]

theorem durBodyLex_render (allowYM : Bool) {oy om od : Option Nat} {h mi s us : Nat}
    (hne : renderToks (dateFields oy om od) ++ timePart h mi s us ≠ [])
    (hym : allowYM = true ∨ (oy = none ∧ om = none)) :
    Spec.durBodyLex allowYM true
      (renderToks (dateFields oy om od) ++ timePart h mi s us) = true := by
  have e1 := optField_render oy [('M', tokOf om), ('W', none), ('D', tokOf od)] des_date (by simp)
    (tryField_timePart _ h mi s us)
  have e2 := optField_render om [('W', none), ('D', tokOf od)] des_date.tail (by simp) (tryField_timePart _ h mi s us)
  have e3 := optField_render od [] des_date.tail.tail.tail nofun (tryField_timePart _ h mi s us)
  rw [show renderToks [('W', none), ('D', tokOf od)] = renderToks [('D', tokOf od)] from rfl] at e2
  rw [show renderToks [] ++ timePart h mi s us = timePart h mi s us from rfl] at e3
  unfold Spec.durBodyLex
  simp only [e1, e2, e3]
  have hymOk : (allowYM || !(oy.isSome || om.isSome)) = true := by
    rcases hym with h1 | ⟨h1, h2⟩
    · simp [h1]
    · simp [h1, h2]
  rcases timePart_cases h mi s us with ⟨e, _⟩ | ⟨e, hcond⟩ <;> rw [e] at hne ⊢
  · have : (oy.isSome || om.isSome || od.isSome) = true := by
      -- with all three absent nothing at all would be printed
      cases oy <;> cases om <;> cases od <;> first | exact absurd rfl hne | rfl
    simp only [hymOk, this, Bool.true_or, Bool.and_self]
  · have f1 := optField_render (optN h) [('M', tokOf (optN mi)), ('S', secTok s us)] (rest := []) des_time (by simp)
      (tryField_nil _)
    have f2 := optField_render (optN mi) [('S', secTok s us)] (rest := []) des_time.tail (by simp) (tryField_nil _)
    simp only [List.append_nil] at f1 f2
    simp only [f1, f2, secField_render, optN_isSome, hymOk, Bool.true_and, List.isEmpty_nil]
    simpa only [Bool.or_assoc] using hcond

theorem durLex_durationIso {y m us : Int} {isDur : Bool} {lx : Str} (h : durationIso y m us isDur = some lx) :
    Spec.durLex true true lx = true ∧ (dHasYM y m isDur = false → Spec.durLex false true lx = true) := by
  obtain ⟨od, _, hne, heq⟩ := durationIso_eq y m us isDur
  rw [heq] at h
  split at h
  · cases h
  · cases h
    have key : ∀ allowYM, (allowYM = true ∨ (dOy y m isDur = none ∧ dOm y m isDur = none)) →
        Spec.durLex allowYM true ((if dMinus y m us isDur = true then ['-', 'P'] else ['P']) ++
          (renderToks (dateFields (dOy y m isDur) (dOm y m isDur) od) ++
            timeOfMicros us.natAbs)) = true := by
      intro allowYM hym
      have hb := durBodyLex_render allowYM hne hym
      cases dMinus y m us isDur <;> simpa [Spec.durLex] using hb
    refine ⟨key true (Or.inl rfl), fun hno => key false (Or.inr ?_)⟩
    simp [dOy, dOm, hno]

theorem dHasYM_true {y m : Int} (h : ¬ (y = 0 ∧ m = 0)) : dHasYM y m true = true := by
  have : ¬ y = 0 ∨ ¬ m = 0 := by omega
  simpa [dHasYM] using this

theorem durOfFields_spec {neg : Bool} {Y M : Nat} {U : Int} {v : PyVal} (h : durOfFields neg Y M U = some v) :
    (∃ us, v = .timedelta us ∧ tdInRange us = true) ∨
    (∃ y m us, v = .duration y m us ∧ 0 ≤ m ∧ m < 12 ∧ tdInRange us = true ∧ dHasYM y m true = true) := by
  rw [durOfFields_eq] at h
  by_cases hr : tdInRange U = true ∧ tdInRange (if neg then -U else U) = true
  · rw [if_pos hr] at h
    obtain rfl := Option.some.inj h
    by_cases hym : Y = 0 ∧ M = 0
    · rw [if_pos hym]; exact Or.inl ⟨_, rfl, hr.2⟩
    · rw [if_neg hym]
      refine Or.inr ⟨_, _, _, rfl, by omega, by omega, hr.2, dHasYM_true ?_⟩
      cases neg <;> simp only [Bool.false_eq_true, if_false, if_true] <;> omega
  · rw [if_neg hr] at h; cases h

theorem parseXsdDuration_spec {s : Str} {v : PyVal} (h : parseXsdDuration s = some v) :
    (∃ us, v = .timedelta us ∧ tdInRange us = true) ∨
    (∃ y m us, v = .duration y m us ∧ 0 ≤ m ∧ m < 12 ∧ tdInRange us = true ∧ dHasYM y m true = true) := by
  unfold parseXsdDuration at h
  split at h
  · exact durOfFields_spec (durOfRaw_eq _ ▸ h)
  · cases h

end RV.C09

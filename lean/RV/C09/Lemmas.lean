import RV.C09.Spec
/-
  C09 — lemmas below the level of literals: digit strings and `span_digits`; `strip`; the optional sign (`Signed`) and
  CPython's `int()` / `Decimal()` grammars against XSD's integer and decimal productions, with their printers; the
  regenerated integer bounds table; `numeral`; booleans; the hex codec; the white-space facet (`postProcess_idem`,
  `postProcess_valid`).  A lemma `f_xsd` says: on a form of the XSD lexical space the reader `f` returns the value the
  specification assigns.
-/
namespace RV.C09

theorem isDigit_iff (c : Char) : c.isDigit = true ↔ 48 ≤ c.toNat ∧ c.toNat ≤ 57 := by
  unfold Char.isDigit
  simp only [Bool.and_eq_true, decide_eq_true_eq, ge_iff_le, UInt32.le_iff_toNat_le]
  simp

theorem isWs_of_digit {c : Char} (h : c.isDigit = true) : isWs c = false := by
  rw [isDigit_iff] at h
  unfold isWs
  have : c ≠ ' ' := by
    intro hc; subst hc; simp at h
  simp [this]
  omega

theorem digit_ne {c d : Char} (h : c.isDigit = true) (hd : d.isDigit = false) : c ≠ d := by
  intro e; subst e; simp [h] at hd

theorem natVal_eq_num (s : Str) : Spec.natVal s = num s := by
  simp [Spec.natVal, num, Nat.ofDigitChars]

theorem num_digits (n : Nat) : num (digits n) = n := Nat.ofDigitChars_ten_toDigits

theorem allDigits_digits (n : Nat) : allDigits (digits n) = true := by
  simp only [allDigits, List.all_eq_true]
  intro c hc
  exact Nat.isDigit_of_mem_toDigits (by decide) (by decide) hc

theorem digits_ne_nil (n : Nat) : digits n ≠ [] := Nat.toDigits_ne_nil

theorem allDigits_cons {c : Char} {s : Str} : allDigits (c :: s) = (c.isDigit && allDigits s) := by
  simp [allDigits]

theorem allDigits_append {s t : Str} : allDigits (s ++ t) = (allDigits s && allDigits t) := by
  simp [allDigits]

theorem num_append (s t : Str) : num (s ++ t) = num s * 10 ^ t.length + num t := by
  unfold num
  rw [Nat.ofDigitChars_append, Nat.ofDigitChars_eq_ofDigitChars_zero]
  rw [Nat.mul_comm]

theorem num_replicate_zero (k : Nat) : num (List.replicate k '0') = 0 := by
  simp [num]

theorem num_lead0 (k : Nat) (s : Str) : num (List.replicate k '0' ++ s) = num s := by
  simp [num_append, num_replicate_zero]

theorem num_trail0 (s : Str) (k : Nat) : num (s ++ List.replicate k '0') = num s * 10 ^ k := by
  simp [num_append, num_replicate_zero]

theorem num_zfill (w : Nat) (s : Str) : num (zfill w s) = num s := num_lead0 _ s

theorem allDigits_replicate_zero (k : Nat) : allDigits (List.replicate k '0') = true := by
  simp [allDigits]

theorem allDigits_zfill {w : Nat} {s : Str} (h : allDigits s = true) : allDigits (zfill w s) = true := by
  simp [zfill, allDigits_append, allDigits_replicate_zero, h]

theorem zfill_length_ge (w : Nat) (s : Str) : w ≤ (zfill w s).length := by
  simp [zfill]; omega

theorem digitsW_ne_nil (w n : Nat) : digitsW w n ≠ [] := by
  simp [digitsW, zfill, digits_ne_nil]

theorem digitsW_length {w n : Nat} (hw : 0 < w) (h : n < 10 ^ w) : (digitsW w n).length = w := by
  have : (digits n).length ≤ w := (Nat.length_toDigits_le_iff (by decide) hw).mpr h
  simp only [digitsW, zfill, List.length_append, List.length_replicate]
  omega

theorem digitsW6_length {us : Nat} (h : us < 1000000) : (digitsW 6 us).length = 6 :=
  digitsW_length (by decide) (by simpa using h)

theorem num_digitsW (w n : Nat) : num (digitsW w n) = n := by rw [digitsW, num_zfill, num_digits]
theorem allDigits_digitsW (w n : Nat) : allDigits (digitsW w n) = true := allDigits_zfill (allDigits_digits n)

theorem rstrip0_spec : ∀ x : Str, ∃ z, x = rstrip0 x ++ List.replicate z '0' := by
  intro x
  induction x with
  | nil => exact ⟨0, rfl⟩
  | cons c cs ih =>
    obtain ⟨z, hz⟩ := ih
    simp only [rstrip0]
    split
    · rename_i hr
      rw [hr] at hz
      split
      · rename_i hc
        have hc' : c = '0' := by simpa using hc
        refine ⟨z + 1, ?_⟩
        rw [hz, hc']
        simp [List.replicate_succ]
      · exact ⟨z, by rw [hz]; simp⟩
    · rename_i hr
      exact ⟨z, by rw [List.cons_append, ← hz]⟩

theorem allDigits_rstrip0 {x : Str} (h : allDigits x = true) : allDigits (rstrip0 x) = true := by
  obtain ⟨z, hz⟩ := rstrip0_spec x
  rw [hz, allDigits_append, Bool.and_eq_true] at h
  exact h.1

theorem rstrip0_ne_nil {x : Str} (h : num x ≠ 0) : rstrip0 x ≠ [] := by
  obtain ⟨z, hz⟩ := rstrip0_spec x
  intro e
  rw [e] at hz
  rw [hz] at h
  simp [num_replicate_zero] at h

theorem rstripZeros_eq (x : Str) : Spec.rstripZeros x = rstrip0 x := by
  induction x with
  | nil => rfl
  | cons c cs ih =>
    rw [Spec.rstripZeros, rstrip0, ih]
    cases rstrip0 cs <;> rfl

theorem head_digit {s : Str} (h : allDigits s = true) (hne : s ≠ []) :
    ∃ c r, s = c :: r ∧ c.isDigit = true ∧ allDigits r = true := by
  cases s with
  | nil => exact absurd rfl hne
  | cons c r =>
    rw [allDigits_cons, Bool.and_eq_true] at h
    exact ⟨c, r, rfl, h.1, h.2⟩

theorem span_digits {s : Str} (hs : allDigits s = true) (t : Str) (ht : ∀ c r, t = c :: r → c.isDigit = false) :
    takeDigits (s ++ t) = s ∧ dropDigits (s ++ t) = t := by
  induction s with
  | nil =>
    cases t with
    | nil => exact ⟨rfl, rfl⟩
    | cons c r => simp [takeDigits, dropDigits, ht c r rfl]
  | cons c s ih =>
    rw [allDigits_cons, Bool.and_eq_true] at hs
    simp [takeDigits, dropDigits, hs.1, ih hs.2]

theorem span_digits_cons {s : Str} (hs : allDigits s = true) (c : Char) (hc : c.isDigit = false) (t : Str) :
    takeDigits (s ++ c :: t) = s ∧ dropDigits (s ++ c :: t) = c :: t :=
  span_digits hs _ (by intro _ _ h; cases h; exact hc)

theorem span_digits_all {s : Str} (hs : allDigits s = true) : takeDigits s = s ∧ dropDigits s = [] := by
  simpa using span_digits hs [] (by intro c r h; cases h)

theorem allDigits_takeDigits (s : Str) : allDigits (takeDigits s) = true := by
  induction s with
  | nil => rfl
  | cons c s ih =>
    unfold takeDigits
    split
    · rename_i h; simp [allDigits_cons, h, ih]
    · rfl

theorem take_append_dropDigits (s : Str) : takeDigits s ++ dropDigits s = s := by
  induction s with
  | nil => rfl
  | cons c s ih =>
    unfold takeDigits dropDigits
    split <;> simp [ih]

theorem dropDigits_head (s : Str) : ∀ c r, dropDigits s = c :: r → c.isDigit = false := by
  induction s with
  | nil => intro c r h; cases h
  | cons a s ih =>
    intro c r h
    unfold dropDigits at h
    split at h
    · exact ih c r h
    · rename_i hd
      cases h
      simpa using hd

theorem stripR_noWs {s : Str} (h : ∀ c ∈ s, isWs c = false) : stripR s = s := by
  induction s with
  | nil => rfl
  | cons c s ih =>
    have hc : isWs c = false := h c (by simp)
    have hs : stripR s = s := ih (fun d hd => h d (by simp [hd]))
    unfold stripR
    rw [hs]
    cases s with
    | nil => simp [hc]
    | cons d t => rfl

theorem stripL_noWs {s : Str} (h : ∀ c ∈ s, isWs c = false) : stripL s = s := by
  cases s with
  | nil => rfl
  | cons c s => simp [stripL, h c (by simp)]

theorem strip_noWs {s : Str} (h : ∀ c ∈ s, isWs c = false) : strip s = s := by
  unfold strip
  rw [stripL_noWs h, stripR_noWs h]

theorem mem_allDigits {s : Str} (h : allDigits s = true) : ∀ c ∈ s, c.isDigit = true := by
  simpa [allDigits] using h

theorem noWs_of_allDigits {s : Str} (h : allDigits s = true) : ∀ c ∈ s, isWs c = false :=
  fun c hc => isWs_of_digit (mem_allDigits h c hc)

theorem ungroup_digits {s : Str} (h : allDigits s = true) (pd : Bool) (hne : s ≠ [] ∨ pd = true) :
    ungroup pd s = some s := by
  induction s generalizing pd with
  | nil =>
    rcases hne with h' | h'
    · exact absurd rfl h'
    · simp [ungroup, h']
  | cons c s ih =>
    rw [allDigits_cons, Bool.and_eq_true] at h
    simp [ungroup, h.1, ih h.2 true (Or.inr rfl)]

theorem pyNat_digits {s : Str} (h : allDigits s = true) (hne : s ≠ []) : pyNat s = some (num s) := by
  simp [pyNat, ungroup_digits h false (Or.inl hne)]

theorem nonEmptyDigits_iff {s : Str} : Spec.nonEmptyDigits s = true ↔ s ≠ [] ∧ allDigits s = true := by
  simp [Spec.nonEmptyDigits, allDigits]

/-- `s` is `b` with an optional sign in front, `neg` telling whether it is `-`: the way every numeric reader of the model
    and every numeric production of the specification begins.  Each of them has a lemma saying what it does on a
    `Signed` string, and is not unfolded again. -/
inductive Signed : Str → Bool → Str → Prop
  | minus (b : Str) : Signed ('-' :: b) true b
  | plus (b : Str) : Signed ('+' :: b) false b
  | bare {b : Str} : (∀ r, b ≠ '-' :: r) → (∀ r, b ≠ '+' :: r) → Signed b false b

theorem signed_total (s : Str) : ∃ neg b, Signed s neg b := by
  by_cases hm : ∃ r, s = '-' :: r
  · obtain ⟨r, rfl⟩ := hm; exact ⟨_, _, .minus r⟩
  by_cases hp : ∃ r, s = '+' :: r
  · obtain ⟨r, rfl⟩ := hp; exact ⟨_, _, .plus r⟩
  exact ⟨_, _, .bare (fun r e => hm ⟨r, e⟩) (fun r e => hp ⟨r, e⟩)⟩

theorem Signed.of_digit (neg : Bool) {c : Char} (hc : c.isDigit = true) (r : Str) :
    Signed (if neg then '-' :: c :: r else c :: r) neg (c :: r) := by
  cases neg
  · exact .bare (fun _ e => digit_ne hc (by decide) (List.cons.inj e).1) (fun _ e => digit_ne hc (by decide) (List.cons.inj e).1)
  · exact .minus _

theorem Signed.forall_mem {s b : Str} {neg : Bool} (h : Signed s neg b) {p : Char → Prop} (hm : p '-') (hp : p '+')
    (hb : ∀ c ∈ b, p c) : ∀ c ∈ s, p c := by
  cases h
  · exact List.forall_mem_cons.mpr ⟨hm, hb⟩
  · exact List.forall_mem_cons.mpr ⟨hp, hb⟩
  · exact hb

theorem Signed.intLex_eq {s b : Str} {neg : Bool} (h : Signed s neg b) : Spec.intLex s = Spec.nonEmptyDigits b := by
  cases h with
  | minus | plus => rfl
  -- the third defining equation: neither sign matches (so for the next three)
  | bare hm hp => exact Spec.intLex.eq_3 _ hp hm

theorem Signed.intVal_eq {s b : Str} {neg : Bool} (h : Signed s neg b) :
    Spec.intVal s = (if neg then -(Spec.natVal b : Int) else (Spec.natVal b : Int)) := by
  cases h with
  | minus | plus => rfl
  | bare hm hp => exact Spec.intVal.eq_3 _ hp hm

theorem Signed.decLex_eq {s b : Str} {neg : Bool} (h : Signed s neg b) : Spec.decLex s = Spec.decBodyLex b := by
  cases h with
  | minus | plus => rfl
  | bare hm hp => exact Spec.decLex.eq_3 _ hp hm

theorem Signed.decVal_eq {s b : Str} {neg : Bool} (h : Signed s neg b) : Spec.decVal s =
    (if neg then -((Spec.decBodyVal b).1 : Int) else ((Spec.decBodyVal b).1 : Int), (Spec.decBodyVal b).2) := by
  cases h with
  | minus | plus => rfl
  | bare hm hp => exact Spec.decVal.eq_3 _ hp hm

theorem Signed.pyInt_eq {s b : Str} {neg : Bool} (h : Signed s neg b) (hws : ∀ c ∈ b, isWs c = false) :
    pyInt s = (pyNat b).map (fun k => if neg then -(k : Int) else (k : Int)) := by
  unfold pyInt
  rw [strip_noWs (h.forall_mem (by decide) (by decide) hws)]
  cases h with
  | minus | plus => rfl
  | bare hm hp =>
    split
    · exact absurd rfl (hm _)
    · exact absurd rfl (hp _)
    · rfl

theorem pyInt_xsd {s : Str} (h : Spec.intLex s = true) : pyInt s = some (Spec.intVal s) := by
  obtain ⟨neg, b, hs⟩ := signed_total s
  rw [hs.intLex_eq, nonEmptyDigits_iff] at h
  rw [hs.pyInt_eq (noWs_of_allDigits h.2), hs.intVal_eq, pyNat_digits h.2 h.1, natVal_eq_num]; rfl

theorem intRepr_signed (i : Int) : Signed (intRepr i) (decide (i < 0)) (digits i.natAbs) := by
  cases i with
  | ofNat n =>
    obtain ⟨c, t, he, hc, _⟩ := head_digit (allDigits_digits n) (digits_ne_nil n)
    rw [show (Int.ofNat n).natAbs = n from rfl, show decide (Int.ofNat n < 0) = false from by simp, intRepr, he]
    exact Signed.of_digit false hc t
  | negSucc n =>
    rw [show decide (Int.negSucc n < 0) = true from by simp [Int.negSucc_lt_zero]]
    exact .minus _

theorem intLex_intRepr (i : Int) : Spec.intLex (intRepr i) = true := by
  rw [(intRepr_signed i).intLex_eq]
  exact nonEmptyDigits_iff.mpr ⟨digits_ne_nil _, allDigits_digits _⟩

theorem pyInt_intRepr (i : Int) : pyInt (intRepr i) = some i := by
  rw [(intRepr_signed i).pyInt_eq (noWs_of_allDigits (allDigits_digits _)),
    pyNat_digits (allDigits_digits _) (digits_ne_nil _), num_digits]
  by_cases h : i < 0 <;> simp [h] <;> omega

def covers (b x : Option Int × Option Int) : Bool :=
  (match b.1, x.1 with | none, _ => true | some l, some l' => decide (l ≤ l') | some _, none => false) &&
  (match b.2, x.2 with | none, _ => true | some h, some h' => decide (h' ≤ h) | some _, none => false)

theorem inBounds_of_covers {b x : Option Int × Option Int} (h : covers b x = true) {i : Int}
    (hi : Spec.inBounds x i = true) : Spec.inBounds b i = true := by
  obtain ⟨bl, bh⟩ := b
  obtain ⟨xl, xh⟩ := x
  simp only [covers, Bool.and_eq_true] at h
  simp only [Spec.inBounds, Bool.and_eq_true] at hi ⊢
  constructor
  · cases bl <;> cases xl <;> simp_all <;> omega
  · cases bh <;> cases xh <;> simp_all <;> omega

theorem Dt.mem_all (d : Dt) : d ∈ Dt.all := by cases d <;> decide

theorem int_bounds_table : ∀ d ∈ Dt.all, d.conv = .int →
    (d.bounds = none ∨ ∃ b, d.bounds = some b ∧ covers b (Spec.xsdBounds d) = true) ∧
    (d = .integer ∨ d = .long ∨ d = .unsignedLong ∨ d.bounds = some (Spec.xsdBounds d)) := by
  decide +kernel

theorem inOpt_eq_inBounds (lo hi : Option Int) (i : Int) : inOpt lo hi i = Spec.inBounds (lo, hi) i := rfl

theorem dropUnderscores_id {s : Str} (h : ∀ c ∈ s, c ≠ '_') : dropUnderscores s = s := by
  unfold dropUnderscores
  rw [List.filter_eq_self]
  intro c hc
  simp [h c hc]

def fracPart : Option Str → Str
  | none => []
  | some f => '.' :: f

/-- the one shape behind xsd:decimal, `"{:f}"` and the four layouts of `repr`: what `pyDecBody` and `Spec.decBodyLex`
    read (`pyDecBody_numeral`, `decBodyLex_numeral`); `x` is whatever follows, an exponent part or nothing -/
def numeral (ip : Str) (fp : Option Str) (x : Str) : Str := ip ++ (fracPart fp ++ x)

theorem pyDecBody_numeral (neg : Bool) {ip : Str} (hi : allDigits ip = true) {fp : Option Str}
    (hf : ∀ f, fp = some f → allDigits f = true) {x : Str}
    (hx : ∀ c r, x = c :: r → c.isDigit = false ∧ (fp = none → c ≠ '.')) :
    pyDecBody neg (numeral ip fp x) =
      if ip.isEmpty && (fp.getD []).isEmpty then none
      else (pyExp x).map (fun e => .dec neg (num (ip ++ fp.getD [])) (e - (fp.getD []).length)) := by
  cases fp with
  | none =>
    obtain ⟨h1, h2⟩ := span_digits hi x (fun c r e => (hx c r e).1)
    simp only [numeral, fracPart, List.nil_append, pyDecBody, h1, h2, Option.getD_none, List.isEmpty_nil, Bool.and_true,
      List.append_nil, List.length_nil, Int.natCast_zero, Int.sub_zero]
    split
    · exact absurd rfl ((hx _ _ rfl).2 rfl)
    · rfl
  | some f =>
    obtain ⟨h1, h2⟩ := span_digits_cons hi '.' rfl (f ++ x)
    obtain ⟨h3, h4⟩ := span_digits (hf f rfl) x (fun c r e => (hx c r e).1)
    simp only [numeral, fracPart, List.cons_append, pyDecBody, h1, h2, h3, h4, Option.getD_some]

theorem decBodyLex_numeral {ip : Str} (hi : allDigits ip = true) {fp : Option Str}
    (hf : ∀ f, fp = some f → allDigits f = true) (hne : ip ≠ [] ∨ ∃ f, fp = some f ∧ f ≠ []) :
    Spec.decBodyLex (numeral ip fp []) = true := by
  cases fp with
  | none =>
    have : ip ≠ [] := hne.elim id (fun ⟨_, e, _⟩ => nomatch e)
    simp [numeral, fracPart, Spec.decBodyLex, span_digits_all hi, this]
  | some f =>
    have := hf f rfl
    have hne' : ip ≠ [] ∨ f ≠ [] := hne.imp id (fun ⟨_, e, h⟩ => by cases e; exact h)
    simp only [numeral, fracPart, List.append_nil, Spec.decBodyLex, span_digits_cons hi '.' rfl f]
    simpa [show f.all Char.isDigit = true from this] using hne'

/-- the characters of a numeral with an exponent part: none that `strip` or the underscore filter would touch -/
def fchar (c : Char) : Prop := c.isDigit = true ∨ c = '.' ∨ c = 'e' ∨ c = '+' ∨ c = '-'

theorem fchar_props {c : Char} (h : fchar c) : isWs c = false ∧ c ≠ '_' := by
  rcases h with h | rfl | rfl | rfl | rfl
  · exact ⟨isWs_of_digit h, digit_ne h (by decide)⟩
  all_goals decide

theorem fchar_numeral {ip : Str} (hi : allDigits ip = true) {fp : Option Str} (hf : ∀ f, fp = some f → allDigits f = true)
    {x : Str} (hx : ∀ c ∈ x, fchar c) : ∀ c ∈ numeral ip fp x, fchar c := by
  intro c hc
  rcases List.mem_append.mp hc with h | h
  · exact Or.inl (mem_allDigits hi c h)
  · rcases List.mem_append.mp h with h | h
    · cases fp with
      | none => cases h
      | some f =>
        rcases List.mem_cons.mp h with rfl | h
        · exact Or.inr (Or.inl rfl)
        · exact Or.inl (mem_allDigits (hf f rfl) c h)
    · exact hx c h

theorem numeral_head {ip : Str} (hi : allDigits ip = true) (hne : ip ≠ []) (fp : Option Str) (x : Str) :
    ∃ c r, numeral ip fp x = c :: r ∧ c.isDigit = true := by
  obtain ⟨c, t, rfl, hc, _⟩ := head_digit hi hne
  exact ⟨c, _, rfl, hc⟩

theorem Signed.of_numeral (neg : Bool) {ip : Str} (hi : allDigits ip = true) (hne : ip ≠ []) (fp : Option Str) (x : Str) :
    Signed (if neg then '-' :: numeral ip fp x else numeral ip fp x) neg (numeral ip fp x) := by
  obtain ⟨c, r, e, hc⟩ := numeral_head hi hne fp x
  rw [e]; exact Signed.of_digit neg hc r

theorem Signed.pyDecimal_eq {s b : Str} {neg : Bool} (h : Signed s neg b) (hch : ∀ c ∈ b, fchar c) :
    pyDecimal s = pyDecBody neg b := by
  unfold pyDecimal
  rw [strip_noWs (h.forall_mem (by decide) (by decide) (fun c hc => (fchar_props (hch c hc)).1)),
    dropUnderscores_id (h.forall_mem (by decide) (by decide) (fun c hc => (fchar_props (hch c hc)).2))]
  cases h with
  | minus | plus => rfl
  | bare hm hp =>
    split
    · exact absurd rfl (hm _)
    · exact absurd rfl (hp _)
    · rfl

theorem pyDecimal_numeral {s : Str} {neg : Bool} {ip : Str} {fp : Option Str} (hs : Signed s neg (numeral ip fp []))
    (hi : allDigits ip = true) (hf : ∀ f, fp = some f → allDigits f = true) (hne : ip ≠ [] ∨ ∃ f, fp = some f ∧ f ≠ []) :
    pyDecimal s = some (.dec neg (num (ip ++ fp.getD [])) (-((fp.getD []).length : Int))) ∧ Spec.decLex s = true := by
  have he : (ip.isEmpty && (fp.getD []).isEmpty) = false := by
    rcases hne with h | ⟨f, rfl, h⟩
    · simp [h]
    · simp [h]
  rw [hs.pyDecimal_eq (fchar_numeral hi hf nofun), hs.decLex_eq, pyDecBody_numeral neg hi hf (x := []) nofun, he]
  exact ⟨by simp [pyExp], decBodyLex_numeral hi hf hne⟩

theorem decBody_shape {b : Str} (h : Spec.decBodyLex b = true) :
    ∃ ip fp, b = numeral ip fp [] ∧ allDigits ip = true ∧ (∀ f, fp = some f → allDigits f = true) ∧
      (ip ≠ [] ∨ ∃ f, fp = some f ∧ f ≠ []) ∧ Spec.decBodyVal b = (num (ip ++ fp.getD []), (fp.getD []).length) := by
  have hsplit := take_append_dropDigits b
  have hip := allDigits_takeDigits b
  unfold Spec.decBodyLex at h
  unfold Spec.decBodyVal
  generalize hr : dropDigits b = r at h hsplit
  cases r with
  | nil =>
    refine ⟨takeDigits b, none, by simpa [numeral, fracPart] using hsplit.symm, hip, nofun, Or.inl ?_, by simp [natVal_eq_num]⟩
    intro e; simp [e] at h
  | cons c fp =>
    by_cases hc : c = '.'
    · subst hc
      simp only [Bool.and_eq_true, Bool.or_eq_true, Bool.not_eq_true', List.isEmpty_eq_false_iff] at h
      exact ⟨takeDigits b, some fp, by simpa [numeral, fracPart] using hsplit.symm, hip,
        fun f hf => by cases hf; exact h.1, h.2.imp id (fun h' => ⟨fp, rfl, h'⟩), by simp [natVal_eq_num]⟩
    · exfalso
      revert h
      split
      · rename_i heq; cases heq
      · rename_i heq; cases heq; exact absurd rfl hc
      · simp

theorem pyDecimal_xsd {s : Str} (h : Spec.decLex s = true) :
    ∃ (n : Bool) (c k : Nat), pyDecimal s = some (.dec n c (-(k : Int))) ∧
      Spec.decVal s = (((if n then -(c : Int) else (c : Int)) : Int), (k : Nat)) := by
  obtain ⟨neg, b, hs⟩ := signed_total s
  rw [hs.decLex_eq] at h
  obtain ⟨ip, fp, rfl, hi, hf, hne, hv⟩ := decBody_shape h
  exact ⟨neg, _, _, (pyDecimal_numeral hs hi hf hne).1, by rw [hs.decVal_eq, hv]⟩

theorem allDigits_take {s : Str} (h : allDigits s = true) (n : Nat) : allDigits (s.take n) = true := by
  simp only [allDigits, List.all_eq_true] at *
  intro c hc; exact h c (List.mem_of_mem_take hc)

theorem allDigits_drop {s : Str} (h : allDigits s = true) (n : Nat) : allDigits (s.drop n) = true := by
  simp only [allDigits, List.all_eq_true] at *
  intro c hc; exact h c (List.mem_of_mem_drop hc)

/-- what `Decimal(format(d, 'f'))` is, structurally -/
def fmtFBack (neg : Bool) (coeff : Nat) (exp : Int) : PyVal :=
  if 0 ≤ exp then .dec neg (coeff * 10 ^ exp.toNat) 0 else .dec neg coeff exp

theorem pyDecimal_fmtF (neg : Bool) (c : Nat) (e : Int) :
    pyDecimal (fmtF neg c e) = some (fmtFBack neg c e) ∧ Spec.decLex (fmtF neg c e) = true := by
  -- in each layout the body is a numeral
  have key : ∀ {ip : Str} {fp : Option Str}, allDigits ip = true → ip ≠ [] → (∀ f, fp = some f → allDigits f = true) →
      fmtFBack neg c e = .dec neg (num (ip ++ fp.getD [])) (-((fp.getD []).length : Int)) →
      pyDecimal (if neg then '-' :: numeral ip fp [] else numeral ip fp []) = some (fmtFBack neg c e) ∧
        Spec.decLex (if neg then '-' :: numeral ip fp [] else numeral ip fp []) = true := by
    intro ip fp hi hne hf hv
    rw [hv]; exact pyDecimal_numeral (Signed.of_numeral neg hi hne fp []) hi hf (Or.inl hne)
  unfold fmtF
  by_cases he : 0 ≤ e
  · simp only [he, if_true]
    by_cases hc : c = 0
    · subst hc
      exact key (ip := ['0']) (fp := none) rfl (by simp) nofun (by simp [fmtFBack, he]; rfl)
    · simp only [hc, if_false]
      have := key (ip := digits c ++ List.replicate e.toNat '0') (fp := none)
        (by simp [allDigits_append, allDigits_digits, allDigits_replicate_zero]) (by simp [digits_ne_nil]) nofun
        (by simp [fmtFBack, he, num_trail0, num_digits])
      simpa [numeral, fracPart] using this
  · simp only [he, if_false]
    have hp : allDigits (zfill ((-e).toNat + 1) (digits c)) = true := allDigits_zfill (allDigits_digits c)
    have hl := zfill_length_ge ((-e).toNat + 1) (digits c)
    have := key (ip := (zfill ((-e).toNat + 1) (digits c)).take ((zfill ((-e).toNat + 1) (digits c)).length - (-e).toNat))
      (fp := some ((zfill ((-e).toNat + 1) (digits c)).drop ((zfill ((-e).toNat + 1) (digits c)).length - (-e).toNat)))
      (allDigits_take hp _) (by intro e0; have := congrArg List.length e0; simp at this; omega)
      (fun f hf => by cases hf; exact allDigits_drop hp _)
      (by simp only [fmtFBack, he, if_false, Option.getD_some, List.take_append_drop, num_zfill, num_digits,
            List.length_drop]; congr 1; omega)
    simpa [numeral, fracPart] using this

-- the reader returns the specification's value (`pyInt_xsd`) and the number printed: they are equal; so for `decVal_fmtF`
theorem intVal_intRepr (i : Int) : Spec.intVal (intRepr i) = i := by
  have h1 := pyInt_xsd (intLex_intRepr i)
  rw [pyInt_intRepr] at h1
  exact (Option.some.inj h1).symm

theorem decVal_fmtF (n : Bool) (c k : Nat) :
    Spec.decVal (fmtF n c (-(k : Int))) = (((if n then -(c : Int) else (c : Int)) : Int), k) := by
  obtain ⟨hp, hl⟩ := pyDecimal_fmtF n c (-(k : Int))
  obtain ⟨n', c', k', h1, h2⟩ := pyDecimal_xsd hl
  rw [hp] at h1
  have hb : fmtFBack n c (-(k : Int)) = .dec n c (-(k : Int)) := by
    unfold fmtFBack
    split
    · rename_i h0
      have hk : k = 0 := by omega
      subst hk; simp
    · rfl
  rw [hb] at h1
  have h1' := Option.some.inj h1
  injection h1' with e1 e2 e3
  subst e1; subst e2
  have : k = k' := by omega
  subst this
  exact h2

theorem parseBoolean_boolLex (b : Bool) : parseBoolean (boolLex b) = b := by cases b <;> decide
theorem boolVal_boolLex (b : Bool) : Spec.boolVal? (boolLex b) = some b := by cases b <;> decide

theorem boolVal_cases {s : Str} {b : Bool} (h : Spec.boolVal? s = some b) :
    (s = ['t','r','u','e'] ∧ b = true) ∨ (s = ['1'] ∧ b = true) ∨ (s = ['f','a','l','s','e'] ∧ b = false) ∨ (s = ['0'] ∧ b = false) := by
  unfold Spec.boolVal? at h
  split at h
  · rename_i h1; cases h; rcases h1 with h1 | h1 <;> simp [h1]
  · split at h
    · rename_i h1; cases h; rcases h1 with h1 | h1 <;> simp [h1]
    · cases h

theorem parseBoolean_xsd {s : Str} {b : Bool} (h : Spec.boolVal? s = some b) :
    parseBoolean s = b ∧ boolLexicals.contains s = true := by
  rcases boolVal_cases h with ⟨rfl, rfl⟩ | ⟨rfl, rfl⟩ | ⟨rfl, rfl⟩ | ⟨rfl, rfl⟩ <;> decide

theorem hexVal_hexDigit : ∀ n, n < 16 → hexVal (hexDigit n) = some n := by decide

theorem hexVal_lt {c : Char} {x : Nat} (h : hexVal c = some x) : x < 16 := by
  unfold hexVal at h
  split at h
  · rename_i hd; rw [isDigit_iff] at hd; cases h; omega
  · split at h
    · rename_i hd; simp at hd; cases h; omega
    · split at h
      · rename_i hd; simp at hd; cases h; omega
      · cases h

theorem unhexlify_lt : ∀ {s : Str} {b : List Nat}, unhexlify s = some b → ∀ x ∈ b, x < 256 := by
  intro s
  induction s using unhexlify.induct with
  | case1 => intro b h x hx; simp [unhexlify] at h; subst h; cases hx
  | case2 c => intro b h; simp [unhexlify] at h
  | case3 a b r x y t ht hb ha ih =>
    intro bs h z hz
    simp only [unhexlify, ha, hb, ht] at h
    cases h
    rcases List.mem_cons.mp hz with rfl | hz
    · have := hexVal_lt ha; have := hexVal_lt hb; omega
    · exact ih ht z hz
  | case4 a b r hno ih =>
    intro bs h
    simp only [unhexlify] at h
    cases h

theorem unhexlify_hexlify {b : List Nat} (h : ∀ x ∈ b, x < 256) : unhexlify (hexlify b) = some b := by
  induction b with
  | nil => rfl
  | cons x r ih =>
    have hx : x < 256 := h x (by simp)
    simp only [hexlify, unhexlify]
    rw [hexVal_hexDigit _ (by omega), hexVal_hexDigit _ (by omega), ih (fun y hy => h y (by simp [hy]))]
    simp; omega

theorem hexVal_of_isHex {c : Char} (h : Spec.isHex c = true) : hexVal c = some (Spec.hexNib c) := by
  unfold Spec.isHex at h
  unfold hexVal Spec.hexNib
  by_cases hd : c.isDigit = true
  · simp [hd]
  · have hd' : c.isDigit = false := by simpa using hd
    simp only [hd', Bool.false_or, Bool.or_eq_true, Bool.and_eq_true, decide_eq_true_eq] at h
    simp only [hd', Bool.false_eq_true, if_false]
    rcases h with h | h
    · simp [h.1, h.2]
    · have : ¬ (97 ≤ c.toNat) := by omega
      simp [this, h.1, h.2]

theorem unhexlify_xsd : ∀ {s : Str}, Spec.hexLex s = true → unhexlify s = some (Spec.hexVal s) := by
  intro s
  induction s using Spec.hexLex.induct with
  | case1 => intro _; rfl
  | case2 c => intro h; simp [Spec.hexLex] at h
  | case3 a b r ih =>
    intro h
    simp only [Spec.hexLex, Bool.and_eq_true] at h
    simp only [unhexlify, hexVal_of_isHex h.1.1, hexVal_of_isHex h.1.2, ih h.2, Spec.hexVal]

theorem isHex_hexDigit : ∀ n, n < 16 → Spec.isHex (hexDigit n) = true := by decide

theorem hexLex_hexlify {b : List Nat} (h : ∀ x ∈ b, x < 256) : Spec.hexLex (hexlify b) = true := by
  induction b with
  | nil => rfl
  | cons x r ih =>
    have hx : x < 256 := h x (by simp)
    simp only [hexlify, Spec.hexLex, Bool.and_eq_true]
    exact ⟨⟨isHex_hexDigit _ (by omega), isHex_hexDigit _ (by omega)⟩, ih (fun y hy => h y (by simp [hy]))⟩


theorem normaliseXsdString_id {s : Str} (h : Spec.noTabNlCr s = true) : normaliseXsdString s = s := by
  induction s with
  | nil => rfl
  | cons c s ih =>
    simp only [Spec.noTabNlCr, List.all_cons, Bool.and_eq_true] at h
    have hc := h.1
    simp only [bne_iff_ne, ne_eq] at hc
    simp only [normaliseXsdString, List.map_cons] at ih ⊢
    rw [ih h.2]
    simp [hc.1.1, hc.1.2, hc.2]

theorem noTabNlCr_normalise (s : Str) : Spec.noTabNlCr (normaliseXsdString s) = true := by
  induction s with
  | nil => rfl
  | cons c s ih =>
    simp only [Spec.noTabNlCr, normaliseXsdString, List.map_cons, List.all_cons, Bool.and_eq_true] at ih ⊢
    refine ⟨?_, ih⟩
    split <;> simp_all

theorem normaliseXsdString_idem (s : Str) : normaliseXsdString (normaliseXsdString s) = normaliseXsdString s :=
  normaliseXsdString_id (noTabNlCr_normalise s)

def headNotSp (s : Str) : Bool := s.head? != some ' '
def lastNotSp (s : Str) : Bool := s.getLast? != some ' '

theorem stripSpL_id {s : Str} (h : headNotSp s = true) : stripSpL s = s := by
  cases s with
  | nil => rfl
  | cons c s =>
    simp only [headNotSp, List.head?_cons, bne_iff_ne, ne_eq, Option.some.injEq] at h
    simp [stripSpL, h]

theorem stripSpR_id {s : Str} (h : lastNotSp s = true) : stripSpR s = s := by
  induction s with
  | nil => rfl
  | cons c s ih =>
    cases s with
    | nil =>
      simp only [lastNotSp, List.getLast?_singleton, bne_iff_ne, ne_eq, Option.some.injEq] at h
      simp [stripSpR, h]
    | cons d t =>
      have := ih (by simpa [lastNotSp] using h)
      rw [stripSpR, this]

theorem collapseSpaces_id {s : Str} (h : Spec.noDoubleSpace s = true) : collapseSpaces s = s := by
  induction s with
  | nil => rfl
  | cons c s ih =>
    cases s with
    | nil => simp [collapseSpaces]
    | cons d t =>
      simp only [Spec.noDoubleSpace, Bool.and_eq_true, Bool.not_eq_true'] at h
      have iht := ih h.2
      simp only [collapseSpaces, List.head?_cons] at iht ⊢
      have : (c == ' ' && some d == some ' ') = false := by simpa using h.1
      simp only [this, Bool.false_eq_true, if_false]
      rw [iht]


theorem headNotSp_stripSpL (s : Str) : headNotSp (stripSpL s) = true := by
  induction s with
  | nil => rfl
  | cons c s ih =>
    unfold stripSpL
    split
    · exact ih
    · rename_i hc; simpa [headNotSp] using hc

theorem stripSpR_cases (c : Char) (s : Str) :
    (stripSpR (c :: s) = [] ∧ stripSpR s = [] ∧ c = ' ') ∨ (stripSpR (c :: s) = [c] ∧ stripSpR s = [] ∧ c ≠ ' ')
      ∨ (stripSpR (c :: s) = c :: stripSpR s ∧ stripSpR s ≠ []) := by
  cases hs : stripSpR s with
  | nil =>
    by_cases hc : c = ' '
    · left; simp [stripSpR, hs, hc]
    · right; left; simp [stripSpR, hs, hc]
  | cons d t => right; right; simp [stripSpR, hs]

theorem lastNotSp_stripSpR (s : Str) : lastNotSp (stripSpR s) = true := by
  induction s with
  | nil => rfl
  | cons c s ih =>
    rcases stripSpR_cases c s with ⟨h1, _, _⟩ | ⟨h1, _, hc⟩ | ⟨h1, hne⟩
    · rw [h1]; rfl
    · rw [h1]; simpa [lastNotSp] using hc
    · rw [h1]
      cases hr : stripSpR s with
      | nil => exact absurd hr hne
      | cons d t => rw [hr] at ih; simpa [lastNotSp] using ih

theorem headNotSp_stripSpR {s : Str} (h : headNotSp s = true) : headNotSp (stripSpR s) = true := by
  cases s with
  | nil => rfl
  | cons c s =>
    rcases stripSpR_cases c s with ⟨h1, _, _⟩ | ⟨h1, _, _⟩ | ⟨h1, _⟩ <;> rw [h1]
    · rfl
    · simpa [headNotSp] using h
    · simpa [headNotSp] using h

/-- collapsing never changes the first character: a dropped space is followed by a space -/
theorem head?_collapse (s : Str) : (collapseSpaces s).head? = s.head? := by
  induction s with
  | nil => rfl
  | cons c s ih =>
    simp only [collapseSpaces]
    split
    · rename_i hc
      simp only [Bool.and_eq_true, beq_iff_eq] at hc
      rw [ih, hc.2, hc.1]; rfl
    · rfl

theorem noDoubleSpace_cons (c : Char) (t : Str) :
    Spec.noDoubleSpace (c :: t) = (!(c == ' ' && t.head? == some ' ') && Spec.noDoubleSpace t) := by
  cases t <;> simp [Spec.noDoubleSpace]

theorem noDoubleSpace_collapse (s : Str) : Spec.noDoubleSpace (collapseSpaces s) = true := by
  induction s with
  | nil => rfl
  | cons c s ih =>
    simp only [collapseSpaces]
    split
    · exact ih
    · rename_i hc
      rw [noDoubleSpace_cons, head?_collapse, ih, Bool.and_true, Bool.not_eq_true']
      exact Bool.eq_false_iff.mpr hc

theorem headNotSp_collapse {s : Str} (h : headNotSp s = true) : headNotSp (collapseSpaces s) = true := by
  rw [headNotSp, head?_collapse]; exact h

theorem lastNotSp_collapse : ∀ {s : Str}, lastNotSp s = true → lastNotSp (collapseSpaces s) = true := by
  intro s
  induction s with
  | nil => intro _; rfl
  | cons c s ih =>
    intro h
    cases s with
    | nil => simpa [collapseSpaces] using h
    | cons d t =>
      have iht := ih (show lastNotSp (d :: t) = true from h)
      rw [collapseSpaces]
      split
      · exact iht
      · cases hr : collapseSpaces (d :: t) with
        | nil => have := head?_collapse (d :: t); rw [hr] at this; cases this
        | cons y z => rw [hr] at iht; exact iht
theorem all_stripSpL {p : Char → Bool} {s : Str} (h : s.all p = true) : (stripSpL s).all p = true := by
  induction s with
  | nil => rfl
  | cons c s ih =>
    simp only [List.all_cons, Bool.and_eq_true] at h
    unfold stripSpL
    split
    · exact ih h.2
    · simp [h.1, h.2]

theorem all_stripSpR {p : Char → Bool} {s : Str} (h : s.all p = true) : (stripSpR s).all p = true := by
  induction s with
  | nil => rfl
  | cons c s ih =>
    simp only [List.all_cons, Bool.and_eq_true] at h
    rcases stripSpR_cases c s with ⟨h1, _, _⟩ | ⟨h1, _, _⟩ | ⟨h1, _⟩ <;> rw [h1]
    · rfl
    · simp [h.1]
    · simp [h.1, ih h.2]

theorem all_collapse {p : Char → Bool} {s : Str} (h : s.all p = true) : (collapseSpaces s).all p = true := by
  induction s with
  | nil => rfl
  | cons c s ih =>
    simp only [List.all_cons, Bool.and_eq_true] at h
    simp only [collapseSpaces]
    split
    · exact ih h.2
    · simp [h.1, ih h.2]

theorem postProcess_idem (dt : Option Dt) (s : Str) : postProcess dt (postProcess dt s) = postProcess dt s := by
  unfold postProcess
  split
  · exact normaliseXsdString_idem s
  · split
    · have h1 := noTabNlCr_normalise s
      have h2 : Spec.noTabNlCr (stripAndCollapse (normaliseXsdString s)) = true :=
        all_collapse (all_stripSpR (all_stripSpL h1))
      rw [normaliseXsdString_id h2]
      unfold stripAndCollapse
      have hh : headNotSp (collapseSpaces (stripSpR (stripSpL (normaliseXsdString s)))) = true :=
        headNotSp_collapse (headNotSp_stripSpR (headNotSp_stripSpL _))
      have hl : lastNotSp (collapseSpaces (stripSpR (stripSpL (normaliseXsdString s)))) = true :=
        lastNotSp_collapse (lastNotSp_stripSpR _)
      rw [stripSpL_id hh, stripSpR_id hl, collapseSpaces_id (noDoubleSpace_collapse _)]
    · rfl

theorem postProcess_valid {d : Dt} {s : Str} (hc : d.conv = .none) (hv : Spec.validLex d s = true) :
    postProcess (some d) s = s := by
  cases d <;> simp [Dt.conv] at hc
  · rfl
  · -- normalizedString
    simp only [Spec.validLex, Bool.and_eq_true] at hv
    simp only [postProcess]
    exact normaliseXsdString_id hv.2
  · -- token
    simp only [Spec.validLex, Spec.tokenLex, Bool.and_eq_true] at hv
    obtain ⟨_, ⟨⟨⟨h1, h2⟩, h3⟩, h4⟩⟩ := hv
    have : postProcess (some Dt.token) s = stripAndCollapse (normaliseXsdString s) := rfl
    rw [this, normaliseXsdString_id h1]
    unfold stripAndCollapse
    rw [stripSpL_id (by simpa [headNotSp] using h2), stripSpR_id h3, collapseSpaces_id h4]
  · rfl
  · rfl

end RV.C09

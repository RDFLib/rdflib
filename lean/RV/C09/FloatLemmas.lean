import RV.C09.Lemmas
import RV.C09.FloatModel
/-
  C09 — lemmas about the float model: what `_float_to_xsd` writes is in the lexical space of xsd:double, and
  reading it back with `float(str)` gives the same double (on top of the defining property of `repr`'s digits,
  which the model checks by search: `readsBack`).
-/
namespace RV.C09

/-- the exponent parts `repr` writes, with the exponent they denote; `pyExp` and `Spec.expLex` both accept them -/
def IsExp (x : Str) (e : Int) : Prop :=
  (x = [] ∧ e = 0) ∨ ∃ sg X, x = 'e' :: sg :: X ∧ (sg = '+' ∨ sg = '-') ∧ allDigits X = true ∧ X ≠ [] ∧
    e = if sg = '-' then -(num X : Int) else (num X : Int)

theorem IsExp.pyExp {x : Str} {e : Int} (h : IsExp x e) : pyExp x = some e := by
  rcases h with ⟨rfl, rfl⟩ | ⟨sg, X, rfl, hs, hX, hne, rfl⟩
  · rfl
  · have he : X.isEmpty = false := List.isEmpty_eq_false_iff.mpr hne
    rcases hs with rfl | rfl <;> simp [RV.C09.pyExp, he, hX]

theorem IsExp.expLex {x : Str} {e : Int} (h : IsExp x e) : Spec.expLex x = true := by
  rcases h with ⟨rfl, rfl⟩ | ⟨sg, X, rfl, hs, hX, hne, rfl⟩
  · rfl
  · rcases hs with rfl | rfl <;> simp [Spec.expLex, nonEmptyDigits_iff, hX, hne]

theorem takeWhile_notExp {m x : Str} (hm : ∀ c ∈ m, Spec.notExpChar c = true)
    (hx : ∀ c r, x = c :: r → Spec.notExpChar c = false) :
    (m ++ x).takeWhile Spec.notExpChar = m ∧ (m ++ x).dropWhile Spec.notExpChar = x := by
  rw [List.takeWhile_append_of_pos hm, List.dropWhile_append_of_pos hm]
  cases x with
  | nil => simp
  | cons c r => simp [hx c r rfl]

theorem IsExp.fchar {x : Str} {e : Int} (h : IsExp x e) : ∀ c ∈ x, fchar c := by
  rcases h with ⟨rfl, _⟩ | ⟨sg, X, rfl, hs, hX, _⟩
  · nofun
  · intro c hc
    rcases List.mem_cons.mp hc with rfl | hc
    · exact Or.inr (Or.inr (Or.inl rfl))
    · rcases List.mem_cons.mp hc with rfl | hc
      · rcases hs with rfl | rfl
        · exact Or.inr (Or.inr (Or.inr (Or.inl rfl)))
        · exact Or.inr (Or.inr (Or.inr (Or.inr rfl)))
      · exact Or.inl (mem_allDigits hX c hc)

theorem numeral_exp {ip : Str} (hi : allDigits ip = true) (hne : ip ≠ []) {fp : Option Str}
    (hf : ∀ f, fp = some f → allDigits f = true) {x : Str} {e : Int} (hx : IsExp x e) (neg : Bool) :
    Spec.numeralLex (numeral ip fp x) = true ∧
    pyDecBody neg (numeral ip fp x) = some (.dec neg (num (ip ++ fp.getD [])) (e - (fp.getD []).length)) := by
  have hxh : ∀ c r, x = c :: r → c.isDigit = false ∧ (fp = none → c ≠ '.') ∧ Spec.notExpChar c = false := by
    rcases hx with ⟨rfl, _⟩ | ⟨_, _, rfl, _⟩ <;> intro c r h <;> cases h
    exact ⟨rfl, fun _ => by decide, rfl⟩
  have hm : ∀ c ∈ ip ++ fracPart fp, Spec.notExpChar c = true := by
    have dig : ∀ {y : Str}, allDigits y = true → ∀ c ∈ y, Spec.notExpChar c = true := fun hy c hc =>
      have hc := mem_allDigits hy c hc
      by simp [Spec.notExpChar, digit_ne hc (d := 'e') rfl, digit_ne hc (d := 'E') rfl]
    intro c hc
    rcases List.mem_append.mp hc with h | h
    · exact dig hi c h
    · cases fp with
      | none => cases h
      | some f =>
        rcases List.mem_cons.mp h with rfl | h
        · rfl
        · exact dig (hf f rfl) c h
  constructor
  · have hsplit := takeWhile_notExp hm (fun c r h => (hxh c r h).2.2)
    have hb := decBodyLex_numeral hi hf (Or.inl hne)
    unfold numeral at hb ⊢
    rw [List.append_nil] at hb
    rw [Spec.numeralLex, ← List.append_assoc, hsplit.1, hsplit.2, hb, hx.expLex]; rfl
  · rw [pyDecBody_numeral neg hi hf (fun c r h => ⟨(hxh c r h).1, (hxh c r h).2.1⟩), hx.pyExp,
      List.isEmpty_eq_false_iff.mpr hne]; rfl

theorem pow10_ne (a : Nat) : 10 ^ a ≠ 0 := Nat.pos_iff_ne_zero.mp (Nat.pow_pos (by decide))

theorem decRat_scale (c k : Nat) (e : Int) : decRat (c * 10 ^ k) e = decRat c (e + k) := by
  unfold decRat
  by_cases h1 : 0 ≤ e
  · have h2 : 0 ≤ e + (k : Int) := by omega
    rw [if_pos h1, if_pos h2]
    have : (e + (k : Int)).toNat = k + e.toNat := by omega
    rw [this, Nat.pow_add, Nat.mul_assoc]
  · rw [if_neg h1]
    by_cases h2 : 0 ≤ e + (k : Int)
    · rw [if_pos h2]
      rw [Rat.mkRat_eq_iff (pow10_ne _) (by decide)]
      have : k = (e + (k : Int)).toNat + (-e).toNat := by omega
      generalize (e + (k : Int)).toNat = a at this
      generalize (-e).toNat = b at this
      subst this
      have : c * 10 ^ (a + b) * 1 = c * 10 ^ a * 10 ^ b := by simp [Nat.pow_add, Nat.mul_assoc]
      exact_mod_cast this
    · rw [if_neg h2]
      rw [Rat.mkRat_eq_iff (pow10_ne _) (pow10_ne _)]
      have : (-e).toNat = k + (-(e + (k : Int))).toNat := by omega
      generalize (-(e + (k : Int))).toNat = a at this
      generalize (-e).toNat = b at this
      subst this
      have : c * 10 ^ k * 10 ^ a = c * 10 ^ (k + a) := by simp [Nat.pow_add, Nat.mul_assoc]
      exact_mod_cast this

/-- every layout is a numeral with an exponent part, denoting the decimal `0.ds · 10^decpt` -/
theorem fmtRepr_shape {ds : Str} (hne : ds ≠ []) (hd : allDigits ds = true) (decpt : Int) :
    ∃ ip fp x e, fmtRepr false ds decpt = numeral ip fp x ∧ allDigits ip = true ∧ ip ≠ [] ∧
      (∀ f, fp = some f → allDigits f = true) ∧ IsExp x e ∧
      decRat (num (ip ++ fp.getD [])) (e - (fp.getD []).length) = decRat (num ds) (decpt - ds.length) := by
  have h0 : allDigits ['0'] = true := rfl
  simp only [fmtRepr, Bool.false_eq_true, if_false]
  split
  · -- exponent form
    have hX : IsExp ('e' :: (if decpt - 1 < 0 then '-' else '+') :: digitsW 2 (decpt - 1).natAbs) (decpt - 1) := by
      refine Or.inr ⟨_, _, rfl, by split <;> simp, allDigits_digitsW _ _, ?_, ?_⟩
      · exact digitsW_ne_nil _ _
      · rw [num_digitsW]
        by_cases h : decpt - 1 < 0 <;> simp [h] <;> omega
    cases ds with
    | nil => exact absurd rfl hne
    | cons d r =>
      rw [allDigits_cons, Bool.and_eq_true] at hd
      have hd1 : allDigits [d] = true := by rw [allDigits_cons, hd.1]; rfl
      cases r with
      | nil => exact ⟨[d], none, _, _, rfl, hd1, by simp, nofun, hX, by simp⟩
      | cons d2 r2 =>
        refine ⟨[d], some (d2 :: r2), _, _, rfl, hd1, by simp, fun f hf => by cases hf; exact hd.2, hX, ?_⟩
        simp only [Option.getD_some, List.length_cons]
        congr 1
        omega
  · split
    · -- 0.000ddd
      refine ⟨['0'], some (List.replicate (-decpt).toNat '0' ++ ds), [], 0, by simp [numeral, fracPart], h0, by simp, ?_,
        Or.inl ⟨rfl, rfl⟩, ?_⟩
      · intro f hf; cases hf
        rw [allDigits_append, allDigits_replicate_zero, hd]; rfl
      · have : ['0'] ++ (List.replicate (-decpt).toNat '0' ++ ds) = List.replicate ((-decpt).toNat + 1) '0' ++ ds := by
          simp [List.replicate_succ]
        simp only [Option.getD_some, this, num_lead0, List.length_append, List.length_replicate]
        congr 1 <;> omega
    · split
      · -- ddd000.0
        refine ⟨ds ++ List.replicate (decpt.toNat - ds.length) '0', some ['0'], [], 0, by simp [numeral, fracPart], ?_, ?_,
          fun f hf => by cases hf; exact h0, Or.inl ⟨rfl, rfl⟩, ?_⟩
        · rw [allDigits_append, allDigits_replicate_zero, hd]; rfl
        · intro e; exact hne (List.append_eq_nil_iff.mp e).1
        · have : (ds ++ List.replicate (decpt.toNat - ds.length) '0') ++ ['0'] =
              ds ++ List.replicate (decpt.toNat - ds.length + 1) '0' := by
            rw [List.append_assoc, List.replicate_succ']
          simp only [Option.getD_some, this, num_trail0, decRat_scale]
          congr 1
          simp only [List.length_cons, List.length_nil]
          omega
      · -- dd.ddd
        rename_i h1 h2 h3
        refine ⟨ds.take decpt.toNat, some (ds.drop decpt.toNat), [], 0, by simp [numeral, fracPart], allDigits_take hd _, ?_,
          fun f hf => by cases hf; exact allDigits_drop hd _, Or.inl ⟨rfl, rfl⟩, ?_⟩
        · cases ds with
          | nil => exact absurd rfl hne
          | cons a b =>
            obtain ⟨k, hk⟩ : ∃ k, decpt.toNat = k + 1 := ⟨decpt.toNat - 1, by omega⟩
            rw [hk]; simp
        · simp only [Option.getD_some, List.take_append_drop, List.length_drop]
          congr 1
          omega

theorem fmtRepr_neg (neg : Bool) (ds : Str) (decpt : Int) :
    fmtRepr neg ds decpt = if neg then '-' :: fmtRepr false ds decpt else fmtRepr false ds decpt := by
  cases neg <;> simp [fmtRepr]

theorem Signed.doubleLex_eq {s b : Str} {neg : Bool} (h : Signed s neg b) :
    Spec.doubleLex s = (s == ['N', 'a', 'N'] || (b == ['I', 'N', 'F'] || Spec.numeralLex b)) := by
  cases h with
  | minus | plus => rfl
  | bare hm hp => exact Spec.doubleLex.eq_3 _ hp hm

theorem doubleLex_fmtRepr (neg : Bool) {ds : Str} (hne : ds ≠ []) (hd : allDigits ds = true) (decpt : Int) :
    Spec.doubleLex (fmtRepr neg ds decpt) = true := by
  obtain ⟨ip, fp, x, e, hs, hi, hine, hf, hx, _⟩ := fmtRepr_shape hne hd decpt
  rw [fmtRepr_neg, hs, (Signed.of_numeral neg hi hine fp x).doubleLex_eq, (numeral_exp hi hine hf hx false).1]
  simp

theorem underscoresOk_none {b : Str} (h : ∀ c ∈ b, c ≠ '_') : ∀ p, p ≠ some '_' → underscoresOk p b = true := by
  induction b with
  | nil => intro p hp; simp [underscoresOk, hp]
  | cons c cs ih =>
    intro p hp
    have hc : c ≠ '_' := h c (by simp)
    have := ih (fun d hd => h d (by simp [hd])) (some c) (by simp [hc])
    simp [underscoresOk, hc, hp, this]

/-- a signed numeral beginning with a digit: no white space, no underscores, not a special value, so the numeral
    parser is reached -/
theorem Signed.pyFloat_eq {s b : Str} {neg : Bool} (h : Signed s neg b) (hb : ∃ c r, b = c :: r ∧ c.isDigit = true)
    (hch : ∀ c ∈ b, fchar c) : pyFloat s = decToFloat (pyDecBody neg b) := by
  obtain ⟨c0, r0, rfl, h0⟩ := hb
  have hus : ∀ c ∈ c0 :: r0, c ≠ '_' := fun c hc => (fchar_props (hch c hc)).2
  have hi : c0 ≠ 'i' := digit_ne h0 (by decide)
  have hn : c0 ≠ 'n' := digit_ne h0 (by decide)
  have hm : c0 ≠ '-' := digit_ne h0 (by decide)
  have hlc : lowerC c0 = c0 := by
    rw [isDigit_iff] at h0
    unfold lowerC
    have : ¬ (65 ≤ c0.toNat ∧ c0.toNat ≤ 90) := by omega
    simp only [Bool.and_eq_true, decide_eq_true_eq, this, if_false]
  have hlow : ((c0 :: r0).map lowerC == ['i', 'n', 'f']) = false ∧
      ((c0 :: r0).map lowerC == ['i', 'n', 'f', 'i', 'n', 'i', 't', 'y']) = false ∧
      ((c0 :: r0).map lowerC == ['n', 'a', 'n']) = false := by
    simp [List.map, hlc, hi, hn]
  have huo := underscoresOk_none hus none (by simp)
  -- whatever the sign: nothing to strip, the sign is seen, and dropped
  have hpre : strip s = s ∧ (s.head? == some '-') = neg ∧ dropSign s = c0 :: r0 := by
    refine ⟨strip_noWs (h.forall_mem (by decide) (by decide) (fun c hc => (fchar_props (hch c hc)).1)), ?_, ?_⟩
    · cases h with
      | minus | plus => rfl
      | bare => simp [hm]
    · cases h with
      | minus | plus => rfl
      | bare hm' hp' => exact dropSign.eq_3 _ hm' hp'
  unfold pyFloat
  simp only [hpre.1, hpre.2.1, hpre.2.2, hlow.1, hlow.2.1, hlow.2.2, huo, dropUnderscores_id hus]
  simp

theorem pyFloat_fmtRepr (neg : Bool) {ds : Str} (hne : ds ≠ []) (hd : allDigits ds = true) (decpt : Int) :
    pyFloat (fmtRepr neg ds decpt) = some (roundRat neg (decRat (num ds) (decpt - ds.length))) := by
  obtain ⟨ip, fp, x, e, hs, hi, hine, hf, hx, hval⟩ := fmtRepr_shape hne hd decpt
  rw [fmtRepr_neg, hs, (Signed.of_numeral neg hi hine fp x).pyFloat_eq (numeral_head hi hine fp x)
    (fchar_numeral hi hf hx.fchar), (numeral_exp hi hine hf hx neg).2]
  simp only [decToFloat, roundDec, hval]

theorem decRat_zero (s : Int) : decRat 0 s = 0 := by
  unfold decRat
  split <;> simp

theorem roundDec_zero (neg : Bool) (s : Int) : roundDec neg 0 s = .fin neg 0 0 := by
  simp [roundDec, decRat_zero, roundRat, roundPQ]

theorem shortest_spec {neg : Bool} {m : Nat} {e : Int} {ds : Str} {decpt : Int} (hm : m ≠ 0)
    (h : shortest neg m e = some (ds, decpt)) :
    ∃ D s, roundDec neg D s = .fin neg m e ∧ D ≠ 0 ∧ ds = rstrip0 (digits D) ∧ decpt = s + (ndigits D : Int) ∧
      ds ≠ [] ∧ allDigits ds = true := by
  have key : ∀ (P Q : Nat) (t : Int) fuel k, shortestFrom (.fin neg m e) neg P Q t fuel k = some (ds, decpt) →
      ∃ D s, readsBack (.fin neg m e) neg D s = true ∧ ds = rstrip0 (digits D) ∧ decpt = s + (ndigits D : Int) := by
    intro P Q t fuel
    induction fuel with
    | zero => intro k h; simp [shortestFrom] at h
    | succ f ih =>
      intro k h
      simp only [shortestFrom] at h
      split at h
      · rename_i r hr
        cases h
        unfold tryDigits at hr
        split at hr
        · rename_i hrb; cases hr; exact ⟨_, _, hrb, rfl, rfl⟩
        · split at hr
          · rename_i hrb; cases hr; exact ⟨_, _, hrb, rfl, rfl⟩
          · cases hr
      · exact ih _ h
  obtain ⟨D, s, hrb, h2, h3⟩ := key _ _ _ _ _ h
  have hrb' : roundDec neg D s = .fin neg m e := by simpa [readsBack] using hrb
  have hD : D ≠ 0 := by
    intro e0
    subst e0
    rw [roundDec_zero] at hrb'
    injection hrb' with _ h2 _
    exact hm h2.symm
  exact ⟨D, s, hrb', hD, h2, h3, by rw [h2]; exact rstrip0_ne_nil (by rw [num_digits]; exact hD),
    by rw [h2]; exact allDigits_rstrip0 (allDigits_digits D)⟩

theorem floatToXsd_special {v : FVal} {s : Str} (hv : ∀ neg m e, v ≠ .fin neg m e) (h : floatToXsd v = some s) :
    Spec.doubleLex s = true ∧ pyFloat s = some v := by
  cases v with
  | nan => simp only [floatToXsd, Option.some.injEq] at h; subst h; decide +kernel
  | inf neg => cases neg <;> (simp only [floatToXsd, Option.some.injEq] at h; subst h; decide +kernel)
  | fin neg m e => exact absurd rfl (hv neg m e)

theorem doubleLex_floatToXsd {v : FVal} {s : Str} (h : floatToXsd v = some s) : Spec.doubleLex s = true := by
  cases v with
  | nan | inf => exact (floatToXsd_special (fun _ _ _ e => by cases e) h).1
  | fin neg m e =>
    simp only [floatToXsd] at h
    by_cases hm : m = 0
    · rw [if_pos hm] at h
      cases h
      exact doubleLex_fmtRepr neg (by simp) (by decide) 1
    · rw [if_neg hm] at h
      obtain ⟨⟨ds, decpt⟩, hs, rfl⟩ := Option.map_eq_some_iff.mp h
      obtain ⟨_, _, _, _, _, _, hne, hd⟩ := shortest_spec hm hs
      exact doubleLex_fmtRepr neg hne hd _

theorem decRat_digits (D : Nat) (s : Int) :
    decRat (num (rstrip0 (digits D))) (s + (ndigits D : Int) - ((rstrip0 (digits D)).length : Int)) = decRat D s := by
  obtain ⟨z, hz⟩ := rstrip0_spec (digits D)
  have hD : D = num (rstrip0 (digits D)) * 10 ^ z := by
    have := num_digits D
    rw [hz, num_trail0] at this
    exact this.symm
  have hlen : (ndigits D : Int) = ((rstrip0 (digits D)).length : Int) + z := by
    unfold ndigits
    conv => lhs; rw [hz]
    simp
  conv => rhs; rw [hD]
  rw [decRat_scale, hlen]
  congr 1
  omega

theorem pyFloat_floatToXsd {neg : Bool} {m : Nat} {e : Int} {s : Str} (hc : m = 0 → e = 0)
    (h : floatToXsd (.fin neg m e) = some s) : pyFloat s = some (.fin neg m e) := by
  simp only [floatToXsd] at h
  by_cases hm : m = 0
  · rw [if_pos hm] at h
    cases h
    rw [hm, hc hm, pyFloat_fmtRepr neg (by simp) (by decide) 1]
    rw [show num ['0'] = 0 from rfl, decRat_zero]
    simp [roundRat, roundPQ]
  · rw [if_neg hm] at h
    obtain ⟨⟨ds, decpt⟩, hs, rfl⟩ := Option.map_eq_some_iff.mp h
    obtain ⟨D, sx, hrb, _, rfl, rfl, hne, hd⟩ := shortest_spec hm hs
    rw [pyFloat_fmtRepr neg hne hd, decRat_digits]
    exact congrArg some hrb

end RV.C09

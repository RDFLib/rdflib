import RV.C09.Lemmas
import RV.C09.Claims
/-
  C09 — dates and times: what `isoformat()` writes is read back by `parse_xsd_date` / `fromisoformat` and lies in the
  XSD lexical space; and, in the other direction, every form of the XSD lexical space of xsd:date / xsd:time /
  xsd:dateTime that CPython's types can hold is given exactly the fields XSD reads from it (`Spec.dateVal`,
  `Spec.timeVal`, `Spec.dateTimeVal`).
-/
namespace RV.C09

theorem list_len4 {s : Str} (h : s.length = 4) : ∃ a b c d, s = [a, b, c, d] := by
  match s, h with
  | [a, b, c, d], _ => exact ⟨a, b, c, d, rfl⟩

theorem digit_seps {c : Char} (h : c.isDigit = true) :
    c ≠ '-' ∧ c ≠ 'Z' ∧ c ≠ 'z' :=
  ⟨digit_ne h (by decide), digit_ne h (by decide), digit_ne h (by decide)⟩

theorem allDigits4 {a b c d : Char} :
    allDigits [a, b, c, d] = true ↔ allDigits [a, b] = true ∧ allDigits [c, d] = true := by
  simp [allDigits, and_assoc]

/-- The decimal digit character of `n % 10`.  A fixed-width field is rewritten into its digit characters (`pad2_eq`,
    `digitsW4_eq`): the printers of dates, times and zones get equations, on which the readers — patterns on
    characters — compute. -/
def dc (n : Nat) : Char := (n % 10).digitChar

@[simp] theorem isDigit_dc (n : Nat) : (dc n).isDigit = true := by
  simp [dc, Nat.isDigit_digitChar, Nat.mod_lt]

theorem digitsW_succ {w n : Nat} (hw : 0 < w) (h : n < 10 ^ (w + 1)) :
    digitsW (w + 1) n = digitsW w (n / 10) ++ [dc n] := by
  have hl : (digits (n / 10)).length ≤ w :=
    (Nat.length_toDigits_le_iff (by decide) hw).mpr (by rw [Nat.pow_succ] at h; omega)
  unfold digitsW zfill digits dc
  rw [Nat.toDigits_eq_if (by decide)]
  split
  · rename_i h10
    have : Nat.toDigits 10 (n / 10) = ['0'] := by rw [Nat.div_eq_of_lt h10]; rfl
    rw [this, Nat.mod_eq_of_lt h10]
    obtain ⟨k, rfl⟩ : ∃ k, w = k + 1 := ⟨w - 1, by omega⟩
    simp [List.replicate_succ']
  · simp only [List.length_append, List.length_singleton, ← List.append_assoc]
    -- both sides are zeros, the digits of `n / 10`, the last digit: the numbers of zeros agree
    congr 3
    unfold digits at hl
    omega

theorem digitsW_one {n : Nat} (h : n < 10) : digitsW 1 n = [dc n] := by
  simp [digitsW, zfill, digits, Nat.toDigits_of_lt_base h, dc, Nat.mod_eq_of_lt h]

theorem pad2_eq {n : Nat} (h : n < 100) : pad2 n = [dc (n / 10), dc n] := by
  rw [pad2, digitsW_succ (by decide) (by omega), digitsW_one (by omega)]; rfl

theorem digitsW4_eq {n : Nat} (h : n ≤ 9999) : digitsW 4 n = [dc (n / 1000), dc (n / 100), dc (n / 10), dc n] := by
  rw [digitsW_succ (by decide) (by omega), digitsW_succ (by decide) (by omega), ← pad2, pad2_eq (by omega)]
  simp [Nat.div_div_eq_div_mul]

theorem num_dc2 {n : Nat} (h : n < 100) : num [dc (n / 10), dc n] = n := by
  rw [← pad2_eq h]; exact num_digitsW 2 n

theorem num_dc4 {n : Nat} (h : n ≤ 9999) : num [dc (n / 1000), dc (n / 100), dc (n / 10), dc n] = n := by
  rw [← digitsW4_eq h]; exact num_digitsW 4 n

theorem dayOk_iff {y m d : Nat} (hy : 1 ≤ y ∧ y ≤ 9999) : Spec.dayOk false y m d = validYMD y m d := by
  simp [Spec.dayOk, Spec.isLeapAstro, validYMD, daysInMonth, isLeap, hy.1, hy.2]

theorem validYMD_bounds {y m d : Nat} (hv : validYMD y m d = true) : (1 ≤ y ∧ y ≤ 9999) ∧ m < 100 ∧ d < 100 := by
  simp only [validYMD, Bool.and_eq_true, decide_eq_true_eq] at hv
  obtain ⟨⟨⟨⟨⟨hy1, hy2⟩, _⟩, hm2⟩, _⟩, hd2⟩ := hv
  have : daysInMonth y m ≤ 31 := by
    unfold daysInMonth
    split
    · split <;> omega
    · split <;> omega
  exact ⟨⟨hy1, hy2⟩, by omega, by omega⟩

theorem dateIso_eq {y m d : Nat} (hv : validYMD y m d = true) :
    dateIso y m d = [dc (y / 1000), dc (y / 100), dc (y / 10), dc y, '-', dc (m / 10), dc m, '-', dc (d / 10), dc d] := by
  obtain ⟨hy, hm, hd⟩ := validYMD_bounds hv
  simp [dateIso, digitsW4_eq hy.2, pad2_eq hm, pad2_eq hd]

theorem mkDate_of_valid {y m d : Str} (hy : allDigits y = true) (hm : allDigits m = true) (hd : allDigits d = true)
    (hv : validYMD (num y) (num m) (num d) = true) : mkDate y m d = some (.date (num y) (num m) (num d)) := by
  simp [mkDate, hy, hm, hd, hv]

theorem mkDate_dc {y m d : Nat} (hv : validYMD y m d = true) :
    mkDate [dc (y / 1000), dc (y / 100), dc (y / 10), dc y] [dc (m / 10), dc m] [dc (d / 10), dc d] = some (.date y m d) := by
  obtain ⟨hy, hm, hd⟩ := validYMD_bounds hv
  simp [mkDate, allDigits, num_dc4 hy.2, num_dc2 hm, num_dc2 hd, hv]

theorem lastIdx_none {c : Char} {s : Str} (h : c ∉ s) : lastIdx c s = none := by
  induction s with
  | nil => rfl
  | cons x xs ih =>
    rw [List.mem_cons, not_or] at h
    have : (x == c) = false := by simpa using Ne.symm h.1
    simp [lastIdx, ih h.2, this]

theorem lastIdx_append_cons {c : Char} (xs : Str) {ys : Str} (h : c ∉ ys) :
    lastIdx c (xs ++ c :: ys) = some xs.length := by
  induction xs with
  | nil => simp [lastIdx, lastIdx_none h]
  | cons x xs ih => simp [lastIdx, ih]

theorem dateCut_plain {s : Str} (hT : 'T' ∉ s) (hp : '+' ∉ s) (hc : ':' ∉ s) : dateCut s = s := by
  unfold dateCut
  rw [if_neg (by simpa using hT), lastIdx_none hp]
  cases lastIdx '-' s with
  | none => rfl
  | some i =>
    have : ((s.drop (i + 1)).contains ':') = false := by
      simpa using fun h => hc (List.mem_of_mem_drop h)
    simp only [this, Bool.false_eq_true, if_false]

theorem dateCut_zone {xs t : Str} {sg : Char} (hsg : sg = '+' ∨ sg = '-') (hxs : xs ≠ [])
    (hT : 'T' ∉ xs ++ sg :: t) (hp : '+' ∉ xs) (ht : '+' ∉ t ∧ '-' ∉ t) (hc : ':' ∈ t) :
    dateCut (xs ++ sg :: t) = xs := by
  unfold dateCut
  rw [if_neg (by simpa using hT)]
  obtain ⟨n, hn⟩ : ∃ n, xs.length = n + 1 := by
    cases xs with
    | nil => exact absurd rfl hxs
    | cons _ r => exact ⟨r.length, rfl⟩
  rcases hsg with rfl | rfl
  · rw [lastIdx_append_cons xs ht.1, hn]
    simp only [← hn, List.take_left']
  · have : '+' ∉ xs ++ '-' :: t := by simp [hp, ht.1]
    rw [lastIdx_none this, lastIdx_append_cons xs ht.2]
    have hd : (xs ++ '-' :: t).drop (xs.length + 1) = t := by
      rw [show xs ++ '-' :: t = (xs ++ ['-']) ++ t by simp, List.drop_left' (by simp)]
    simp [hd, hc, List.take_left']

theorem not_mem_of_class {x sep : Char} {s : Str} (hs : ∀ c ∈ s, c.isDigit = true ∨ c = sep)
    (hx : x.isDigit = false) (hx' : x ≠ sep) : x ∉ s := by
  intro hmem
  rcases hs x hmem with h | h
  · rw [h] at hx; cases hx
  · exact hx' h

/-- the string surgery of `parse_xsd_date` on `YYYY-MM-DD` followed by any XSD time zone: the zone is cut off -/
theorem parseXsdDate_body_tz {y1 y2 y3 y4 m1 m2 d1 d2 : Char} {z : Str}
    (hy : allDigits [y1, y2, y3, y4] = true) (hmd : allDigits [m1, m2, d1, d2] = true) (hz : Spec.tzLex z = true) :
    parseXsdDate ([y1, y2, y3, y4, '-', m1, m2, '-', d1, d2] ++ z) = mkDate [y1, y2, y3, y4] [m1, m2] [d1, d2] := by
  simp only [allDigits, List.all_cons, List.all_nil, Bool.and_true, Bool.and_eq_true] at hy hmd
  obtain ⟨hy1, hy2, hy3, hy4⟩ := hy
  obtain ⟨hm1, hm2, hd1, hd2⟩ := hmd
  have hB : ∀ c ∈ [y1, y2, y3, y4, '-', m1, m2, '-', d1, d2], c.isDigit = true ∨ c = '-' := by
    simp [hy1, hy2, hy3, hy4, hm1, hm2, hd1, hd2]
  have plain := dateCut_plain (not_mem_of_class hB (x := 'T') rfl (by decide)) (not_mem_of_class hB (x := '+') rfl (by decide))
    (not_mem_of_class hB (x := ':') rfl (by decide))
  -- once `Z` and zone are gone, `date.fromisoformat` sees the body
  have fin : ∀ s0 s1, dateStripZ s0 = s1 → s1.head? = some y1 →
      dateCut s1 = [y1, y2, y3, y4, '-', m1, m2, '-', d1, d2] →
      parseXsdDate s0 = mkDate [y1, y2, y3, y4] [m1, m2] [d1, d2] := by
    intro s0 s1 hs hh hc
    have : (s1.head? == some '-') = false := by rw [hh]; simpa using (digit_seps hy1).1
    unfold parseXsdDate
    simp only [hs, this, Bool.false_eq_true, if_false, hc]
    simp [dateFinish, pyDateFromIso]
  have keep : ∀ {s : Str} {c : Char}, lastChar? s = some c → c.isDigit = true → dateStripZ s = s := by
    intro s c hl hc
    obtain ⟨_, hZ, hz⟩ := digit_seps hc
    simp [dateStripZ, hl, hZ, hz]
  unfold Spec.tzLex at hz
  -- no zone; `Z`; `±hh:mm`; nothing else is a zone
  split at hz
  · exact fin _ _ (keep (c := d2) rfl hd2) rfl plain
  · exact fin _ _ (show dateStripZ _ = [y1, y2, y3, y4, '-', m1, m2, '-', d1, d2] from rfl) rfl plain
  · rename_i sg a b c d
    simp only [Bool.and_eq_true, Bool.or_eq_true, List.all_cons, List.all_nil, Bool.and_true, beq_iff_eq] at hz
    obtain ⟨⟨hsg, ⟨ha, hb, hc, hdd⟩⟩, _⟩ := hz
    have hZ : ∀ c' ∈ [a, b, ':', c, d], c'.isDigit = true ∨ c' = ':' := by simp [ha, hb, hc, hdd]
    have hT : 'T' ∉ [y1, y2, y3, y4, '-', m1, m2, '-', d1, d2] ++ sg :: [a, b, ':', c, d] := by
      intro hmem
      rcases List.mem_append.mp hmem with h | h
      · exact not_mem_of_class hB rfl (by decide) h
      · rcases List.mem_cons.mp h with h | h
        · rcases hsg with e | e <;> (rw [e] at h; exact absurd h (by decide))
        · exact not_mem_of_class hZ rfl (by decide) h
    exact fin _ _ (keep (c := d) rfl hdd) rfl
      (dateCut_zone hsg (by simp) hT (not_mem_of_class hB rfl (by decide))
        ⟨not_mem_of_class hZ rfl (by decide), not_mem_of_class hZ rfl (by decide)⟩ (by simp))
  · cases hz

theorem dateBodyLex_dateIso {y m d : Nat} (hv : validYMD y m d = true) (tail : Str) (p : Str → Bool) :
    Spec.dateBodyLex false (dateIso y m d ++ tail) p = p tail := by
  obtain ⟨hy, hm, hd⟩ := validYMD_bounds hv
  have hsp := span_digits_cons (s := [dc (y / 1000), dc (y / 100), dc (y / 10), dc y]) (by simp [allDigits]) '-' rfl
    (dc (m / 10) :: dc m :: '-' :: dc (d / 10) :: dc d :: tail)
  rw [dateIso_eq hv]
  simp only [List.cons_append, List.nil_append] at hsp ⊢
  simp [Spec.dateBodyLex, hsp.1, hsp.2, Spec.yearLex, natVal_eq_num, num_dc4 hy.2, num_dc2 hm, num_dc2 hd,
    dayOk_iff hy, hv]

theorem dateIso_head {y m d : Nat} (hv : validYMD y m d = true) (tail r : Str) : dateIso y m d ++ tail ≠ '-' :: r := by
  rw [dateIso_eq hv]
  intro e
  injection e with e1 _
  exact (digit_seps (isDigit_dc _)).1 e1

theorem parseXsdDate_dateIso {y m d : Nat} (hv : validYMD y m d = true) :
    parseXsdDate (dateIso y m d) = some (.date y m d) ∧ Spec.dateLex (dateIso y m d) = true := by
  constructor
  · have := parseXsdDate_body_tz (z := []) (y1 := dc (y / 1000)) (y2 := dc (y / 100)) (y3 := dc (y / 10)) (y4 := dc y)
      (m1 := dc (m / 10)) (m2 := dc m) (d1 := dc (d / 10)) (d2 := dc d) (by simp [allDigits]) (by simp [allDigits]) rfl
    rw [List.append_nil] at this
    rw [dateIso_eq hv, this, mkDate_dc hv]
  · have := dateBodyLex_dateIso hv [] Spec.tzLex
    rw [List.append_nil] at this
    unfold Spec.dateLex
    split
    · rename_i r heq; exact absurd ((List.append_nil _).trans heq) (dateIso_head hv [] r)
    · exact this

theorem mkDate_valid {y m d : Str} {v : PyVal} (h : mkDate y m d = some v) :
    ∃ a b c, v = .date a b c ∧ validYMD a b c = true := by
  unfold mkDate at h
  split at h
  · rename_i hc
    simp only [Bool.and_eq_true] at hc
    cases h; exact ⟨_, _, _, rfl, hc.2⟩
  · cases h

theorem parseXsdDate_valid {s : Str} {v : PyVal} (h : parseXsdDate s = some v) :
    ∃ a b c, v = .date a b c ∧ validYMD a b c = true := by
  have hiso : ∀ {t : Str}, pyDateFromIso t = some v → ∃ a b c, v = .date a b c ∧ validYMD a b c = true := by
    intro t ht
    unfold pyDateFromIso at ht
    split at ht
    · exact mkDate_valid ht
    · exact mkDate_valid ht
    · cases ht
  simp only [parseXsdDate, dateFinish] at h
  -- every branch of the surgery ends in `none` or in `date.fromisoformat`
  repeat' split at h
  all_goals first | (cases h; done) | exact hiso h


theorem TzOk_of_XsdTz {tz : Option Int} (h : XsdTz tz) : TzOk tz := by
  cases tz with
  | none => trivial
  | some off => obtain ⟨a, b, c⟩ := h; exact ⟨a, by omega, by omega⟩

/-- A zone offset CPython and the lemmas below can write is a number of whole minutes below a day; all arithmetic on
    zones is done on that number, not on microseconds. -/
theorem TzOk.minutes {off : Int} (h : TzOk (some off)) : ∃ n, off.natAbs = n * 60000000 ∧ n < 1440 :=
  ⟨off.natAbs / 60000000, by have := h.1; omega, by have := h.2; omega⟩

theorem tzIso_eq {off : Int} {n : Nat} (hn : off.natAbs = n * 60000000) (hlt : n < 1440) :
    tzIso (some off) =
      [if off < 0 then '-' else '+', dc (n / 60 / 10), dc (n / 60), ':', dc (n % 60 / 10), dc (n % 60)] := by
  have e : off.natAbs % 1000000 = 0 ∧ off.natAbs / 1000000 = n * 60 := by omega
  have e3 : n * 60 / 3600 = n / 60 := by
    rw [show 3600 = 60 * 60 from rfl, ← Nat.div_div_eq_div_mul, Nat.mul_div_cancel n (by decide)]
  simp only [tzIso, e.1, e.2, e3, Nat.mul_mod_left, Nat.mul_div_cancel n (show 0 < 60 by decide), bne_self_eq_false,
    Bool.false_eq_true, if_false, pad2_eq (show n / 60 < 100 by omega), pad2_eq (show n % 60 < 100 by omega)]
  rfl

theorem parseTzShape_hhmm {sg a b c d : Char} (hsg : (sg == '+' || sg == '-') = true)
    (hd : allDigits [a, b, c, d] = true) :
    parseTzShape [sg, a, b, ':', c, d] = some (some (sg == '-', num [a, b], num [c, d], 0, [])) := by
  simp [parseTzShape, hsg, hd]

theorem tzOfShape_hm (neg : Bool) {hh mm : Nat} (h : hh * 60 + mm < 1440) :
    tzOfShape (some (neg, hh, mm, 0, [])) =
      some (some (if neg then -(((hh * 60 + mm) * 60000000 : Nat) : Int) else (((hh * 60 + mm) * 60000000 : Nat) : Int))) := by
  have e : (hh * 3600 + mm * 60 + 0) * 1000000 + fracToMicrosTrunc [] = (hh * 60 + mm) * 60000000 := by
    rw [show fracToMicrosTrunc [] = 0 from rfl]; omega
  have : (hh * 60 + mm) * 60000000 < 86400000000 := by omega
  simp only [tzOfShape, e, this, if_true]

theorem tzIso_head (tz : Option Int) : ∀ c r, tzIso tz = c :: r → c.isDigit = false ∧ c ≠ '.' := by
  intro c r e
  cases tz with
  | none => cases e
  | some off =>
    -- each of the three layouts begins with the sign
    have : (tzIso (some off)).head? = some (if off < 0 then '-' else '+') := by
      simp only [tzIso]
      split
      · rfl
      · split <;> rfl
    rw [e] at this
    cases this
    split <;> exact ⟨rfl, by decide⟩

theorem tzIso_no_point (tz : Option Int) (r : Str) : tzIso tz ≠ '.' :: r :=
  fun e => (tzIso_head tz _ _ e).2 rfl

theorem parseTz_tzIso {tz : Option Int} (h : TzOk tz) :
    ∃ raw, parseTzShape (tzIso tz) = some raw ∧ tzOfShape raw = some tz := by
  cases tz with
  | none => exact ⟨none, rfl, rfl⟩
  | some off =>
    obtain ⟨n, hn, hlt⟩ := h.minutes
    rw [tzIso_eq hn hlt]
    refine ⟨_, parseTzShape_hhmm (by split <;> rfl) (by simp [allDigits]), ?_⟩
    rw [num_dc2 (show n / 60 < 100 by omega), num_dc2 (show n % 60 < 100 by omega), tzOfShape_hm _ (by omega),
      Nat.div_add_mod' n 60, ← hn]
    by_cases hneg : off < 0 <;> simp [hneg] <;> omega

theorem tzLex_tzIso {tz : Option Int} (h : XsdTz tz) : Spec.tzLex (tzIso tz) = true := by
  cases tz with
  | none => rfl
  | some off =>
    obtain ⟨n, hn, hlt⟩ := (TzOk_of_XsdTz h).minutes
    have h14 : n ≤ 840 := by have := h.2; omega
    have hsg : ((if off < 0 then '-' else '+') == '+' || (if off < 0 then '-' else '+') == '-') = true := by
      by_cases hn : off < 0 <;> simp [hn]
    rw [tzIso_eq hn hlt]
    simp only [Spec.tzLex, hsg, List.all_cons, List.all_nil, isDigit_dc, Bool.and_self, natVal_eq_num,
      num_dc2 (show n / 60 < 100 by omega), num_dc2 (show n % 60 < 100 by omega), Bool.true_and,
      Bool.or_eq_true, Bool.and_eq_true, decide_eq_true_eq, beq_iff_eq]
    omega

theorem tz_xsd {z : Str} (h : Spec.tzLex z = true) :
    ∃ raw, parseTzShape z = some raw ∧ tzOfShape raw = some ((Spec.tzVal z).map (· * 60000000)) := by
  unfold Spec.tzLex at h
  split at h
  · exact ⟨none, rfl, rfl⟩
  · exact ⟨_, rfl, by decide⟩
  · rename_i sg a b c d
    simp only [Bool.and_eq_true, Bool.or_eq_true, decide_eq_true_eq, beq_iff_eq, natVal_eq_num] at h
    obtain ⟨⟨hsg, hd⟩, hr⟩ := h
    refine ⟨_, parseTzShape_hhmm (by simpa using hsg) hd, ?_⟩
    rw [tzOfShape_hm _ (by omega)]
    simp only [Spec.tzVal, natVal_eq_num]
    by_cases hm : sg = '-' <;> simp [hm] <;> omega
  · cases h


theorem fracToMicrosTrunc_six {us : Nat} (h : us < 1000000) : fracToMicrosTrunc (digitsW 6 us) = us := by
  have hl := digitsW6_length h
  unfold fracToMicrosTrunc
  rw [List.take_append_of_le_length (by omega), List.take_of_length_le (by omega)]
  exact num_digitsW 6 us

theorem timeIso_eq {h mi s : Nat} (us : Nat) (tz : Option Int) (hh : h < 24) (hmi : mi < 60) (hs : s < 60) :
    timeIso h mi s us tz = dc (h / 10) :: dc h :: ':' :: dc (mi / 10) :: dc mi :: ':' :: dc (s / 10) :: dc s ::
      ((if us = 0 then [] else '.' :: digitsW 6 us) ++ tzIso tz) := by
  simp [timeIso, pad2_eq (show h < 100 by omega), pad2_eq (show mi < 100 by omega), pad2_eq (show s < 100 by omega)]

theorem splitFrac_iso {us : Nat} (hus : us < 1000000) (tz : Option Int) :
    ∃ fp, splitFrac ((if us = 0 then [] else '.' :: digitsW 6 us) ++ tzIso tz) = some (fp, tzIso tz) ∧
      fracToMicrosTrunc fp = us := by
  have hhead := tzIso_head tz
  by_cases h0 : us = 0
  · refine ⟨[], ?_, by rw [h0]; rfl⟩
    simp only [h0, if_true, List.nil_append]
    unfold splitFrac
    split
    · rename_i heq; exact absurd heq (tzIso_no_point tz _)
    · rfl
  · refine ⟨digitsW 6 us, ?_, fracToMicrosTrunc_six hus⟩
    have hne : (digitsW 6 us).isEmpty = false := List.isEmpty_eq_false_iff.mpr (digitsW_ne_nil 6 us)
    simp [h0, splitFrac, span_digits (allDigits_digitsW 6 us) (tzIso tz) (fun c r e => (hhead c r e).1), hne]

theorem pyTimeFromIso_timeIso {h mi s us : Nat} {tz : Option Int} (hh : h < 24) (hmi : mi < 60) (hs : s < 60)
    (hus : us < 1000000) (htz : TzOk tz) :
    pyTimeFromIso (timeIso h mi s us tz) = some (.time h mi s us tz) := by
  obtain ⟨fp, hsp, hfr⟩ := splitFrac_iso hus tz
  obtain ⟨raw, hp, ho⟩ := parseTz_tzIso htz
  rw [pyTimeFromIso, timeIso_eq us tz hh hmi hs]
  simp [timeShape, allDigits, hsp, hp, num_dc2 (show h < 100 by omega), num_dc2 (show mi < 100 by omega),
    num_dc2 (show s < 100 by omega), ho, hfr, hh, hmi, hs]

theorem timeLex_timeIso {h mi s : Nat} (us : Nat) {tz : Option Int} (hh : h < 24) (hmi : mi < 60) (hs : s < 60)
    (htz : XsdTz tz) : Spec.timeLex (timeIso h mi s us tz) = true := by
  have hhead := tzIso_head tz
  have htzl := tzLex_tzIso htz
  have hrange : (decide (h ≤ 23) && decide (mi ≤ 59) && decide (s ≤ 59)) = true := by
    simp only [Bool.and_eq_true, decide_eq_true_eq]; omega
  rw [timeIso_eq us tz hh hmi hs]
  simp only [Spec.timeLex, List.all_cons, List.all_nil, isDigit_dc, Bool.and_self, Bool.true_and, natVal_eq_num,
    num_dc2 (show h < 100 by omega), num_dc2 (show mi < 100 by omega), num_dc2 (show s < 100 by omega), hrange, Bool.true_or, Bool.and_true]
  by_cases h0 : us = 0
  · simp only [h0, if_true, List.nil_append]
    split
    · rename_i heq; exact absurd heq (tzIso_no_point tz _)
    · exact htzl
  · simp [h0, span_digits (allDigits_digitsW 6 us) (tzIso tz) (fun c r e => (hhead c r e).1),
      digitsW_ne_nil 6 us, htzl]

theorem frac_exact {fp : Str} (hl : (Spec.rstripZeros fp).length ≤ 6) :
    fracToMicrosTrunc fp = Spec.fracMicros (Spec.rstripZeros fp) := by
  rw [rstripZeros_eq] at hl ⊢
  obtain ⟨z, hz⟩ := rstrip0_spec fp
  generalize rstrip0 fp = r at hz hl
  subst hz
  unfold fracToMicrosTrunc Spec.fracMicros
  have e1 : r ++ List.replicate z '0' ++ ['0', '0', '0', '0', '0', '0'] = r ++ List.replicate (z + 6) '0' := by
    rw [List.append_assoc]; congr 1
    have : (['0', '0', '0', '0', '0', '0'] : Str) = List.replicate 6 '0' := rfl
    rw [this, List.replicate_append_replicate]
  rw [e1, List.take_append, List.take_of_length_le hl, List.take_replicate, num_trail0, natVal_eq_num]
  congr 2
  omega


theorem pyTimeFromIso_xsd {s : Str} (h : Spec.timeLex s = true) (h24 : (Spec.timeVal s).hour ≠ 24) :
    ∃ us, pyTimeFromIso s = some (.time (Spec.timeVal s).hour (Spec.timeVal s).minute (Spec.timeVal s).second us
        ((Spec.timeVal s).tz.map (· * 60000000))) ∧
      ((Spec.timeVal s).frac.length ≤ 6 → us = Spec.fracMicros (Spec.timeVal s).frac) := by
  unfold Spec.timeLex at h
  split at h
  · rename_i h1 h2 m1 m2 s1 s2 r
    simp only [Bool.and_eq_true] at h
    obtain ⟨hdig, hrest⟩ := h
    have hd6 : allDigits [h1, h2, m1, m2, s1, s2] = true := hdig
    -- fraction digits and zone, as the model's `splitFrac` and the specification both read them
    obtain ⟨fp, z, hsf, htz, htv, hrange⟩ : ∃ fp z, splitFrac r = some (fp, z) ∧ Spec.tzLex z = true ∧
        Spec.timeVal (h1 :: h2 :: ':' :: m1 :: m2 :: ':' :: s1 :: s2 :: r) =
          ⟨num [h1, h2], num [m1, m2], num [s1, s2], Spec.rstripZeros fp, Spec.tzVal z⟩ ∧
        ((num [h1, h2] ≤ 23 ∧ num [m1, m2] ≤ 59 ∧ num [s1, s2] ≤ 59) ∨ num [h1, h2] = 24) := by
      by_cases hdot : ∃ r', r = '.' :: r'
      · obtain ⟨r', rfl⟩ := hdot
        simp only [Bool.and_eq_true, Bool.or_eq_true, decide_eq_true_eq, natVal_eq_num, beq_iff_eq] at hrest
        obtain ⟨⟨hfp, htz⟩, hrange⟩ := hrest
        have hfp' : (takeDigits r').isEmpty = false := by simpa using hfp
        exact ⟨takeDigits r', dropDigits r', by simp [splitFrac, hfp'], htz, by simp only [← natVal_eq_num]; rfl,
          hrange.imp (fun x => ⟨x.1.1, x.1.2, x.2⟩) (fun x => x.1.1.1)⟩
      · have hsf : splitFrac r = some ([], r) := by
          unfold splitFrac
          split
          · rename_i r'; exact absurd ⟨r', rfl⟩ hdot
          · rfl
        refine ⟨[], r, hsf, ?_⟩
        revert hrest
        unfold Spec.timeVal
        split
        · rename_i r'; exact absurd ⟨r', rfl⟩ hdot
        · simp only [Bool.and_eq_true, Bool.or_eq_true, decide_eq_true_eq, natVal_eq_num, beq_iff_eq]
          exact fun hh => ⟨hh.1, rfl, hh.2.imp (fun x => ⟨x.1.1, x.1.2, x.2⟩) (fun x => x.1.1)⟩
    obtain ⟨raw, hp, ht⟩ := tz_xsd htz
    rw [htv] at h24 ⊢
    simp only at h24
    have hr : num [h1, h2] ≤ 23 ∧ num [m1, m2] ≤ 59 ∧ num [s1, s2] ≤ 59 := hrange.resolve_right h24
    refine ⟨fracToMicrosTrunc fp, ?_, fun hl => frac_exact hl⟩
    have : (decide (num [h1, h2] < 24) && decide (num [m1, m2] < 60) && decide (num [s1, s2] < 60)) = true := by
      simp; omega
    simp [pyTimeFromIso, timeShape, hd6, hsf, hp, ht, this]
  · cases h

theorem timeShape_of_parse {t : Str} {v : PyVal} (h : pyTimeFromIso t = some v) : (timeShape t).isSome = true := by
  unfold pyTimeFromIso at h
  split at h
  · rename_i hts; simp [hts]
  · cases h

theorem pyDateTimeFromIso_body {y1 y2 y3 y4 m1 m2 d1 d2 : Char} {t : Str} {a b c h mi sec us : Nat} {tz : Option Int}
    (hy : allDigits [y1, y2, y3, y4] = true) (hd4 : allDigits [m1, m2, d1, d2] = true)
    (hmk : mkDate [y1, y2, y3, y4] [m1, m2] [d1, d2] = some (.date a b c))
    (ht : pyTimeFromIso t = some (.time h mi sec us tz)) :
    pyDateTimeFromIso ([y1, y2, y3, y4, '-', m1, m2, '-', d1, d2] ++ 'T' :: t) = some (.datetime a b c h mi sec us tz) := by
  have hsp := span_digits_cons hy '-' rfl (m1 :: m2 :: '-' :: d1 :: d2 :: 'T' :: t)
  have hneg : (y1 == '-') = false := by
    rw [allDigits_cons, Bool.and_eq_true] at hy
    simpa using (digit_seps hy.1).1
  have hshape : dateTimeShape ([y1, y2, y3, y4, '-', m1, m2, '-', d1, d2] ++ 'T' :: t) =
      some (false, [y1, y2, y3, y4], [m1, m2], [d1, d2], t) := by
    simp only [List.cons_append, List.nil_append] at hsp ⊢
    simp [dateTimeShape, hneg, hsp.1, hsp.2, hd4, timeShape_of_parse ht]
  unfold pyDateTimeFromIso
  rw [hshape]
  simp [hmk, ht]

theorem pyDateTimeFromIso_datetimeIso {y m d h mi s us : Nat} {tz : Option Int} (hv : validYMD y m d = true)
    (hh : h < 24) (hmi : mi < 60) (hs : s < 60) (hus : us < 1000000) (htz : TzOk tz) :
    pyDateTimeFromIso (datetimeIso y m d h mi s us tz) = some (.datetime y m d h mi s us tz) := by
  rw [datetimeIso, dateIso_eq hv]
  exact pyDateTimeFromIso_body (by simp [allDigits]) (by simp [allDigits]) (mkDate_dc hv) (pyTimeFromIso_timeIso hh hmi hs hus htz)

theorem dateTimeLex_datetimeIso {y m d h mi s : Nat} (us : Nat) {tz : Option Int} (hv : validYMD y m d = true)
    (hh : h < 24) (hmi : mi < 60) (hs : s < 60) (htz : XsdTz tz) :
    Spec.dateTimeLex (datetimeIso y m d h mi s us tz) = true := by
  have hb := dateBodyLex_dateIso hv ('T' :: timeIso h mi s us tz)
    (fun t => match t with | 'T' :: t' => Spec.timeLex t' | _ => false)
  unfold Spec.dateTimeLex datetimeIso
  split
  · rename_i r heq; exact absurd heq (dateIso_head hv _ r)
  · exact hb.trans (timeLex_timeIso us hh hmi hs htz)


theorem num_ge_head {c : Char} {r : Str} (h : c.isDigit = true) (h0 : c ≠ '0') : 10 ^ r.length ≤ num (c :: r) := by
  have h1 : 1 ≤ num [c] := by
    rw [← natVal_eq_num]
    rw [isDigit_iff] at h
    have : c.toNat ≠ 48 := fun e => h0 (by have := Char.ofNat_toNat c; rw [e] at this; exact this.symm)
    simp [Spec.natVal]; omega
  rw [show c :: r = [c] ++ r from rfl, num_append]
  calc 10 ^ r.length = 1 * 10 ^ r.length := by omega
    _ ≤ num [c] * 10 ^ r.length := Nat.mul_le_mul_right _ h1
    _ ≤ _ := Nat.le_add_right _ _

theorem year_len4 {y : Str} (hy : Spec.yearLex y = true) (hle : num y ≤ 9999) : y.length = 4 := by
  simp only [Spec.yearLex, Bool.and_eq_true, Bool.or_eq_true, beq_iff_eq, decide_eq_true_eq] at hy
  obtain ⟨hd, h4 | ⟨hlen, hh⟩⟩ := hy
  · exact h4
  · exfalso
    cases y with
    | nil => simp at hlen
    | cons c r =>
      have hcd : c.isDigit = true := by simp at hd; exact hd.1
      have hc0 : c ≠ '0' := by simpa using hh
      have := num_ge_head (r := r) hcd hc0
      have h4 : 4 ≤ r.length := by simp at hlen; omega
      have : 10 ^ 4 ≤ 10 ^ r.length := Nat.pow_le_pow_right (by decide) h4
      omega

theorem dateBody_xsd {s : Str} {p : Str → Bool} (h : Spec.dateBodyLex false s p = true)
    (hneg : (s.head? == some '-') = false) (hy : 1 ≤ (Spec.dateVal s).1.year ∧ (Spec.dateVal s).1.year ≤ 9999) :
    ∃ y1 y2 y3 y4 m1 m2 d1 d2 r, s = [y1, y2, y3, y4, '-', m1, m2, '-', d1, d2] ++ r ∧ p r = true ∧
      allDigits [y1, y2, y3, y4] = true ∧ allDigits [m1, m2, d1, d2] = true ∧
      Spec.dateVal s = (⟨(num [y1, y2, y3, y4] : Int), num [m1, m2], num [d1, d2], Spec.tzVal r⟩, r) ∧
      mkDate [y1, y2, y3, y4] [m1, m2] [d1, d2] = some (.date (num [y1, y2, y3, y4]) (num [m1, m2]) (num [d1, d2])) := by
  simp only [Spec.dateBodyLex] at h
  split at h
  · rename_i m1 m2 d1 d2 r hdrop
    simp only [Bool.and_eq_true] at h
    obtain ⟨⟨⟨hyl, hdig⟩, hday⟩, htail⟩ := h
    have hdv : Spec.dateVal s = (⟨(num (takeDigits s) : Int), num [m1, m2], num [d1, d2], Spec.tzVal r⟩, r) := by
      simp only [Spec.dateVal, hneg, Bool.false_eq_true, if_false, hdrop, natVal_eq_num]
    rw [hdv] at hy
    simp only at hy
    have hy' : 1 ≤ num (takeDigits s) ∧ num (takeDigits s) ≤ 9999 := by omega
    obtain ⟨y1, y2, y3, y4, hye⟩ := list_len4 (year_len4 hyl hy'.2)
    have hs : s = [y1, y2, y3, y4, '-', m1, m2, '-', d1, d2] ++ r := by
      have := take_append_dropDigits s
      rw [hye, hdrop] at this
      exact this.symm
    have hyd : allDigits [y1, y2, y3, y4] = true := by rw [← hye]; exact allDigits_takeDigits s
    have hd4 : allDigits [m1, m2, d1, d2] = true := hdig
    have ha := allDigits4.mp hd4
    rw [hye] at hdv hy'
    refine ⟨y1, y2, y3, y4, m1, m2, d1, d2, r, hs, htail, hyd, hd4, hdv, mkDate_of_valid hyd ha.1 ha.2 ?_⟩
    rw [← dayOk_iff hy', ← hye]; simpa [natVal_eq_num] using hday
  · cases h

theorem head_not_minus {s : Str} (h : ∀ r, s ≠ '-' :: r) : (s.head? == some '-') = false := by
  cases s with
  | nil => rfl
  | cons c cs =>
    have : c ≠ '-' := fun e => h cs (by rw [e])
    simp [this]

theorem dateVal_neg {r0 : Str} {p : Str → Bool} (h : Spec.dateBodyLex true r0 p = true) :
    (Spec.dateVal ('-' :: r0)).1.year ≤ 0 := by
  simp only [Spec.dateBodyLex] at h
  split at h
  · rename_i m1 m2 d1 d2 r hdrop
    have : (('-' :: r0).head? == some '-') = true := by simp
    simp only [Spec.dateVal, this, if_true, List.drop_succ_cons, List.drop_zero, hdrop, natVal_eq_num]
    omega
  · cases h

theorem parseXsdDate_xsd {s : Str} (h : Spec.dateLex s = true)
    (hy : 1 ≤ (Spec.dateVal s).1.year ∧ (Spec.dateVal s).1.year ≤ 9999) :
    parseXsdDate s = some (.date (Spec.dateVal s).1.year.toNat (Spec.dateVal s).1.month (Spec.dateVal s).1.day) := by
  unfold Spec.dateLex at h
  split at h
  · have := dateVal_neg h; omega
  · rename_i hnotneg
    obtain ⟨y1, y2, y3, y4, m1, m2, d1, d2, r, hs, htz, hyd, hmd, hdv, hmk⟩ :=
      dateBody_xsd h (head_not_minus hnotneg) hy
    rw [hdv]
    simp only [Int.toNat_natCast]
    rw [← hmk, hs]
    exact parseXsdDate_body_tz hyd hmd htz

theorem pyDateTimeFromIso_xsd {s : Str} (h : Spec.dateTimeLex s = true)
    (hy : 1 ≤ (Spec.dateTimeVal s).1.year ∧ (Spec.dateTimeVal s).1.year ≤ 9999) (h24 : (Spec.dateTimeVal s).2.hour ≠ 24) :
    ∃ us, pyDateTimeFromIso s = some (.datetime (Spec.dateTimeVal s).1.year.toNat (Spec.dateTimeVal s).1.month
        (Spec.dateTimeVal s).1.day (Spec.dateTimeVal s).2.hour (Spec.dateTimeVal s).2.minute (Spec.dateTimeVal s).2.second us
        ((Spec.dateTimeVal s).2.tz.map (· * 60000000))) ∧
      ((Spec.dateTimeVal s).2.frac.length ≤ 6 → us = Spec.fracMicros (Spec.dateTimeVal s).2.frac) := by
  have hyy : (Spec.dateTimeVal s).1.year = (Spec.dateVal s).1.year := by simp only [Spec.dateTimeVal]
  unfold Spec.dateTimeLex at h
  split at h
  · have := dateVal_neg h; omega
  · rename_i hnotneg
    have hneg := head_not_minus hnotneg
    obtain ⟨y1, y2, y3, y4, m1, m2, d1, d2, r, hs, htail, hyd, hmd, hdv, hmk⟩ :=
      dateBody_xsd h hneg (hyy ▸ hy)
    split at htail
    · rename_i t
      have hval : Spec.dateTimeVal s =
          (⟨(num [y1, y2, y3, y4] : Int), num [m1, m2], num [d1, d2], none⟩, Spec.timeVal t) := by
        simp only [Spec.dateTimeVal, hdv]
      rw [hval] at h24 ⊢
      simp only at h24 ⊢
      obtain ⟨us, hpt, hus⟩ := pyTimeFromIso_xsd htail h24
      refine ⟨us, ?_, hus⟩
      rw [hs]
      exact pyDateTimeFromIso_body hyd hmd hmk hpt
    · cases htail

end RV.C09

import RV.C09.Lemmas
/-
  C09 — lemmas about the base64 codec of the model (`a2bLoop`/`b64decode`, `b64encode`) against the
  XSD / RFC 4648 specification of `Spec.lean` (`b64Lex`, `b64ValOf`).
-/
namespace RV.C09

/-- The alphabet of RFC 4648 is the encoder's table listed in order, and XSD's two padding alphabets are the sextets
    with two and with four low zero bits.  This and `b64Val_b64Char` are the two table sweeps; the rest is reasoning. -/
theorem b64_alphabets :
    Spec.b64Alphabet = (List.range 64).map b64Char ∧
    "AEIMQUYcgkosw048".toList = (List.range 16).map (fun n => b64Char (n * 4)) ∧
    "AQgw".toList = (List.range 4).map (fun n => b64Char (n * 16)) := by
  decide +kernel

theorem b64Val_b64Char : ∀ n : Fin 64, b64Val (b64Char n.val) = some n.val := by decide +kernel

theorem b64Val_some {c : Char} {v : Nat} (h : b64Val c = some v) :
    v < 64 ∧ b64Char v = c ∧ c ≠ '=' ∧ c ≠ ' ' ∧ c.toNat < 128 := by
  have ne : ∀ x : Char, b64Val x = none → c ≠ x := fun x hx e => by rw [e, hx] at h; cases h
  have back : ∀ k, k = c.toNat → Char.ofNat k = c := fun k e => e ▸ Char.ofNat_toNat c
  suffices v < 64 ∧ b64Char v = c ∧ c.toNat < 128 from ⟨this.1, this.2.1, ne _ rfl, ne _ rfl, this.2.2⟩
  -- the five ranges of the decoder's table; on each the matching range of the encoder's table leads back to `c`
  unfold b64Val at h
  by_cases h1 : (65 ≤ c.toNat && c.toNat ≤ 90) = true
  · rw [if_pos h1] at h; cases h
    simp only [Bool.and_eq_true, decide_eq_true_eq] at h1
    exact ⟨by omega, by rw [b64Char, if_pos (by omega)]; exact back _ (by omega), by omega⟩
  rw [if_neg h1] at h
  by_cases h2 : (97 ≤ c.toNat && c.toNat ≤ 122) = true
  · rw [if_pos h2] at h; cases h
    simp only [Bool.and_eq_true, decide_eq_true_eq] at h2
    exact ⟨by omega, by rw [b64Char, if_neg (by omega), if_pos (by omega)]; exact back _ (by omega), by omega⟩
  rw [if_neg h2] at h
  by_cases h3 : c.isDigit = true
  · rw [if_pos h3] at h; cases h
    rw [isDigit_iff] at h3
    exact ⟨by omega, by rw [b64Char, if_neg (by omega), if_neg (by omega), if_pos (by omega)]; exact back _ (by omega),
      by omega⟩
  rw [if_neg h3] at h
  by_cases h4 : (c == '+') = true
  · rw [if_pos h4] at h; cases h; cases beq_iff_eq.mp h4; decide
  rw [if_neg h4] at h
  by_cases h5 : (c == '/') = true
  · rw [if_pos h5] at h; cases h; cases beq_iff_eq.mp h5; decide
  rw [if_neg h5] at h; cases h

theorem contains_map_range {f : Nat → Char} {N : Nat} {c : Char} :
    ((List.range N).map f).contains c = true ↔ ∃ n, n < N ∧ f n = c := by
  simp [List.mem_map, List.mem_range]

theorem isB64_iff {c : Char} : Spec.isB64 c = true ↔ ∃ n, n < 64 ∧ b64Char n = c := by
  unfold Spec.isB64; rw [b64_alphabets.1]; exact contains_map_range

theorem isB16_iff {c : Char} : Spec.isB16 c = true ↔ ∃ n, n < 16 ∧ b64Char (n * 4) = c := by
  unfold Spec.isB16; rw [b64_alphabets.2.1]; exact contains_map_range

theorem isB04_iff {c : Char} : Spec.isB04 c = true ↔ ∃ n, n < 4 ∧ b64Char (n * 16) = c := by
  unfold Spec.isB04; rw [b64_alphabets.2.2]; exact contains_map_range

theorem isB64_of_sub {c : Char} : (Spec.isB16 c = true → Spec.isB64 c = true) ∧ (Spec.isB04 c = true → Spec.isB64 c = true) :=
  ⟨fun h => by obtain ⟨n, hn, e⟩ := isB16_iff.mp h; exact isB64_iff.mpr ⟨n * 4, by omega, e⟩,
   fun h => by obtain ⟨n, hn, e⟩ := isB04_iff.mp h; exact isB64_iff.mpr ⟨n * 16, by omega, e⟩⟩

theorem b64_of_isB64 {c : Char} (h : Spec.isB64 c = true) :
    b64Val c = some (Spec.b64Six c) ∧ c ≠ '=' ∧ c.toNat < 128 := by
  have hv : b64Val c = some (Spec.b64Six c) := by
    -- `c` stands at its index, and the letter at index `i` is `b64Char i`
    have hmem : c ∈ Spec.b64Alphabet := by unfold Spec.isB64 at h; exact List.contains_iff_mem.mp h
    have hlt := List.idxOf_lt_length_of_mem hmem
    have hget := List.getElem_idxOf hlt
    unfold Spec.b64Six
    generalize Spec.b64Alphabet.idxOf c = i at hlt hget
    have hl : Spec.b64Alphabet.length = 64 := by rw [b64_alphabets.1]; simp
    rw [hl] at hlt
    have : Spec.b64Alphabet[i]'(by rw [hl]; exact hlt) = b64Char i := by simp [b64_alphabets.1]
    rw [← hget, this]
    exact b64Val_b64Char ⟨i, hlt⟩
  obtain ⟨_, _, hpad, _, hascii⟩ := b64Val_some hv
  exact ⟨hv, hpad, hascii⟩

theorem b64Six_lt {c : Char} (h : Spec.isB64 c = true) : Spec.b64Six c < 64 := (b64Val_some (b64_of_isB64 h).1).1

theorem b64Char_spec {n : Nat} (h : n < 64) :
    Spec.isB64 (b64Char n) = true ∧ Spec.b64Six (b64Char n) = n ∧ (b64Char n == '=') = false ∧ b64Char n ≠ ' ' := by
  have hb := isB64_iff.mpr ⟨n, h, rfl⟩
  have hn := b64Val_b64Char ⟨n, h⟩
  obtain ⟨_, _, hpad, hspace, _⟩ := b64Val_some hn
  have hv := (b64_of_isB64 hb).1
  rw [hn] at hv
  exact ⟨hb, (Option.some.inj hv).symm, by simpa using hpad, hspace⟩

theorem b64Val_none {c : Char} (h : Spec.isB64 c = false) : b64Val c = none := by
  cases hv : b64Val c with
  | none => rfl
  | some v =>
    obtain ⟨hlt, e, _⟩ := b64Val_some hv
    rw [isB64_iff.mpr ⟨v, hlt, e⟩] at h; cases h

theorem b64_notAlpha_table : ∀ n : Fin 128, Spec.isB64 (Char.ofNat n.val) = false →
    Char.ofNat n.val = '=' ∨ b64Val (Char.ofNat n.val) = none :=
  fun _ h => Or.inr (b64Val_none h)


theorem a2bLoop_noSpaces (s : Str) : ∀ q l p, a2bLoop q l p s = a2bLoop q l p (Spec.noSpaces s) := by
  induction s with
  | nil => intro q l p; rfl
  | cons c cs ih =>
    intro q l p
    by_cases hc : c = ' '
    · subst hc
      have : Spec.noSpaces (' ' :: cs) = Spec.noSpaces cs := rfl
      rw [this, ← ih]
      rfl
    · have : Spec.noSpaces (c :: cs) = c :: Spec.noSpaces cs := by simp [Spec.noSpaces, hc]
      rw [this]
      simp only [a2bLoop, ih]

theorem a2bLoop_body : ∀ t : Str, Spec.b64Body t = true →
    (∀ c ∈ t, c.toNat < 128) ∧ a2bLoop 0 0 0 t = some (Spec.b64BodyVal t)
  | [], _ => ⟨by simp, rfl⟩
  | [_], h | [_, _], h | [_, _, _], h => by simp [Spec.b64Body] at h
  | a :: b :: c :: d :: r, h => by
    simp only [Spec.b64Body] at h
    split at h
    · rename_i hd
      have hd' : d = '=' := by simpa using hd
      subst hd'
      simp only [Bool.and_eq_true] at h
      obtain ⟨⟨hr, ha⟩, hbc⟩ := h
      have hr' : r = [] := by simpa using hr
      subst hr'
      obtain ⟨va, hane, a128⟩ := b64_of_isB64 ha
      -- where the loop and the production meet: after two letters the first `=` only counts and the second ends the
      -- decoding; after three letters the first one ends it
      split at hbc
      · rename_i hc
        have hc' : c = '=' := by simpa using hc
        subst hc'
        obtain ⟨vb, hbne, b128⟩ := b64_of_isB64 (isB64_of_sub.2 hbc)
        exact ⟨by simp [a128, b128], by simp [a2bLoop, Spec.b64BodyVal, hane, hbne, va, vb]⟩
      · rename_i hc
        simp only [Bool.and_eq_true] at hbc
        obtain ⟨vb, hbne, b128⟩ := b64_of_isB64 hbc.1
        obtain ⟨vc, hcne, c128⟩ := b64_of_isB64 (isB64_of_sub.1 hbc.2)
        exact ⟨by simp [a128, b128, c128], by simp [a2bLoop, Spec.b64BodyVal, hane, hbne, va, vb, vc, hc]⟩
    · rename_i hd
      simp only [Bool.and_eq_true] at h
      obtain ⟨⟨⟨⟨ha, hb⟩, hc⟩, hdd⟩, hr⟩ := h
      obtain ⟨va, hane, a128⟩ := b64_of_isB64 ha
      obtain ⟨vb, hbne, b128⟩ := b64_of_isB64 hb
      obtain ⟨vc, hcne, c128⟩ := b64_of_isB64 hc
      obtain ⟨vd, hdne, d128⟩ := b64_of_isB64 hdd
      obtain ⟨ih1, ih2⟩ := a2bLoop_body r hr
      exact ⟨by simpa [a128, b128, c128, d128] using ih1,
        by simp [a2bLoop, Spec.b64BodyVal, hane, hbne, hcne, va, vb, vc, vd, ih2, hd]⟩

theorem b64decode_xsd {s : Str} (h : Spec.b64Lex s = true) : b64decode s = some (Spec.b64ValOf s) := by
  simp only [Spec.b64Lex, Bool.and_eq_true] at h
  obtain ⟨hascii, hval⟩ := a2bLoop_body _ h.2
  have : s.all (fun c => decide (c.toNat < 128)) = true := by
    rw [List.all_eq_true]
    intro c hc
    by_cases hsp : c = ' '
    · subst hsp; decide
    · exact decide_eq_true (hascii c (List.mem_filter.mpr ⟨hc, by simpa using hsp⟩))
  unfold b64decode
  rw [if_pos this, a2bLoop_noSpaces, hval]
  rfl


theorem b64Lex_of_noSpace {s : Str} (h : ∀ c ∈ s, c ≠ ' ') :
    Spec.b64Lex s = Spec.b64Body s ∧ Spec.b64ValOf s = Spec.b64BodyVal s := by
  have hns : Spec.noSpaces s = s := List.filter_eq_self.mpr (fun c hc => by simpa using h c hc)
  have hd : Spec.noDoubleSpace s = true := by
    clear hns
    induction s with
    | nil => rfl
    | cons a t ih =>
      rw [noDoubleSpace_cons, ih (fun c hc => h c (List.mem_cons_of_mem _ hc))]
      simp [h a (by simp)]
  have h1 : s.head? ≠ some ' ' := fun e => h _ (List.mem_of_mem_head? e) rfl
  have h2 : s.getLast? ≠ some ' ' := fun e => h _ (List.mem_of_getLast? e) rfl
  simp [Spec.b64Lex, Spec.b64ValOf, hns, hd, h1, h2]

theorem quad_arith {a b c : Nat} (ha : a < 256) (hb : b < 256) (hc : c < 256) :
    (a / 4 < 64 ∧ a % 4 * 16 + b / 16 < 64 ∧ b % 16 * 4 + c / 64 < 64 ∧ c % 64 < 64) ∧
    a / 4 * 4 + (a % 4 * 16 + b / 16) / 16 = a ∧ (a % 4 * 16 + b / 16) % 16 * 16 + (b % 16 * 4 + c / 64) / 4 = b ∧
    (b % 16 * 4 + c / 64) % 4 * 64 + c % 64 = c := by
  omega

theorem b64encode_body : ∀ b : List Nat, (∀ x ∈ b, x < 256) →
    (∀ c ∈ b64encode b, c ≠ ' ') ∧ Spec.b64Body (b64encode b) = true ∧ Spec.b64BodyVal (b64encode b) = b
  | [], _ => ⟨by simp [b64encode], rfl, rfl⟩
  -- per sextet `b64Char_spec` gives: in the alphabet, its position, not `=`, not a space (`p…`, `q…`, `r…`, `s…` 1 to 4)
  | [a], h => by
    obtain ⟨⟨h1, h2, _⟩, e1, _⟩ := quad_arith (h a (by simp)) (Nat.zero_lt_succ 255) (Nat.zero_lt_succ 255)
    simp only [Nat.zero_div, Nat.add_zero] at h2 e1
    obtain ⟨p1, p2, _, p4⟩ := b64Char_spec h1
    obtain ⟨q1, q2, _, q4⟩ := b64Char_spec h2
    have q5 := isB04_iff.mpr ⟨a % 4, Nat.mod_lt _ (by decide), rfl⟩
    exact ⟨by simp [b64encode, p4, q4],
      by simp [b64encode, Spec.b64Body, p1, q5],
      by simp only [b64encode, Spec.b64BodyVal, beq_self_eq_true, if_true, p2, q2, e1]⟩
  | [a, b], h => by
    obtain ⟨⟨h1, h2, h3, _⟩, e1, e2, _⟩ := quad_arith (h a (by simp)) (h b (by simp)) (Nat.zero_lt_succ 255)
    simp only [Nat.zero_div, Nat.add_zero] at h3 e2
    obtain ⟨p1, p2, _, p4⟩ := b64Char_spec h1
    obtain ⟨q1, q2, _, q4⟩ := b64Char_spec h2
    obtain ⟨r1, r2, r3, r4⟩ := b64Char_spec h3
    have r5 := isB16_iff.mpr ⟨b % 16, Nat.mod_lt _ (by decide), rfl⟩
    exact ⟨by simp [b64encode, p4, q4, r4],
      by simp [b64encode, Spec.b64Body, p1, q1, r5, r3],
      by simp only [b64encode, Spec.b64BodyVal, beq_self_eq_true, if_true, r3, Bool.false_eq_true, if_false, p2, q2, r2, e1, e2]⟩
  | a :: b :: c :: r, h => by
    obtain ⟨⟨h1, h2, h3, h4⟩, e1, e2, e3⟩ := quad_arith (h a (by simp)) (h b (by simp)) (h c (by simp))
    obtain ⟨p1, p2, _, p4⟩ := b64Char_spec h1
    obtain ⟨q1, q2, _, q4⟩ := b64Char_spec h2
    obtain ⟨r1, r2, _, r4⟩ := b64Char_spec h3
    obtain ⟨s1, s2, s3, s4⟩ := b64Char_spec h4
    obtain ⟨i1, i2, i3⟩ := b64encode_body r (fun x hx => h x (by simp [hx]))
    exact ⟨by simpa [b64encode, p4, q4, r4, s4] using i1,
      by simp [b64encode, Spec.b64Body, p1, q1, r1, s1, s3, i2],
      by simp only [b64encode, Spec.b64BodyVal, s3, Bool.false_eq_true, if_false, p2, q2, r2, s2, i3, e1, e2, e3]⟩

theorem b64Lex_b64encode {b : List Nat} (h : ∀ x ∈ b, x < 256) :
    Spec.b64Lex (b64encode b) = true ∧ Spec.b64ValOf (b64encode b) = b := by
  obtain ⟨h1, h2, h3⟩ := b64encode_body b h
  obtain ⟨e1, e2⟩ := b64Lex_of_noSpace h1
  exact ⟨e1.trans h2, e2.trans h3⟩

theorem b64decode_b64encode {b : List Nat} (h : ∀ x ∈ b, x < 256) : b64decode (b64encode b) = some b := by
  obtain ⟨h1, h2⟩ := b64Lex_b64encode h
  rw [b64decode_xsd h1, h2]


/-- invariant of the loop: the bits carried over from the previous character fit what is left of the octet -/
theorem a2bLoop_lt (s : Str) : ∀ q l p b, (q = 1 → l < 64) → (q = 2 → l < 16) → (q = 3 → l < 4) → q ≤ 3 →
    a2bLoop q l p s = some b → ∀ x ∈ b, x < 256 := by
  induction s with
  | nil =>
    intro q l p b _ _ _ _ h
    rw [a2bLoop] at h
    split at h
    · cases h; exact fun _ hx => nomatch hx
    · cases h
  | cons c cs ih =>
    intro q l p b h1 h2 h3 hq h
    have step : ∀ {q' l'}, (q' = 1 → l' < 64) → (q' = 2 → l' < 16) → (q' = 3 → l' < 4) → q' ≤ 3 → ∀ {y}, y < 256 →
        (a2bLoop q' l' 0 cs).map (y :: ·) = some b → ∀ x ∈ b, x < 256 := by
      intro q' l' a1 a2 a3 a4 y hy e
      obtain ⟨t, ht, rfl⟩ := Option.map_eq_some_iff.mp e
      exact List.forall_mem_cons.mpr ⟨hy, ih _ _ _ _ a1 a2 a3 a4 ht⟩
    rw [a2bLoop] at h
    by_cases hc : (c == '=') = true
    · rw [if_pos hc] at h
      by_cases h2q : 2 ≤ q
      · rw [if_pos h2q] at h
        by_cases hp : 4 ≤ q + (p + 1)
        · rw [if_pos hp] at h; cases h; exact fun _ hx => nomatch hx
        · rw [if_neg hp] at h; exact ih _ _ _ _ h1 h2 h3 hq h
      · rw [if_neg h2q] at h; exact ih _ _ _ _ h1 h2 h3 hq h
    · rw [if_neg hc] at h
      cases hv : b64Val c with
      | none => rw [hv] at h; exact ih _ _ _ _ h1 h2 h3 hq h
      | some v =>
        have hv64 := (b64Val_some hv).1
        rw [hv] at h
        simp only [beq_iff_eq] at h
        by_cases q0 : q = 0
        · rw [if_pos q0] at h; exact ih 1 v 0 b (fun _ => hv64) (by omega) (by omega) (by omega) h
        rw [if_neg q0] at h
        by_cases q1 : q = 1
        · rw [if_pos q1] at h; exact step (by omega) (by omega) (by omega) (by omega) (show _ < 256 by omega) h
        rw [if_neg q1] at h
        by_cases q2 : q = 2
        · rw [if_pos q2] at h; exact step (by omega) (by omega) (by omega) (by omega) (show _ < 256 by omega) h
        rw [if_neg q2] at h
        exact step (by omega) (by omega) (by omega) (by omega) (show _ < 256 by omega) h

theorem b64decode_lt {s : Str} {b : List Nat} (h : b64decode s = some b) : ∀ x ∈ b, x < 256 := by
  unfold b64decode at h
  split at h
  · exact a2bLoop_lt s 0 0 0 b (by omega) (by omega) (by omega) (by omega) h
  · cases h

end RV.C09

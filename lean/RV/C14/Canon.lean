import RV.C14.Model
/-
  C14 part D — model of the colour refinement of `rdflib/compare.py:_TripleCanonicalizer`
  (`_initial_color`, `Color.hash_color`, `Color.distinguish`, `_refine`, the label stage of
  `canonical_triples` / `_canonicalize_bnodes`).

  `hash_color` is a *sum* of SHA-256 values over the items of the colour tuple, i.e. a function of
  the multiset of items.  It is a parameter here: `H : List Item → Nat` (blank-node colours) and
  `HT : Term → Nat` (the n3 text of a non-blank neighbour).  The theorems assume only what a sum
  gives for free (`H` is invariant under permutation) and, for soundness of the labels, that the
  colour hashes that end up as labels are pairwise distinct (SHA-256 treated as injective, DESIGN §4.5).

  The individualisation search (`_traces`, `_experimental_path`, `_create_generator`) is modelled in RV/C14/Traces.lean.
-/
namespace RV.C14

/-- entries of a colour tuple -/
inductive Item
  | out (p : Term) (w : Nat)       -- `(1, p, W.hash_color())`  : edge  n --p--> node of W
  | inn (w : Nat) (p : Term)       -- `(W.hash_color(), p, 3)`  : edge  node of W --p--> n
  | indiv (k : Nat)                -- `(len(color.nodes),)`     : appended by `_individuate`
  deriving DecidableEq, Repr

/-- `Color`: the member nodes, the colour tuple, and for the singleton colour of a non-blank
    neighbour (`Color([x], hashfunc, x)`) the term itself -/
structure Color where
  nodes : List Term
  items : List Item
  ground : Option Term
  deriving DecidableEq, Repr

/-- `Color.hash_color()` -/
def Color.hash (H : List Item → Nat) (HT : Term → Nat) (c : Color) : Nat :=
  match c.ground with
  | some x => HT x
  | none => H c.items

/-- `Color.key()` = `(len(nodes), hash_color())` -/
def Color.key (H : List Item → Nat) (HT : Term → Nat) (c : Color) : Nat × Nat := (c.nodes.length, c.hash H HT)

def Color.discrete (c : Color) : Bool := c.nodes.length == 1

def tinsert (l : List Term) (x : Term) : List Term := if x ∈ l then l else l ++ [x]

/-- `_initial_color`: one colour holding every blank node, one singleton colour per non-blank term
    (subject, predicate or object) of a triple that mentions a blank node -/
def initialColor (g : Graph) : List Color :=
  let touching := g.filter (fun t => t.1.blank || t.2.1.blank || t.2.2.blank)
  let ts := touching.flatMap (fun t => [t.1, t.2.1, t.2.2])
  let bn := (ts.filter (·.blank)).foldl tinsert []
  let others := (ts.filter (fun x => !x.blank)).foldl tinsert []
  if bn.isEmpty then [] else ⟨bn, [], none⟩ :: others.map (fun x => ⟨[x], [], some x⟩)

/-- the items `Color.distinguish` appends for node `n` against the splitter `W` (hash `hW`, members `Wn`):
    `for node in W.nodes: [(1,p,hW) for s,p,o in graph.triples((n,None,node))] + [(hW,p,3) for … ((node,None,n))]` -/
def distinguishItems (hW : Nat) (g : Graph) (Wn : List Term) (n : Term) : List Item :=
  Wn.flatMap (fun node =>
    g.filterMap (fun t => if t.1 = n ∧ t.2.2 = node then some (Item.out t.2.1 hW) else none) ++
    g.filterMap (fun t => if t.1 = node ∧ t.2.2 = n then some (Item.inn hW t.2.1) else none))

/-- group `(node, new colour tuple)` pairs by the hash of the tuple, in first-occurrence order
    (`colors: dict[str, Color]` keyed by `new_hash_color`) -/
def groupByHash (H : List Item → Nat) : List (Term × List Item) → List Color → List Color
  | [], acc => acc
  | (n, its) :: rest, acc =>
    let k := H its
    if acc.any (fun c => H c.items == k) then
      groupByHash H rest (acc.map (fun c => if H c.items == k then { c with nodes := c.nodes ++ [n] } else c))
    else groupByHash H rest (acc ++ [⟨[n], its, none⟩])

/-- `Color.distinguish(W, graph)` -/
def distinguish (H : List Item → Nat) (HT : Term → Nat) (g : Graph) (c W : Color) : List Color :=
  groupByHash H (c.nodes.map (fun n => (n, c.items ++ distinguishItems (W.hash H HT) g W.nodes n))) []

/-- descending insertion sort by `key()` (`sorted(..., key=lambda x: x.key(), reverse=True)`, stable: `foldr`
    inserts later elements first, an earlier element goes in front of equal keys).  The code compares the
    hash as a hex *string*; here it is a natural number — both are label-independent total orders. -/
def insertDesc (H : List Item → Nat) (HT : Term → Nat) (c : Color) : List Color → List Color
  | [] => [c]
  | d :: ds =>
    let kc := c.key H HT
    let kd := d.key H HT
    if kd.1 > kc.1 || (kd.1 == kc.1 && kd.2 > kc.2) then d :: insertDesc H HT c ds else c :: d :: ds

def sortDesc (H : List Item → Nat) (HT : Term → Nat) (cs : List Color) : List Color :=
  cs.foldr (insertDesc H HT) []

def replaceAt (seq : List Color) (c : Color) (by_ : List Color) : List Color :=
  match seq with
  | [] => []
  | d :: ds => if d = c then by_ ++ ds else d :: replaceAt ds c by_

/-- body of `for c in coloring[:]` inside `_refine` -/
def refineStep (H : List Item → Nat) (HT : Term → Nat) (g : Graph) (W : Color)
    (st : List Color × List Color) (c : Color) : List Color × List Color :=
  let (coloring, sequence) := st
  match c.nodes with
  | [] => st
  | n0 :: rest =>
    if !rest.isEmpty || n0.blank then
      let colors := sortDesc H HT (distinguish H HT g c W)
      let coloring' := coloring.erase c ++ colors
      let sequence' := if c ∈ sequence then replaceAt sequence c colors else colors.tail ++ sequence
      (coloring', sequence')
    else st

/-- one iteration of the `while` loop after `W = sequence.pop()`: the whole `for c in coloring[:]` pass
    (`seq0` is the sequence after the pop) -/
def refinePass (H : List Item → Nat) (HT : Term → Nat) (g : Graph) (W : Color)
    (coloring seq0 : List Color) : List Color × List Color :=
  coloring.foldl (refineStep H HT g W) (coloring, seq0)

/-- the loop condition `len(sequence) > 0 and not self._discrete(coloring)`, negated -/
def refineDone (coloring sequence : List Color) : Bool :=
  sequence.isEmpty || coloring.all Color.discrete

/-- the `while len(sequence) > 0 and not self._discrete(coloring)` loop, with fuel
    (`refineLoop_run` in RefineLemmas.lean: the fuel `refineFuel coloring sequence` always suffices) -/
def refineLoop (H : List Item → Nat) (HT : Term → Nat) (g : Graph) : Nat → List Color → List Color → List Color
  | 0, coloring, _ => coloring
  | fuel + 1, coloring, sequence =>
    if refineDone coloring sequence then coloring
    else
      match sequence.getLast? with
      | none => coloring
      | some W =>
        let st := refinePass H HT g W coloring sequence.dropLast
        refineLoop H HT g fuel st.1 st.2

/-- number of nodes held by a colouring -/
def nodeCount (cs : List Color) : Nat := (cs.flatMap (·.nodes)).length

/-- the fuel that always suffices: every iteration pops one splitter and pushes one per newly created cell -/
def refineFuel (coloring sequence : List Color) : Nat :=
  sequence.length + (nodeCount coloring - coloring.length) + 1

/-- final merge of colours whose hashes collide -/
def mergeByHash (H : List Item → Nat) (HT : Term → Nat) : List Color → List Color → List Color
  | [], acc => acc
  | c :: cs, acc =>
    let k := c.hash H HT
    if acc.any (fun d => d.hash H HT == k) then
      mergeByHash H HT cs (acc.map (fun d => if d.hash H HT == k then { d with nodes := d.nodes ++ c.nodes } else d))
    else mergeByHash H HT cs (acc ++ [c])

/-- `_refine(coloring, sequence)` -/
def refine (H : List Item → Nat) (HT : Term → Nat) (g : Graph) (fuel : Nat) (coloring sequence : List Color) : List Color :=
  mergeByHash H HT (refineLoop H HT g fuel coloring (sortDesc H HT sequence)) []

/-- the call in `canonical_triples`: `self._refine(coloring, coloring[:])` on the initial colouring, with the
    fuel that provably suffices (the sort does not change the length of the sequence) -/
def refineInit (H : List Item → Nat) (HT : Term → Nat) (g : Graph) : List Color :=
  let c0 := initialColor g
  refine H HT g (refineFuel c0 c0) c0 c0

/-- `bnode_labels = dict((c.nodes[0], c.hash_color()) for c in coloring)` restricted to blank nodes -/
def canonLabels (hc : Color → Nat) : List Color → Asg
  | [] => []
  | c :: cs =>
    match c.nodes with
    | n :: _ => if n.blank then (n.id, hc c) :: canonLabels hc cs else canonLabels hc cs
    | [] => canonLabels hc cs

/-- `canonical_triples`: every blank node replaced by `BNode("cb" + labels[node])` -/
def canonicalTriples (labels : Asg) (g : Graph) : Graph := g.rename labels.fn

/-- `canonical_triples` on the path that needs no search (`self._discrete(coloring)` after the initial `_refine`):
    labels from the colour hashes of the refined colouring -/
def canonRefine (H : List Item → Nat) (HT : Term → Nat) (g : Graph) : Graph :=
  canonicalTriples (canonLabels (Color.hash H HT) (refineInit H HT g)) g

/-- `self._discrete(coloring)` for the blank-node colours after the initial refinement -/
def refineDiscrete (H : List Item → Nat) (HT : Term → Nat) (g : Graph) : Bool :=
  (refineInit H HT g).all Color.discrete

/-! ### a concrete (non-cryptographic) instance of the hash parameters, for the driver's diagnostic `refine` op:
    like the code, the colour hash is a SUM of per-item hashes (order-independent) -/

def hashMod : Nat := 2305843009213693951   -- 2^61 - 1

def termHash (t : Term) : Nat := ((t.id + 1) * 1000003 + (if t.blank then 7 else 11)) * 2654435761 % hashMod

def itemHash : Item → Nat
  | .out p w => ((termHash p * 31 + w) * 6364136223846793005 + 1442695040888963407) % hashMod
  | .inn w p => ((termHash p * 37 + w) * 3935559000370003845 + 2691343689449507681) % hashMod
  | .indiv k => ((k + 1) * 11400714819323198485 + 1) % hashMod

def sumHash (its : List Item) : Nat := (its.foldl (fun acc i => acc + itemHash i) 0) % hashMod + 1

/-- partition of the blank nodes after `_refine(_initial_color(), …)`, as lists of ids -/
def refinePartition (g : Graph) : List (List Nat) :=
  let cs := refineInit sumHash termHash g
  (cs.filter (fun c => c.ground.isNone)).map (fun c => c.nodes.map (·.id))

end RV.C14

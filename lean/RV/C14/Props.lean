import RV.C14.Lemmas
import RV.C14.SkolemLemmas
import RV.C14.CanonLemmas
import RV.C14.SearchLemmas
import RV.C14.RefineLemmas
import RV.C14.RefineEquiv
import RV.C14.RefineStable
import RV.C14.RefineWitness
import RV.C14.TracesEquiv
/-
  C14 — property statements and theorems.

  "Graph isomorphism and canonicalisation decide equality up to blank-node renaming."

  Specification: `Spec.Iso g h` — a bijection between the blank nodes of `g` and of `h`
  (identity on every other term) that maps `g` onto `h` as a set of triples.
  It and the other predicates of the statements are in Notions.lean.
-/
namespace RV.C14

/-- the verified oracle: the backtracking search answers `true` exactly on isomorphic graphs -/
def Statement_isoDecide_correct : Prop :=
  ∀ g h : Graph, isoDecide g h = true ↔ Spec.Iso g h

/-- a certificate accepted by `isoCheck` proves isomorphism (used for pairs too large for the search) -/
def Statement_isoCheck_sound : Prop :=
  ∀ (m : Asg) (g h : Graph), isoCheck m g h = true → Spec.Iso g h

/-- "equal up to blank-node renaming" is an equivalence relation -/
def Statement_iso_equiv : Prop :=
  (∀ g, Spec.Iso g g) ∧ (∀ g h, Spec.Iso g h → Spec.Iso h g) ∧
    (∀ g h k, Spec.Iso g h → Spec.Iso h k → Spec.Iso g k)

/-- relabelling the blank nodes injectively (and re-ordering / duplicating the triple list) gives an isomorphic graph -/
def Statement_relabel_iso : Prop :=
  ∀ (g g' : Graph) (ℓ : Nat → Nat), (∀ a ∈ bnodes g, ∀ b ∈ bnodes g, ℓ a = ℓ b → a = b) →
    SetEq g' (g.rename ℓ) → Spec.Iso g g'

/-- the set algebra of `graph_diff`: both ∪ first = A, both ∪ second = B, first ∩ second = ∅ -/
def Statement_diff_algebra : Prop :=
  ∀ A B : Graph,
    SetEq (gunion (ginter A B) (gdiff A B)) A ∧ SetEq (gunion (ginter A B) (gdiff B A)) B ∧
      ∀ t, ¬ (t ∈ gdiff A B ∧ t ∈ gdiff B A)

/-- the property's three `graph_diff` clauses, for any canonicaliser that returns a relabelling of its input -/
def Statement_diff_clauses : Prop :=
  ∀ (canon : Graph → Graph), (∀ g, Spec.Iso g (canon g)) → ∀ g1 g2 : Graph,
    Spec.Iso (gunion (graphDiff canon g1 g2).1 (graphDiff canon g1 g2).2.1) g1 ∧
    Spec.Iso (gunion (graphDiff canon g1 g2).1 (graphDiff canon g1 g2).2.2) g2 ∧
    ∀ t, ¬ (t ∈ (graphDiff canon g1 g2).2.1 ∧ t ∈ (graphDiff canon g1 g2).2.2)

/-- a canonicaliser that is sound (`canon g ≅ g`) and complete (isomorphic inputs give EQUAL outputs)
    decides isomorphism by equality of canonical graphs — the logic behind `isomorphic` / `__eq__` -/
def Statement_canon_decides : Prop :=
  ∀ (canon : Graph → Graph), (∀ g, Spec.Iso g (canon g)) →
    (∀ g h, Spec.Iso g h → SetEq (canon g) (canon h)) →
    ∀ g h, SetEq (canon g) (canon h) ↔ Spec.Iso g h

theorem isoDecide_correct : Statement_isoDecide_correct :=
  fun _ _ => ⟨isoDecide_sound, isoDecide_complete⟩

theorem isoCheck_sound : Statement_isoCheck_sound := by
  intro m g h hc
  simp only [isoCheck, Bool.and_eq_true, List.all_eq_true] at hc
  obtain ⟨⟨hk, hv⟩, hl⟩ := hc
  exact .intro (injOn_of_assignment (fun a ha => alookup_isSome.mp (hk a ha)) (valsNodup_iff.mp hv)) (leaf_iff.mp hl)

theorem iso_equiv : Statement_iso_equiv :=
  ⟨fun g => .of_setEq (SetEq.refl g), fun _ _ => .symm, fun _ _ _ => .trans⟩

theorem relabel_iso : Statement_relabel_iso :=
  fun _ _ _ hinj e => (Spec.Iso.intro hinj (SetEq.refl _)).trans (.of_setEq (SetEq.symm e))

theorem diff_algebra : Statement_diff_algebra := by
  intro A B
  refine ⟨fun t => ?_, fun t => ?_, fun t => ?_⟩ <;> simp only [mem_gunion, mem_ginter, mem_gdiff]
  · by_cases hb : t ∈ B <;> simp [hb]
  · by_cases ha : t ∈ A <;> simp [ha]
  · exact fun ⟨⟨_, h2⟩, h3, _⟩ => h2 h3

theorem diff_clauses : Statement_diff_clauses := by
  intro canon hc g1 g2
  obtain ⟨h1, h2, h3⟩ := diff_algebra (canon g1) (canon g2)
  exact ⟨(Spec.Iso.of_setEq h1).trans (hc g1).symm, (Spec.Iso.of_setEq h2).trans (hc g2).symm, h3⟩

theorem canon_decides : Statement_canon_decides := by
  intro canon hs hcomp g h
  exact ⟨fun e => ((hs g).trans (Spec.Iso.of_setEq e)).trans (hs h).symm, hcomp g h⟩

/-! symmetric structures where the search has to backtrack -/

private def b (n : Nat) : Term := ⟨true, n⟩
private def p : Term := ⟨false, 0⟩

/-- directed 6-cycle 1→2→…→6→1 and two directed 3-cycles (same degree sequence, not isomorphic) -/
def exC6 : Graph := [(b 1, p, b 2), (b 2, p, b 3), (b 3, p, b 4), (b 4, p, b 5), (b 5, p, b 6), (b 6, p, b 1)]
def exC6' : Graph := [(b 14, p, b 15), (b 11, p, b 12), (b 16, p, b 11), (b 13, p, b 14), (b 12, p, b 13), (b 15, p, b 16)]
def ex2C3 : Graph := [(b 1, p, b 2), (b 2, p, b 3), (b 3, p, b 1), (b 4, p, b 5), (b 5, p, b 6), (b 6, p, b 4)]

theorem isoDecide_exC6_exC6' : isoDecide exC6 exC6' = true := by decide +kernel
theorem isoDecide_exC6_ex2C3 : isoDecide exC6 ex2C3 = false := by decide +kernel

example : isoDecide exC6 exC6' = true := isoDecide_exC6_exC6'
example : isoDecide exC6 ex2C3 = false := isoDecide_exC6_ex2C3
example : Spec.Iso exC6 exC6' := (isoDecide_correct _ _).mp isoDecide_exC6_exC6'
example : ¬ Spec.Iso exC6 ex2C3 := fun h =>
  Bool.noConfusion (((isoDecide_correct _ _).mpr h).symm.trans isoDecide_exC6_ex2C3)
example : isoCheck [(1, 11), (2, 12), (3, 13), (4, 14), (5, 15), (6, 16)] exC6 exC6' = true := by decide +kernel


/-- one `Color.distinguish` round is invariant under isomorphism: for an isomorphism `σ : g → h`
    (`h` = relabelled and shuffled `g`, both duplicate-free), a colour tuple `items`, a splitter with hash `hW`
    whose members in `h` are the images of its members in `g` (in any order), every node `n` of `g` and its
    image get colour tuples with the SAME hash — `hash_color` being a sum, hence order-independent. -/
def Statement_refine_equivariant : Prop :=
  ∀ (H : List Item → Nat), (∀ a b : List Item, a.Perm b → H a = H b) →
  ∀ (σ : Nat → Nat) (g h : Graph), g.Nodup → h.Nodup → NoBlankPred g → IsIso σ g h →
  ∀ (items : List Item) (hW : Nat) (Wn Wn' : List Term), Wn'.Perm (Wn.map (Term.rename σ)) →
    (∀ w ∈ Wn, w ∈ gterms g) →
  ∀ n ∈ gterms g,
    H (items ++ distinguishItems hW h Wn' (n.rename σ)) = H (items ++ distinguishItems hW g Wn n)

/-- "no false positives" of the label stage: if both colourings are discrete (every blank node is the first
    member of a colour) and the colour hashes used as labels are pairwise distinct (`_refine` merges colours
    with equal hashes; SHA-256 taken as injective), equal canonical triple sets imply isomorphic inputs. -/
def Statement_canon_sound_partial : Prop :=
  ∀ (hcg hch : Color → Nat) (cg ch : List Color) (g h : Graph),
    (∀ a ∈ bnodes g, ∃ c ∈ cg, ∃ rest, c.nodes = ⟨true, a⟩ :: rest) → (cg.map hcg).Nodup →
    (∀ a ∈ bnodes h, ∃ c ∈ ch, ∃ rest, c.nodes = ⟨true, a⟩ :: rest) → (ch.map hch).Nodup →
    SetEq (canonicalTriples (canonLabels hcg cg) g) (canonicalTriples (canonLabels hch ch) h) →
    Spec.Iso g h

/-- and the canonical graph of a discretely coloured graph is a relabelling of it (`canon g ≅ g`) -/
def Statement_canon_iso_partial : Prop :=
  ∀ (hc : Color → Nat) (cs : List Color) (g : Graph),
    (∀ a ∈ bnodes g, ∃ c ∈ cs, ∃ rest, c.nodes = ⟨true, a⟩ :: rest) → (cs.map hc).Nodup →
    Spec.Iso g (canonicalTriples (canonLabels hc cs) g)

/-- OPEN for rdflib's own `_traces` (not proved here): completeness of a canonicaliser `canon` — isomorphic inputs get
    EQUAL canonical graphs.  For the EXHAUSTIVE search model this is `canonSearch_complete` below; `_traces` differs
    from it by score- and automorphism-based pruning (`_experimental_path`, `_is_automorphism`, `_create_generator`;
    modelled in RV/C14/Traces.lean, see `traces_rename_equivariant`): that pruning never changes the verdict is covered
    by the correspondence run, which compares rdflib's verdicts with `canonSearch` (unpruned) and `isoDecide` on highly
    symmetric graphs. -/
def Statement_canon_complete (canon : Graph → Graph) : Prop :=
  ∀ g h : Graph, Spec.Iso g h → SetEq (canon g) (canon h)

theorem refine_equivariant : Statement_refine_equivariant := by
  intro H hH σ g h hg hh hp hσ items hW Wn Wn' hWp hWg n hn
  apply hH
  apply List.Perm.append_left
  exact distinguishItems_equivariant hσ.inj hp (perm_of_nodup_setEq hσ.inj hg hh hσ.image) hW hWp hWg hn

theorem canon_iso_partial : Statement_canon_iso_partial := by
  intro hc cs g hcov hnd
  exact .intro (injOn_of_assignment (keys_canonLabels hcov)
    ((vals_canonLabels_sublist hc cs).nodup hnd)) (SetEq.refl _)

theorem canon_sound_partial : Statement_canon_sound_partial := by
  intro hcg hch cg ch g h hcovg hndg hcovh hndh e
  exact ((canon_iso_partial hcg cg g hcovg hndg).trans (Spec.Iso.of_setEq e)).trans
    (canon_iso_partial hch ch h hcovh hndh).symm

/-- non-vacuity: the directed 3-cycle with a discrete colouring (hashes 7, 8, 9) -/
example : Spec.Iso [(b 1, p, b 2), (b 2, p, b 3), (b 3, p, b 1)]
    (canonicalTriples (canonLabels (fun c => c.items.length + 7)
      [⟨[b 1], [], none⟩, ⟨[b 2], [.indiv 1], none⟩, ⟨[b 3], [.indiv 1, .indiv 2], none⟩])
      [(b 1, p, b 2), (b 2, p, b 3), (b 3, p, b 1)]) := by
  apply canon_iso_partial
  · intro a ha
    have : a = 1 ∨ a = 2 ∨ a = 3 := by
      simp [bnodes, Triple.bn, Term.bn, b, p] at ha
      omega
    rcases this with rfl | rfl | rfl
    · exact ⟨_, List.mem_cons_self, [], rfl⟩
    · exact ⟨_, List.mem_cons_of_mem _ List.mem_cons_self, [], rfl⟩
    · exact ⟨_, List.mem_cons_of_mem _ (List.mem_cons_of_mem _ List.mem_cons_self), [], rfl⟩
  · decide

/-- non-vacuity of the refinement round: in the directed path 1→2→3 against the splitter {1,2,3},
    the three nodes get three different colour tuples (out-only, both, in-only) -/
example : distinguishItems 5 [(b 1, p, b 2), (b 2, p, b 3)] [b 1, b 2, b 3] (b 2) =
    [.inn 5 p, .out p 5] := by decide +kernel
example : distinguishItems 5 [(b 1, p, b 2), (b 2, p, b 3)] [b 1, b 2, b 3] (b 1) = [.out p 5] := by decide +kernel


/-! ## The worklist loop of `_refine` (RV/C14/Canon.lean `refineStep` / `refinePass` / `refineLoop` / `refine`)

    `RefineRun` (Notions.lean) is the fuel-free big-step semantics of
    `while len(sequence) > 0 and not self._discrete(coloring): W = sequence.pop(); for c in coloring[:]: …`. -/

/-- the loop TERMINATES: for every colouring whose colours are non-empty and every sequence the `while` loop has a run,
    the run is unique, and the fuelled `refineLoop` computes its result as soon as the fuel reaches
    `refineFuel = len(sequence) + (number of nodes - number of colours) + 1` (every iteration pops one splitter and pushes
    exactly one per newly created cell, and there are never more cells than nodes) -/
def Statement_refine_terminates : Prop :=
  ∀ (H : List Item → Nat) (HT : Term → Nat) (g : Graph) (P S : List Color), WFc P →
    ∀ fuel, refineFuel P S ≤ fuel →
      RefineRun H HT g P S (refineLoop H HT g fuel P S) ∧
      ∀ R, RefineRun H HT g P S R → R = refineLoop H HT g fuel P S

/-- the result REFINES the input colouring: colours stay non-empty, the nodes are the same multiset (nothing lost,
    nothing duplicated), every resulting colour lies inside one input colour; and when the resulting colour hashes are
    pairwise distinct the collision merge at the end of `_refine` changes nothing -/
def Statement_refine_refines : Prop :=
  ∀ (H : List Item → Nat) (HT : Term → Nat) (g : Graph) (fuel : Nat) (P S : List Color), WFc P →
    WFc (refineLoop H HT g fuel P (sortDesc H HT S)) ∧
    (allNodes (refineLoop H HT g fuel P (sortDesc H HT S))).Perm (allNodes P) ∧
    SubCells (refineLoop H HT g fuel P (sortDesc H HT S)) P ∧
    (((refineLoop H HT g fuel P (sortDesc H HT S)).map (Color.hash H HT)).Nodup →
      refine H HT g fuel P S = refineLoop H HT g fuel P (sortDesc H HT S))

/-- the call made by `canonical_triples` (`_refine(coloring, coloring[:])` on `_initial_color()`) meets the
    hypotheses: its colours are non-empty and the loop of `refineInit` (the part before the collision merge) runs with
    enough fuel -/
def Statement_refineInit_runs : Prop :=
  ∀ (H : List Item → Nat) (HT : Term → Nat) (g : Graph),
    WFc (initialColor g) ∧
    RefineRun H HT g (initialColor g) (sortDesc H HT (initialColor g))
      (refineLoop H HT g (refineFuel (initialColor g) (initialColor g)) (initialColor g)
        (sortDesc H HT (initialColor g)))

theorem refine_terminates : Statement_refine_terminates := by
  intro H HT g P S hwf fuel hf
  have h := refineLoop_run H HT g fuel P S hwf hf
  exact ⟨h, fun R hR => RefineRun_det hR h⟩

theorem refine_refines : Statement_refine_refines := by
  intro H HT g fuel P S hwf
  obtain ⟨c, h⟩ := refineLoop_refines H HT g fuel P (sortDesc H HT S)
  refine ⟨(h hwf).1, (h hwf).2, c, fun hnd => ?_⟩
  unfold refine
  have := mergeByHash_id H HT (refineLoop H HT g fuel P (sortDesc H HT S)) [] (by simpa using hnd)
  simpa using this

theorem refineInit_runs : Statement_refineInit_runs := by
  intro H HT g
  have hf : refineFuel (initialColor g) (sortDesc H HT (initialColor g)) =
      refineFuel (initialColor g) (initialColor g) := by
    unfold refineFuel
    rw [(sortDesc_perm H HT _).length_eq]
  exact ⟨initialColor_wf g, refineLoop_run H HT g _ _ _ (initialColor_wf g) (Nat.le_of_eq hf)⟩

/-- non-vacuity: on the directed path 1→2→3 the loop separates all three nodes (and needs more than one iteration) -/
example : refinePartition [(b 1, p, b 2), (b 2, p, b 3)] = [[3], [1], [2]] := by decide +kernel
example : refinePartition [(b 1, p, b 2), (b 2, p, b 3), (b 3, p, b 1)] = [[1, 2, 3]] := by decide +kernel

/-- STABILITY, full strength: under the explicit hypothesis that the colour hash is injective on multisets of items
    (`MultisetInj H`: H a = H b → a ~ b; `hash_color` is a sum of SHA-256 values), the colouring the loop returns for the
    call of `canonical_triples` is stable — no colour can be split by any colour of the final partition: for every
    splitter `W` and every colour `c` of the result, all members of `c` have the same multiset of (direction, predicate)
    edges into `W`.  Proof (RefineStable.lean): worklist invariant `WInv` — a set of nodes inside one colour that no
    colour of the sequence splits is split by no colour at all (at the start every colour is in the sequence; a pass keeps
    it because all children of a colour that was in the sequence are pushed, all children but the first of any other
    colour are pushed, the pass makes everything stable against the popped `W`, and stability against `A ∪ B` and `B`
    gives stability against `A`); at `sequence = []` this is stability, and the early exit at a discrete colouring is
    stable outright. -/
def Statement_refine_stable : Prop :=
  ∀ (H : List Item → Nat) (HT : Term → Nat) (g : Graph), MultisetInj H →
    Stable H HT g (refineLoop H HT g (refineFuel (initialColor g) (initialColor g)) (initialColor g)
      (sortDesc H HT (initialColor g)))

/-- STABILITY, the local facts (any colouring, any sequence): (i) after every pass of the loop, every colour of the new colouring is stable
    with respect to the splitter `W` that was popped for this pass (all members have the same multiset of edges into
    `W`) — under `MultisetInj H`; (ii) a discrete colouring (the early exit of the loop) is stable outright -/
def Statement_refine_stable_partial : Prop :=
  (∀ (H : List Item → Nat) (HT : Term → Nat) (g : Graph), MultisetInj H → ∀ (W : Color) (P S : List Color),
    ∀ c' ∈ (refinePass H HT g W P S).1, StableWrt g (W.hash H HT) W.nodes c') ∧
  (∀ (H : List Item → Nat) (HT : Term → Nat) (g : Graph) (cs : List Color),
    cs.all Color.discrete = true → Stable H HT g cs)

theorem refine_stable : Statement_refine_stable :=
  fun H HT g hH => run_stable hH HT g (refineInit_runs H HT g).2 (initialColor_wf g) (initialColor_nodup g)
    fun _ _ h X hX => h X ((sortDesc_perm H HT (initialColor g)).mem_iff.mpr hX) hX

/-- non-vacuity of the hypothesis: a hash that is injective on multisets of items exists (the encoding of the multiset
    of item codes, RefineWitness.lean) -/
example : ∃ H : List Item → Nat, MultisetInj H := ⟨witnessHash, multisetInj_witness⟩

theorem refine_stable_partial : Statement_refine_stable_partial :=
  ⟨fun _ HT g hH W P S => refinePass_stable hH HT g W P S, stable_of_discrete⟩

/-- non-vacuity of (i): in the 3-cycle all nodes see one out- and one in-edge into the cell {1,2,3} -/
example : StableWrt [(b 1, p, b 2), (b 2, p, b 3), (b 3, p, b 1)] 5 [b 1, b 2, b 3] ⟨[b 1, b 2, b 3], [], none⟩ := by
  intro n hn m hm
  simp only [List.mem_cons, List.not_mem_nil, or_false] at hn hm
  rcases hn with rfl | rfl | rfl <;> rcases hm with rfl | rfl | rfl <;> decide

/-- the whole `_refine` computation is EQUIVARIANT under blank-node renaming, for arbitrary hash functions: for `σ`
    injective on the blank nodes of `g` (no blank predicates), running `_refine` on the renamed graph from the renamed
    colouring and sequence gives exactly the renamed result — the same cells in the same order with the same colour
    tuples and hashes; in particular for the call of `canonical_triples` (`refineInit`, which includes `_initial_color`).
    (What is NOT covered: that the result does not depend on the iteration order of Python's sets and of the store —
    `refine_equivariant` shows it for one `distinguish` round, `canonSearch_equivariant` for the exhaustive search.) -/
def Statement_refine_rename_equivariant : Prop :=
  ∀ (H : List Item → Nat) (HT : Term → Nat) (σ : Nat → Nat) (g : Graph), InjOn σ (bnodes g) → NoBlankPred g →
    (∀ (fuel : Nat) (P S : List Color), InG g P → InG g S →
      refine H HT (g.rename σ) fuel (P.map (mapColor (Term.rename σ))) (S.map (mapColor (Term.rename σ))) =
        (refine H HT g fuel P S).map (mapColor (Term.rename σ))) ∧
    refineInit H HT (g.rename σ) = (refineInit H HT g).map (mapColor (Term.rename σ))

/-- `Statement_canon_complete`, PARTIAL, for rdflib's own canonicaliser on the path without search: if the initial
    refinement already separates all blank nodes of `g` (every blank node is the first member of a colour, i.e.
    `_discrete`), the canonical triples do not depend on the blank-node labels: `canonical_triples(σ g) =
    canonical_triples(g)` for every injective relabelling `σ`, as lists.  Exact hypothesis: the second graph is
    `g.rename σ` (same triple order) and refinement reaches a discrete colouring; the general `Statement_canon_complete`
    stays open. -/
def Statement_canon_complete_partial : Prop :=
  ∀ (H : List Item → Nat) (HT : Term → Nat) (σ : Nat → Nat) (g : Graph), InjOn σ (bnodes g) → NoBlankPred g →
    (∀ a ∈ bnodes g, ∃ c ∈ refineInit H HT g, ∃ rest, c.nodes = ⟨true, a⟩ :: rest) →
    canonRefine H HT (g.rename σ) = canonRefine H HT g

theorem refine_rename_equivariant : Statement_refine_rename_equivariant :=
  fun H HT _ _ hinj hp =>
    ⟨fun fuel P S hP hS => refine_rename hinj hp H HT fuel P S hP hS, refineInit_rename hinj hp H HT⟩

theorem canon_complete_partial : Statement_canon_complete_partial :=
  fun H HT _ _ hinj hp hcov => canonRefine_rename hinj hp H HT (keys_canonLabels hcov)

/-- non-vacuity: the path 1→2→3 is refined to a discrete colouring, and relabelling it (1,2,3 ↦ 7,5,9) gives literally
    the same canonical triples -/
example : refineDiscrete sumHash termHash [(b 1, p, b 2), (b 2, p, b 3)] = true := by decide +kernel
example : canonRefine sumHash termHash [(b 7, p, b 5), (b 5, p, b 9)] =
    canonRefine sumHash termHash [(b 1, p, b 2), (b 2, p, b 3)] := by decide +kernel

/-! ## The individualisation search `_traces` (RV/C14/Traces.lean) -/

/-- the whole search is EQUIVARIANT under blank-node renaming: for an injective `σ` (no blank predicates), ARBITRARY hash
    functions `H`, `HT` and any colouring `cs`,
    (i) the automorphism test gives the same answer on the renamed data;
    (ii) the loop over the candidates of `_traces` run on `σ g` from `σ cs` ends in the σ-image of the state it ends in on
         `g` from `cs` — the kept branches `best` (the leaves explored at this level), their experimental paths, the
         generator and the visited set are the σ-images, the best score is the same;
    (iii) `_traces` returns the σ-image of the leaf it returns on `g` after the same number of calls;
    (iv) so does the whole of `canonical_triples` up to the final colouring (`finalColoring`).
    No hypothesis on the hashes is needed: every score, colour hash and leaf key is computed from label-free data
    (items, term codes, hashes), so it is σ-invariant by construction; what IS needed is that the two runs visit
    candidates, nodes and triples in corresponding order — the statement is about `g.rename σ` with the same list
    orders, not about Python's label-dependent set iteration. -/
def Statement_traces_rename_equivariant : Prop :=
  ∀ (H : List Item → Nat) (HT : Term → Nat) (σ : Nat → Nat) (g : Graph), Function.Injective σ → NoBlankPred g →
    (∀ cs a b : List Color,
      isAutomorphism (g.rename σ) (cs.map (mapColor (Term.rename σ))) (a.map (mapColor (Term.rename σ)))
        (b.map (mapColor (Term.rename σ))) = isAutomorphism g cs a b) ∧
    (∀ (efuel : Nat) (cs : List Color),
      (candidates (cs.map (mapColor (Term.rename σ)))).foldl
          (tracesStep H HT (g.rename σ) efuel (cs.map (mapColor (Term.rename σ)))) TState.init =
        mapState σ ((candidates cs).foldl (tracesStep H HT g efuel cs) TState.init)) ∧
    (∀ (efuel fuel : Nat) (cs : List Color),
      traces H HT (g.rename σ) efuel fuel (cs.map (mapColor (Term.rename σ))) =
        ((traces H HT g efuel fuel cs).1.map (mapColor (Term.rename σ)), (traces H HT g efuel fuel cs).2)) ∧
    finalColoring H HT (g.rename σ) =
      ((finalColoring H HT g).1.map (mapColor (Term.rename σ)), (finalColoring H HT g).2)

/-- `Statement_canon_complete` for rdflib's own canonicaliser INCLUDING the search, PARTIAL: whenever the final colouring labels
    every blank node of `g` (it is a discrete leaf — what `_traces` returns), the canonical triples do not depend on the
    blank-node labels: `canonical_triples(σ g) = canonical_triples(g)` as lists, for every injective `σ`.
    Exact hypothesis that remains: the second graph is `g.rename σ` with the same triple / node orders (see above). -/
def Statement_canon_complete_traces_partial : Prop :=
  ∀ (H : List Item → Nat) (HT : Term → Nat) (σ : Nat → Nat) (g : Graph), Function.Injective σ → NoBlankPred g →
    (∀ a ∈ bnodes g, ∃ c ∈ (finalColoring H HT g).1, ∃ rest, c.nodes = ⟨true, a⟩ :: rest) →
    canonTraces H HT (g.rename σ) = canonTraces H HT g

theorem traces_rename_equivariant : Statement_traces_rename_equivariant := by
  intro H HT σ g hσ hp
  refine ⟨fun cs a b => isAutomorphism_renameG hσ cs a b, fun efuel cs => ?_,
    fun efuel fuel cs => traces_renameG hσ hp H HT efuel fuel cs, finalColoring_renameG hσ hp H HT⟩
  rw [candidates_map]
  exact foldl_tracesStep_renameG hσ hp H HT efuel cs (candidates cs) TState.init

theorem canon_complete_traces_partial : Statement_canon_complete_traces_partial :=
  fun H HT _ _ hσ hp hcov => canonTraces_rename hσ hp H HT (keys_canonLabels hcov)

theorem traces_cycle3 :
    (finalColoring sumHash termHash [(b 1, p, b 2), (b 2, p, b 3), (b 3, p, b 1)]).2 = 1 ∧
    allDiscrete (finalColoring sumHash termHash [(b 1, p, b 2), (b 2, p, b 3), (b 3, p, b 1)]).1 = true ∧
    canonTraces sumHash termHash [(b 11, p, b 12), (b 12, p, b 13), (b 13, p, b 11)] =
      canonTraces sumHash termHash [(b 1, p, b 2), (b 2, p, b 3), (b 3, p, b 1)] := by
  decide +kernel

/-- non-vacuity: the directed 3-cycle needs the search (one call of `_traces`, a discrete leaf), and a relabelled copy
    gets literally the same canonical triples -/
example : (finalColoring sumHash termHash [(b 1, p, b 2), (b 2, p, b 3), (b 3, p, b 1)]).2 = 1 := traces_cycle3.1
example : allDiscrete (finalColoring sumHash termHash [(b 1, p, b 2), (b 2, p, b 3), (b 3, p, b 1)]).1 = true :=
  traces_cycle3.2.1
example : canonTraces sumHash termHash [(b 11, p, b 12), (b 12, p, b 13), (b 13, p, b 11)] =
    canonTraces sumHash termHash [(b 1, p, b 2), (b 2, p, b 3), (b 3, p, b 1)] := traces_cycle3.2.2

/-! ## The exhaustive individualisation–refinement search `canonSearch` (RV/C14/Search.lean)

    The unpruned reference for `_traces`: refine, and if the colouring is not discrete individualise each member of the
    first non-trivial cell in turn and recurse; the canonical form is the minimum of the leaves' label-free
    serialisations.  `H` (a sum of hashes in the code) is only assumed invariant under permutation of its items
    (`PermInv`); discreteness is tested on the colours themselves, so no collision-freeness is assumed. -/

/-- (i) the search is equivariant: for an isomorphism `π : g → h` (both triple lists duplicate-free, no blank predicates)
    the leaves below the image of an individualisation path are a permutation of the leaves below the path — leaves
    being label-free, they are literally the same serialisations -/
def Statement_canonSearch_equivariant : Prop :=
  ∀ (Hs : Hashes), PermInv Hs → ∀ (π : Nat → Nat) (g h : Graph), g.Nodup → h.Nodup → NoBlankPred g → IsIso π g h →
    ∀ (fuel : Nat) (ind : List Nat), (∀ x ∈ ind, x ∈ bnodes g) →
      (leaves Hs h fuel (ind.map π)).Perm (leaves Hs g fuel ind)

/-- (ii) completeness of the exhaustive search: isomorphic inputs get the SAME canonical form -/
def Statement_canonSearch_complete : Prop :=
  ∀ (Hs : Hashes), PermInv Hs → ∀ (g h : Graph), g.Nodup → h.Nodup → NoBlankPred g →
    Spec.Iso g h → canonSearch Hs g = canonSearch Hs h

/-- soundness: a common canonical form is a common injective relabelling, so the inputs are isomorphic
    (no assumption on the hashes at all) -/
def Statement_canonSearch_sound : Prop :=
  ∀ (Hs : Hashes) (g h : Graph) (L : List (List Nat)),
    canonSearch Hs g = some L → canonSearch Hs h = some L → Spec.Iso g h

/-- (iii) whenever the search finds a leaf for `g`, equality of canonical forms decides isomorphism -/
def Statement_canonSearch_decides : Prop :=
  ∀ (Hs : Hashes), PermInv Hs → ∀ (g h : Graph), g.Nodup → h.Nodup → NoBlankPred g → canonSearch Hs g ≠ none →
    (canonSearch Hs g = canonSearch Hs h ↔ Spec.Iso g h)

/-- the driver's concrete hashes meet the one assumption of the theorems -/
def Statement_driverHashes_permInv : Prop := PermInv driverHashes

theorem canonSearch_equivariant : Statement_canonSearch_equivariant := by
  intro Hs hH π g h hg hh hp hσ fuel ind hind
  obtain ⟨τ, d, e⟩ := isoData_of_isIso hg hh hp hσ
  rw [← List.map_congr_left fun x hx => e x (hind x hx)]
  exact leaves_equivariant Hs hH d fuel ind

theorem canonSearch_complete : Statement_canonSearch_complete := by
  intro Hs hH g h hg hh hp ⟨π, hσ⟩
  obtain ⟨τ, d, _⟩ := isoData_of_isIso hg hh hp hσ
  exact (canonSearch_eq_of_isoData Hs hH d).symm

theorem canonSearch_sound : Statement_canonSearch_sound := by
  intro Hs g h L hg hh
  obtain ⟨tg, dg, eg⟩ := leaves_form Hs g _ _ L (head_isort_mem hg)
  obtain ⟨th, dh, eh⟩ := leaves_form Hs h _ _ L (head_isort_mem hh)
  exact ((iso_of_discrete dg).trans (.of_setEq (setEq_of_leaf_eq (eg.symm.trans eh)))).trans (iso_of_discrete dh).symm

theorem canonSearch_decides : Statement_canonSearch_decides := by
  intro Hs hH g h hg hh hp hne
  constructor
  · intro e
    cases hL : canonSearch Hs g with
    | none => exact absurd hL hne
    | some L => exact canonSearch_sound Hs g h L hL (by rw [← e, hL])
  · exact canonSearch_complete Hs hH g h hg hh hp

theorem foldl_add_perm {a b : List Nat} (hp : a.Perm b) (z : Nat) : a.foldl (· + ·) z = b.foldl (· + ·) z :=
  hp.foldl_eq' (fun x _ y _ z => Nat.add_right_comm z x y) z

theorem driverHashes_perm_invariant : Statement_driverHashes_permInv := by
  intro c a b hp
  simp only [driverHashes, foldl_add_perm hp 0]

theorem canonSearch_cycle3 :
    canonSearch driverHashes [(b 1, p, b 2), (b 2, p, b 3), (b 3, p, b 1)] =
      canonSearch driverHashes [(b 9, p, b 7), (b 8, p, b 9), (b 7, p, b 8)] ∧
    canonSearch driverHashes [(b 1, p, b 2), (b 2, p, b 3), (b 3, p, b 1)] ≠
      canonSearch driverHashes [(b 1, p, b 2), (b 2, p, b 3), (b 1, p, b 3)] ∧
    canonSearch driverHashes [(b 1, p, b 2), (b 2, p, b 3), (b 3, p, b 1)] ≠ none := by
  decide +kernel

/-- non-vacuity: the directed 3-cycle and a relabelled copy get the same canonical form, a 3-path does not -/
example : canonSearch driverHashes [(b 1, p, b 2), (b 2, p, b 3), (b 3, p, b 1)] =
    canonSearch driverHashes [(b 9, p, b 7), (b 8, p, b 9), (b 7, p, b 8)] := canonSearch_cycle3.1
example : canonSearch driverHashes [(b 1, p, b 2), (b 2, p, b 3), (b 3, p, b 1)] ≠
    canonSearch driverHashes [(b 1, p, b 2), (b 2, p, b 3), (b 1, p, b 3)] := canonSearch_cycle3.2.1
example : canonSearch driverHashes [(b 1, p, b 2), (b 2, p, b 3), (b 3, p, b 1)] ≠ none := canonSearch_cycle3.2.2

/-! ## Skolemisation (Model.lean part C): round trips through `skolemize` / `de_skolemize` -/

/-- full-strength clause: skolemising then de-skolemising ANY graph returns an isomorphic graph.
    The pinned code falsifies it (known finding C14-K1): see `skolem_roundtrip_witness`. -/
def Statement_skolem_roundtrip (U : UrlOps) (fresh : Str → Str) : Prop :=
  ∀ g : SGraph, LabelsOk U g → Spec.SIso (deSkolemize U fresh (skolemize U g)) g

/-- the proved part: graphs with no IRI already under the well-known genid path (`NoGenid`) whose
    blank-node labels satisfy the urllib contract (`LabelsOk`) come back EQUAL, label for label -/
def Statement_skolem_roundtrip_partial : Prop :=
  ∀ (U : UrlOps) (fresh : Str → Str) (g : SGraph), NoGenid U g → LabelsOk U g →
    deSkolemize U fresh (skolemize U g) = g ∧ Spec.SIso (deSkolemize U fresh (skolemize U g)) g

/-- the driver's concrete `urllib` satisfies the contract for labels without `/ ? # ;` -/
def Statement_simpleUrl_contract : Prop :=
  ∀ l : Str, LabelChars l → LabelOk simpleUrl l

/-- ONE consistent label map per call: the code, which consults and extends the module-level `skolems` dict term
    by term (`deSkolemizeSt`), translates every term of the call by the single function its FINAL dict stands for.
    It rests on one property of the modelled code: dict entries are added and never changed or dropped (`CacheExt`,
    proved in SkolemLemmas.lean). -/
def Statement_deskolemize_one_map : Prop :=
  ∀ (U : UrlOps) (mint : Nat → Str) (st : SkState) (g : SGraph),
    (deSkolemizeSt U mint st g).1 =
      deSkolemize U ((deSkolemizeSt U mint st g).2.cache.fn (fun u => u)) g

/-- the guarded round trip for the stateful code, whatever the dict held before the call -/
def Statement_skolem_roundtrip_stateful_partial : Prop :=
  ∀ (U : UrlOps) (mint : Nat → Str) (st : SkState) (g : SGraph), NoGenid U g → LabelsOk U g →
    (deSkolemizeSt U mint st (skolemize U g)).1 = g

/-- round trip through the EXTERNAL genid branch (`skolemize(authority=a, basepath="/.well-known/genid/")`): the blank
    nodes come back under fresh labels, and the result is the input relabelled by an injective map (so the two
    graphs are isomorphic) — given: fresh labels are distinct (`mint` injective), the dict holds only labels minted
    so far, no genid IRI in the input, no blank predicate, and the urllib contract that the skolem IRIs are recognised
    as external genids and are distinct for distinct labels. -/
def Statement_skolem_roundtrip_external : Prop :=
  ∀ (U : UrlOps) (mint : Nat → Str), Function.Injective mint → ∀ (auth base : Str) (g : SGraph) (st : SkState),
    CacheFresh mint st → NoGenid U g → (∀ t ∈ g, t.2.1.labels = []) →
    (∀ l ∈ slabels g, isRdflibSkolem U (skolemizeLabelAt U auth base l) = false ∧
      isExternalSkolem U (skolemizeLabelAt U auth base l) = true) →
    (∀ a ∈ slabels g, ∀ b ∈ slabels g,
      skolemizeLabelAt U auth base a = skolemizeLabelAt U auth base b → a = b) →
    Spec.SIso g (deSkolemizeSt U mint st (skolemizeAt U auth base g)).1

/-- PARTIAL skolemisation: skolemising any chosen subset `sel` of the blank nodes (`g.skolemize(bnode=b)` one by one;
    the chosen node may be subject, object or both, next to blank nodes that stay blank) and de-skolemising gives
    the graph back, under the same guards as the full round trip -/
def Statement_skolem_roundtrip_subset_partial : Prop :=
  ∀ (U : UrlOps) (mint : Nat → Str) (st : SkState) (sel : List Str) (g : SGraph), NoGenid U g → LabelsOk U g →
    (deSkolemizeSt U mint st (skolemizeSel U defaultAuthority rdflibSkolemGenid sel g)).1 = g

theorem deskolemize_one_map : Statement_deskolemize_one_map :=
  fun U mint st g => deSkolemizeSt_final U mint g st _

theorem skolem_roundtrip_stateful_partial : Statement_skolem_roundtrip_stateful_partial := by
  intro U mint st g hn hl
  rw [deskolemize_one_map]
  exact deSk_sk_eq U _ g hn hl

theorem skolem_roundtrip_subset_partial : Statement_skolem_roundtrip_subset_partial := by
  intro U mint st sel g hn hl
  rw [deskolemize_one_map]
  exact deSk_skSel_eq U _ sel g hn hl

theorem skolem_roundtrip_external : Statement_skolem_roundtrip_external := by
  intro U mint hm auth base g st hf hn hp hx hinj
  obtain ⟨ρ, hρ, e⟩ := external_roundtrip U mint hm auth base g st hf hn hp hx hinj
  exact ⟨ρ, hρ, by rw [e]; exact SetEq.refl _⟩

theorem skolem_roundtrip_partial : Statement_skolem_roundtrip_partial := by
  intro U fresh g hn hl
  have e := deSk_sk_eq U fresh g hn hl
  refine ⟨e, fun a => a, fun _ _ _ _ h => h, ?_⟩
  rw [e, SGraph.rename_id]
  exact SetEq.refl g

theorem simpleUrl_contract : Statement_simpleUrl_contract := by
  intro l hl
  have hg : ∀ c ∈ rdflibSkolemGenid, c ≠ '?' ∧ c ≠ '#' ∧ c ≠ ';' := by rw [rdflibSkolemGenid_eq]; decide +kernel
  obtain ⟨hpqf, hpath⟩ := simpleUrl_skolemIri (a := defaultAuthority) (b := rdflibSkolemGenid) (l := l)
    (by rw [defaultAuthority_eq]; decide +kernel) (by rw [defaultAuthority_eq, String.toList_ofList]; decide +kernel)
    (by rw [defaultAuthority_eq]; decide +kernel) ⟨_, rdflibSkolemGenid_eq⟩
    (fun c hc => (List.mem_append.mp hc).elim (hg c) (fun h => (hl c h).2))
  rw [LabelOk, isRdflibSkolem, skolemizeLabel, hpqf, hpath]
  refine ⟨?_, List.drop_left⟩
  rw [rdflibSkolemGenid_eq, Bool.not_false, Bool.true_and]
  exact rfindZero_append (fun c hc => (hl c hc).1)

/-- an IRI under the well-known genid path of a foreign authority, and a graph that has it as an object: the case
    `NoGenid` excludes (`skolem_roundtrip_witness`) -/
def exIri : Str := "http://a.example/.well-known/genid/abc".toList
def exGenid : SGraph := [(.bnode "b".toList, .iri "http://e/p".toList, .iri exIri)]

theorem skolem_roundtrip_witness (fresh : Str → Str) : ¬ Statement_skolem_roundtrip simpleUrl fresh := by
  intro hs
  have hl : LabelsOk simpleUrl exGenid := by
    intro l hl
    have : l = "b".toList := by simpa [exGenid, slabels, STerm.labels] using hl
    subst this
    exact simpleUrl_contract _ (by rw [String.toList_ofList]; decide)
  obtain ⟨σ, _, e⟩ := hs exGenid hl
  exact roundtrip_fails_of_external
    (by unfold exIri; rw [isRdflibSkolem, rdflibSkolemGenid_eq, String.toList_ofList]; decide +kernel)
    (by unfold exIri; rw [isExternalSkolem, skolemGenid_eq, String.toList_ofList]; decide +kernel) σ e

/-- non-vacuity of the literal guard: a LITERAL whose lexical form is the skolem IRI of the graph's own blank node
    is not a skolem IRI — `NoGenid` holds and the graph round-trips unchanged -/
example : NoGenid simpleUrl
    [(.bnode "b".toList, .iri "http://e/p".toList,
      .lit "https://rdflib.github.io/.well-known/genid/rdflib/b".toList 0)] := by
  intro t ht u hu
  cases List.eq_of_mem_singleton ht
  rcases hu with hu | hu <;> cases hu

/-- the driver's `urljoin`: an authority WITH a path still puts the skolem IRI under the well-known path at the root,
    a relative basepath does not (those IRIs are outside the clause; the harness only observes them) -/
example : simpleJoin "http://example.org/datasets/42/".toList "/.well-known/genid/rdflib/b".toList =
    "http://example.org/.well-known/genid/rdflib/b".toList := by
  repeat rw [String.toList_ofList]
  decide +kernel
example : simpleJoin "http://example.org/datasets/42".toList ".well-known/genid/rdflib/b".toList =
    "http://example.org/datasets/.well-known/genid/rdflib/b".toList := by
  repeat rw [String.toList_ofList]
  decide +kernel
example : simpleJoin "http://example.org".toList ".well-known/genid/rdflib/b".toList =
    "http://example.org/.well-known/genid/rdflib/b".toList := by
  repeat rw [String.toList_ofList]
  decide +kernel

/-- non-vacuity of the partial round trip: `b` is skolemised where it is the OBJECT of a triple with a blank subject -/
example : skolemizeSel simpleUrl defaultAuthority rdflibSkolemGenid ["b".toList]
    [(.bnode "a".toList, .iri "http://e/p".toList, .bnode "b".toList)] =
    [(.bnode "a".toList, .iri "http://e/p".toList,
      .iri "https://rdflib.github.io/.well-known/genid/rdflib/b".toList)] := by
  rw [defaultAuthority_eq, rdflibSkolemGenid_eq]
  repeat rw [String.toList_ofList]
  decide +kernel

/-- non-vacuity of the external round trip: two occurrences of one node get ONE fresh label -/
example : (deSkolemizeSt simpleUrl (fun k => (toString k).toList) ⟨[], 0⟩
    (skolemizeAt simpleUrl "http://example.org".toList skolemGenid
      [(.bnode "x".toList, .iri "http://e/p".toList, .bnode "y".toList),
       (.bnode "y".toList, .iri "http://e/p".toList, .bnode "x".toList)])).1 =
    [(.bnode "0".toList, .iri "http://e/p".toList, .bnode "1".toList),
     (.bnode "1".toList, .iri "http://e/p".toList, .bnode "0".toList)] := by
  repeat rw [String.toList_ofList]
  decide +kernel

example : NoGenid simpleUrl [(.bnode "b".toList, .iri "http://e/p".toList, .iri "http://e/x".toList)] := by
  intro t ht u hu
  cases List.eq_of_mem_singleton ht
  rcases hu with hu | hu <;> cases hu
  rw [isRdflibSkolem, isExternalSkolem, rdflibSkolemGenid_eq, skolemGenid_eq, String.toList_ofList]
  decide +kernel

end RV.C14

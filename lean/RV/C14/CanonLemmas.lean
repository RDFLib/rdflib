import RV.C14.Canon
import RV.C14.Lemmas
/-
  The transfer from a renaming injective on `bnodes g` to an injective one (`exists_injective_rename`); one `distinguish`
  round is equivariant under an isomorphism; keys and values of `canonLabels`.

  Names, here and in the later files: `…_map` — only the colouring is mapped (by any `ρ : Term → Term`, or by `Term.rename σ`
  for any `σ`); `…_renameG` — the graph is renamed too, by an injective `σ` (every equality, membership and dict test then
  commutes with it); `…_rename` — the same for `σ` injective on `bnodes g`, by transfer; `…_equiv`, `…_equivariant` — up to
  order (`Perm`), under an isomorphism.  A lemma that needs less says so in its hypotheses.
-/
namespace RV.C14

theorem mem_gterms {g : Graph} {x : Term} :
    x ∈ gterms g ↔ ∃ t ∈ g, x = t.1 ∨ x = t.2.1 ∨ x = t.2.2 := by
  induction g with
  | nil => simp [gterms]
  | cons t g ih => simp only [gterms, List.mem_cons, ih, exists_eq_or_imp, or_assoc]

theorem blank_id_mem_bnodes {g : Graph} {x : Term} (hx : x ∈ gterms g) (hb : x.blank = true) :
    x.id ∈ bnodes g := by
  obtain ⟨t, ht, h⟩ := mem_gterms.mp hx
  refine mem_bnodes.mpr ⟨t, ht, ?_⟩
  have hbn := Term.id_mem_bn hb
  simp only [Triple.bn, List.mem_append]
  rcases h with h | h | h
  · exact Or.inl (h ▸ hbn)
  · exact Or.inr (Or.inl (h ▸ hbn))
  · exact Or.inr (Or.inr (h ▸ hbn))

theorem rename_eq_of_mem_gterms {σ τ : Nat → Nat} {g : Graph} (e : ∀ a ∈ bnodes g, τ a = σ a) {x : Term}
    (hx : x ∈ gterms g) : x.rename τ = x.rename σ :=
  Term.rename_congr fun hb => e _ (blank_id_mem_bnodes hx hb)

/-- statements about `g.rename σ` are proved for an injective `σ` and carried over by this -/
theorem exists_injective_rename {σ : Nat → Nat} {g : Graph} (hinj : InjOn σ (bnodes g)) :
    ∃ τ : Nat → Nat, Function.Injective τ ∧ g.rename τ = g.rename σ ∧ ∀ x ∈ gterms g, x.rename τ = x.rename σ := by
  obtain ⟨τ, hτ, e⟩ := exists_injective_ext σ _ hinj
  exact ⟨τ, hτ, Graph.rename_congr e, fun _ hx => rename_eq_of_mem_gterms e hx⟩

theorem term_rename_inj {σ : Nat → Nat} {g : Graph} (hinj : InjOn σ (bnodes g)) {a b : Term}
    (ha : a ∈ gterms g) (hb : b ∈ gterms g) (h : a.rename σ = b.rename σ) : a = b := by
  obtain ⟨τ, hτ, _, et⟩ := exists_injective_rename hinj
  rw [← et a ha, ← et b hb] at h
  exact rename_injective hτ h

theorem flatMap_perm_congr {α β : Type} (l : List α) {f f' : α → List β}
    (h : ∀ a ∈ l, (f a).Perm (f' a)) : (l.flatMap f).Perm (l.flatMap f') := by
  induction l with
  | nil => simp
  | cons x xs ih =>
    simp only [List.flatMap_cons]
    exact List.Perm.append (h x List.mem_cons_self) (ih (fun a ha => h a (List.mem_cons_of_mem _ ha)))

theorem filterMap_congr_mem {α β : Type} (l : List α) {f f' : α → Option β}
    (h : ∀ a ∈ l, f a = f' a) : l.filterMap f = l.filterMap f' := by
  induction l with
  | nil => rfl
  | cons x xs ih =>
    simp only [List.filterMap_cons, h x List.mem_cons_self,
      ih (fun a ha => h a (List.mem_cons_of_mem _ ha))]

theorem distinguishItems_perm (hW : Nat) {g g' : Graph} (hg : g'.Perm g) {Wn Wn' : List Term} (hWn : Wn'.Perm Wn)
    (n : Term) : (distinguishItems hW g' Wn' n).Perm (distinguishItems hW g Wn n) :=
  (List.Perm.flatMap_right _ hWn).trans
    (flatMap_perm_congr _ fun _ _ => (hg.filterMap _).append (hg.filterMap _))

theorem distinguishItems_renameG {σ : Nat → Nat} (hσ : Function.Injective σ) {g : Graph} (hp : NoBlankPred g)
    (hW : Nat) (Wn : List Term) (n : Term) :
    distinguishItems hW (g.rename σ) (Wn.map (Term.rename σ)) (n.rename σ) = distinguishItems hW g Wn n := by
  have test : ∀ (t : Triple) (a b : Term),
      ((t.rename σ).1 = a.rename σ ∧ (t.rename σ).2.2 = b.rename σ) ↔ (t.1 = a ∧ t.2.2 = b) :=
    fun t a b => and_congr (rename_injective hσ).eq_iff (rename_injective hσ).eq_iff
  have pred : ∀ t ∈ g, (t.rename σ).2.1 = t.2.1 := fun t ht => rename_nonblank σ (hp t ht)
  unfold distinguishItems
  rw [List.flatMap_map]
  congr 1
  funext node
  congr 1 <;>
  · rw [Graph.rename, List.filterMap_map]
    refine filterMap_congr_mem g fun t ht => ?_
    simp only [Function.comp, test, pred t ht]

theorem distinguishItems_equivariant {σ : Nat → Nat} {g h : Graph} (hinj : InjOn σ (bnodes g))
    (hp : NoBlankPred g) (hperm : h.Perm (g.rename σ)) (hW : Nat) {Wn Wn' : List Term}
    (hWperm : Wn'.Perm (Wn.map (Term.rename σ))) (hWg : ∀ w ∈ Wn, w ∈ gterms g)
    {n : Term} (hn : n ∈ gterms g) :
    (distinguishItems hW h Wn' (n.rename σ)).Perm (distinguishItems hW g Wn n) := by
  obtain ⟨τ, hτ, eg, et⟩ := exists_injective_rename hinj
  rw [← distinguishItems_renameG hτ hp hW Wn n, eg, et n hn, List.map_congr_left fun w hw => et w (hWg w hw)]
  exact distinguishItems_perm hW hperm hWperm _

theorem perm_of_nodup_setEq {σ : Nat → Nat} {g h : Graph} (hinj : InjOn σ (bnodes g))
    (hg : g.Nodup) (hh : h.Nodup) (e : SetEq (g.rename σ) h) : h.Perm (g.rename σ) := by
  obtain ⟨τ, hτ, eg, _⟩ := exists_injective_rename hinj
  have hnd : (g.rename σ).Nodup := by
    rw [← eg]
    exact nodup_map_of_injOn hg fun a _ b _ hab => triple_rename_injective hτ hab
  exact (List.perm_ext_iff_of_nodup hh hnd).mpr (fun t => (e t).symm)

theorem vals_canonLabels_sublist (hc : Color → Nat) (cs : List Color) :
    (vals (canonLabels hc cs)).Sublist (cs.map hc) := by
  induction cs with
  | nil => simp [canonLabels, vals]
  | cons c cs ih =>
    unfold canonLabels
    split
    · split
      · simp only [vals, List.map_cons]
        exact List.Sublist.cons_cons _ ih
      · exact List.Sublist.cons _ ih
    · exact List.Sublist.cons _ ih

theorem keys_canonLabels {hc : Color → Nat} {cs : List Color} {l : List Nat}
    (hcov : ∀ a ∈ l, ∃ c ∈ cs, ∃ rest, c.nodes = ⟨true, a⟩ :: rest) : ∀ a ∈ l, a ∈ keys (canonLabels hc cs) := by
  intro a ha
  have h := hcov a ha
  clear hcov ha
  induction cs with
  | nil => obtain ⟨c, hc', _⟩ := h; simp at hc'
  | cons d ds ih =>
    obtain ⟨c, hcm, rest, hn⟩ := h
    rcases List.mem_cons.mp hcm with rfl | hcm
    · unfold canonLabels
      rw [hn]
      simp [keys]
    · have := ih ⟨c, hcm, rest, hn⟩
      unfold canonLabels
      split
      · split
        · simp only [keys, List.map_cons, List.mem_cons]; exact Or.inr this
        · exact this
      · exact this

end RV.C14

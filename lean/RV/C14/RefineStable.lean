import RV.C14.RefineLemmas
/-
  Stability of the colouring `_refine` returns, under the explicit SHA-256 hypothesis `MultisetInj`: after a pass no
  colour can be split by the popped splitter, and the worklist invariant `WInv` carries this to the end of the loop.
-/
namespace RV.C14

theorem StableWrt.of_length_le_one {g : Graph} {hW : Nat} {Wn : List Term} {c : Color} (h : c.nodes.length ≤ 1) :
    StableWrt g hW Wn c := by
  intro n hn m hm
  cases hnodes : c.nodes with
  | nil => rw [hnodes] at hn; cases hn
  | cons a rest =>
    rw [hnodes] at h hn hm
    cases rest with
    | nil => rw [List.mem_singleton.mp hn, List.mem_singleton.mp hm]
    | cons _ _ => simp at h

theorem length_le_one_of_not_active {c : Color} (h : ¬ activeC c = true) : c.nodes.length ≤ 1 := by
  unfold activeC at h
  cases hnodes : c.nodes with
  | nil => simp
  | cons n0 rest =>
    rw [hnodes] at h
    cases rest with
    | nil => simp
    | cons _ _ => simp at h

theorem splitOf_stable {H : List Item → Nat} (hH : MultisetInj H) (HT : Term → Nat) (g : Graph) (W c : Color) :
    ∀ c' ∈ splitOf H HT g W c, StableWrt g (W.hash H HT) W.nodes c' := by
  intro c' hc' n hn m hm
  have key := (splitOf_groups H HT g W c).2.2 c' ((sortDesc_perm H HT _).mem_iff.mp hc')
  exact (List.perm_append_left_iff _).mp (hH _ _ ((key n hn).trans (key m hm).symm))

theorem refinePass_stable {H : List Item → Nat} (hH : MultisetInj H) (HT : Term → Nat) (g : Graph)
    (W : Color) (P S : List Color) :
    ∀ c' ∈ (refinePass H HT g W P S).1, StableWrt g (W.hash H HT) W.nodes c' := by
  intro c' hc'
  obtain ⟨c, _, hcc⟩ := mem_refinePass.mp hc'
  unfold keepOrSplit at hcc
  by_cases hact : activeC c = true
  · rw [if_pos hact] at hcc
    exact splitOf_stable hH HT g W c c' hcc
  · rw [if_neg hact, List.mem_singleton] at hcc
    exact hcc ▸ StableWrt.of_length_le_one (length_le_one_of_not_active hact)

theorem stable_of_discrete (H : List Item → Nat) (HT : Term → Nat) (g : Graph) (cs : List Color)
    (h : cs.all Color.discrete = true) : Stable H HT g cs := fun _ _ c hc =>
  StableWrt.of_length_le_one (Nat.le_of_eq (by simpa [Color.discrete] using List.all_eq_true.mp h c hc))

def setHash (h : Nat) : Item → Item
  | .out p _ => .out p h
  | .inn _ p => .inn h p
  | .indiv k => .indiv k

theorem distinguishItems_setHash (h h' : Nat) (g : Graph) (Wn : List Term) (n : Term) :
    (distinguishItems h g Wn n).map (setHash h') = distinguishItems h' g Wn n := by
  unfold distinguishItems
  rw [List.map_flatMap]
  congr 1
  funext node
  rw [List.map_append, List.map_filterMap, List.map_filterMap]
  congr 1
  · congr 1; funext t; by_cases hc : t.1 = n ∧ t.2.2 = node <;> simp [hc, setHash]
  · congr 1; funext t; by_cases hc : t.1 = node ∧ t.2.2 = n <;> simp [hc, setHash]

theorem StableWrt.hash {g : Graph} {h : Nat} {Wn : List Term} {c : Color} (hs : StableWrt g h Wn c) (h' : Nat) :
    StableWrt g h' Wn c := by
  intro n hn m hm
  have := (hs n hn m hm).map (setHash h')
  rwa [distinguishItems_setHash, distinguishItems_setHash] at this

theorem distinguishItems_append (h : Nat) (g : Graph) (A B : List Term) (n : Term) :
    distinguishItems h g (A ++ B) n = distinguishItems h g A n ++ distinguishItems h g B n := by
  unfold distinguishItems
  rw [List.flatMap_append]

theorem StableWrt.perm {g : Graph} {h : Nat} {A B : List Term} {c : Color} (hs : StableWrt g h A c) (hp : A.Perm B) :
    StableWrt g h B c := fun n hn m hm =>
  (distinguishItems_perm h (.refl g) hp.symm n).trans
    ((hs n hn m hm).trans (distinguishItems_perm h (.refl g) hp m))

theorem StableWrt.append {g : Graph} {h : Nat} {A B : List Term} {c : Color} (h1 : StableWrt g h A c)
    (h2 : StableWrt g h B c) : StableWrt g h (A ++ B) c := by
  intro n hn m hm
  rw [distinguishItems_append, distinguishItems_append]
  exact (h1 n hn m hm).append (h2 n hn m hm)

theorem StableWrt.cancel {g : Graph} {h : Nat} {A B : List Term} {c : Color} (h1 : StableWrt g h (A ++ B) c)
    (h2 : StableWrt g h B c) : StableWrt g h A c := by
  intro n hn m hm
  have e := h1 n hn m hm
  rw [distinguishItems_append, distinguishItems_append] at e
  have e2 := e.trans (List.Perm.append_left _ (h2 n hn m hm).symm)
  exact (List.perm_append_right_iff _).mp e2

theorem StableWrt.sub {g : Graph} {h : Nat} {A : List Term} {c c' : Color} (h1 : StableWrt g h A c)
    (hsub : ∀ n ∈ c'.nodes, n ∈ c.nodes) : StableWrt g h A c' :=
  fun n hn m hm => h1 n (hsub n hn) m (hsub m hm)

theorem seqStep_persist {H : List Item → Nat} {HT : Term → Nat} {g : Graph} {W : Color} {T : List Color} {c z : Color}
    (hz : z ∈ T) (hne : activeC c = true → z ≠ c) : z ∈ seqStep H HT g W T c := by
  unfold seqStep
  by_cases hact : activeC c = true
  · rw [if_pos hact]
    split
    · next hin =>
      exact (replaceAt_perm _ hin).mem_iff.mpr (List.mem_append_right _ ((List.mem_erase_of_ne (hne hact)).mpr hz))
    · exact List.mem_append_right _ hz
  · rw [if_neg hact]; exact hz

theorem foldl_seqStep_persist (H : List Item → Nat) (HT : Term → Nat) (g : Graph) (W : Color) (todo : List Color) :
    ∀ (T : List Color) (z : Color), z ∈ T → (∀ c ∈ todo, activeC c = true → z ≠ c) →
      z ∈ todo.foldl (seqStep H HT g W) T := by
  induction todo with
  | nil => intro T z hz _; exact hz
  | cons c todo ih =>
    intro T z hz hne
    rw [List.foldl_cons]
    exact ih _ z (seqStep_persist hz (hne c List.mem_cons_self))
      (fun c' hc' => hne c' (List.mem_cons_of_mem _ hc'))

/-- what the step for `c` is sure to leave in the sequence: every child of `c` if `c` was in it, and in any case every
    child but the first -/
theorem seqStep_pushed (H : List Item → Nat) (HT : Term → Nat) (g : Graph) (W : Color) (T : List Color) (c : Color) :
    (c ∈ T → ∀ x ∈ keepOrSplit H HT g W c, x ∈ seqStep H HT g W T c) ∧
    (∀ x ∈ (keepOrSplit H HT g W c).tail, x ∈ seqStep H HT g W T c) := by
  unfold seqStep keepOrSplit
  by_cases hact : activeC c = true
  · simp only [if_pos hact]
    refine ⟨fun hT x hx => ?_, fun x hx => ?_⟩
    · rw [if_pos hT]
      exact (replaceAt_perm _ hT).mem_iff.mpr (List.mem_append_left _ hx)
    · split
      · next hT => exact (replaceAt_perm _ hT).mem_iff.mpr (List.mem_append_left _ (List.mem_of_mem_tail hx))
      · exact List.mem_append_left _ hx
  · simp only [if_neg hact]
    exact ⟨fun hT x hx => List.mem_singleton.mp hx ▸ hT, fun x hx => nomatch hx⟩

/-- a child is never removed by a later step: it shares a node with its parent and hence none with a later cell -/
theorem foldl_seqStep_pushed (H : List Item → Nat) (HT : Term → Nat) (g : Graph) (W : Color) (todo : List Color) :
    ∀ (T : List Color), WFc todo → (allNodes todo).Nodup → ∀ c ∈ todo,
      (c ∈ T → ∀ x ∈ keepOrSplit H HT g W c, x ∈ todo.foldl (seqStep H HT g W) T) ∧
      (∀ x ∈ (keepOrSplit H HT g W c).tail, x ∈ todo.foldl (seqStep H HT g W) T) := by
  induction todo with
  | nil => intro T _ _ c hc; simp at hc
  | cons d todo ih =>
    intro T hwf hnd c hc
    rw [List.foldl_cons]
    have hnd' : (d.nodes ++ allNodes todo).Nodup := hnd
    rw [List.nodup_append] at hnd'
    have hwf' : WFc todo := fun x hx => hwf x (List.mem_cons_of_mem _ hx)
    have ne_later : ∀ x : Color, x.nodes ≠ [] → (∀ n ∈ x.nodes, n ∈ d.nodes) → ∀ c' ∈ todo, x ≠ c' := by
      intro x hxn hsub c' hc' e
      obtain ⟨n, hn⟩ := List.exists_mem_of_ne_nil _ hxn
      exact hnd'.2.2 n (hsub n hn) n (List.mem_flatMap.mpr ⟨c', hc', e ▸ hn⟩) rfl
    rcases List.mem_cons.mp hc with rfl | hc'
    · have child : ∀ x ∈ keepOrSplit H HT g W c, x ∈ seqStep H HT g W T c → x ∈ todo.foldl (seqStep H HT g W) _ :=
        fun x hx hxs => foldl_seqStep_persist H HT g W todo _ x hxs fun c' hc' _ =>
          ne_later x (keepOrSplit_wf H HT g W (hwf c List.mem_cons_self) x hx) (keepOrSplit_sub H HT g W c x hx) c' hc'
      obtain ⟨a, b⟩ := seqStep_pushed H HT g W T c
      exact ⟨fun hcT x hx => child x hx (a hcT x hx), fun x hx => child x (List.mem_of_mem_tail hx) (b x hx)⟩
    · have hne : c ≠ d := fun e => (ne_later d (hwf d List.mem_cons_self) (fun _ h => h) c hc') e.symm
      obtain ⟨a, b⟩ := ih (seqStep H HT g W T d) hwf' hnd'.2.1 c hc'
      exact ⟨fun hcT => a (seqStep_persist hcT (fun _ => hne)), b⟩

/-! ### the worklist invariant

    In its "pending splitter" form: a set of nodes inside one cell that no cell of the sequence splits is split by no
    cell at all.  Stability does not depend on the splitter hash (`StableWrt.hash`), so the invariant fixes it to `0`. -/

def WInv (g : Graph) (P S : List Color) : Prop :=
  ∀ d, (∃ c ∈ P, ∀ n ∈ d.nodes, n ∈ c.nodes) → (∀ Y ∈ S, Y ∈ P → StableWrt g 0 Y.nodes d) →
    ∀ X ∈ P, StableWrt g 0 X.nodes d

theorem StableWrt.cells {g : Graph} {d : Color} {ys : List Color} (h : ∀ y ∈ ys, StableWrt g 0 y.nodes d) :
    StableWrt g 0 (allNodes ys) d := by
  induction ys with
  | nil => intro n _ m _; simp only [allNodes, List.flatMap_nil, distinguishItems, List.Perm.refl]
  | cons y ys ih =>
    exact (h y List.mem_cons_self).append (ih fun z hz => h z (List.mem_cons_of_mem _ hz))

theorem pass_WInv {H : List Item → Nat} (hH : MultisetInj H) (HT : Term → Nat) (g : Graph) (P S : List Color)
    (W : Color) (hS : S.getLast? = some W) (hwf : WFc P) (hnd : (allNodes P).Nodup) (hinv : WInv g P S) :
    WInv g (refinePass H HT g W P S.dropLast).1 (refinePass H HT g W P S.dropLast).2 := by
  obtain ⟨T, rfl⟩ := List.getLast?_eq_some_iff.mp hS
  rw [List.dropLast_concat]
  intro d ⟨c', hc', hdc'⟩ hS' X' hX'
  obtain ⟨c, hc, hcc⟩ := refinePass_sub H HT g W P T c' hc'
  have LB := foldl_seqStep_pushed H HT g W P T hwf hnd
  rw [← refinePass_snd] at LB
  -- what the sequence still says about the children of a cell `Y` of `P`
  have kids : ∀ Y ∈ P, ∀ ys, (∀ y ∈ ys, y ∈ keepOrSplit H HT g W Y ∧ y ∈ (refinePass H HT g W P T).2) →
      StableWrt g 0 (allNodes ys) d := fun Y hY _ h =>
    StableWrt.cells fun y hy => hS' y (h y hy).2 (mem_refinePass.mpr ⟨Y, hY, (h y hy).1⟩)
  -- so `d` is split by no cell of the old sequence, hence by no cell of `P`
  have old : ∀ X ∈ P, StableWrt g 0 X.nodes d := by
    refine hinv d ⟨c, hc, fun n hn => hcc n (hdc' n hn)⟩ fun Y hYS hYP => ?_
    rcases List.mem_append.mp hYS with hYd | hYW
    · exact (kids Y hYP _ fun y hy => ⟨hy, (LB Y hYP).1 hYd y hy⟩).perm (keepOrSplit_nodes H HT g W Y)
    · rw [List.mem_singleton.mp hYW]
      exact ((refinePass_stable hH HT g W P _ c' hc').hash 0).sub hdc'
  obtain ⟨X, hXP, hXX⟩ := mem_refinePass.mp hX'
  have tl := kids X hXP (keepOrSplit H HT g W X).tail fun y hy => ⟨List.mem_of_mem_tail hy, (LB X hXP).2 y hy⟩
  cases hks : keepOrSplit H HT g W X with
  | nil => rw [hks] at hXX; cases hXX
  | cons hd tl' =>
    rw [hks] at hXX tl
    rcases List.mem_cons.mp hXX with rfl | hXtl
    · -- the first child is not pushed: cancel the other children, which are, from the parent
      have hn : (X'.nodes ++ allNodes tl').Perm X.nodes := by simpa [hks, allNodes_cons] using keepOrSplit_nodes H HT g W X
      exact ((old X hXP).perm hn.symm).cancel tl
    · exact hS' X' ((LB X hXP).2 X' (hks ▸ hXtl)) hX'

theorem run_stable {H : List Item → Nat} (hH : MultisetInj H) (HT : Term → Nat) (g : Graph) {P S R : List Color}
    (hrun : RefineRun H HT g P S R) : WFc P → (allNodes P).Nodup → WInv g P S → Stable H HT g R := by
  induction hrun with
  | @done P S hd =>
    intro _ _ hinv
    by_cases hdis : P.all Color.discrete = true
    · exact stable_of_discrete H HT g P hdis
    · have hS : S = [] := by simpa [refineDone, hdis] using hd
      subst hS
      exact fun X hX c hc => (hinv c ⟨c, hc, fun _ h => h⟩ (fun _ h => nomatch h) X hX).hash _
  | @step P S R W hd hW hsubrun ih =>
    intro hwf hnd hinv
    obtain ⟨hwf', hperm⟩ := refinePass_refines H HT g W P S.dropLast hwf
    exact ih hwf' (hperm.nodup_iff.mpr hnd) (pass_WInv hH HT g P S W hW hwf hnd hinv)

theorem initialColor_nodup (g : Graph) : (allNodes (initialColor g)).Nodup := by
  rw [initialColor_eq]
  split
  · exact List.nodup_nil
  · simp only [allNodes, List.flatMap_cons, List.flatMap_map, List.flatMap_singleton']
    refine List.nodup_append.mpr ⟨nodup_foldl_tinsert _, nodup_foldl_tinsert _, ?_⟩
    intro a ha b hb e
    have h1 := (mem_foldl_tinsert_filter.mp ha).2
    have h2 := (mem_foldl_tinsert_filter.mp hb).2
    rw [e] at h1
    simp [h1] at h2

end RV.C14

import RV.C14.Search
/-
  Order and sorting lemmas for the label-free serialisation of `canonSearch` (core only, no Mathlib):
  `keyLe` and `leafLe` are core's lexicographic `≤`, `isort` of two permutations of each other is the same list.
-/
namespace RV.C14

structure TotalOrderB {α : Type} (le : α → α → Bool) : Prop where
  total : ∀ a b, le a b = true ∨ le b a = true
  trans : ∀ a b c, le a b = true → le b c = true → le a c = true
  antisymm : ∀ a b, le a b = true → le b a = true → a = b

/-- `lexLe` of a test for `≤` is the test for core's lexicographic `≤` on lists, whose order lemmas then apply -/
theorem lexLe_iff {α : Type} [DecidableEq α] [LT α] [Std.Asymm (α := α) (· < ·)] [Std.Trichotomous (α := α) (· < ·)]
    [DecidableLT α] {le : α → α → Bool} (hle : ∀ x y, le x y = true ↔ ¬ y < x) :
    ∀ a b : List α, lexLe le a b = true ↔ a ≤ b
  | [], b => by simp [lexLe, List.nil_le]
  | _ :: _, [] => by simp [lexLe]
  | x :: xs, y :: ys => by
    rw [lexLe, List.cons_le_cons_iff]
    by_cases e : x = y
    · subst e
      rw [if_pos rfl, lexLe_iff hle xs ys]
      exact ⟨fun h => Or.inr ⟨rfl, h⟩, fun h => h.elim (fun h => absurd h (Std.Asymm.asymm _ _ h)) (·.2)⟩
    · rw [if_neg e, hle]
      exact ⟨fun h => Or.inl (Decidable.not_not.mp fun h' => e (Std.Trichotomous.trichotomous _ _ h' h)),
        fun h => h.elim (Std.Asymm.asymm _ _) (fun h => absurd h.1 e)⟩

theorem keyLe_iff (a b : List Nat) : keyLe a b = true ↔ a ≤ b :=
  lexLe_iff (fun x y => by simp) a b

theorem leafLe_iff (a b : List (List Nat)) : leafLe a b = true ↔ a ≤ b :=
  lexLe_iff (fun x y => by rw [keyLe_iff]; exact List.not_lt.symm) a b

theorem keyLe_order : TotalOrderB keyLe := by
  constructor <;> simp only [keyLe_iff]
  · exact List.le_total
  · exact fun _ _ _ => List.le_trans
  · exact fun _ _ => List.le_antisymm

theorem leafLe_order : TotalOrderB leafLe := by
  constructor <;> simp only [leafLe_iff]
  · exact List.le_total
  · exact fun _ _ _ => List.le_trans
  · exact fun _ _ => List.le_antisymm

section sort
variable {α : Type} {le : α → α → Bool}

theorem perm_oinsert (a : α) (l : List α) : (oinsert le a l).Perm (a :: l) := by
  induction l with
  | nil => exact List.Perm.refl _
  | cons b l ih =>
    unfold oinsert
    split
    · exact List.Perm.refl _
    · exact (List.Perm.cons b ih).trans (List.Perm.swap a b l)

theorem perm_isort (l : List α) : (isort le l).Perm l := by
  induction l with
  | nil => exact List.Perm.refl _
  | cons b l ih => exact (perm_oinsert b _).trans (List.Perm.cons b ih)

theorem sorted_oinsert (h : TotalOrderB le) (a : α) (l : List α)
    (hs : l.Pairwise (fun x y => le x y = true)) : (oinsert le a l).Pairwise (fun x y => le x y = true) := by
  induction l with
  | nil => simp [oinsert]
  | cons b l ih =>
    rw [List.pairwise_cons] at hs
    unfold oinsert
    split
    · next hab =>
      rw [List.pairwise_cons]
      refine ⟨?_, List.pairwise_cons.mpr hs⟩
      intro x hx
      rcases List.mem_cons.mp hx with rfl | hx
      · exact hab
      · exact h.trans _ _ _ hab (hs.1 x hx)
    · next hab =>
      have hba : le b a = true := by
        rcases h.total a b with h' | h'
        · exact absurd h' hab
        · exact h'
      rw [List.pairwise_cons]
      refine ⟨?_, ih hs.2⟩
      intro x hx
      rcases List.mem_cons.mp ((perm_oinsert a l).mem_iff.mp hx) with rfl | hx
      · exact hba
      · exact hs.1 x hx

theorem sorted_isort (h : TotalOrderB le) (l : List α) : (isort le l).Pairwise (fun x y => le x y = true) := by
  induction l with
  | nil => simp [isort]
  | cons b l ih => exact sorted_oinsert h b _ ih

theorem isort_perm_eq (h : TotalOrderB le) {l1 l2 : List α} (hp : l1.Perm l2) : isort le l1 = isort le l2 :=
  List.Perm.eq_of_pairwise (fun a b _ _ => h.antisymm a b) (sorted_isort h l1) (sorted_isort h l2)
    ((perm_isort l1).trans (hp.trans (perm_isort l2).symm))

theorem head_isort_mem {l : List α} {x : α} (hx : (isort le l).head? = some x) : x ∈ l :=
  (perm_isort l).mem_iff.mp (List.mem_of_mem_head? hx)

end sort

end RV.C14

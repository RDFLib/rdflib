import RV.C14.RefineLemmas
/-
  Equivariance of the whole `_refine` computation under blank-node renaming: running the model on `g.rename σ` from the
  renamed colouring gives EXACTLY the renamed result — same cells in the same order, same colour tuples, same hashes —
  whatever the hash functions are.

  (Independence of the ITERATION ORDER of Python's sets is not covered here; `refine_equivariant` and
  `canonSearch_equivariant` treat order by assuming the hash invariant under permutation of its items.)
-/
namespace RV.C14

theorem mapColor_nodes (ρ : Term → Term) (c : Color) : (mapColor ρ c).nodes = c.nodes.map ρ := rfl

theorem mapColor_hash (ρ : Term → Term) (H : List Item → Nat) (HT : Term → Nat) (c : Color) :
    (mapColor ρ c).hash H HT = c.hash H HT := rfl

theorem mapColor_key (ρ : Term → Term) (H : List Item → Nat) (HT : Term → Nat) (c : Color) :
    (mapColor ρ c).key H HT = c.key H HT := by
  simp [Color.key, mapColor_nodes, mapColor_hash]

section
variable (ρ : Term → Term) (H : List Item → Nat) (HT : Term → Nat)

theorem map_mapColor_extend (p : Color → Bool) (hp : ∀ d, p (mapColor ρ d) = p d) (ns : List Term)
    (acc : List Color) :
    (acc.map (mapColor ρ)).map (fun d => if p d then { d with nodes := d.nodes ++ ns.map ρ } else d) =
      (acc.map (fun d => if p d then { d with nodes := d.nodes ++ ns } else d)).map (mapColor ρ) := by
  rw [List.map_map, List.map_map]
  refine List.map_congr_left fun d _ => ?_
  simp only [Function.comp, hp]
  cases p d <;> simp [mapColor]

theorem addTo_map (k : Nat) (n : Term) (acc : List Color) :
    addTo H k (ρ n) (acc.map (mapColor ρ)) = (addTo H k n acc).map (mapColor ρ) :=
  map_mapColor_extend ρ (fun c => H c.items == k) (fun _ => rfl) [n] acc

theorem groupByHash_map (l : List (Term × List Item)) :
    ∀ acc : List Color,
      groupByHash H (l.map (fun x => (ρ x.1, x.2))) (acc.map (mapColor ρ)) =
        (groupByHash H l acc).map (mapColor ρ) := by
  induction l with
  | nil => intro acc; rfl
  | cons x rest ih =>
    obtain ⟨n, its⟩ := x
    intro acc
    rw [List.map_cons, groupByHash_eq, groupByHash_eq]
    have hany : (acc.map (mapColor ρ)).any (fun c => H c.items == H its) = acc.any (fun c => H c.items == H its) := by
      rw [List.any_map]; rfl
    rw [hany]
    split
    · rw [addTo_map, ih]
    · have : acc.map (mapColor ρ) ++ [⟨[ρ n], its, none⟩] = (acc ++ [(⟨[n], its, none⟩ : Color)]).map (mapColor ρ) := by
        simp [mapColor]
      rw [this, ih]

theorem insertDesc_map (c : Color) (l : List Color) :
    insertDesc H HT (mapColor ρ c) (l.map (mapColor ρ)) = (insertDesc H HT c l).map (mapColor ρ) := by
  induction l with
  | nil => rfl
  | cons d ds ih =>
    simp only [List.map_cons]
    unfold insertDesc
    dsimp only
    rw [mapColor_key, mapColor_key]
    split
    · rw [List.map_cons, ih]
    · rfl

theorem sortDesc_map (cs : List Color) :
    sortDesc H HT (cs.map (mapColor ρ)) = (sortDesc H HT cs).map (mapColor ρ) := by
  induction cs with
  | nil => rfl
  | cons c cs ih =>
    unfold sortDesc at ih ⊢
    rw [List.map_cons, List.foldr_cons, List.foldr_cons, ih, insertDesc_map]

theorem mergeByHash_map (cs : List Color) :
    ∀ acc : List Color,
      mergeByHash H HT (cs.map (mapColor ρ)) (acc.map (mapColor ρ)) = (mergeByHash H HT cs acc).map (mapColor ρ) := by
  induction cs with
  | nil => intro acc; rfl
  | cons c cs ih =>
    intro acc
    rw [List.map_cons]
    unfold mergeByHash
    dsimp only
    have hany : (acc.map (mapColor ρ)).any (fun d => d.hash H HT == (mapColor ρ c).hash H HT) =
        acc.any (fun d => d.hash H HT == c.hash H HT) := by
      rw [List.any_map]; rfl
    rw [hany]
    split
    · rw [← ih]
      exact congrArg _ (map_mapColor_extend ρ (fun d => d.hash H HT == c.hash H HT) (fun _ => rfl) c.nodes acc)
    · have : acc.map (mapColor ρ) ++ [mapColor ρ c] = (acc ++ [c]).map (mapColor ρ) := by simp
      rw [this, ih]

/-- sorting and the final merge only look at hashes -/
theorem refine_map_of_loop {g g' : Graph} {fuel : Nat} {P S : List Color}
    (h : refineLoop H HT g' fuel (P.map (mapColor ρ)) ((sortDesc H HT S).map (mapColor ρ)) =
      (refineLoop H HT g fuel P (sortDesc H HT S)).map (mapColor ρ)) :
    refine H HT g' fuel (P.map (mapColor ρ)) (S.map (mapColor ρ)) = (refine H HT g fuel P S).map (mapColor ρ) := by
  unfold refine
  rw [sortDesc_map, h]
  exact mergeByHash_map ρ H HT _ []

theorem nodeCount_map (cs : List Color) : nodeCount (cs.map (mapColor ρ)) = nodeCount cs := by
  induction cs with
  | nil => rfl
  | cons c cs ih =>
    simp only [nodeCount, List.map_cons, List.flatMap_cons, List.length_append] at ih ⊢
    rw [ih]; simp [mapColor_nodes]

theorem refineFuel_map (P S : List Color) :
    refineFuel (P.map (mapColor ρ)) (S.map (mapColor ρ)) = refineFuel P S := by
  unfold refineFuel
  rw [nodeCount_map, List.length_map, List.length_map]

theorem discrete_map (c : Color) : (mapColor ρ c).discrete = c.discrete := by simp [Color.discrete, mapColor_nodes]

theorem refineDone_map (P S : List Color) :
    refineDone (P.map (mapColor ρ)) (S.map (mapColor ρ)) = refineDone P S := by
  unfold refineDone
  rw [List.all_map, show Color.discrete ∘ mapColor ρ = Color.discrete from funext (discrete_map ρ)]
  cases S <;> rfl

end

section
variable {α β : Type} {f : α → β} (hf : Function.Injective f)
include hf

theorem map_erase_of_injective [DecidableEq α] [DecidableEq β] (c : α) :
    ∀ l : List α, (l.map f).erase (f c) = (l.erase c).map f
  | [] => rfl
  | x :: xs => by
    by_cases e : x = c
    · subst e; simp
    · rw [List.map_cons, List.erase_cons_tail (by simpa using fun e' => e (hf e')),
        List.erase_cons_tail (by simpa using e), List.map_cons, map_erase_of_injective c xs]

end

theorem replaceAt_map {f : Color → Color} (hf : Function.Injective f) (c : Color) (by_ : List Color) :
    ∀ S : List Color, replaceAt (S.map f) (f c) (by_.map f) = (replaceAt S c by_).map f
  | [] => rfl
  | d :: ds => by
    rw [List.map_cons]
    unfold replaceAt
    by_cases e : d = c
    · subst e; simp
    · rw [if_neg (fun e' => e (hf e')), if_neg e, List.map_cons, replaceAt_map hf c by_ ds]

theorem mapColor_injective {ρ : Term → Term} (hρ : Function.Injective ρ) : Function.Injective (mapColor ρ) := by
  intro c d h
  obtain ⟨cn, ci, cg⟩ := c
  obtain ⟨dn, di, dg⟩ := d
  simp only [mapColor, Color.mk.injEq] at h
  rw [(List.map_inj_right fun _ _ e => hρ e).mp h.1, h.2.1, h.2.2]

section
variable {σ : Nat → Nat} (hσ : Function.Injective σ)
include hσ

omit hσ in
theorem activeC_map (c : Color) : activeC (mapColor (Term.rename σ) c) = activeC c := by
  unfold activeC mapColor
  cases c.nodes with
  | nil => rfl
  | cons n0 rest =>
    simp only [List.map_cons, Term.rename_blank]
    cases rest <;> rfl

variable {g : Graph} (hp : NoBlankPred g) (H : List Item → Nat) (HT : Term → Nat)
include hp

theorem splitOf_renameG (c W : Color) :
    splitOf H HT (g.rename σ) (mapColor (Term.rename σ) W) (mapColor (Term.rename σ) c) =
      (splitOf H HT g W c).map (mapColor (Term.rename σ)) := by
  unfold splitOf distinguish
  have h0 := groupByHash_map (Term.rename σ) H
    (c.nodes.map (fun n => (n, c.items ++ distinguishItems (W.hash H HT) g W.nodes n))) []
  rw [List.map_nil] at h0
  rw [← sortDesc_map, ← h0, List.map_map]
  congr 2
  simp only [mapColor, List.map_map]
  refine List.map_congr_left fun n _ => ?_
  simp only [Function.comp]
  have := distinguishItems_renameG hσ hp (Color.hash H HT W) W.nodes n
  simp only [Color.hash] at this ⊢
  rw [this]

theorem seqStep_renameG (W : Color) (S : List Color) (c : Color) :
    seqStep H HT (g.rename σ) (mapColor (Term.rename σ) W) (S.map (mapColor (Term.rename σ))) (mapColor (Term.rename σ) c) =
      (seqStep H HT g W S c).map (mapColor (Term.rename σ)) := by
  have hmc := mapColor_injective (rename_injective hσ)
  unfold seqStep
  simp only [activeC_map, splitOf_renameG hσ hp H HT, mem_map_iff_of_injective hmc]
  split
  · split
    · exact replaceAt_map hmc _ _ _
    · simp [List.map_tail]
  · rfl

theorem refineStep_renameG (W : Color) (P S : List Color) (c : Color) :
    refineStep H HT (g.rename σ) (mapColor (Term.rename σ) W)
        (P.map (mapColor (Term.rename σ)), S.map (mapColor (Term.rename σ))) (mapColor (Term.rename σ) c) =
      ((refineStep H HT g W (P, S) c).1.map (mapColor (Term.rename σ)),
       (refineStep H HT g W (P, S) c).2.map (mapColor (Term.rename σ))) := by
  rw [refineStep_eq, refineStep_eq, activeC_map, seqStep_renameG hσ hp H HT, splitOf_renameG hσ hp H HT,
    map_erase_of_injective (mapColor_injective (rename_injective hσ))]
  split
  · rw [List.map_append]
  · rfl

theorem pass_renameG (W : Color) (todo P S : List Color) :
    (todo.map (mapColor (Term.rename σ))).foldl
        (refineStep H HT (g.rename σ) (mapColor (Term.rename σ) W))
        (P.map (mapColor (Term.rename σ)), S.map (mapColor (Term.rename σ))) =
      ((todo.foldl (refineStep H HT g W) (P, S)).1.map (mapColor (Term.rename σ)),
       (todo.foldl (refineStep H HT g W) (P, S)).2.map (mapColor (Term.rename σ))) := by
  rw [List.foldl_map]
  exact List.foldl_hom (Prod.map (List.map _) (List.map _)) (init := (P, S))
    fun st c => refineStep_renameG hσ hp H HT W st.1 st.2 c

theorem refineLoop_renameG :
    ∀ (fuel : Nat) (P S : List Color),
      refineLoop H HT (g.rename σ) fuel (P.map (mapColor (Term.rename σ))) (S.map (mapColor (Term.rename σ))) =
        (refineLoop H HT g fuel P S).map (mapColor (Term.rename σ)) := by
  intro fuel
  induction fuel with
  | zero => intro P S; rfl
  | succ fuel ih =>
    intro P S
    unfold refineLoop
    rw [refineDone_map]
    split
    · rfl
    · rw [List.getLast?_map]
      cases hS' : S.getLast? with
      | none => rfl
      | some W =>
        simp only [Option.map_some]
        have e := pass_renameG hσ hp H HT W P P S.dropLast
        unfold refinePass
        rw [← List.map_dropLast, e]
        exact ih _ _

theorem refine_renameG (fuel : Nat) (P S : List Color) :
    refine H HT (g.rename σ) fuel (P.map (mapColor (Term.rename σ))) (S.map (mapColor (Term.rename σ))) =
      (refine H HT g fuel P S).map (mapColor (Term.rename σ)) :=
  refine_map_of_loop _ H HT (refineLoop_renameG hσ hp H HT fuel P _)

omit hσ hp in
theorem touchTerms_rename (σ : Nat → Nat) (g : Graph) :
    touchTerms (g.rename σ) = (touchTerms g).map (Term.rename σ) := by
  unfold touchTerms Graph.rename
  rw [List.filter_map, List.flatMap_map, List.map_flatMap]
  have : ((fun t : Triple => t.1.blank || t.2.1.blank || t.2.2.blank) ∘ Triple.rename σ) =
      (fun t : Triple => t.1.blank || t.2.1.blank || t.2.2.blank) := by
    funext t; simp [Function.comp, Triple.rename]
  rw [this]
  rfl

omit hp in
theorem foldl_tinsert_renameG (l acc : List Term) :
    (l.map (Term.rename σ)).foldl tinsert (acc.map (Term.rename σ)) = (l.foldl tinsert acc).map (Term.rename σ) := by
  rw [List.foldl_map]
  refine List.foldl_hom _ fun acc y => ?_
  simp only [tinsert, mem_map_iff_of_injective (rename_injective hσ)]
  split <;> simp

omit hp in
theorem initialColor_renameG (g : Graph) :
    initialColor (g.rename σ) = (initialColor g).map (mapColor (Term.rename σ)) := by
  have hfil : ∀ p : Term → Bool, (∀ x, p (x.rename σ) = p x) →
      (((touchTerms g).map (Term.rename σ)).filter p).foldl tinsert [] =
        (((touchTerms g).filter p).foldl tinsert []).map (Term.rename σ) := by
    intro p hp
    rw [List.filter_map, show (touchTerms g).filter (p ∘ Term.rename σ) = (touchTerms g).filter p from
      List.filter_congr fun x _ => hp x]
    exact foldl_tinsert_renameG hσ _ []
  rw [initialColor_eq, initialColor_eq, touchTerms_rename, hfil _ (fun x => Term.rename_blank σ x),
    hfil _ (fun x => by rw [Term.rename_blank])]
  by_cases he : ((touchTerms g).filter (·.blank)).foldl tinsert [] = []
  · rw [if_pos he, if_pos (by rw [he]; rfl)]; rfl
  · rw [if_neg he, if_neg (by simpa using he), List.map_cons, List.map_map, List.map_map]
    congr 1
    refine List.map_congr_left fun x hx => ?_
    have hxb : x.blank = false := by simpa using (mem_foldl_tinsert_filter.mp hx).2
    simp [mapColor, rename_nonblank σ hxb]

omit hσ hp in
theorem canonLabels_map (σ : Nat → Nat) (H : List Item → Nat) (HT : Term → Nat) (cs : List Color) :
    canonLabels (Color.hash H HT) (cs.map (mapColor (Term.rename σ))) =
      (canonLabels (Color.hash H HT) cs).map (fun kv => (σ kv.1, kv.2)) := by
  induction cs with
  | nil => rfl
  | cons c cs ih =>
    rw [List.map_cons]
    unfold canonLabels
    rw [ih]
    cases hn : c.nodes with
    | nil => simp [mapColor_nodes, hn]
    | cons n rest =>
      rw [mapColor_nodes, hn, List.map_cons]
      simp only [Term.rename_blank]
      by_cases hb : n.blank = true
      · simp [hb, Term.id_rename σ hb, mapColor_hash]
      · simp [hb]

omit hp in
theorem alookup_map_inj (a : Nat) : ∀ m : Asg, alookup (m.map (fun kv => (σ kv.1, kv.2))) (σ a) = alookup m a
  | [] => rfl
  | (k, v) :: m => by
    simp only [List.map_cons, alookup]
    by_cases e : k = a
    · subst e; simp
    · rw [if_neg (fun e' => e (hσ e')), if_neg e]
      exact alookup_map_inj a m

omit hp in
theorem canonicalTriples_renameG {m : Asg} (hcov : ∀ a ∈ bnodes g, a ∈ keys m) :
    canonicalTriples (m.map (fun kv => (σ kv.1, kv.2))) (g.rename σ) = canonicalTriples m g := by
  unfold canonicalTriples
  rw [Graph.rename_rename]
  refine Graph.rename_congr fun a ha => ?_
  exact Asg.fn_eq_of_lookup ((alookup_map_inj hσ a m).trans (Asg.lookup_of_mem_keys (hcov a ha)))

end

theorem map_mapColor_congr {σ τ : Nat → Nat} {g : Graph} (e : ∀ x ∈ gterms g, x.rename τ = x.rename σ)
    {cs : List Color} (h : InG g cs) : cs.map (mapColor (Term.rename τ)) = cs.map (mapColor (Term.rename σ)) :=
  List.map_congr_left fun c hc => by
    unfold mapColor
    rw [List.map_congr_left fun n hn => e n (h c hc n hn)]

theorem InG.of_subCells {g : Graph} {cs' cs : List Color} (hsub : SubCells cs' cs) (h : InG g cs) : InG g cs' :=
  fun c' hc' n hn => let ⟨c, hc, hcc⟩ := hsub c' hc'; h c hc n (hcc n hn)

theorem initialColor_InG (g : Graph) : InG g (initialColor g) := by
  rw [initialColor_eq]
  intro c hc n hn
  split at hc
  · simp at hc
  · rcases List.mem_cons.mp hc with rfl | hc
    · exact touchTerms_sub g n (mem_foldl_tinsert_filter.mp hn).1
    · obtain ⟨x, hx, rfl⟩ := List.mem_map.mp hc
      simp only [List.mem_singleton] at hn
      rw [hn]
      exact touchTerms_sub g x (mem_foldl_tinsert_filter.mp hx).1

theorem refine_rename {σ : Nat → Nat} {g : Graph} (hinj : InjOn σ (bnodes g)) (hp : NoBlankPred g)
    (H : List Item → Nat) (HT : Term → Nat) (fuel : Nat) (P S : List Color) (hP : InG g P) (hS : InG g S) :
    refine H HT (g.rename σ) fuel (P.map (mapColor (Term.rename σ))) (S.map (mapColor (Term.rename σ))) =
      (refine H HT g fuel P S).map (mapColor (Term.rename σ)) := by
  obtain ⟨τ, hτ, eg, et⟩ := exists_injective_rename hinj
  have hS' : InG g (sortDesc H HT S) := fun c hc => hS c ((sortDesc_perm H HT S).mem_iff.mp hc)
  refine refine_map_of_loop _ H HT ?_
  rw [← eg, ← map_mapColor_congr et hP, ← map_mapColor_congr et hS', refineLoop_renameG hτ hp,
    map_mapColor_congr et (InG.of_subCells (refineLoop_refines H HT g fuel P _).1 hP)]

theorem refineInit_rename {σ : Nat → Nat} {g : Graph} (hinj : InjOn σ (bnodes g)) (hp : NoBlankPred g)
    (H : List Item → Nat) (HT : Term → Nat) :
    refineInit H HT (g.rename σ) = (refineInit H HT g).map (mapColor (Term.rename σ)) := by
  obtain ⟨τ, hτ, eg, et⟩ := exists_injective_rename hinj
  have h0 : initialColor (g.rename σ) = (initialColor g).map (mapColor (Term.rename σ)) := by
    rw [← eg, initialColor_renameG hτ, map_mapColor_congr et (initialColor_InG g)]
  unfold refineInit
  dsimp only
  rw [h0, refineFuel_map]
  exact refine_rename hinj hp H HT _ _ _ (initialColor_InG g) (initialColor_InG g)

theorem canonRefine_rename {σ : Nat → Nat} {g : Graph} (hinj : InjOn σ (bnodes g)) (hp : NoBlankPred g)
    (H : List Item → Nat) (HT : Term → Nat)
    (hcov : ∀ a ∈ bnodes g, a ∈ keys (canonLabels (Color.hash H HT) (refineInit H HT g))) :
    canonRefine H HT (g.rename σ) = canonRefine H HT g := by
  obtain ⟨τ, hτ, eg, _⟩ := exists_injective_rename hinj
  unfold canonRefine
  rw [← eg, refineInit_rename (fun a _ b _ h => hτ h) hp, canonLabels_map]
  exact canonicalTriples_renameG hτ hcov

end RV.C14

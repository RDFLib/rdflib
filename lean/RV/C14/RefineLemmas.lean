import RV.C14.Canon
import RV.C14.CanonLemmas
/-
  The worklist loop of `_TripleCanonicalizer._refine` (model: `refineStep`, `refinePass`, `refineLoop`, `mergeByHash`,
  `refine` of RV/C14/Canon.lean).  A pass is described by what it does to one colour (`keepOrSplit`) and to the sequence
  (`seqStep`); termination is measured against the fuel-free semantics `RefineRun` of the `while` loop.
-/
namespace RV.C14

theorem allNodes_cons (c : Color) (cs : List Color) : allNodes (c :: cs) = c.nodes ++ allNodes cs := List.flatMap_cons

theorem allNodes_append (a b : List Color) : allNodes (a ++ b) = allNodes a ++ allNodes b := List.flatMap_append

theorem SubCells.refl (cs : List Color) : SubCells cs cs := fun c hc => ⟨c, hc, fun _ h => h⟩

theorem SubCells.trans {a b c : List Color} (h1 : SubCells a b) (h2 : SubCells b c) : SubCells a c := by
  intro x hx
  obtain ⟨y, hy, hxy⟩ := h1 x hx
  obtain ⟨z, hz, hyz⟩ := h2 y hy
  exact ⟨z, hz, fun n hn => hyz n (hxy n hn)⟩

theorem allNodes_perm {a b : List Color} (h : a.Perm b) : (allNodes a).Perm (allNodes b) :=
  List.Perm.flatMap_right _ h

theorem length_le_nodeCount {cs : List Color} (h : WFc cs) : cs.length ≤ nodeCount cs := by
  induction cs with
  | nil => simp
  | cons c cs ih =>
    have hc : c.nodes ≠ [] := h c List.mem_cons_self
    have := ih (fun d hd => h d (List.mem_cons_of_mem _ hd))
    have hl : 0 < c.nodes.length := List.length_pos_iff.mpr hc
    simp only [nodeCount, List.flatMap_cons, List.length_append, List.length_cons] at this ⊢
    omega

section
variable (H : List Item → Nat) (HT : Term → Nat) (g : Graph) (W : Color)

theorem insertDesc_perm (c : Color) (l : List Color) :
    (insertDesc H HT c l).Perm (c :: l) := by
  induction l with
  | nil => exact List.Perm.refl _
  | cons d ds ih =>
    unfold insertDesc
    dsimp only
    split
    · exact (List.Perm.cons d ih).trans (List.Perm.swap c d ds)
    · exact List.Perm.refl _

theorem sortDesc_perm (cs : List Color) :
    (sortDesc H HT cs).Perm cs := by
  induction cs with
  | nil => exact List.Perm.refl _
  | cons c cs ih =>
    unfold sortDesc
    rw [List.foldr_cons]
    exact (insertDesc_perm H HT c _).trans (List.Perm.cons c ih)

/-- the cells have pairwise different hashes, as the values of the dict `colors` of `Color.distinguish` have -/
def HashesNodup (acc : List Color) : Prop := (acc.map (fun c => H c.items)).Nodup

/-- the update `colors[new_hash_color].nodes.append(n)` -/
def addTo (k : Nat) (n : Term) (acc : List Color) : List Color :=
  acc.map (fun c => if H c.items == k then { c with nodes := c.nodes ++ [n] } else c)

theorem addTo_hashes (k : Nat) (n : Term) (acc : List Color) :
    (addTo H k n acc).map (fun c => H c.items) = acc.map (fun c => H c.items) := by
  induction acc with
  | nil => rfl
  | cons c cs ih =>
    simp only [addTo, List.map_cons] at ih ⊢
    rw [ih]
    split <;> rfl

theorem addTo_noop {H : List Item → Nat} {k : Nat} {n : Term} {acc : List Color}
    (h : ∀ c ∈ acc, H c.items ≠ k) : addTo H k n acc = acc := by
  induction acc with
  | nil => rfl
  | cons c cs ih =>
    simp only [addTo, List.map_cons] at ih ⊢
    rw [ih (fun d hd => h d (List.mem_cons_of_mem _ hd))]
    have := h c List.mem_cons_self
    simp [this]

theorem addTo_nodes {H : List Item → Nat} {k : Nat} {n : Term} {acc : List Color}
    (hnd : HashesNodup H acc) (hit : ∃ c ∈ acc, H c.items = k) :
    (allNodes (addTo H k n acc)).Perm (n :: allNodes acc) := by
  obtain ⟨c, hc, hk⟩ := hit
  obtain ⟨l1, l2, rfl⟩ := List.append_of_mem hc
  -- `c` is the only cell with hash `k`
  unfold HashesNodup at hnd
  rw [List.map_append, List.map_cons, List.nodup_append, List.nodup_cons] at hnd
  have h1 : addTo H k n l1 = l1 := addTo_noop fun d hd e =>
    hnd.2.2 _ (List.mem_map_of_mem hd) _ List.mem_cons_self (e.trans hk.symm)
  have h2 : addTo H k n l2 = l2 := addTo_noop fun d hd e =>
    hnd.2.1.1 (List.mem_map.mpr ⟨d, hd, e.trans hk.symm⟩)
  unfold addTo at h1 h2 ⊢
  rw [List.map_append, List.map_cons, h1, h2, if_pos (beq_iff_eq.mpr hk)]
  simp only [allNodes_append, allNodes_cons, List.append_assoc]
  rw [← List.append_assoc, ← List.append_assoc (allNodes l1)]
  exact List.perm_middle

theorem groupByHash_eq (n : Term) (its : List Item) (rest : List (Term × List Item))
    (acc : List Color) :
    groupByHash H ((n, its) :: rest) acc =
      if acc.any (fun c => H c.items == H its) then groupByHash H rest (addTo H (H its) n acc)
      else groupByHash H rest (acc ++ [⟨[n], its, none⟩]) := by
  rfl

theorem groupByHash_groups (f : Term → List Item) (ns : List Term) :
    ∀ acc : List Color, HashesNodup H acc → (∀ c ∈ acc, c.nodes ≠ [] ∧ ∀ n ∈ c.nodes, H (f n) = H c.items) →
      (allNodes (groupByHash H (ns.map fun n => (n, f n)) acc)).Perm (allNodes acc ++ ns) ∧
      ∀ c ∈ groupByHash H (ns.map fun n => (n, f n)) acc, c.nodes ≠ [] ∧ ∀ n ∈ c.nodes, H (f n) = H c.items := by
  induction ns with
  | nil => exact fun acc _ h2 => ⟨by simp [groupByHash], h2⟩
  | cons n rest ih =>
    intro acc h1 h2
    rw [List.map_cons, groupByHash_eq]
    -- either way of taking `n` in keeps the two invariants of `acc` and adds `n` to its nodes
    split
    · next hany =>
      have hit : ∃ c ∈ acc, H c.items = H (f n) := by
        obtain ⟨c, hc, e⟩ := List.any_eq_true.mp hany
        exact ⟨c, hc, by simpa using e⟩
      refine (ih (addTo H (H (f n)) n acc) ?_ ?_).imp (fun p => p.trans ?_) id
      · unfold HashesNodup
        rw [addTo_hashes]
        exact h1
      · intro c hc
        obtain ⟨d, hd, rfl⟩ := List.mem_map.mp hc
        split
        · next hk =>
          refine ⟨by simp, fun m hm => (List.mem_append.mp hm).elim ((h2 d hd).2 m) fun h => ?_⟩
          rw [List.mem_singleton.mp h]
          exact (beq_iff_eq.mp hk).symm
        · exact h2 d hd
      · exact (List.Perm.append_right _ (addTo_nodes h1 hit)).trans List.perm_middle.symm
    · next hany =>
      have hnew : ∀ c ∈ acc, H c.items ≠ H (f n) := fun c hc e =>
        hany (List.any_eq_true.mpr ⟨c, hc, by simpa using e⟩)
      refine (ih (acc ++ [⟨[n], f n, none⟩]) ?_ ?_).imp (fun p => p.trans ?_) id
      · unfold HashesNodup at h1 ⊢
        rw [List.map_append, List.nodup_append]
        refine ⟨h1, by simp, fun a ha b hb => ?_⟩
        obtain ⟨c, hc, rfl⟩ := List.mem_map.mp ha
        rw [List.mem_singleton.mp hb]
        exact hnew c hc
      · intro c hc
        rcases List.mem_append.mp hc with hc | hc
        · exact h2 c hc
        · rw [List.mem_singleton.mp hc]
          exact ⟨by simp, fun m hm => by rw [List.mem_singleton.mp hm]⟩
      · simp [allNodes, List.flatMap_append]

def splitOf (c : Color) : List Color :=
  sortDesc H HT (distinguish H HT g c W)

theorem splitOf_groups (c : Color) :
    WFc (splitOf H HT g W c) ∧ (allNodes (splitOf H HT g W c)).Perm c.nodes ∧
    ∀ x ∈ distinguish H HT g c W, ∀ n ∈ x.nodes,
      H (c.items ++ distinguishItems (W.hash H HT) g W.nodes n) = H x.items := by
  obtain ⟨d, e⟩ := groupByHash_groups H (fun n => c.items ++ distinguishItems (W.hash H HT) g W.nodes n) c.nodes []
    (by simp [HashesNodup]) (fun _ h => nomatch h)
  have hp := sortDesc_perm H HT (distinguish H HT g c W)
  exact ⟨fun x hx => (e x (hp.mem_iff.mp hx)).1, (allNodes_perm hp).trans d, fun x hx => (e x hx).2⟩

theorem splitOf_nodes (c : Color) : (allNodes (splitOf H HT g W c)).Perm c.nodes := (splitOf_groups H HT g W c).2.1

theorem splitOf_ne_nil {c : Color} (hc : c.nodes ≠ []) : splitOf H HT g W c ≠ [] := by
  intro e
  have := splitOf_nodes H HT g W c
  rw [e] at this
  exact hc (List.Perm.eq_nil this.symm)

/-- the test `len(c.nodes) > 1 or isinstance(c.nodes[0], BNode)` -/
def activeC (c : Color) : Bool :=
  match c.nodes with
  | [] => false
  | n0 :: rest => !rest.isEmpty || n0.blank

theorem activeC_nodes {c : Color} (h : activeC c = true) : c.nodes ≠ [] := by
  unfold activeC at h
  intro e
  rw [e] at h
  simp at h

/-- what a pass does to one colour … -/
def keepOrSplit (c : Color) : List Color :=
  if activeC c then splitOf H HT g W c else [c]

/-- … and what the step for that colour does to the sequence -/
def seqStep (T : List Color) (c : Color) : List Color :=
  if activeC c then
    (if c ∈ T then replaceAt T c (splitOf H HT g W c) else (splitOf H HT g W c).tail ++ T)
  else T

theorem refineStep_eq (P S : List Color) (c : Color) :
    refineStep H HT g W (P, S) c =
      (if activeC c then P.erase c ++ splitOf H HT g W c else P, seqStep H HT g W S c) := by
  unfold refineStep seqStep activeC splitOf
  cases c.nodes with
  | nil => simp
  | cons n0 rest => dsimp only; split <;> rfl

theorem keepOrSplit_nodes (c : Color) :
    (allNodes (keepOrSplit H HT g W c)).Perm c.nodes := by
  unfold keepOrSplit
  split
  · exact splitOf_nodes H HT g W c
  · simp [allNodes]

theorem keepOrSplit_sub (c : Color) :
    ∀ x ∈ keepOrSplit H HT g W c, ∀ n ∈ x.nodes, n ∈ c.nodes := fun x hx _ hn =>
  (keepOrSplit_nodes H HT g W c).mem_iff.mp (List.mem_flatMap.mpr ⟨x, hx, hn⟩)

theorem keepOrSplit_wf {c : Color} (hc : c.nodes ≠ []) : WFc (keepOrSplit H HT g W c) := by
  unfold keepOrSplit
  split
  · exact (splitOf_groups H HT g W c).1
  · intro x hx; rw [List.mem_singleton.mp hx]; exact hc

theorem allNodes_flatMap_keep (Z : List Color) :
    (allNodes (Z.flatMap (keepOrSplit H HT g W))).Perm (allNodes Z) := by
  induction Z with
  | nil => exact List.Perm.refl _
  | cons z Z ih =>
    rw [List.flatMap_cons, allNodes_append, allNodes_cons]
    exact List.Perm.append (keepOrSplit_nodes H HT g W z) ih

theorem replaceAt_perm {S : List Color} {c : Color} (by_ : List Color) (h : c ∈ S) :
    (replaceAt S c by_).Perm (by_ ++ S.erase c) := by
  induction S with
  | nil => cases h
  | cons d ds ih =>
    unfold replaceAt
    by_cases e : d = c
    · rw [if_pos e, e, List.erase_cons_head]
    · rw [if_neg e, List.erase_cons_tail (by simpa using e)]
      exact ((ih ((List.mem_cons.mp h).resolve_left (Ne.symm e))).cons d).trans List.perm_middle.symm

theorem seqStep_length {c : Color} (T : List Color) (hc : c.nodes ≠ []) :
    (seqStep H HT g W T c).length + 1 = T.length + (keepOrSplit H HT g W c).length := by
  unfold seqStep keepOrSplit
  split
  · have := List.length_pos_iff.mpr (splitOf_ne_nil H HT g W hc)
    split
    · next hin =>
      have := List.length_pos_of_mem hin
      rw [(replaceAt_perm _ hin).length_eq, List.length_append, List.length_erase_of_mem hin]
      omega
    · simp only [List.length_append, List.length_tail]; omega
  · rfl

theorem foldl_seqStep_length (todo : List Color)
    (hwf : WFc todo) : ∀ T : List Color,
      (todo.foldl (seqStep H HT g W) T).length + todo.length =
        T.length + (todo.flatMap (keepOrSplit H HT g W)).length := by
  induction todo with
  | nil => intro T; rfl
  | cons c todo ih =>
    intro T
    have h1 := seqStep_length H HT g W T (hwf c List.mem_cons_self)
    have h2 := ih (fun x hx => hwf x (List.mem_cons_of_mem _ hx)) (seqStep H HT g W T c)
    simp only [List.foldl_cons, List.flatMap_cons, List.length_append, List.length_cons]
    omega

theorem foldl_refineStep_snd (todo : List Color) :
    ∀ (Q T : List Color), (todo.foldl (refineStep H HT g W) (Q, T)).2 = todo.foldl (seqStep H HT g W) T := by
  induction todo with
  | nil => intro Q T; rfl
  | cons c todo ih => intro Q T; rw [List.foldl_cons, List.foldl_cons, refineStep_eq]; exact ih _ _

theorem foldl_refineStep_fst (todo : List Color) :
    ∀ (P S rest : List Color), P.Perm (todo ++ rest) →
      ((todo.foldl (refineStep H HT g W) (P, S)).1).Perm (rest ++ todo.flatMap (keepOrSplit H HT g W)) := by
  -- `rest` = the colours already handled or created: `c` is still in `P` at its turn, and `erase c` removes it
  induction todo with
  | nil => intro P S rest h; simpa using h
  | cons c todo ih =>
    intro P S rest hperm
    rw [List.foldl_cons, refineStep_eq, List.flatMap_cons, keepOrSplit]
    by_cases hact : activeC c = true
    · rw [if_pos hact, if_pos hact]
      have hcP : c ∈ P := hperm.mem_iff.mpr (by simp)
      have hperm1 : (P.erase c ++ splitOf H HT g W c).Perm (todo ++ (rest ++ splitOf H HT g W c)) := by
        rw [← List.append_assoc]
        exact List.Perm.append_right _ ((List.perm_cons_erase hcP).symm.trans hperm).cons_inv
      exact (ih _ _ _ hperm1).trans (by rw [List.append_assoc])
    · rw [if_neg hact, if_neg hact]
      exact (ih P _ (c :: rest) (hperm.trans (by simpa using List.perm_middle.symm))).trans List.perm_middle.symm

theorem refinePass_fst (P S : List Color) :
    ((refinePass H HT g W P S).1).Perm (P.flatMap (keepOrSplit H HT g W)) := by
  simpa [refinePass] using foldl_refineStep_fst H HT g W P P S [] (by simp)

theorem refinePass_snd (P S : List Color) :
    (refinePass H HT g W P S).2 = P.foldl (seqStep H HT g W) S :=
  foldl_refineStep_snd H HT g W P P S

variable {H HT g W} in
theorem mem_refinePass {P S : List Color} {x : Color} :
    x ∈ (refinePass H HT g W P S).1 ↔ ∃ c ∈ P, x ∈ keepOrSplit H HT g W c := by
  rw [(refinePass_fst H HT g W P S).mem_iff, List.mem_flatMap]

theorem refinePass_sub (P S : List Color) :
    SubCells (refinePass H HT g W P S).1 P := fun x hx =>
  let ⟨c, hc, hxc⟩ := mem_refinePass.mp hx
  ⟨c, hc, keepOrSplit_sub H HT g W c x hxc⟩

theorem refinePass_refines (P S : List Color)
    (hwf : WFc P) :
    WFc (refinePass H HT g W P S).1 ∧ (allNodes (refinePass H HT g W P S).1).Perm (allNodes P) := by
  refine ⟨fun x hx => ?_, (allNodes_perm (refinePass_fst H HT g W P S)).trans (allNodes_flatMap_keep H HT g W P)⟩
  obtain ⟨c, hc, hxc⟩ := mem_refinePass.mp hx
  exact keepOrSplit_wf H HT g W (hwf c hc) x hxc

theorem refinePass_length (P S : List Color) (hwf : WFc P) :
    (refinePass H HT g W P S).2.length + P.length = S.length + (refinePass H HT g W P S).1.length := by
  rw [refinePass_snd, (refinePass_fst H HT g W P S).length_eq]
  exact foldl_seqStep_length H HT g W P hwf S

end

theorem RefineRun_det {H : List Item → Nat} {HT : Term → Nat} {g : Graph} {P S R R' : List Color}
    (h : RefineRun H HT g P S R) (h' : RefineRun H HT g P S R') : R = R' := by
  induction h with
  | done hd =>
    cases h' with
    | done _ => rfl
    | step hd' _ _ => rw [hd] at hd'; cases hd'
  | step hd hW _ ih =>
    cases h' with
    | done hd' => rw [hd] at hd'; cases hd'
    | step _ hW' hr =>
      rw [hW] at hW'
      cases hW'
      exact ih hr

section
variable (H : List Item → Nat) (HT : Term → Nat) (g : Graph)

/-- the variant: a pass pops one splitter and pushes one per newly created cell, and cells never outnumber nodes -/
theorem refinePass_fuel {P S : List Color} {W : Color} (hwf : WFc P) (hW : S.getLast? = some W) :
    refineFuel (refinePass H HT g W P S.dropLast).1 (refinePass H HT g W P S.dropLast).2 < refineFuel P S := by
  obtain ⟨T, rfl⟩ := List.getLast?_eq_some_iff.mp hW
  rw [List.dropLast_concat]
  obtain ⟨a, b⟩ := refinePass_refines H HT g W P T hwf
  have c := refinePass_length H HT g W P T hwf
  have h1 := length_le_nodeCount hwf
  have h2 := length_le_nodeCount a
  have h3 : nodeCount _ = nodeCount P := b.length_eq
  rw [refineFuel, refineFuel, List.length_append, List.length_singleton]
  omega

theorem refineLoop_run :
    ∀ (fuel : Nat) (P S : List Color), WFc P → refineFuel P S ≤ fuel →
      RefineRun H HT g P S (refineLoop H HT g fuel P S) := by
  intro fuel
  induction fuel with
  | zero => intro P S _ h; simp [refineFuel] at h
  | succ fuel ih =>
    intro P S hwf hfuel
    unfold refineLoop
    by_cases hd : refineDone P S = true
    · rw [if_pos hd]; exact RefineRun.done hd
    · rw [if_neg hd]
      cases hW : S.getLast? with
      | none =>
        rw [List.getLast?_eq_none_iff.mp hW] at hd
        exact absurd rfl hd
      | some W =>
        have hlt := Nat.lt_of_lt_of_le (refinePass_fuel H HT g hwf hW) hfuel
        exact RefineRun.step (by simpa using hd) hW
          (ih _ _ (refinePass_refines H HT g W P S.dropLast hwf).1 (Nat.le_of_lt_succ hlt))

theorem refineLoop_refines :
    ∀ (fuel : Nat) (P S : List Color),
      SubCells (refineLoop H HT g fuel P S) P ∧
      (WFc P → WFc (refineLoop H HT g fuel P S) ∧ (allNodes (refineLoop H HT g fuel P S)).Perm (allNodes P)) := by
  intro fuel
  have stay : ∀ P : List Color, SubCells P P ∧ (WFc P → WFc P ∧ (allNodes P).Perm (allNodes P)) :=
    fun P => ⟨SubCells.refl _, fun hwf => ⟨hwf, List.Perm.refl _⟩⟩
  induction fuel with
  | zero => intro P S; exact stay P
  | succ fuel ih =>
    intro P S
    unfold refineLoop
    split
    · exact stay P
    · split
      · exact stay P
      · next W _ =>
        obtain ⟨d', h'⟩ := ih (refinePass H HT g W P S.dropLast).1 (refinePass H HT g W P S.dropLast).2
        refine ⟨d'.trans (refinePass_sub H HT g W P S.dropLast), fun hwf => ?_⟩
        obtain ⟨a, b⟩ := refinePass_refines H HT g W P S.dropLast hwf
        exact ⟨(h' a).1, (h' a).2.trans b⟩

theorem mergeByHash_id (cs : List Color) :
    ∀ acc : List Color, ((acc ++ cs).map (Color.hash H HT)).Nodup → mergeByHash H HT cs acc = acc ++ cs := by
  induction cs with
  | nil => intro acc _; simp [mergeByHash]
  | cons c cs ih =>
    intro acc hnd
    unfold mergeByHash
    have hno : acc.any (fun d => d.hash H HT == c.hash H HT) = false := by
      rw [Bool.eq_false_iff]
      intro hany
      obtain ⟨d, hd, e⟩ := List.any_eq_true.mp hany
      have e' : d.hash H HT = c.hash H HT := by simpa using e
      rw [List.map_append, List.map_cons, List.nodup_append] at hnd
      exact hnd.2.2 _ (List.mem_map.mpr ⟨d, hd, rfl⟩) _ List.mem_cons_self e'
    simp only [hno]
    have := ih (acc ++ [c]) (by simpa using hnd)
    simpa using this

end

/-- the terms of the triples that mention a blank node (`nodes` of `_initial_color`) -/
def touchTerms (g : Graph) : List Term :=
  (g.filter (fun t => t.1.blank || t.2.1.blank || t.2.2.blank)).flatMap (fun t => [t.1, t.2.1, t.2.2])

theorem touchTerms_sub (g : Graph) : ∀ x ∈ touchTerms g, x ∈ gterms g := by
  intro x hx
  obtain ⟨t, ht, hxt⟩ := List.mem_flatMap.mp hx
  have htg : t ∈ g := (List.mem_filter.mp ht).1
  simp only [List.mem_cons, List.not_mem_nil, or_false] at hxt
  exact mem_gterms.mpr ⟨t, htg, hxt⟩

theorem initialColor_eq (g : Graph) :
    initialColor g =
      if ((touchTerms g).filter (·.blank)).foldl tinsert [] = [] then []
      else ⟨((touchTerms g).filter (·.blank)).foldl tinsert [], [], none⟩ ::
        (((touchTerms g).filter (fun x => !x.blank)).foldl tinsert []).map (fun x => ⟨[x], [], some x⟩) := by
  unfold initialColor touchTerms
  dsimp only
  cases h : List.foldl tinsert [] (List.filter (fun x => x.blank)
      (List.flatMap (fun t => [t.1, t.2.1, t.2.2]) (List.filter (fun t => t.1.blank || t.2.1.blank || t.2.2.blank) g)))
    <;> simp

theorem tinsert_eq_sinsert : tinsert = sinsert := rfl

theorem mem_foldl_tinsert (l acc : List Term) (x : Term) : x ∈ l.foldl tinsert acc ↔ x ∈ acc ∨ x ∈ l :=
  tinsert_eq_sinsert ▸ mem_foldl_sinsert l acc x

theorem mem_foldl_tinsert_filter {l : List Term} {p : Term → Bool} {x : Term} :
    x ∈ (l.filter p).foldl tinsert [] ↔ x ∈ l ∧ p x = true := by
  rw [mem_foldl_tinsert, List.mem_filter]
  exact or_iff_right (fun h => nomatch h)

theorem nodup_foldl_tinsert (l : List Term) : (l.foldl tinsert []).Nodup :=
  tinsert_eq_sinsert ▸ nodup_foldl_sinsert l [] List.nodup_nil

theorem foldl_tinsert_ne_nil (l : List Term) : ∀ acc : List Term, acc ≠ [] → l.foldl tinsert acc ≠ [] := by
  induction l with
  | nil => intro acc h; exact h
  | cons x xs ih =>
    intro acc h
    rw [List.foldl_cons]
    apply ih
    unfold tinsert
    split
    · exact h
    · simp

theorem initialColor_wf (g : Graph) : WFc (initialColor g) := by
  rw [initialColor_eq]
  intro c hc
  split at hc
  · cases hc
  · next hne =>
    rcases List.mem_cons.mp hc with rfl | hc
    · exact hne
    · obtain ⟨x, _, rfl⟩ := List.mem_map.mp hc
      simp

end RV.C14

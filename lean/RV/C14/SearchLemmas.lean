import RV.C14.SortLemmas
import RV.C14.CanonLemmas
/-
  Lemmas for the exhaustive search `canonSearch`: every stage (initial colours, refinement rounds, discreteness test,
  leaf, target cell, candidates, recursion) is equivariant under an isomorphism; leaves are injective relabellings.
-/
namespace RV.C14

theorem mem_nodesOf {g : Graph} {n : Nat} : n ∈ nodesOf g ↔ n ∈ bnodes g := mem_dedup

theorem nodupB_iff {l : List Nat} : nodupB l = true ↔ l.Nodup := by
  induction l with
  | nil => simp [nodupB]
  | cons x xs ih => simp [nodupB, ih]

theorem alookup_map_self (f : Nat → Nat) : ∀ {l : List Nat} {x : Nat}, x ∈ l →
    alookup (l.map (fun n => (n, f n))) x = some (f x) := by
  intro l
  induction l with
  | nil => intro x hx; cases hx
  | cons y ys ih =>
    intro x hx
    simp only [List.map_cons, alookup]
    split
    · next e => rw [e]
    · next e =>
      rcases List.mem_cons.mp hx with rfl | hx
      · exact absurd rfl e
      · exact ih hx

theorem colAt_map_self (f : Nat → Nat) {l : List Nat} {x : Nat} (hx : x ∈ l) :
    colAt (l.map (fun n => (n, f n))) x = f x := by
  simp [colAt, alookup_map_self f hx]

theorem minOf_eq (l : List Nat) : minOf l = l.min?.getD 0 := by
  induction l with
  | nil => rfl
  | cons x xs ih =>
    cases xs with
    | nil => rfl
    | cons y ys => rw [minOf, ih, List.min?_cons, List.min?_cons]; simp

theorem minOf_perm {l1 l2 : List Nat} (hp : l1.Perm l2) : minOf l1 = minOf l2 := by
  rw [minOf_eq, minOf_eq]
  cases h : l1.min? with
  | none =>
    rw [List.min?_eq_none_iff.mp h] at hp h
    rw [← hp.nil_eq]
    rfl
  | some a =>
    obtain ⟨hm, hle⟩ := List.min?_eq_some_iff.mp h
    rw [List.min?_eq_some_iff.mpr ⟨hp.mem_iff.mp hm, fun b hb => hle b (hp.mem_iff.mpr hb)⟩]

theorem targetColour_perm {c1 c2 : List Nat} (hp : c1.Perm c2) : targetColour c1 = targetColour c2 := by
  unfold targetColour
  have hf : (fun v => decide (2 ≤ c1.count v)) = (fun v => decide (2 ≤ c2.count v)) := by
    funext v; rw [hp.count_eq v]
  rw [hf]
  exact minOf_perm (hp.filter _)

theorem idxOf_map {π : Nat → Nat} (hπ : Function.Injective π) (n : Nat) :
    ∀ ind : List Nat, idxOf (ind.map π) (π n) = idxOf ind n
  | [] => rfl
  | x :: xs => by simp only [List.map_cons, idxOf, hπ.eq_iff, idxOf_map hπ n xs]

/-- an isomorphism as the equivariance proofs use it: `π` injective everywhere (cf. `exists_injective_rename`) and `h` a
    permutation of `g.rename π` as a LIST, so that `filterMap`s over the two agree up to order -/
structure IsoData (π : Nat → Nat) (g h : Graph) : Prop where
  inj : Function.Injective π
  perm : h.Perm (g.rename π)
  nbp : NoBlankPred g

theorem IsoData.setEq {π : Nat → Nat} {g h : Graph} (d : IsoData π g h) : SetEq (g.rename π) h :=
  fun _ => d.perm.mem_iff.symm

theorem IsoData.image_mem {π : Nat → Nat} {g h : Graph} (d : IsoData π g h) {a : Nat} (ha : a ∈ bnodes g) :
    π a ∈ nodesOf h := mem_nodesOf.mpr (image_maps d.setEq a ha)

theorem IsoData.nodes_perm {π : Nat → Nat} {g h : Graph} (d : IsoData π g h) :
    (nodesOf h).Perm ((nodesOf g).map π) := by
  have hnd : ((nodesOf g).map π).Nodup :=
    nodup_map_of_injOn (nodup_dedup _) (fun _ _ _ _ e => d.inj e)
  refine (List.perm_ext_iff_of_nodup (nodup_dedup _) hnd).mpr ?_
  intro b
  simp only [nodesOf, mem_dedup, List.mem_map]
  constructor
  · intro hb
    obtain ⟨a, ha, e⟩ := image_surj d.setEq b hb
    exact ⟨a, ha, e⟩
  · rintro ⟨a, ha, rfl⟩
    exact image_maps d.setEq a ha

theorem isoData_of_isIso {π : Nat → Nat} {g h : Graph} (hg : g.Nodup) (hh : h.Nodup) (hp : NoBlankPred g)
    (hσ : IsIso π g h) : ∃ τ, IsoData τ g h ∧ ∀ a ∈ bnodes g, τ a = π a := by
  obtain ⟨τ, hτ, e⟩ := exists_injective_ext π _ hσ.inj
  exact ⟨τ, ⟨hτ, Graph.rename_congr e ▸ perm_of_nodup_setEq hσ.inj hg hh hσ.image, hp⟩, e⟩

def TblEq (π : Nat → Nat) (g : Graph) (tg th : Asg) : Prop := ∀ n ∈ bnodes g, colAt th (π n) = colAt tg n

theorem nodeItems_renameG (Hs : Hashes) {π : Nat → Nat} (hπ : Function.Injective π) {g : Graph} (hp : NoBlankPred g)
    {cg ch : Nat → Nat} (hc : ∀ m ∈ bnodes g, ch (π m) = cg m) (n : Nat) :
    nodeItems Hs (g.rename π) ch (π n) = nodeItems Hs g cg n := by
  have hren : (⟨true, π n⟩ : Term) = Term.rename π ⟨true, n⟩ := rfl
  have hcol : ∀ x ∈ gterms g, termCol Hs ch (x.rename π) = termCol Hs cg x := by
    intro x hx
    unfold termCol
    cases hb : x.blank
    · simp [rename_nonblank π hb, hb]
    · simp [Term.id_rename π hb, hb, hc x.id (blank_id_mem_bnodes hx hb)]
  unfold nodeItems
  congr 1 <;>
  · rw [Graph.rename, List.filterMap_map]
    refine filterMap_congr_mem g fun t ht => ?_
    simp only [Function.comp, Triple.rename, hren, (rename_injective hπ).eq_iff, rename_nonblank π (hp t ht),
      hcol _ (mem_gterms.mpr ⟨t, ht, Or.inl rfl⟩), hcol _ (mem_gterms.mpr ⟨t, ht, Or.inr (Or.inr rfl)⟩)]

section
variable (Hs : Hashes) (hH : PermInv Hs) {π : Nat → Nat} {g h : Graph} (d : IsoData π g h)
include d

theorem nodeItems_equiv {cg ch : Nat → Nat}
    (hc : ∀ m ∈ bnodes g, ch (π m) = cg m) (n : Nat) :
    (nodeItems Hs h ch (π n)).Perm (nodeItems Hs g cg n) := by
  rw [← nodeItems_renameG Hs d.inj d.nbp hc n]
  unfold nodeItems
  exact (d.perm.filterMap _).append (d.perm.filterMap _)

theorem initTable_equiv (ind : List Nat) :
    TblEq π g (initTable Hs (nodesOf g) ind) (initTable Hs (nodesOf h) (ind.map π)) := by
  intro n hn
  unfold initTable
  rw [colAt_map_self (fun n => Hs.HInd (idxOf (ind.map π) n)) (d.image_mem hn),
    colAt_map_self (fun n => Hs.HInd (idxOf ind n)) (mem_nodesOf.mpr hn), idxOf_map d.inj n ind]

include hH

theorem stepTable_equiv {tg th : Asg} (e : TblEq π g tg th) :
    TblEq π g (stepTable Hs g (nodesOf g) tg) (stepTable Hs h (nodesOf h) th) := by
  intro n hn
  unfold stepTable
  rw [colAt_map_self (fun n => Hs.H (colAt th n) (nodeItems Hs h (colAt th) n)) (d.image_mem hn),
    colAt_map_self (fun n => Hs.H (colAt tg n) (nodeItems Hs g (colAt tg) n)) (mem_nodesOf.mpr hn), e n hn]
  exact hH _ _ _ (nodeItems_equiv Hs d e n)

theorem iterTable_equiv :
    ∀ (k : Nat) {tg th : Asg}, TblEq π g tg th →
      TblEq π g (iterTable Hs g (nodesOf g) k tg) (iterTable Hs h (nodesOf h) k th) := by
  intro k
  induction k with
  | zero => intro tg th e; exact e
  | succ k ih => intro tg th e; exact ih (stepTable_equiv Hs hH d e)

theorem refinedTable_equiv (ind : List Nat) : TblEq π g (refinedTable Hs g ind) (refinedTable Hs h (ind.map π)) := by
  unfold refinedTable
  have hl : (nodesOf h).length = (nodesOf g).length := by
    rw [d.nodes_perm.length_eq, List.length_map]
  rw [hl]
  exact iterTable_equiv Hs hH d _ (initTable_equiv Hs d ind)

end

section agree
variable {π : Nat → Nat} {g h : Graph} (d : IsoData π g h) {tg th : Asg} (e : TblEq π g tg th)
include d e

theorem tblEq_cols_perm : ((nodesOf h).map (colAt th)).Perm ((nodesOf g).map (colAt tg)) := by
  refine (d.nodes_perm.map _).trans ?_
  rw [List.map_map]
  apply List.Perm.of_eq
  apply List.map_congr_left
  intro n hn
  exact e n (mem_nodesOf.mp hn)

theorem discreteTbl_equiv : discreteTbl (nodesOf h) th = discreteTbl (nodesOf g) tg := by
  unfold discreteTbl
  rw [Bool.eq_iff_iff, nodupB_iff, nodupB_iff]
  exact (tblEq_cols_perm d e).nodup_iff

theorem leafOf_equiv : leafOf h (colAt th) = leafOf g (colAt tg) := by
  unfold leafOf
  apply isort_perm_eq keyLe_order
  refine ((d.perm.map (Triple.rename (colAt th))).map Triple.key).trans ?_
  apply List.Perm.of_eq
  have h1 : (g.rename π).map (Triple.rename (colAt th)) = (g.rename π).rename (colAt th) := rfl
  have h2 : h.rename (colAt th) = h.map (Triple.rename (colAt th)) := rfl
  rw [h1, Graph.rename_rename, Graph.rename_congr (σ := colAt th ∘ π) (τ := colAt tg) (fun a ha => e a ha)]

theorem candidatesTbl_perm :
    (candidatesTbl (nodesOf h) th).Perm ((candidatesTbl (nodesOf g) tg).map π) := by
  unfold candidatesTbl
  simp only []
  rw [targetColour_perm (tblEq_cols_perm d e)]
  refine (d.nodes_perm.filter _).trans ?_
  rw [List.filter_map]
  apply List.Perm.of_eq
  congr 1
  apply List.filter_congr
  intro n hn
  simp only [Function.comp, e n (mem_nodesOf.mp hn)]

end agree

section
variable (Hs : Hashes) (hH : PermInv Hs) {π : Nat → Nat} {g h : Graph} (d : IsoData π g h)
include hH d

theorem leaves_equivariant :
    ∀ (fuel : Nat) (ind : List Nat), (leaves Hs h fuel (ind.map π)).Perm (leaves Hs g fuel ind) := by
  intro fuel
  induction fuel with
  | zero =>
    intro ind
    have e := refinedTable_equiv Hs hH d ind
    simp only [leaves, discreteTbl_equiv d e, leafOf_equiv d e]
    exact List.Perm.refl _
  | succ fuel ih =>
    intro ind
    have e := refinedTable_equiv Hs hH d ind
    simp only [leaves, discreteTbl_equiv d e, leafOf_equiv d e]
    split
    · exact List.Perm.refl _
    · refine (List.Perm.flatMap_right _ (candidatesTbl_perm d e)).trans ?_
      rw [List.flatMap_map]
      refine flatMap_perm_congr _ fun x _ => ?_
      have := ih (ind ++ [x])
      rwa [List.map_append] at this

theorem canonSearch_eq_of_isoData : canonSearch Hs h = canonSearch Hs g := by
  unfold canonSearch
  have : (leaves Hs h _ []).Perm _ := leaves_equivariant Hs hH d (nodesOf g).length []
  rw [d.nodes_perm.length_eq, List.length_map, isort_perm_eq leafLe_order this]

end

theorem leaves_form (Hs : Hashes) (g : Graph) : ∀ (fuel : Nat) (ind : List Nat) (L : List (List Nat)),
    L ∈ leaves Hs g fuel ind → ∃ tbl : Asg, discreteTbl (nodesOf g) tbl = true ∧ L = leafOf g (colAt tbl) := by
  intro fuel
  induction fuel with
  | zero =>
    intro ind L hL
    simp only [leaves] at hL
    split at hL
    · next hd => simp at hL; exact ⟨_, hd, hL⟩
    · cases hL
  | succ fuel ih =>
    intro ind L hL
    simp only [leaves] at hL
    split at hL
    · next hd => simp at hL; exact ⟨_, hd, hL⟩
    · obtain ⟨x, _, hx⟩ := List.mem_flatMap.mp hL
      exact ih _ L hx

theorem Term.key_inj {a b : Term} (h : a.key = b.key) : a = b := by
  unfold Term.key at h
  simp only [List.cons.injEq, and_true] at h
  obtain ⟨h1, h2⟩ := h
  obtain ⟨ba, _⟩ := a
  obtain ⟨bb, _⟩ := b
  simp only [Term.mk.injEq]
  refine ⟨?_, h2⟩
  simp only at h1
  cases ba <;> cases bb <;> simp_all

theorem Triple.key_inj {a b : Triple} (h : a.key = b.key) : a = b := by
  unfold Triple.key at h
  have l1 : a.1.key.length = b.1.key.length := by simp [Term.key]
  have h1 := List.append_inj h l1
  have l2 : a.2.1.key.length = b.2.1.key.length := by simp [Term.key]
  have h2 := List.append_inj h1.2 l2
  obtain ⟨a1, a2, a3⟩ := a
  obtain ⟨b1, b2, b3⟩ := b
  simp only at h1 h2
  rw [Term.key_inj h1.1, Term.key_inj h2.1, Term.key_inj h2.2]

theorem setEq_of_leaf_eq {g h : Graph} {c c' : Nat → Nat} (e : leafOf g c = leafOf h c') :
    SetEq (g.rename c) (h.rename c') := by
  intro t
  have hp : ((g.rename c).map Triple.key).Perm ((h.rename c').map Triple.key) :=
    (perm_isort (le := keyLe) _).symm.trans ((List.Perm.of_eq e).trans (perm_isort _))
  have hk : Function.Injective Triple.key := fun _ _ => Triple.key_inj
  rw [← mem_map_iff_of_injective hk, ← mem_map_iff_of_injective hk]
  exact hp.mem_iff

theorem iso_of_discrete {g : Graph} {tbl : Asg} (hd : discreteTbl (nodesOf g) tbl = true) :
    Spec.Iso g (g.rename (colAt tbl)) := by
  refine .intro ?_ (SetEq.refl _)
  intro a ha b hb hab
  exact injOn_of_nodup_map (nodupB_iff.mp hd) a (mem_nodesOf.mpr ha) b (mem_nodesOf.mpr hb) hab

end RV.C14

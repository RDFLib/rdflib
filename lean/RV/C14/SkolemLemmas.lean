import RV.C14.Lemmas
/-
  Skolemisation: the guards of the statements; the round trip term by term (partial skolemisation is the general case);
  the stateful `deSkolemizeSt` as one label map; the external genid branch; `simpleUrl` meets the contract.
-/
namespace RV.C14

theorem mem_slabels {g : SGraph} {l : Str} :
    l ∈ slabels g ↔ ∃ t ∈ g, t.1 = .bnode l ∨ t.2.2 = .bnode l := by
  have hlab : ∀ x : STerm, l ∈ x.labels ↔ x = .bnode l := by
    intro x; cases x <;> simp [STerm.labels, eq_comm]
  induction g with
  | nil => simp [slabels]
  | cons t g ih => simp only [slabels, List.mem_append, hlab, ih, List.mem_cons, exists_eq_or_imp]

section
variable {U : UrlOps} {f : Str → Str} {u : Str}

theorem deskTerm_rdflib (h : isRdflibSkolem U u = true) :
    deskTerm U f (.iri u) = .bnode ((U.path u).drop rdflibSkolemGenid.length) := by
  rw [deskTerm, if_pos h]

theorem deskTerm_external (h1 : isRdflibSkolem U u = false) (h2 : isExternalSkolem U u = true) :
    deskTerm U f (.iri u) = .bnode (f u) := by
  rw [deskTerm, if_neg (by simp [h1]), if_pos h2]

theorem deskTerm_plain (h1 : isRdflibSkolem U u = false) (h2 : isExternalSkolem U u = false) :
    deskTerm U f (.iri u) = .iri u := by
  rw [deskTerm, if_neg (by simp [h1]), if_neg (by simp [h2])]

end

theorem desk_skSel_term (U : UrlOps) (fresh : Str → Str) (sel : List Str) (x : STerm)
    (hn : ∀ u, x = .iri u → isRdflibSkolem U u = false ∧ isExternalSkolem U u = false)
    (hl : ∀ l, x = .bnode l → LabelOk U l) :
    deskTerm U fresh (skTermSel U defaultAuthority rdflibSkolemGenid sel x) = x := by
  cases x with
  | iri u =>
    obtain ⟨h1, h2⟩ := hn u rfl
    exact deskTerm_plain h1 h2
  | lit lex n => rfl
  | bnode l =>
    rw [skTermSel]
    split
    · obtain ⟨h1, h2⟩ := hl l rfl
      exact (deskTerm_rdflib h1).trans (congrArg _ h2)
    · rfl

theorem deSk_skSel_eq (U : UrlOps) (fresh : Str → Str) (sel : List Str) (g : SGraph) (hn : NoGenid U g)
    (hl : LabelsOk U g) :
    deSkolemize U fresh (skolemizeSel U defaultAuthority rdflibSkolemGenid sel g) = g := by
  unfold deSkolemize skolemizeSel
  rw [List.map_map]
  refine (List.map_congr_left fun t ht => ?_).trans (List.map_id g)
  have term : ∀ x, (t.1 = x ∨ t.2.2 = x) →
      deskTerm U fresh (skTermSel U defaultAuthority rdflibSkolemGenid sel x) = x := fun x hx =>
    desk_skSel_term U fresh sel x (fun u hu => hn t ht u (hx.imp (·.trans hu) (·.trans hu)))
      (fun l h => hl l (mem_slabels.mpr ⟨t, ht, hx.imp (·.trans h) (·.trans h)⟩))
  simp only [Function.comp, term _ (Or.inl rfl), term _ (Or.inr rfl), id]

theorem skolemize_eq_sel (U : UrlOps) (g : SGraph) :
    skolemize U g = skolemizeSel U defaultAuthority rdflibSkolemGenid (slabels g) g := by
  unfold skolemize skolemizeSel
  refine List.map_congr_left fun t ht => ?_
  have term : ∀ x, (t.1 = x ∨ t.2.2 = x) →
      skTerm U x = skTermSel U defaultAuthority rdflibSkolemGenid (slabels g) x := by
    intro x hx
    cases x with
    | bnode l => simp [skTerm, skTermAt, skTermSel, mem_slabels.mpr ⟨t, ht, hx⟩]
    | _ => rfl
  rw [term _ (Or.inl rfl), term _ (Or.inr rfl)]

theorem deSk_sk_eq (U : UrlOps) (fresh : Str → Str) (g : SGraph) (hn : NoGenid U g) (hl : LabelsOk U g) :
    deSkolemize U fresh (skolemize U g) = g := by
  rw [skolemize_eq_sel]
  exact deSk_skSel_eq U fresh _ g hn hl

/-! ### the stateful code (`skolems` dict) acts as ONE label map per call

    The only thing used about the dict is that entries are added and never changed or dropped
    (`CacheExt`): then every term of the call is translated by the single function the FINAL dict
    stands for.  (An eviction policy breaks exactly this.) -/

def CacheExt (c c' : SkCache) : Prop := ∀ u l, clookup c u = some l → clookup c' u = some l

theorem CacheExt.refl (c : SkCache) : CacheExt c c := fun _ _ h => h
theorem CacheExt.trans {a b c : SkCache} (h1 : CacheExt a b) (h2 : CacheExt b c) : CacheExt a c :=
  fun u l h => h2 u l (h1 u l h)

theorem deskTerm_congr {U : UrlOps} {f f' : Str → Str} {x : STerm}
    (h : ∀ u, x = .iri u → isRdflibSkolem U u = false → isExternalSkolem U u = true → f u = f' u) :
    deskTerm U f x = deskTerm U f' x := by
  cases x with
  | iri u =>
    unfold deskTerm
    cases hr : isRdflibSkolem U u <;> cases hx : isExternalSkolem U u <;> simp [h u rfl, hr, hx]
  | _ => rfl

/-- a dict hit, or nothing to look up (left); a miss, which mints a label and enters it (right) -/
theorem deskTermSt_cases (U : UrlOps) (mint : Nat → Str) (st : SkState) (x : STerm) :
    (deskTermSt U mint st x = (deskTerm U (st.cache.fn id) x, st) ∧
      ∀ u, x = .iri u → isRdflibSkolem U u = false → isExternalSkolem U u = true → ∃ v, clookup st.cache u = some v) ∨
    (∃ u, x = .iri u ∧ isRdflibSkolem U u = false ∧ isExternalSkolem U u = true ∧ clookup st.cache u = none ∧
      deskTermSt U mint st x = (.bnode (mint st.next), ⟨(u, mint st.next) :: st.cache, st.next + 1⟩)) := by
  cases x with
  | bnode l => exact Or.inl ⟨rfl, fun _ h => nomatch h⟩
  | lit lex n => exact Or.inl ⟨rfl, fun _ h => nomatch h⟩
  | iri u =>
    cases hr : isRdflibSkolem U u with
    | true =>
      refine Or.inl ⟨by simp [deskTermSt, deskTerm, hr], fun u' h hr' => ?_⟩
      cases h
      rw [hr] at hr'
      cases hr'
    | false =>
      cases hx : isExternalSkolem U u with
      | false =>
        refine Or.inl ⟨by simp [deskTermSt, deskTerm, hr, hx], fun u' h _ hx' => ?_⟩
        cases h
        rw [hx] at hx'
        cases hx'
      | true =>
        cases hl : clookup st.cache u with
        | some l =>
          refine Or.inl ⟨by simp [deskTermSt, deskTerm, hr, hx, hl, SkCache.fn], fun u' h _ _ => ?_⟩
          cases h
          exact ⟨l, hl⟩
        | none => exact Or.inr ⟨u, rfl, hr, hx, hl, by simp [deskTermSt, hr, hx, hl]⟩

theorem deskTermSt_one_map (U : UrlOps) (mint : Nat → Str) (st : SkState) (x : STerm) :
    CacheExt st.cache (deskTermSt U mint st x).2.cache ∧
    ∀ (c'' : SkCache) (dflt : Str → Str), CacheExt (deskTermSt U mint st x).2.cache c'' →
      (deskTermSt U mint st x).1 = deskTerm U (c''.fn dflt) x := by
  rcases deskTermSt_cases U mint st x with ⟨e, hit⟩ | ⟨u, rfl, hr, hx, hl, e⟩ <;> rw [e]
  · refine ⟨CacheExt.refl _, fun c'' dflt he => deskTerm_congr fun u hu hr hx => ?_⟩
    obtain ⟨v, hv⟩ := hit u hu hr hx
    simp only [SkCache.fn, hv, he u v hv]
  · refine ⟨fun u' l' h' => ?_, fun c'' dflt he => ?_⟩
    · show clookup ((u, mint st.next) :: st.cache) u' = some l'
      unfold clookup
      split
      · next e => subst e; rw [hl] at h'; cases h'
      · exact h'
    · have : clookup c'' u = some (mint st.next) := he u _ (by simp [clookup])
      rw [deskTerm_external hr hx, SkCache.fn, this]

theorem deSkolemizeSt_one_map (U : UrlOps) (mint : Nat → Str) : ∀ (g : SGraph) (st : SkState),
    CacheExt st.cache (deSkolemizeSt U mint st g).2.cache ∧
    ∀ (c'' : SkCache) (dflt : Str → Str), CacheExt (deSkolemizeSt U mint st g).2.cache c'' →
      (deSkolemizeSt U mint st g).1 = deSkolemize U (c''.fn dflt) g := by
  intro g
  induction g with
  | nil => intro st; exact ⟨CacheExt.refl _, fun _ _ _ => rfl⟩
  | cons t g ih =>
    intro st
    obtain ⟨e1, s1⟩ := deskTermSt_one_map U mint st t.1
    obtain ⟨e2, s2⟩ := deskTermSt_one_map U mint (deskTermSt U mint st t.1).2 t.2.2
    obtain ⟨e3, s3⟩ := ih (deskTermSt U mint (deskTermSt U mint st t.1).2 t.2.2).2
    simp only [deSkolemizeSt]
    refine ⟨e1.trans (e2.trans e3), fun c'' dflt he => ?_⟩
    simp only [deSkolemize, List.map_cons]
    rw [s1 c'' dflt (e2.trans (e3.trans he)), s2 c'' dflt (e3.trans he)]
    have := s3 c'' dflt he
    simp only [deSkolemize] at this
    rw [this]

theorem deSkolemizeSt_final (U : UrlOps) (mint : Nat → Str) (g : SGraph) (st : SkState) (dflt : Str → Str) :
    (deSkolemizeSt U mint st g).1 = deSkolemize U ((deSkolemizeSt U mint st g).2.cache.fn dflt) g :=
  (deSkolemizeSt_one_map U mint g st).2 _ dflt (CacheExt.refl _)

/-! ### round trip through the EXTERNAL genid branch (`skolemize(authority=…, basepath="/.well-known/genid/")`):
    the blank nodes come back with fresh labels, one per skolem IRI -/

theorem SGraph.rename_id (g : SGraph) : g.rename (fun a => a) = g := by
  have h1 : ∀ x : STerm, x.rename (fun a => a) = x := fun x => by cases x <;> rfl
  refine (List.map_congr_left fun t _ => ?_).trans (List.map_id g)
  rw [h1, h1, h1]; rfl

/-- an IRI under the well-known genid path of a foreign authority, in object position, comes back as a blank node,
    so no relabelling of the result gives the input back (finding C14-K1) -/
theorem roundtrip_fails_of_external {U : UrlOps} {fresh : Str → Str} {s p : STerm} {u : Str}
    (h1 : isRdflibSkolem U u = false) (h2 : isExternalSkolem U u = true) (σ : Str → Str) :
    ¬ SetEq ((deSkolemize U fresh (skolemize U [(s, p, .iri u)])).rename σ) [(s, p, .iri u)] := by
  intro e
  have hmem : (s, p, STerm.iri u) ∈ [(_, _, (deskTerm U fresh (skTerm U (.iri u))).rename σ)] :=
    (e _).2 List.mem_cons_self
  have hobj := congrArg (·.2.2) (List.eq_of_mem_singleton hmem)
  rw [show skTerm U (.iri u) = .iri u from rfl, deskTerm_external h1 h2] at hobj
  cases hobj

theorem clookup_mem {c : SkCache} {u l : Str} (h : clookup c u = some l) : (u, l) ∈ c := by
  induction c with
  | nil => simp [clookup] at h
  | cons p c ih =>
    obtain ⟨k, v⟩ := p
    unfold clookup at h
    split at h
    · next hk => subst hk; injection h with h; subst h; exact List.mem_cons_self
    · exact List.mem_cons_of_mem _ (ih h)

theorem clookup_inj {c : SkCache} (hv : (c.map (·.2)).Nodup) {a b v : Str}
    (ha : clookup c a = some v) (hb : clookup c b = some v) : a = b :=
  congrArg Prod.fst (injOn_of_nodup_map hv _ (clookup_mem ha) _ (clookup_mem hb) rfl)

theorem deskTermSt_fresh {U : UrlOps} {mint : Nat → Str} (hm : Function.Injective mint) {st : SkState}
    (hf : CacheFresh mint st) (x : STerm) : CacheFresh mint (deskTermSt U mint st x).2 := by
  rcases deskTermSt_cases U mint st x with ⟨e, _⟩ | ⟨u, rfl, _, _, _, e⟩ <;> rw [e]
  · exact hf
  · constructor
    · intro p hp
      rcases List.mem_cons.mp hp with rfl | hp
      · exact ⟨st.next, Nat.lt_succ_self _, rfl⟩
      · obtain ⟨k, hk, e⟩ := hf.minted p hp
        exact ⟨k, Nat.lt_succ_of_lt hk, e⟩
    · show ((u, mint st.next) :: st.cache |>.map (·.2)).Nodup
      rw [List.map_cons, List.nodup_cons]
      refine ⟨?_, hf.nodup⟩
      intro hmem
      obtain ⟨p, hp, e⟩ := List.mem_map.mp hmem
      obtain ⟨k, hk, e'⟩ := hf.minted p hp
      have : mint k = mint st.next := by rw [← e', e]
      have := hm this
      omega

theorem deSkolemizeSt_fresh {U : UrlOps} {mint : Nat → Str} (hm : Function.Injective mint) :
    ∀ (g : SGraph) (st : SkState), CacheFresh mint st → CacheFresh mint (deSkolemizeSt U mint st g).2 := by
  intro g
  induction g with
  | nil => intro st h; exact h
  | cons t g ih =>
    intro st h
    simp only [deSkolemizeSt]
    exact ih _ (deskTermSt_fresh hm (deskTermSt_fresh hm h t.1) t.2.2)

/-- every external genid IRI of the call is in the final dict: by `deSkolemizeSt_final` the output is the same for every
    default label, so the dict has to answer -/
theorem deSkolemizeSt_present (U : UrlOps) (mint : Nat → Str) : ∀ (g : SGraph) (st : SkState),
    ∀ t ∈ g, ∀ u, (t.1 = .iri u ∨ t.2.2 = .iri u) → isRdflibSkolem U u = false →
      isExternalSkolem U u = true → ∃ v, clookup (deSkolemizeSt U mint st g).2.cache u = some v := by
  intro g st t ht u hu hr hx
  have s := deSkolemizeSt_final U mint g st
  have e := (s fun _ => []).symm.trans (s fun _ => ['x'])
  cases hl : clookup (deSkolemizeSt U mint st g).2.cache u with
  | some v => exact ⟨v, rfl⟩
  | none =>
    have et := List.map_inj_left.mp e t ht
    simp only [Prod.mk.injEq] at et
    rcases hu with hu | hu
    · have := et.1
      rw [hu, deskTerm_external hr hx, deskTerm_external hr hx] at this
      simp [SkCache.fn, hl] at this
    · have := et.2.2
      rw [hu, deskTerm_external hr hx, deskTerm_external hr hx] at this
      simp [SkCache.fn, hl] at this

theorem external_roundtrip (U : UrlOps) (mint : Nat → Str) (hm : Function.Injective mint) (auth base : Str)
    (g : SGraph) (st : SkState) (hf : CacheFresh mint st) (hn : NoGenid U g)
    (hp : ∀ t ∈ g, t.2.1.labels = [])
    (hx : ∀ l ∈ slabels g, isRdflibSkolem U (skolemizeLabelAt U auth base l) = false ∧
      isExternalSkolem U (skolemizeLabelAt U auth base l) = true)
    (hinj : ∀ a ∈ slabels g, ∀ b ∈ slabels g,
      skolemizeLabelAt U auth base a = skolemizeLabelAt U auth base b → a = b) :
    ∃ ρ : Str → Str, (∀ a ∈ slabels g, ∀ b ∈ slabels g, ρ a = ρ b → a = b) ∧
      (deSkolemizeSt U mint st (skolemizeAt U auth base g)).1 = g.rename ρ := by
  -- the relabelling: a label goes to what the final dict holds for its skolem IRI
  let fin := (deSkolemizeSt U mint st (skolemizeAt U auth base g)).2
  let σ : Str → Str := fin.cache.fn (fun u => u)
  refine ⟨fun l => σ (skolemizeLabelAt U auth base l), ?_, ?_⟩
  · intro a ha b hb hab
    have pres : ∀ l ∈ slabels g, ∃ v, clookup fin.cache (skolemizeLabelAt U auth base l) = some v := by
      intro l hl
      obtain ⟨t, ht, h⟩ := mem_slabels.mp hl
      apply deSkolemizeSt_present U mint (skolemizeAt U auth base g) st
        (skTermAt U auth base t.1, t.2.1, skTermAt U auth base t.2.2)
        (List.mem_map.mpr ⟨t, ht, rfl⟩) _ _ (hx l hl).1 (hx l hl).2
      rcases h with h | h
      · left; simp [h, skTermAt]
      · right; simp [h, skTermAt]
    obtain ⟨va, hva⟩ := pres a ha
    obtain ⟨vb, hvb⟩ := pres b hb
    have e : va = vb := by simpa [σ, SkCache.fn, hva, hvb] using hab
    subst e
    exact hinj a ha b hb (clookup_inj (deSkolemizeSt_fresh hm _ st hf).nodup hva hvb)
  · rw [show _ = deSkolemize U σ _ from deSkolemizeSt_final U mint (skolemizeAt U auth base g) st _]
    simp only [deSkolemize, skolemizeAt, SGraph.rename, List.map_map]
    apply List.map_congr_left
    intro t ht
    have term : ∀ x : STerm, (∀ u, x = .iri u → isRdflibSkolem U u = false ∧ isExternalSkolem U u = false) →
        (∀ l, x = .bnode l → l ∈ slabels g) →
        deskTerm U σ (skTermAt U auth base x) = x.rename (fun l => σ (skolemizeLabelAt U auth base l)) := by
      intro x h1 h2
      cases x with
      | iri u => obtain ⟨a1, a2⟩ := h1 u rfl; exact deskTerm_plain a1 a2
      | lit lex n => rfl
      | bnode l => obtain ⟨a1, a2⟩ := hx l (h2 l rfl); exact deskTerm_external a1 a2
    have hpred : t.2.1.rename (fun l => σ (skolemizeLabelAt U auth base l)) = t.2.1 := by
      have := hp t ht
      cases h : t.2.1 with
      | bnode l => rw [h] at this; simp [STerm.labels] at this
      | iri u => rfl
      | lit lex n => rfl
    simp only [Function.comp]
    rw [term t.1 (fun u hu => hn t ht u (Or.inl hu)) (fun l hl => mem_slabels.mpr ⟨t, ht, Or.inl hl⟩),
      term t.2.2 (fun u hu => hn t ht u (Or.inr hu)) (fun l hl => mem_slabels.mpr ⟨t, ht, Or.inr hl⟩), hpred]

/-! ### the concrete `urllib` instance satisfies the contract

    `"…".toList` of a literal is rewritten with `String.toList_ofList` (the kernel reads a literal as
    `String.ofList […]`) before anything is evaluated. -/

theorem defaultAuthority_eq : defaultAuthority =
    ['h', 't', 't', 'p', 's', ':', '/', '/', 'r', 'd', 'f', 'l', 'i', 'b', '.', 'g', 'i', 't', 'h', 'u', 'b', '.', 'i', 'o'] :=
  String.toList_ofList

theorem rdflibSkolemGenid_eq : rdflibSkolemGenid =
    ['/', '.', 'w', 'e', 'l', 'l', '-', 'k', 'n', 'o', 'w', 'n', '/', 'g', 'e', 'n', 'i', 'd', '/', 'r', 'd', 'f', 'l', 'i', 'b', '/'] :=
  String.toList_ofList

theorem skolemGenid_eq : skolemGenid =
    ['/', '.', 'w', 'e', 'l', 'l', '-', 'k', 'n', 'o', 'w', 'n', '/', 'g', 'e', 'n', 'i', 'd', '/'] :=
  String.toList_ofList

theorem isPrefix_iff : ∀ {p s : Str}, isPrefix p s = true ↔ p <+: s
  | [], _ => by simp [isPrefix]
  | _ :: _, [] => by simp [isPrefix]
  | a :: as, b :: bs => by
    simp only [isPrefix, Bool.and_eq_true, beq_iff_eq, List.cons_prefix_cons, isPrefix_iff]

theorem occurs_iff {p : Str} : ∀ {s : Str}, occurs p s = true ↔ p <:+: s
  | [] => by rw [occurs, isPrefix_iff, List.prefix_nil, List.infix_nil]
  | c :: cs => by rw [occurs, Bool.or_eq_true, isPrefix_iff, occurs_iff, List.infix_cons_iff]

/-- `(b ++ l).rfind(b) == 0` for an absolute path `b` and `l` without `/`: a second occurrence would lie in a rest
    that has one `/` less than `b` -/
theorem rfindZero_append {b' l : Str} (hl : ∀ c ∈ l, c ≠ '/') :
    rfindZero ('/' :: b') ('/' :: b' ++ l) = true := by
  have hno : occurs ('/' :: b') (b' ++ l) = false := by
    rw [Bool.eq_false_iff]
    intro h
    have := (occurs_iff.mp h).count_le '/'
    rw [List.count_cons_self, List.count_append, List.count_eq_zero.mpr (fun h' => (hl _ h') rfl)] at this
    omega
  rw [rfindZero.eq_def, isPrefix_iff.mpr (List.prefix_append ('/' :: b') l)]
  simp only [List.cons_append, hno, Bool.not_false, Bool.and_self]

theorem splitRoot_fst_of_count_le : ∀ (a : Str) (n : Nat), a.count '/' ≤ n → (splitRoot n a).1 = a := by
  intro a
  induction a with
  | nil => intro n _; rfl
  | cons c cs ih =>
    intro n h
    rw [splitRoot]
    by_cases hc : c = '/'
    · rw [hc, List.count_cons_self] at h
      rw [if_pos hc, if_neg (by omega)]
      simp only [ih (n - 1) (by omega)]
    · rw [List.count_cons_of_ne hc] at h
      rw [if_neg hc]
      simp only [ih n h]

theorem dropAuthority_count (a s : Str) : dropAuthority (a.count '/') (a ++ '/' :: s) = '/' :: s := by
  induction a with
  | nil => rfl
  | cons c cs ih =>
    rw [List.cons_append, dropAuthority]
    by_cases hc : c = '/'
    · rw [hc, List.count_cons_self, if_pos rfl, if_neg (Nat.succ_ne_zero _), Nat.add_sub_cancel, ih]
    · rw [List.count_cons_of_ne hc, if_neg hc, ih]

theorem takePath_id {s : Str} (h : ∀ c ∈ s, c ≠ '?' ∧ c ≠ '#') : takePath s = s := by
  induction s with
  | nil => rfl
  | cons c cs ih =>
    have hc := h c List.mem_cons_self
    simp [takePath, hc.1, hc.2, ih (fun c' hc' => h c' (List.mem_cons_of_mem _ hc'))]

theorem lastSeg_false {s : Str} (h : ∀ c ∈ s, c ≠ ';') : lastSegHasSemi s false = false := by
  induction s with
  | nil => rfl
  | cons c cs ih =>
    have hc := h c List.mem_cons_self
    have ih' := ih (fun c' hc' => h c' (List.mem_cons_of_mem _ hc'))
    unfold lastSegHasSemi
    split
    · exact ih'
    · simp [ih']

/-- `a` is `scheme://authority`: its two `/` are the ones `splitRoot 2` and `dropAuthority 2` skip -/
theorem simpleUrl_skolemIri {a b l : Str} (ha : a.count '/' = 2) (habs : occurs "://".toList a = true)
    (haq : ∀ c ∈ a, c ≠ '?' ∧ c ≠ '#') (hb0 : ∃ b', b = '/' :: b') (hbl : ∀ c ∈ b ++ l, c ≠ '?' ∧ c ≠ '#' ∧ c ≠ ';') :
    simpleUrl.pqf (skolemizeLabelAt simpleUrl a b l) = false ∧
      simpleUrl.path (skolemizeLabelAt simpleUrl a b l) = b ++ l := by
  obtain ⟨b', rfl⟩ := hb0
  have hu : skolemizeLabelAt simpleUrl a ('/' :: b') l = a ++ '/' :: (b' ++ l) := by
    show simpleJoin a ('/' :: (b' ++ l)) = _
    simp only [simpleJoin, splitRoot_fst_of_count_le a 2 (Nat.le_of_eq ha)]
  have hraw : rawPath (a ++ '/' :: (b' ++ l)) = '/' :: (b' ++ l) := by
    rw [rawPath, hasAbsShape, occurs_iff.mpr ((occurs_iff.mp habs).trans (List.prefix_append a _).isInfix), if_pos rfl,
      ← ha, dropAuthority_count]
    exact takePath_id (fun c hc => ⟨(hbl c hc).1, (hbl c hc).2.1⟩)
  have hsemi : lastSegHasSemi ('/' :: (b' ++ l)) false = false := lastSeg_false (fun c hc => (hbl c hc).2.2)
  rw [hu]
  constructor
  · show simplePqf (a ++ '/' :: (b' ++ l)) = false
    rw [simplePqf, hraw, hsemi, Bool.or_false, List.any_eq_false]
    intro c hc
    rcases List.mem_append.mp hc with hc | hc
    · simp [(haq c hc).1, (haq c hc).2]
    · simp [(hbl c hc).1, (hbl c hc).2.1]
  · show simplePath (a ++ '/' :: (b' ++ l)) = _
    rw [simplePath, hraw, stripParams, hsemi]
    rfl

end RV.C14

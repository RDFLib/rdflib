import RV.C14.Traces
/-
  The predicates and maps the statements of Props.lean are written in, beside the models; their lemmas are in the
  lemma files.
-/
namespace RV.C14

def InjOn (σ : Nat → Nat) (l : List Nat) : Prop := ∀ a ∈ l, ∀ b ∈ l, σ a = σ b → a = b

/-- `σ` is an isomorphism from `g` to `h`: a bijection `bnodes g → bnodes h` with `σ(g) = h`. -/
structure IsIso (σ : Nat → Nat) (g h : Graph) : Prop where
  inj : ∀ a ∈ bnodes g, ∀ b ∈ bnodes g, σ a = σ b → a = b
  maps : ∀ a ∈ bnodes g, σ a ∈ bnodes h
  surj : ∀ b ∈ bnodes h, ∃ a ∈ bnodes g, σ a = b
  image : SetEq (g.rename σ) h

def Spec.Iso (g h : Graph) : Prop := ∃ σ : Nat → Nat, IsIso σ g h

def gterms : Graph → List Term
  | [] => []
  | t :: g => t.1 :: t.2.1 :: t.2.2 :: gterms g

/-- predicates are never blank nodes (RDF) -/
def NoBlankPred (g : Graph) : Prop := ∀ t ∈ g, t.2.1.blank = false

/-- for the `Hashes` of Search.lean: `H` only depends on the multiset of items (in the code it is a sum of hashes) -/
def PermInv (Hs : Hashes) : Prop := ∀ (c : Nat) (a b : List Nat), a.Perm b → Hs.H c a = Hs.H c b

def allNodes (cs : List Color) : List Term := cs.flatMap (·.nodes)

def WFc (cs : List Color) : Prop := ∀ c ∈ cs, c.nodes ≠ []

def SubCells (cs' cs : List Color) : Prop := ∀ c' ∈ cs', ∃ c ∈ cs, ∀ n ∈ c'.nodes, n ∈ c.nodes

def InG (g : Graph) (cs : List Color) : Prop := ∀ c ∈ cs, ∀ n ∈ c.nodes, n ∈ gterms g

/-- the colour with its member nodes mapped by `ρ`; tuple, hash and key are untouched -/
def mapColor (ρ : Term → Term) (c : Color) : Color := ⟨c.nodes.map ρ, c.items, c.ground⟩

/-- the generator dict and, below, the whole state of the `_traces` loop under a renaming: every node is renamed, the
    scores are label-free and stay -/
def mapGen (σ : Nat → Nat) (gen : List (Term × List Term)) : List (Term × List Term) :=
  gen.map (fun kv => (Term.rename σ kv.1, kv.2.map (Term.rename σ)))

def mapState (σ : Nat → Nat) (st : TState) : TState :=
  ⟨st.best.map (List.map (mapColor (Term.rename σ))), st.bestExp.map (List.map (mapColor (Term.rename σ))), st.bestScore,
   st.last.map (List.map (mapColor (Term.rename σ))), mapGen σ st.gen, st.visited.map (Term.rename σ)⟩

/-- big-step semantics of `while len(sequence) > 0 and not self._discrete(coloring): W = sequence.pop(); <pass>` -/
inductive RefineRun (H : List Item → Nat) (HT : Term → Nat) (g : Graph) : List Color → List Color → List Color → Prop
  | done {P S : List Color} : refineDone P S = true → RefineRun H HT g P S P
  | step {P S R : List Color} {W : Color} : refineDone P S = false → S.getLast? = some W →
      RefineRun H HT g (refinePass H HT g W P S.dropLast).1 (refinePass H HT g W P S.dropLast).2 R →
      RefineRun H HT g P S R

/-- the hash separates different multisets of items (`hash_color` is a sum of SHA-256 values over the items) -/
def MultisetInj (H : List Item → Nat) : Prop := ∀ a b : List Item, H a = H b → a.Perm b

/-- colour `c` cannot be split by the node set `Wn` (with splitter hash `hW`): all members see the same multiset of
    `(direction, predicate)` edges into `Wn` -/
def StableWrt (g : Graph) (hW : Nat) (Wn : List Term) (c : Color) : Prop :=
  ∀ n ∈ c.nodes, ∀ m ∈ c.nodes, (distinguishItems hW g Wn n).Perm (distinguishItems hW g Wn m)

def Stable (H : List Item → Nat) (HT : Term → Nat) (g : Graph) (cs : List Color) : Prop :=
  ∀ W ∈ cs, ∀ c ∈ cs, StableWrt g (W.hash H HT) W.nodes c

def STerm.labels : STerm → List Str
  | .bnode l => [l]
  | _ => []

/-- blank-node labels in subject / object position -/
def slabels : SGraph → List Str
  | [] => []
  | t :: g => (t.1.labels ++ t.2.2.labels) ++ slabels g

/-- no IRI in subject or object position is already under the well-known genid path -/
def NoGenid (U : UrlOps) (g : SGraph) : Prop :=
  ∀ t ∈ g, ∀ u, (t.1 = .iri u ∨ t.2.2 = .iri u) →
    isRdflibSkolem U u = false ∧ isExternalSkolem U u = false

/-- contract of `urljoin` / `urlparse` on the skolem IRI of one label: it is recognised as an rdflib
    skolem IRI and its path minus the genid prefix is the label -/
def LabelOk (U : UrlOps) (l : Str) : Prop :=
  isRdflibSkolem U (skolemizeLabel U l) = true ∧
    (U.path (skolemizeLabel U l)).drop rdflibSkolemGenid.length = l

def LabelsOk (U : UrlOps) (g : SGraph) : Prop := ∀ l ∈ slabels g, LabelOk U l

/-- labels without the URL delimiters (the N-Triples BLANK_NODE_LABEL grammar has none of them) -/
def LabelChars (l : Str) : Prop := ∀ c ∈ l, c ≠ '/' ∧ c ≠ '?' ∧ c ≠ '#' ∧ c ≠ ';'

instance (l : Str) : Decidable (LabelChars l) := by unfold LabelChars; infer_instance

def STerm.rename (σ : Str → Str) : STerm → STerm
  | .bnode l => .bnode (σ l)
  | t => t

def SGraph.rename (σ : Str → Str) (g : SGraph) : SGraph :=
  g.map (fun t => (t.1.rename σ, t.2.1.rename σ, t.2.2.rename σ))

def Spec.SIso (g h : SGraph) : Prop :=
  ∃ σ : Str → Str, (∀ a ∈ slabels g, ∀ b ∈ slabels g, σ a = σ b → a = b) ∧ SetEq (g.rename σ) h

/-- dict invariant: the values are labels minted so far and pairwise distinct -/
structure CacheFresh (mint : Nat → Str) (st : SkState) : Prop where
  minted : ∀ p ∈ st.cache, ∃ k, k < st.next ∧ p.2 = mint k
  nodup : (st.cache.map (·.2)).Nodup

end RV.C14

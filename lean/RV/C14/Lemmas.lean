import RV.C14.Notions
/-
  Renaming and assignments; soundness and completeness of the backtracking search (`search`, `isoDecide`, `isoCheck`)
  against `Spec.Iso`, for which injectivity on the blank nodes of g and rename σ g = h (as sets) are enough
  (`Spec.Iso.intro`); `Spec.Iso` is an equivalence relation; membership in the three graphs of `graph_diff`.
-/
namespace RV.C14

@[simp] theorem Term.rename_blank (σ : Nat → Nat) (t : Term) : (t.rename σ).blank = t.blank := by
  unfold Term.rename
  split
  · next h => simp [h]
  · rfl

theorem rename_nonblank (σ : Nat → Nat) {t : Term} (h : t.blank = false) : t.rename σ = t := by
  unfold Term.rename; simp [h]

theorem Term.id_rename (σ : Nat → Nat) {t : Term} (h : t.blank = true) : (t.rename σ).id = σ t.id := by
  simp [Term.rename, h]

theorem Term.bn_rename (σ : Nat → Nat) (t : Term) : (t.rename σ).bn = t.bn.map σ := by
  unfold Term.rename Term.bn
  cases h : t.blank <;> simp [h]

theorem Triple.bn_rename (σ : Nat → Nat) (t : Triple) : (t.rename σ).bn = t.bn.map σ := by
  simp [Triple.rename, Triple.bn, Term.bn_rename]

theorem bnodes_rename (σ : Nat → Nat) (g : Graph) : bnodes (g.rename σ) = (bnodes g).map σ := by
  induction g with
  | nil => rfl
  | cons t g ih =>
    have : Graph.rename σ (t :: g) = t.rename σ :: Graph.rename σ g := rfl
    rw [this]
    simp only [bnodes, List.map_append, Triple.bn_rename, ih]

theorem mem_bnodes {g : Graph} {a : Nat} : a ∈ bnodes g ↔ ∃ t ∈ g, a ∈ t.bn := by
  induction g with
  | nil => simp [bnodes]
  | cons t g ih => simp only [bnodes, List.mem_append, ih, List.mem_cons, exists_eq_or_imp]

theorem bnodes_congr {g h : Graph} (e : SetEq g h) (a : Nat) : a ∈ bnodes g ↔ a ∈ bnodes h := by
  have e' : ∀ t, t ∈ g ↔ t ∈ h := e
  simp only [mem_bnodes, e']

theorem Term.id_mem_bn {t : Term} (h : t.blank = true) : t.id ∈ t.bn := by simp [Term.bn, h]

theorem Term.rename_congr {σ τ : Nat → Nat} {t : Term} (h : t.blank = true → σ t.id = τ t.id) :
    t.rename σ = t.rename τ := by
  unfold Term.rename
  cases hb : t.blank
  · simp
  · simp [h hb]

theorem Triple.rename_congr {σ τ : Nat → Nat} {t : Triple} (h : ∀ a ∈ t.bn, σ a = τ a) :
    t.rename σ = t.rename τ := by
  unfold Triple.rename
  have h1 : t.1.rename σ = t.1.rename τ := Term.rename_congr fun hb =>
    h _ (List.mem_append_left _ (Term.id_mem_bn hb))
  have h2 : t.2.1.rename σ = t.2.1.rename τ := Term.rename_congr fun hb =>
    h _ (List.mem_append_right _ (List.mem_append_left _ (Term.id_mem_bn hb)))
  have h3 : t.2.2.rename σ = t.2.2.rename τ := Term.rename_congr fun hb =>
    h _ (List.mem_append_right _ (List.mem_append_right _ (Term.id_mem_bn hb)))
  rw [h1, h2, h3]

theorem Graph.rename_congr {σ τ : Nat → Nat} {g : Graph} (h : ∀ a ∈ bnodes g, σ a = τ a) :
    g.rename σ = g.rename τ := by
  unfold Graph.rename
  apply List.map_congr_left
  intro t ht
  exact Triple.rename_congr (fun a ha => h a (mem_bnodes.mpr ⟨t, ht, ha⟩))

theorem Term.rename_rename (σ τ : Nat → Nat) (t : Term) : (t.rename σ).rename τ = t.rename (τ ∘ σ) := by
  unfold Term.rename
  cases hb : t.blank <;> simp [hb]

theorem Triple.rename_rename (σ τ : Nat → Nat) (t : Triple) :
    (t.rename σ).rename τ = t.rename (τ ∘ σ) := by
  simp [Triple.rename, Term.rename_rename]

theorem Graph.rename_rename (σ τ : Nat → Nat) (g : Graph) :
    (g.rename σ).rename τ = g.rename (τ ∘ σ) := by
  simp [Graph.rename, List.map_map, Function.comp_def, Triple.rename_rename]

theorem Term.rename_id (t : Term) : t.rename (fun a => a) = t := by
  unfold Term.rename
  cases hb : t.blank
  · simp
  · cases t; simp_all

theorem Triple.rename_id (t : Triple) : t.rename (fun a => a) = t := by
  simp [Triple.rename, Term.rename_id]

theorem Graph.rename_id (g : Graph) : g.rename (fun a => a) = g := by
  unfold Graph.rename
  induction g with
  | nil => rfl
  | cons t g ih => rw [List.map_cons, ih, Triple.rename_id]

theorem mem_rename {σ : Nat → Nat} {g : Graph} {t' : Triple} :
    t' ∈ g.rename σ ↔ ∃ t ∈ g, t.rename σ = t' := List.mem_map

theorem setEq_rename {σ : Nat → Nat} {g g' : Graph} (e : SetEq g g') : SetEq (g.rename σ) (g'.rename σ) := by
  have e' : ∀ t, t ∈ g ↔ t ∈ g' := e
  intro t
  simp only [mem_rename, e']

theorem rename_injective {σ : Nat → Nat} (hσ : Function.Injective σ) : Function.Injective (Term.rename σ) := by
  intro a b h
  obtain ⟨ab, ai⟩ := a
  obtain ⟨bb, bi⟩ := b
  cases ab <;> cases bb <;> simp_all [Term.rename]
  exact hσ h

theorem triple_rename_injective {σ : Nat → Nat} (hσ : Function.Injective σ) :
    Function.Injective (Triple.rename σ) := by
  intro a b h
  simp only [Triple.rename, Prod.mk.injEq] at h
  exact Prod.ext (rename_injective hσ h.1) (Prod.ext (rename_injective hσ h.2.1) (rename_injective hσ h.2.2))

/-- the labels outside `l` are shifted past the largest image -/
theorem exists_injective_ext (σ : Nat → Nat) (l : List Nat) (h : InjOn σ l) :
    ∃ τ : Nat → Nat, Function.Injective τ ∧ ∀ a ∈ l, τ a = σ a := by
  obtain ⟨M, hM⟩ : ∃ M, ∀ a ∈ l, σ a < M := by
    clear h
    induction l with
    | nil => exact ⟨0, fun _ h => nomatch h⟩
    | cons x xs ih =>
      obtain ⟨M, hM⟩ := ih
      refine ⟨max (σ x + 1) M, fun a ha => ?_⟩
      rcases List.mem_cons.mp ha with rfl | ha
      · exact Nat.lt_of_lt_of_le (Nat.lt_succ_self _) (Nat.le_max_left _ _)
      · exact Nat.lt_of_lt_of_le (hM a ha) (Nat.le_max_right _ _)
  have hlt : ∀ a ∈ l, ∀ b, σ a ≠ M + b := fun a ha b e => Nat.not_lt.mpr (Nat.le_add_right M b) (e ▸ hM a ha)
  refine ⟨fun a => if a ∈ l then σ a else M + a, fun a b hab => ?_, fun a ha => if_pos ha⟩
  dsimp only at hab
  by_cases ha : a ∈ l <;> by_cases hb : b ∈ l
  · rw [if_pos ha, if_pos hb] at hab; exact h a ha b hb hab
  · rw [if_pos ha, if_neg hb] at hab; exact absurd hab (hlt a ha b)
  · rw [if_neg ha, if_pos hb] at hab; exact absurd hab.symm (hlt b hb a)
  · rw [if_neg ha, if_neg hb] at hab; exact Nat.add_left_cancel hab

theorem image_maps {σ : Nat → Nat} {g h : Graph} (e : SetEq (g.rename σ) h) :
    ∀ a ∈ bnodes g, σ a ∈ bnodes h := by
  intro a ha
  rw [← bnodes_congr e, bnodes_rename]
  exact List.mem_map_of_mem ha

theorem image_surj {σ : Nat → Nat} {g h : Graph} (e : SetEq (g.rename σ) h) :
    ∀ b ∈ bnodes h, ∃ a ∈ bnodes g, σ a = b := by
  intro b hb
  rw [← bnodes_congr e, bnodes_rename, List.mem_map] at hb
  exact hb

theorem Spec.Iso.intro {σ : Nat → Nat} {g h : Graph} (hi : InjOn σ (bnodes g)) (e : SetEq (g.rename σ) h) : Spec.Iso g h :=
  ⟨σ, hi, image_maps e, image_surj e, e⟩

@[simp] theorem mem_dedup {l : List Nat} {a : Nat} : a ∈ dedup l ↔ a ∈ l := by
  simp [dedup, mem_foldl_sinsert]

theorem nodup_dedup (l : List Nat) : (dedup l).Nodup := nodup_foldl_sinsert l [] List.nodup_nil

theorem nodup_map_of_injOn {α β : Type} {f : α → β} {l : List α} (hnd : l.Nodup)
    (hinj : ∀ a ∈ l, ∀ b ∈ l, f a = f b → a = b) : (l.map f).Nodup :=
  List.pairwise_map.mpr (hnd.imp_of_mem fun ha hb hne e => hne (hinj _ ha _ hb e))

theorem injOn_of_nodup_map {α β : Type} {f : α → β} {l : List α} (hnd : (l.map f).Nodup) :
    ∀ a ∈ l, ∀ b ∈ l, f a = f b → a = b :=
  have hp := List.pairwise_map.mp hnd
  List.Pairwise.forall_of_forall_of_flip (fun _ _ _ => rfl) (hp.imp fun h e => absurd e h)
    (hp.imp fun h e => absurd e.symm h)

theorem mem_map_iff_of_injective {α β : Type} {f : α → β} (hf : Function.Injective f) {a : α} {l : List α} :
    f a ∈ l.map f ↔ a ∈ l :=
  ⟨fun h => let ⟨_, hx, e⟩ := List.mem_map.mp h; hf e ▸ hx, List.mem_map_of_mem⟩

theorem alookup_mem {m : Asg} {x y : Nat} (h : alookup m x = some y) : (x, y) ∈ m := by
  induction m with
  | nil => simp [alookup] at h
  | cons p m ih =>
    obtain ⟨k, v⟩ := p
    unfold alookup at h
    split at h
    · next hk => subst hk; injection h with h; subst h; exact List.mem_cons_self
    · exact List.mem_cons_of_mem _ (ih h)

theorem alookup_isSome {m : Asg} {x : Nat} : (alookup m x).isSome = true ↔ x ∈ keys m := by
  induction m with
  | nil => simp [alookup, keys]
  | cons p m ih =>
    obtain ⟨k, v⟩ := p
    by_cases hk : k = x
    · rw [alookup, if_pos hk]
      exact ⟨fun _ => hk ▸ List.mem_cons_self, fun _ => rfl⟩
    · rw [alookup, if_neg hk, ih]
      exact ⟨List.mem_cons_of_mem _, fun h => (List.mem_cons.mp h).resolve_left fun e => hk e.symm⟩

theorem mem_vals_of_lookup {m : Asg} {x y : Nat} (h : alookup m x = some y) : y ∈ vals m := by
  have := alookup_mem h
  exact List.mem_map.mpr ⟨(x, y), this, rfl⟩

theorem lookup_inj {m : Asg} (hv : (vals m).Nodup) {a b v : Nat}
    (ha : alookup m a = some v) (hb : alookup m b = some v) : a = b :=
  congrArg Prod.fst (injOn_of_nodup_map hv _ (alookup_mem ha) _ (alookup_mem hb) rfl)

def Agrees (m : Asg) (σ : Nat → Nat) : Prop := ∀ p ∈ m, σ p.1 = p.2

theorem Agrees.lookup {m : Asg} {σ : Nat → Nat} (h : Agrees m σ) {x y : Nat}
    (hl : alookup m x = some y) : σ x = y := h (x, y) (alookup_mem hl)

theorem Asg.fn_eq_of_lookup {m : Asg} {x y : Nat} (h : alookup m x = some y) : m.fn x = y := by
  rw [Asg.fn, h]

theorem Asg.lookup_of_mem_keys {m : Asg} {x : Nat} (hx : x ∈ keys m) : alookup m x = some (m.fn x) := by
  cases hl : alookup m x with
  | none => rw [← alookup_isSome, hl] at hx; cases hx
  | some y => rw [Asg.fn_eq_of_lookup hl]

theorem Agrees.fn {m : Asg} {σ : Nat → Nat} (h : Agrees m σ) {x : Nat} (hx : x ∈ keys m) :
    m.fn x = σ x := (h.lookup (Asg.lookup_of_mem_keys hx)).symm

theorem Term.rename_fn {m : Asg} {σ : Nat → Nat} (h : Agrees m σ) {t : Term}
    (ht : t.assigned m = true) : t.rename m.fn = t.rename σ :=
  Term.rename_congr fun hb => h.fn (alookup_isSome.mp (by simpa [Term.assigned, hb] using ht))

theorem Triple.rename_fn {m : Asg} {σ : Nat → Nat} (h : Agrees m σ) {t : Triple}
    (ht : t.assigned m = true) : t.rename m.fn = t.rename σ := by
  simp only [Triple.assigned, Bool.and_eq_true] at ht
  unfold Triple.rename
  rw [Term.rename_fn h ht.1.1, Term.rename_fn h ht.1.2, Term.rename_fn h ht.2]

theorem leaf_iff {g h : Graph} {m : Asg} : leaf g h m = true ↔ SetEq (g.rename m.fn) h := by
  simp only [leaf, Bool.and_eq_true, List.all_eq_true, decide_eq_true_eq]
  constructor
  · rintro ⟨h1, h2⟩ t
    constructor
    · intro ht
      obtain ⟨u, hu, e⟩ := mem_rename.mp ht
      rw [← e]; exact h1 u hu
    · exact h2 t
  · intro e
    exact ⟨fun t ht => (e _).1 (mem_rename.mpr ⟨t, ht, rfl⟩), fun t ht => (e t).2 ht⟩

theorem partialOk_of_agrees {g h : Graph} {m : Asg} {σ : Nat → Nat} (ha : Agrees m σ)
    (e : SetEq (g.rename σ) h) : partialOk g h m = true := by
  simp only [partialOk, List.all_eq_true, Bool.or_eq_true, Bool.not_eq_true', decide_eq_true_eq]
  intro t ht
  cases hta : t.assigned m
  · exact Or.inl rfl
  · right
    rw [Triple.rename_fn ha hta]
    exact (e _).1 (mem_rename.mpr ⟨t, ht, rfl⟩)

theorem search_sound (g h : Graph) (hb : List Nat) :
    ∀ (xs : List Nat) (m : Asg), search g h hb xs m = true →
      ∃ m', leaf g h m' = true ∧ (∀ x, x ∈ xs ∨ x ∈ keys m → x ∈ keys m') ∧
        ((vals m).Nodup → (vals m').Nodup) := by
  intro xs
  induction xs with
  | nil =>
    intro m hs
    exact ⟨m, hs, fun x hx => hx.elim (fun h => by simp at h) id, id⟩
  | cons x xs ih =>
    intro m hs
    simp only [search, List.any_eq_true, Bool.and_eq_true, Bool.not_eq_true', decide_eq_false_iff_not] at hs
    obtain ⟨y, _hy, ⟨hfree, _hpo⟩, hrec⟩ := hs
    obtain ⟨m', hl, hk, hv⟩ := ih _ hrec
    refine ⟨m', hl, ?_, ?_⟩
    · intro z hz
      apply hk
      simp only [keys, List.map_cons, List.mem_cons] at hz ⊢
      rcases hz with (hz | hz) | hz
      · exact Or.inr (Or.inl hz)
      · exact Or.inl hz
      · exact Or.inr (Or.inr hz)
    · intro hn
      apply hv
      simp only [vals, List.map_cons, List.nodup_cons]
      exact ⟨hfree, hn⟩

theorem injOn_of_assignment {g : Graph} {m : Asg} (hk : ∀ a ∈ bnodes g, a ∈ keys m)
    (hv : (vals m).Nodup) : InjOn m.fn (bnodes g) := by
  intro a ha b hb hab
  exact lookup_inj hv (Asg.lookup_of_mem_keys (hk a ha)) (hab ▸ Asg.lookup_of_mem_keys (hk b hb))

theorem isoDecide_sound {g h : Graph} (hd : isoDecide g h = true) : Spec.Iso g h := by
  simp only [isoDecide, Bool.and_eq_true] at hd
  obtain ⟨m', hl, hk, hv⟩ := search_sound g h _ _ _ hd.2
  refine .intro (injOn_of_assignment ?_ ?_) (leaf_iff.mp hl)
  · intro a ha
    exact hk a (Or.inl (mem_dedup.mpr ha))
  · exact hv (by simp [vals])

/-- invariant: the assigned nodes and those still to do enumerate the blank nodes of `g` without repetition -/
theorem search_complete {g h : Graph} {hb : List Nat} {σ : Nat → Nat}
    (hinj : InjOn σ (bnodes g)) (e : SetEq (g.rename σ) h) (hhb : ∀ b, b ∈ bnodes h → b ∈ hb) :
    ∀ (xs : List Nat) (m : Asg), Agrees m σ → (keys m ++ xs).Perm (dedup (bnodes g)) →
      search g h hb xs m = true := by
  intro xs
  induction xs with
  | nil =>
    intro m hag hperm
    rw [search, leaf_iff, Graph.rename_congr (τ := σ)]
    · exact e
    · exact fun a ha => hag.fn (by simpa using hperm.mem_iff.mpr (mem_dedup.mpr ha))
  | cons x xs ih =>
    intro m hag hperm
    have hmem : ∀ a, a ∈ keys m ∨ a ∈ x :: xs → a ∈ bnodes g :=
      fun a ha => mem_dedup.mp (hperm.mem_iff.mp (List.mem_append.mpr ha))
    have hxg := hmem x (Or.inr List.mem_cons_self)
    have hxk : x ∉ keys m := by
      obtain ⟨_, _, hdisj⟩ := List.nodup_append.mp (hperm.nodup_iff.mpr (nodup_dedup _))
      exact fun hk => hdisj x hk x List.mem_cons_self rfl
    have hag' : Agrees ((x, σ x) :: m) σ := by
      intro p hp
      rcases List.mem_cons.mp hp with rfl | hp
      · rfl
      · exact hag p hp
    simp only [search, List.any_eq_true, Bool.and_eq_true, Bool.not_eq_true', decide_eq_false_iff_not]
    have hfree : σ x ∉ vals m := by
      intro hv
      obtain ⟨p, hp, hpy⟩ := List.mem_map.mp hv
      have hpk : p.1 ∈ keys m := List.mem_map_of_mem hp
      have hpx : p.1 = x := hinj _ (hmem _ (Or.inl hpk)) _ hxg ((hag p hp).trans hpy)
      exact hxk (hpx ▸ hpk)
    exact ⟨σ x, hhb _ (image_maps e x hxg), ⟨hfree, partialOk_of_agrees hag' e⟩,
      ih _ hag' (List.perm_middle.symm.trans hperm)⟩

theorem isoDecide_complete {g h : Graph} (hi : Spec.Iso g h) : isoDecide g h = true := by
  obtain ⟨σ, hinj, _, hsurj, e⟩ := hi
  simp only [isoDecide, Bool.and_eq_true]
  constructor
  · simp only [coverOk, List.all_eq_true, List.any_eq_true]
    intro y hy
    obtain ⟨a, ha, hay⟩ := hsurj y (mem_dedup.mp hy)
    refine ⟨a, mem_dedup.mpr ha, partialOk_of_agrees ?_ e⟩
    intro p hp
    rw [List.mem_singleton.mp hp]
    exact hay
  · exact search_complete hinj e (fun b hb => mem_dedup.mpr hb) _ [] (fun _ hp => nomatch hp) (List.Perm.refl _)

theorem valsNodup_iff {m : Asg} : valsNodup m = true ↔ (vals m).Nodup := by
  induction m with
  | nil => simp [valsNodup, vals]
  | cons p m ih =>
    obtain ⟨k, v⟩ := p
    have hv : vals ((k, v) :: m) = v :: vals m := rfl
    rw [hv, List.nodup_cons, ← ih]
    simp [valsNodup]

theorem Spec.Iso.of_setEq {g h : Graph} (e : SetEq g h) : Spec.Iso g h :=
  .intro (σ := fun a => a) (fun _ _ _ _ hab => hab) (by rw [Graph.rename_id]; exact e)

theorem Spec.Iso.trans {g h k : Graph} (h1 : Spec.Iso g h) (h2 : Spec.Iso h k) : Spec.Iso g k := by
  obtain ⟨σ, hσ, hm, _, e1⟩ := h1
  obtain ⟨τ, hτ, _, _, e2⟩ := h2
  refine .intro (σ := τ ∘ σ) ?_ ?_
  · intro a ha b hb hab
    exact hσ a ha b hb (hτ _ (hm a ha) _ (hm b hb) hab)
  · rw [← Graph.rename_rename]
    exact SetEq.trans (setEq_rename e1) e2

theorem Spec.Iso.symm {g h : Graph} (h1 : Spec.Iso g h) : Spec.Iso h g := by
  classical
  obtain ⟨σ, hσ, _, hsurj, e⟩ := h1
  let τ : Nat → Nat := fun b =>
    if hx : ∃ a, a ∈ bnodes g ∧ σ a = b then Classical.choose hx else b
  have hτσ : ∀ a ∈ bnodes g, τ (σ a) = a := by
    intro a ha
    have hx : ∃ a', a' ∈ bnodes g ∧ σ a' = σ a := ⟨a, ha, rfl⟩
    have hsp := Classical.choose_spec hx
    simp only [τ, dif_pos hx]
    exact hσ _ hsp.1 _ ha hsp.2
  refine .intro (σ := τ) ?_ ?_
  · intro b1 hb1 b2 hb2 hb
    obtain ⟨a1, ha1, rfl⟩ := hsurj b1 hb1
    obtain ⟨a2, ha2, rfl⟩ := hsurj b2 hb2
    rw [hτσ a1 ha1, hτσ a2 ha2] at hb
    rw [hb]
  · have h2 : SetEq (h.rename τ) ((g.rename σ).rename τ) := setEq_rename (SetEq.symm e)
    rw [Graph.rename_rename] at h2
    have h3 : g.rename (τ ∘ σ) = g.rename (fun a => a) :=
      Graph.rename_congr (fun a ha => hτσ a ha)
    rw [h3, Graph.rename_id] at h2
    exact h2

@[simp] theorem mem_ginter {a b : Graph} {t : Triple} : t ∈ ginter a b ↔ t ∈ a ∧ t ∈ b := by
  simp [ginter, List.mem_filter, and_comm]

@[simp] theorem mem_gdiff {a b : Graph} {t : Triple} : t ∈ gdiff a b ↔ t ∈ a ∧ t ∉ b := by
  simp [gdiff, List.mem_filter]

@[simp] theorem mem_gunion {a b : Graph} {t : Triple} : t ∈ gunion a b ↔ t ∈ a ∨ t ∈ b :=
  mem_foldl_sinsert b a t

theorem inter_comm_setEq (A B : Graph) : SetEq (ginter A B) (ginter B A) := by
  intro t; simp [and_comm]

end RV.C14

import RV.C14.RefineStable
import Mathlib.Logic.Equiv.Multiset
import Mathlib.Data.List.Perm.Basic
/-
  The hypothesis `MultisetInj` of `refine_stable` is satisfiable: an (uncomputable-in-practice, but total) hash that is
  injective on multisets of items exists — the encoding of the multiset of item codes.
-/
namespace RV.C14

def itemCode : Item → Nat × Nat × Nat × Nat
  | .out p w => (0, (if p.blank then 1 else 0), p.id, w)
  | .inn w p => (1, (if p.blank then 1 else 0), p.id, w)
  | .indiv k => (2, 0, 0, k)

theorem itemCode_injective : Function.Injective itemCode := by
  -- it has a left inverse
  let dec : Nat × Nat × Nat × Nat → Item := fun c =>
    match c.1 with
    | 0 => .out ⟨c.2.1 == 1, c.2.2.1⟩ c.2.2.2
    | 1 => .inn c.2.2.2 ⟨c.2.1 == 1, c.2.2.1⟩
    | _ => .indiv c.2.2.2
  have hdec : ∀ i, dec (itemCode i) = i := by
    rintro (⟨⟨b, i⟩, w⟩ | ⟨w, ⟨b, i⟩⟩ | k)
    · cases b <;> rfl
    · cases b <;> rfl
    · rfl
  exact fun a b h => (hdec a).symm.trans ((congrArg dec h).trans (hdec b))

noncomputable def witnessHash (l : List Item) : Nat :=
  Encodable.encode ((l.map itemCode : List (Nat × Nat × Nat × Nat)) : Multiset (Nat × Nat × Nat × Nat))

theorem multisetInj_witness : MultisetInj witnessHash := by
  intro a b h
  have h1 := Encodable.encode_injective h
  have h2 : (a.map itemCode).Perm (b.map itemCode) := Multiset.coe_eq_coe.mp h1
  exact (List.map_perm_map_iff itemCode_injective).mp h2

end RV.C14

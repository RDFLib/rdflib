import RV.C18.Model
/- The undo log on its own: a store content `cur` and a log, whichever wrapper they belong to; at the end `inv_step`
   for `W`.  Names: `Ns.x` is a lemma of the notion `Ns` on bare data, `ns_x` says a model's operation keeps it. -/
namespace RV.C18

/-- `init`: the content when the transaction began.  Proofs read it through `Inv.entry` / `Inv.noEntry` and build it
    with `Inv.of_entries`; only *membership* in `cur` is used, so it transfers along `SetEq`. -/
structure Inv (init cur : List Quad) (log : List Entry) : Prop where
  rem : ∀ q, (q, Undo.remove) ∈ log → q ∉ init ∧ q ∈ cur
  add : ∀ q, (q, Undo.add) ∈ log → q ∈ init ∧ q ∉ cur
  none : ∀ q, (q, Undo.remove) ∉ log → (q, Undo.add) ∉ log → (q ∈ init ↔ q ∈ cur)
  nodup : log.Nodup

theorem Inv.begin {init cur : List Quad} (e : SetEq init cur) : Inv init cur [] :=
  ⟨by simp, by simp, fun q _ _ => e q, by simp⟩

section
variable {init cur cur' base sc : List Quad} {log : List Entry} {q : Quad}

theorem Inv.entry (h : Inv init cur log) {u : Undo} (hq : (q, u) ∈ log) : (q ∈ init ↔ u = .add) ∧ (q ∈ cur ↔ u = .remove) := by
  cases u
  · simpa using h.add q hq
  · simpa using h.rem q hq

theorem Inv.noEntry (h : Inv init cur log) (hq : ∀ u, (q, u) ∉ log) : q ∈ init ↔ q ∈ cur :=
  h.none q (hq _) (hq _)

theorem Inv.of_entries (hnd : log.Nodup)
    (he : ∀ q u, (q, u) ∈ log → (q ∈ init ↔ u = .add) ∧ (q ∈ cur ↔ u = .remove))
    (hn : ∀ q, (∀ u, (q, u) ∉ log) → (q ∈ init ↔ q ∈ cur)) : Inv init cur log :=
  ⟨fun q hq => by simpa using he q _ hq, fun q hq => by simpa using he q _ hq,
   fun q hr ha => hn q (fun u => by cases u <;> assumption), hnd⟩

theorem Inv.congr (h : Inv init cur log) (e : SetEq cur cur') : Inv init cur' log :=
  Inv.of_entries h.nodup (fun _ _ hq => ⟨(h.entry hq).1, (e _).symm.trans (h.entry hq).2⟩)
    (fun _ hn => (h.noEntry hn).trans (e _))

theorem Inv.erase (h : Inv init cur log) {u : Undo} (hu : (q, u) ∈ log) (hq : q ∈ cur' ↔ u = .add) (hx : ∀ x, x ≠ q → (x ∈ cur' ↔ x ∈ cur)) :
    Inv init cur' (log.erase (q, u)) := by
  have hm : ∀ e, e ∈ log.erase (q, u) ↔ e ≠ (q, u) ∧ e ∈ log := fun e => h.nodup.mem_erase_iff
  -- `q` has no other entry: the two would disagree about `q ∈ init`
  have hq0 : ∀ v, (q, v) ∉ log.erase (q, u) := by
    intro v hv
    rw [hm] at hv
    have h1 := (h.entry hv.2).1.symm.trans (h.entry hu).1
    cases u <;> cases v <;> simp at h1 hv
  refine Inv.of_entries (h.nodup.erase _) ?_ ?_
  · intro x v hv
    have hxq : x ≠ q := fun e => hq0 v (e ▸ hv)
    have := h.entry ((hm _).mp hv).2
    exact ⟨this.1, (hx x hxq).trans this.2⟩
  · intro x hn
    by_cases hxq : x = q
    · subst hxq
      exact (h.entry hu).1.trans hq.symm
    · have hn' : ∀ v, (x, v) ∉ log :=
        fun v hv => hn v ((hm _).mpr ⟨fun e => hxq (Prod.mk.inj e).1, hv⟩)
      exact (h.noEntry hn').trans (hx x hxq).symm

theorem Inv.append (h : Inv init cur log) {u : Undo} (hn : ∀ v, (q, v) ∉ log) (hq : q ∈ cur ↔ u = .add) (hq' : q ∈ cur' ↔ u = .remove)
    (hx : ∀ x, x ≠ q → (x ∈ cur' ↔ x ∈ cur)) :
    Inv init cur' (log ++ [(q, u)]) := by
  refine Inv.of_entries ?_ ?_ ?_
  · rw [List.nodup_append]
    refine ⟨h.nodup, by simp, ?_⟩
    intro a ha b hb
    simp only [List.mem_singleton] at hb
    subst hb
    intro e; subst e; exact hn u ha
  · intro x v hv
    rcases List.mem_append.mp hv with hv | hv
    · have hxq : x ≠ q := fun e => hn v (e ▸ hv)
      have := h.entry hv
      exact ⟨this.1, (hx x hxq).trans this.2⟩
    · simp only [List.mem_singleton, Prod.mk.injEq] at hv
      obtain ⟨rfl, rfl⟩ := hv
      exact ⟨(h.noEntry hn).trans hq, hq'⟩
  · intro x hn'
    have hxq : x ≠ q := fun e => hn' u (by simp [e])
    exact (h.noEntry fun v hv => hn' v (List.mem_append_left _ hv)).trans (hx x hxq).symm

theorem mem_cancelOr_sub {c o : Undo} {e : Entry} (h : e ∈ cancelOr log q c o) :
    e ∈ log ∨ e = (q, o) := by
  unfold cancelOr at h
  split at h
  · exact Or.inl (List.mem_of_mem_erase h)
  · simpa using h

/-- The store flips `q`: `c` is what a pending entry for `q` must be, `o` what is logged otherwise. -/
theorem inv_cancelOr (h : Inv init cur log) {c o : Undo} (hco : c ≠ o) (hq : q ∈ cur ↔ c = .remove) (hq' : q ∈ cur' ↔ o = .remove)
    (hx : ∀ x, x ≠ q → (x ∈ cur' ↔ x ∈ cur)) : Inv init cur' (cancelOr log q c o) := by
  have hoc : ∀ v, v = c ∨ v = o := by
    intro v
    cases c <;> cases o <;> cases v <;> simp at hco ⊢
  have hca : c = .add ↔ o = .remove := by
    cases c <;> cases o <;> simp at hco ⊢
  have hcr : c = .remove ↔ o = .add := by
    cases c <;> cases o <;> simp at hco ⊢
  unfold cancelOr
  split
  · next hc => exact h.erase hc (hq'.trans hca.symm) hx
  · next hc =>
    have ho : (q, o) ∉ log := fun ho => by
      have := hcr.symm.trans (hq.symm.trans (h.entry ho).2)
      cases o <;> simp at this
    exact h.append (fun v => by rcases hoc v with rfl | rfl <;> assumption) (hq.trans hcr) hq' hx

theorem inv_add1 (h : Inv init cur log) (q : Quad) (hq : q ∉ cur) :
    Inv init (sinsert cur q) (cancelOr log q .add .remove) :=
  inv_cancelOr h (by decide) (by simpa using hq) (by simp) (fun x hx => by simp [hx])

theorem inv_rem1 (h : Inv init cur log) (q : Quad) (hq : q ∈ cur) :
    Inv init (sremove cur q) (cancelOr log q .remove .add) :=
  inv_cancelOr h (by decide) (by simpa using hq) (by simp) (fun x hx => by simp [hx])

theorem mem_logRemovals (ms : List Quad) : ∀ (log : List Entry) (e : Entry),
    e ∈ logRemovals log ms → e ∈ log ∨ e.1 ∈ ms := by
  induction ms with
  | nil => intro log e h; exact Or.inl h
  | cons m ms ih =>
    intro log e h
    rcases ih _ e h with h1 | h1
    · rcases mem_cancelOr_sub h1 with h2 | rfl
      · exact Or.inl h2
      · exact Or.inr (by simp)
    · exact Or.inr (List.mem_cons_of_mem _ h1)

theorem inv_logRemovals (ms : List Quad) (hnd : ms.Nodup) :
    ∀ (cur cur' : List Quad) (log : List Entry), Inv init cur log → (∀ q ∈ ms, q ∈ cur) →
      (∀ x, x ∈ cur' ↔ x ∈ cur ∧ x ∉ ms) → Inv init cur' (logRemovals log ms) := by
  induction ms with
  | nil => intro cur cur' log h _ hc; exact h.congr (fun x => by simp [hc])
  | cons m ms ih =>
    intro cur cur' log h hall hc
    rw [List.nodup_cons] at hnd
    refine ih hnd.2 (sremove cur m) cur' _ (inv_rem1 h m (hall m (by simp))) ?_ ?_
    · -- `ms.Nodup`: the later quads differ from `m`, so removing `m` leaves them
      intro q hq
      exact mem_sremove.mpr ⟨fun e => hnd.1 (e ▸ hq), hall q (by simp [hq])⟩
    · intro x
      simp only [hc, List.mem_cons, not_or, mem_sremove, and_assoc, and_left_comm]

theorem inv_logRemovals_filter (h : Inv init cur log) (p : Pat)
    (ms : List Quad) (hms : ms.Nodup) (hmem : ∀ x, x ∈ ms ↔ x ∈ cur ∧ p.matches x = true) :
    Inv init (cur.filter (fun q => !p.matches q)) (logRemovals log ms) := by
  refine inv_logRemovals ms hms cur _ log h (fun q hq => ((hmem q).mp hq).1) ?_
  intro x
  simp only [hmem, List.mem_filter, Bool.not_eq_true', not_and, Bool.not_eq_true]
  exact ⟨fun ⟨h1, h2⟩ => ⟨h1, fun _ => h2⟩, fun ⟨h1, h2⟩ => ⟨h1, h2 h1⟩⟩

theorem replay_restores (log : List Entry) : ∀ {cur : List Quad}, Inv init cur log →
    SetEq (replay cur log) init := by
  induction log with
  | nil => intro cur h x; exact (h.noEntry fun _ => List.not_mem_nil).symm
  | cons e es ih =>
    intro cur h
    obtain ⟨q, u⟩ := e
    -- the head entry is pending, `es` is the log without it
    have he : ∀ cur', (q ∈ cur' ↔ u = .add) → (∀ x, x ≠ q → (x ∈ cur' ↔ x ∈ cur)) → Inv init cur' es := by
      intro cur' hq hx
      have := h.erase (cur' := cur') List.mem_cons_self hq hx
      rwa [List.erase_cons_head] at this
    cases u with
    | add => exact ih (he (sinsert cur q) (by simp) (fun x hx => by simp [hx]))
    | remove => exact ih (he (sremove cur q) (by simp) (fun x hx => by simp [hx]))

theorem log_induction {motive : List Entry → Prop} (nil : motive [])
    (add : ∀ q es, motive es → motive ((q, .add) :: es))
    (remove : ∀ q es, motive es → motive ((q, .remove) :: es)) (log : List Entry) : motive log := by
  induction log with
  | nil => exact nil
  | cons e es ih =>
    obtain ⟨q, u⟩ := e
    cases u
    · exact add q es ih
    · exact remove q es ih

theorem nodup_replay (log : List Entry) : ∀ (cur : List Quad), cur.Nodup → (replay cur log).Nodup := by
  induction log using log_induction with
  | nil => intro cur h; exact h
  | add q es ih => intro cur h; exact ih _ (nodup_sinsert h)
  | remove q es ih => intro cur h; exact ih _ (nodup_sremove h)

theorem mem_replay_sub (log : List Entry) : ∀ (cur : List Quad) (x : Quad),
    x ∈ replay cur log → x ∈ cur ∨ (x, Undo.add) ∈ log := by
  induction log using log_induction with
  | nil => intro cur x h; exact Or.inl h
  | add q es ih =>
    intro cur x h
    rcases ih _ x h with h1 | h1
    · rcases mem_sinsert.mp h1 with rfl | h2
      · exact Or.inr (by simp)
      · exact Or.inl h2
    · exact Or.inr (List.mem_cons_of_mem _ h1)
  | remove q es ih =>
    intro cur x h
    rcases ih _ x h with h1 | h1
    · exact Or.inl (mem_sremove.mp h1).2
    · exact Or.inr (List.mem_cons_of_mem _ h1)

end

theorem inv_step {init : List Quad} {s : W} (h : Inv init s.cur s.log) (hnd : s.cur.Nodup)
    (op : Op) : Inv init (s.step op).cur (s.step op).log := by
  cases op with
  | add q =>
    show Inv init (s.add q).cur (s.add q).log
    unfold W.add
    split
    · exact h
    · next hq => exact inv_add1 h q hq
  | remove p => exact inv_logRemovals_filter h p _ (hnd.filter _) (fun _ => List.mem_filter)

end RV.C18

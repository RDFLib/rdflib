import RV.C18.XLemmas
/- Two wrappers over one store: `T` is the territory of wrapper `i`, the other one only touches quads outside `T`. -/
namespace RV.C18

theorem st2_step_cur (s : St2) (j : Bool) (o : Op) : (s.step (j, o)).cur = ((s.w j).step o).cur := by
  cases j <;> rfl

theorem st2_step_log (s : St2) (i j : Bool) (o : Op) :
    ((s.step (j, o)).w i).log = if j = i then ((s.w j).step o).log else (s.w i).log := by
  cases i <;> cases j <;> rfl

theorem st2_rollback_cur (s : St2) (i : Bool) : (s.rollback i).cur = replay s.cur (s.w i).log := by
  cases i <;> rfl

theorem x2_step_m (s : X2) (j : Bool) (o : XOp) : (s.step (j, o)).m = ((s.w j).step o).m := by
  cases j <;> rfl

theorem x2_step_log (s : X2) (i j : Bool) (o : XOp) :
    ((s.step (j, o)).w i).log = if j = i then ((s.w j).step o).log else (s.w i).log := by
  cases i <;> cases j <;> rfl

theorem x2_rollback_cur (s : X2) (i : Bool) : (s.rollback i).m.cur = replay s.m.cur (s.w i).log := by
  cases i <;> exact replayMem_cur _ _

/-- wrapper `i` against the image `I` of the *other* wrapper's work: its log undoes the difference between the
    store and `I`, which lies inside its territory `T` -/
structure Terr (T : Quad → Bool) (I cur : List Quad) (log : List Entry) : Prop where
  inv : Inv I cur log
  agree : ∀ x, T x = false → (x ∈ cur ↔ x ∈ I)
  nodup : cur.Nodup

theorem Terr.begin {T : Quad → Bool} {cur : List Quad} (h : cur.Nodup) : Terr T cur cur [] :=
  ⟨Inv.begin (SetEq.refl _), fun _ _ => Iff.rfl, h⟩

/-- the other wrapper touches no quad of `T`, so what this wrapper's entries say stays true -/
theorem Terr.other {T : Quad → Bool} {I cur : List Quad} {log : List Entry} (h : Terr T I cur log) (o : XOp)
    (hunt : ∀ q, T q = true → o.touches q = false) : Terr T (curStepX I o) (curStepX cur o) log := by
  refine ⟨Inv.of_entries h.inv.nodup (fun x v hv => ?entry) ?noEntry, ?agree, nodup_curStepX h.nodup o⟩
  case noEntry => exact fun x hn => mem_curStepX_congr o x (h.inv.noEntry hn)
  case agree => exact fun x hx => mem_curStepX_congr o x (h.agree x hx)
  have he := h.inv.entry hv
  -- an entry records a difference between `cur` and `I`: inside `T`
  have hT : T x = true := by
    cases hT : T x with
    | true => rfl
    | false =>
      have := he.1.symm.trans ((h.agree x hT).symm.trans he.2)
      cases v <;> simp at this
  have hu := hunt x hT
  exact ⟨(mem_curStepX_untouched I o x hu).trans he.1, (mem_curStepX_untouched cur o x hu).trans he.2⟩

/-- the image after one more step `(j, o)`, in the shape `List.foldl_filter` gives -/
abbrev imageStep (i : Bool) (I : List Quad) (j : Bool) (o : XOp) : List Quad :=
  if (j != i) = true then curStepX I o else I

theorem imageStep_own (i : Bool) (I : List Quad) (o : XOp) : imageStep i I i o = I := by
  simp [imageStep]

theorem imageStep_other {i j : Bool} (h : j ≠ i) (I : List Quad) (o : XOp) : imageStep i I j o = curStepX I o := by
  simp [imageStep, h]

/-- as for `Sim.step`, seen from wrapper `i` when wrapper `j` (new log `logj'`) takes the step -/
theorem Terr.step {T : Quad → Bool} {i : Bool} {I cur cur' : List Quad} {log logj' : List Entry}
    (h : Terr T I cur log) (j : Bool) (o : XOp)
    (hd : ∀ q, o.touches q = true → (T q = true ↔ j = i))
    (hcur : cur' = curStepX cur o) (hinv : j = i → Inv I cur' logj') :
    Terr T (imageStep i I j o) cur' (if j = i then logj' else log) := by
  subst hcur
  by_cases hji : j = i
  · subst hji
    rw [imageStep_own, if_pos rfl]
    refine ⟨hinv rfl, fun x hx => ?_, nodup_curStepX h.nodup o⟩
    refine (mem_curStepX_untouched cur o x ?_).trans (h.agree x hx)
    cases ht : o.touches x with
    | false => rfl
    | true => rw [(hd x ht).mpr rfl] at hx; cases hx
  · rw [imageStep_other hji, if_neg hji]
    refine h.other o (fun q hq => ?_)
    cases ht : o.touches q with
    | false => rfl
    | true => exact absurd ((hd q ht).mp hq) hji

theorem terr_st2_step {T : Quad → Bool} {i : Bool} {s : St2} {I : List Quad} (h : Terr T I s.cur (s.w i).log)
    (j : Bool) (o : Op) (hd : ∀ q, o.touches q = true → (T q = true ↔ j = i)) :
    Terr T (imageStep i I j o.x) (s.step (j, o)).cur ((s.step (j, o)).w i).log := by
  rw [st2_step_cur, st2_step_log]
  refine Terr.step h j o.x (touches_x o ▸ hd) (wstep_cur _ o) ?_
  rintro rfl
  exact inv_step h.inv h.nodup o

theorem terr_x2_step {T : Quad → Bool} {i : Bool} {s : X2} {I : List Quad} (h : Terr T I s.m.cur (s.w i).log)
    (j : Bool) (o : XOp) (ho : o.wellNamed = true) (hd : ∀ q, o.touches q = true → (T q = true ↔ j = i)) :
    Terr T (imageStep i I j o) (s.step (j, o)).m.cur ((s.step (j, o)).w i).log := by
  rw [x2_step_m, x2_step_log]
  refine Terr.step h j o hd (xstep_cur _ o) ?_
  rintro rfl
  exact xinv_step h.inv h.nodup o ho

end RV.C18

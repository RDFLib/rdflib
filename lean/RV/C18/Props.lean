import RV.C18.TwoWrappers
/- C18 — "Rollback restores, commit keeps: the auditable store is atomic over any history."
   First the abstract model `W`, then the code-shaped `XW`, the one to build on; each `Statement_*` stands before its
   proof, a fold of a one-step lemma over the history. -/
namespace RV.C18

/-- The abstract transactional set: `base` = content when the transaction began. -/
structure Spec where
  base : List Quad
  cur : List Quad

inductive Cmd
  | op (o : Op)
  | commit
  | rollback
  deriving Repr

def Spec.step (s : Spec) : Cmd → Spec
  | .op (.add q) => { s with cur := sinsert s.cur q }
  | .op (.remove p) => { s with cur := s.cur.filter (fun q => !p.matches q) }
  | .commit => { s with base := s.cur }
  | .rollback => { s with cur := s.base }

def W.cmd (s : W) : Cmd → W
  | .op o => s.step o
  | .commit => s.commit
  | .rollback => s.rollback

def W.runCmds (s : W) (cs : List Cmd) : W := cs.foldl W.cmd s
def Spec.run (s : Spec) (cs : List Cmd) : Spec := cs.foldl Spec.step s

/-- After any history of adds / pattern removes since the transaction began,
    `rollback()` leaves exactly the content the store had at the beginning. -/
def Statement_rollback_restores : Prop :=
  ∀ (init : List Quad) (ops : List Op), init.Nodup →
    SetEq ((W.run ⟨init, []⟩ ops).rollback).cur init ∧ ((W.run ⟨init, []⟩ ops).rollback).log = []

theorem rollback_restores : Statement_rollback_restores := by
  intro init ops hnd
  have h := List.foldl_rel (r := fun (s : W) sc => Sim init sc s.cur s.log) (l := ops) (a := ⟨init, []⟩) (Sim.begin hnd)
    (fun o _ _ _ hs => sim_wstep hs o)
  exact ⟨(h.rollback rfl).set, rfl⟩

/-- `commit()` leaves exactly the content reached. -/
def Statement_commit_keeps : Prop :=
  ∀ (s : W), s.commit.cur = s.cur ∧ s.commit.log = []

theorem commit_keeps : Statement_commit_keeps := fun _ => ⟨rfl, rfl⟩

/-- A further rollback after a commit or a rollback changes nothing. -/
def Statement_rollback_after_boundary_noop : Prop :=
  ∀ (s : W), s.commit.rollback = s.commit ∧ s.rollback.rollback = s.rollback

-- an empty log: nothing to replay
theorem rollback_after_boundary_noop : Statement_rollback_after_boundary_noop :=
  fun _ => ⟨rfl, rfl⟩

theorem sim_cmd {s : W} {sp : Spec} (h : Sim sp.base sp.cur s.cur s.log) (c : Cmd) :
    Sim (sp.step c).base (sp.step c).cur (s.cmd c).cur (s.cmd c).log := by
  cases c with
  | op o =>
    have h1 := sim_wstep h o
    -- splitting `o` lets `Spec.step`, which spells `curStepX` out, reduce (so too below)
    cases o <;> exact h1
  | commit => exact h.commit
  | rollback => exact h.rollback rfl

/-- Every history, with commit/rollback placed anywhere: the wrapped store always
    holds what the snapshot specification says. -/
def Statement_history_refines_spec : Prop :=
  ∀ (init : List Quad) (cs : List Cmd), init.Nodup →
    SetEq (W.runCmds ⟨init, []⟩ cs).cur (Spec.run ⟨init, init⟩ cs).cur

theorem history_refines_spec : Statement_history_refines_spec := by
  intro init cs hnd
  exact (List.foldl_rel (r := fun (s : W) (sp : Spec) => Sim sp.base sp.cur s.cur s.log) (l := cs)
    (a := ⟨init, []⟩) (b := ⟨init, init⟩) (Sim.begin hnd) (fun c _ _ _ hs => sim_cmd hs c)).set

/-- Two wrappers share one store.  Every operation of wrapper `i` touches only quads inside a
    territory `T`, every operation of the other wrapper only quads outside it (an `add q`
    touches `q`; a `remove pat` touches every quad `pat` can match — the static, pattern-level
    reading of "transactions touch disjoint triples").  Then, for EVERY interleaving `ops`,
    rolling back wrapper `i` leaves exactly what the other wrapper's operations alone
    produce from the initial content: the other's changes are intact, `i`'s are undone. -/
def Statement_two_wrappers_disjoint : Prop :=
  ∀ (init : List Quad) (i : Bool) (T : Quad → Bool) (ops : List (Bool × Op)), init.Nodup →
    (∀ jo ∈ ops, ∀ q, jo.2.touches q = true → (T q = true ↔ jo.1 = i)) →
    SetEq (((St2.run ⟨init, [], []⟩ ops).rollback i).cur)
          ((W.run ⟨init, []⟩ ((ops.filter (fun jo => jo.1 != i)).map (·.2))).cur)

theorem two_wrappers_disjoint : Statement_two_wrappers_disjoint := by
  intro init i T ops hnd hd
  have h := List.foldl_rel (r := fun (s : St2) I => Terr T I s.cur (s.w i).log) (l := ops)
    (g := fun I jo => imageStep i I jo.1 jo.2.x) (a := ⟨init, [], []⟩)
    (by cases i <;> exact Terr.begin hnd)  -- `(St2.w _ i).log` is `if i then [] else []`
    (fun jo hjo _ _ hs => terr_st2_step hs jo.1 jo.2 (hd jo hjo))
  rw [st2_rollback_cur, wrun_cur, List.foldl_map, List.foldl_filter]
  exact replay_restores _ h.inv

/-- non-vacuity: wrapper 0 works on subject 1, wrapper 1 on subject 2, interleaved -/
example :
    let ops : List (Bool × Op) :=
      [(false, .remove (some 1, none, none, none)), (true, .add (2, 5, 5, 9)),
       (false, .add (1, 6, 6, 9)), (true, .remove (some 2, some 2, none, none))]
    (((St2.run ⟨[(1, 2, 3, 9), (2, 2, 3, 9)], [], []⟩ ops).rollback false).cur = [(2, 5, 5, 9), (1, 2, 3, 9)])
    ∧ (∀ jo ∈ ops, ∀ q, jo.2.touches q = true → ((q.1 == 1) = true ↔ jo.1 = false)) := by
  refine ⟨by decide +kernel, ?_⟩
  intro jo hjo q hq
  simp only [List.mem_cons, List.not_mem_nil, or_false] at hjo
  rcases hjo with rfl | rfl | rfl | rfl <;>
    simp_all [Op.touches, Pat.matches, matchPos]

def exInit : List Quad := [(1, 2, 3, 9), (4, 2, 3, 9)]
def exOps : List Op :=
  [.remove (some 1, none, none, none), .add (1, 2, 3, 9), .add (7, 7, 7, 8),
   .remove (none, some 7, none, some 8), .remove (none, none, some 3, none)]

example : exInit.Nodup := by decide +kernel
example : (W.run ⟨exInit, []⟩ exOps).cur = [] ∧ (W.run ⟨exInit, []⟩ exOps).log.length = 2 := by decide +kernel
example : ((W.run ⟨exInit, []⟩ exOps).rollback).cur = [(4, 2, 3, 9), (1, 2, 3, 9)] := by decide +kernel

/-! ### The defect C18-F1 (`AuditableStore.add` before the `fix:` commit): regression witness.
    With `append-and-cancel` in `add`, remove-then-re-add of a present quad leaves a
    spurious `remove` entry and rollback deletes a quad that was there at the beginning. -/

def W.addBuggy (s : W) (q : Quad) : W :=
  if q ∈ s.cur then s
  else { cur := sinsert s.cur q, log := appendAndCancel s.log q }

theorem buggy_add_breaks_rollback :
    ¬ SetEq (((W.remove ⟨[(1, 2, 3, 9)], []⟩ (some 1, some 2, some 3, some 9)).addBuggy (1, 2, 3, 9)).rollback).cur
        [(1, 2, 3, 9)] := by
  intro h
  have := (h (1, 2, 3, 9)).2 (by simp)
  revert this
  decide +kernel

/-- The specification, extended by what the statement does NOT make transactional: namespace bindings
    go straight to the wrapped store and stay there whatever happens to the transaction. -/
structure SpecX where
  base : List Quad
  cur : List Quad
  b : Binds

def SpecX.step (s : SpecX) : XCmd → SpecX
  | .op (.add q) => { s with cur := sinsert s.cur q }
  | .op (.remove p) => { s with cur := s.cur.filter (fun q => !p.matches q) }
  | .op (.bind a n o) => { s with b := s.b.bind a n o }
  | .op .pass => s
  | .commit => { s with base := s.cur }
  | .rollback => { s with cur := s.base }

def SpecX.run (s : SpecX) (cs : List XCmd) : SpecX := cs.foldl SpecX.step s

theorem sim_xcmd {s : XW} {sp : SpecX} (h : Sim sp.base sp.cur s.m.cur s.log ∧ s.m.b = sp.b) (c : XCmd)
    (hc : c.wellNamed = true) :
    Sim (sp.step c).base (sp.step c).cur (s.cmd c).m.cur (s.cmd c).log ∧ (s.cmd c).m.b = (sp.step c).b := by
  cases c with
  | op o =>
    have h1 := sim_xstep h.1 o hc
    cases o with
    | add q => exact ⟨h1, (xw_add_b s q).trans h.2⟩
    | remove p => exact ⟨h1, (xw_remove_b s p).trans h.2⟩
    | bind a n o => exact ⟨h1, congrArg (·.bind a n o) h.2⟩
    | pass => exact h
  | commit => exact ⟨h.1.commit, h.2⟩
  | rollback => exact ⟨sim_xrollback h.1, (replayMem_b s.log s.m).trans h.2⟩

/-- Every history over the extended operation set, boundaries anywhere, graph names that a `Graph` can
    carry: the wrapped store holds exactly the quads the snapshot specification says, and exactly the
    bindings the (non-transactional) specification says. -/
def Statement_code_history_refines_spec : Prop :=
  ∀ (m0 : Mem) (cs : List XCmd), m0.cur.Nodup → (∀ c ∈ cs, c.wellNamed = true) →
    SetEq (XW.run ⟨m0, []⟩ cs).m.cur (SpecX.run ⟨m0.cur, m0.cur, m0.b⟩ cs).cur ∧
    (XW.run ⟨m0, []⟩ cs).m.b = (SpecX.run ⟨m0.cur, m0.cur, m0.b⟩ cs).b

theorem code_history_refines_spec : Statement_code_history_refines_spec := by
  intro m0 cs hnd hw
  have h := List.foldl_rel (r := fun (s : XW) (sp : SpecX) => Sim sp.base sp.cur s.m.cur s.log ∧ s.m.b = sp.b)
    (l := cs) (a := ⟨m0, []⟩) (b := ⟨m0.cur, m0.cur, m0.b⟩) ⟨Sim.begin hnd, rfl⟩
    (fun c hc _ _ hs => sim_xcmd hs c (hw c hc))
  exact ⟨h.1.set, h.2⟩

/-- `rollback()` after any history of adds, removes of every shape, binds and pass-through calls:
    the quads are those of the beginning, the log is empty, and every read through the wrapper
    (`triples(pattern, context)` with the graphs of each triple, `__len__(context)`) answers as at the
    beginning. -/
def Statement_code_rollback_restores : Prop :=
  ∀ (m0 : Mem) (ops : List XOp), m0.cur.Nodup → (∀ o ∈ ops, o.wellNamed = true) →
    let s := (XW.run ⟨m0, []⟩ (ops.map .op)).rollback
    SetEq s.m.cur m0.cur ∧ s.log = [] ∧
    (∀ (p : Pat) (t : Triple) (g : Nat),
      (∃ cs, (t, cs) ∈ memTriples s.m.cur p ∧ g ∈ cs) ↔ (∃ cs, (t, cs) ∈ memTriples m0.cur p ∧ g ∈ cs)) ∧
    (∀ g, memLen s.m.cur g = memLen m0.cur g)

theorem code_rollback_restores : Statement_code_rollback_restores := by
  intro m0 ops hnd hw
  have h := sim_xrollback (sim_xops (s := ⟨m0, []⟩) (Sim.begin hnd) ops hw)
  rw [← xrun_ops] at h
  exact ⟨h.set, rfl, fun p t g => memTriples_listed_congr h.set p t g, fun g => memLen_congr h.nodup hnd h.set g⟩

/-- `commit()` keeps the wrapped store as it is; a rollback after a commit or a rollback is a no-op;
    `bind` and the pass-through calls touch neither the quads nor the log, and neither `add`, `remove`,
    `commit` nor `rollback` touches the bindings. -/
def Statement_code_boundaries_and_frames : Prop :=
  ∀ (s : XW),
    (s.commit.m = s.m ∧ s.commit.log = []) ∧
    (s.commit.rollback = s.commit ∧ s.rollback.rollback = s.rollback) ∧
    (∀ a n o, (s.step (.bind a n o)).m.cur = s.m.cur ∧ (s.step (.bind a n o)).log = s.log) ∧
    (s.step .pass = s) ∧
    (∀ q, (s.add q).m.b = s.m.b) ∧ (∀ p, (s.remove p).m.b = s.m.b) ∧ s.rollback.m.b = s.m.b

theorem code_boundaries_and_frames : Statement_code_boundaries_and_frames := by
  intro s
  refine ⟨?commit, ?noop, ?bind, ?pass, xw_add_b s, xw_remove_b s, replayMem_b _ _⟩
  case commit => exact ⟨rfl, rfl⟩
  case noop => exact ⟨rfl, rfl⟩
  case bind => exact fun _ _ _ => ⟨rfl, rfl⟩
  case pass => rfl

/-- The abstract model (`W`, one enumeration order, no early returns) and the code-shaped
    model hold the same quads after every history. -/
def Statement_code_model_agrees_with_abstract : Prop :=
  ∀ (init : List Quad) (cs : List Cmd), init.Nodup →
    (∀ c ∈ cs, (match c with | .op (.remove p) => p.wellNamed | _ => true) = true) →
    SetEq (XW.run ⟨{ cur := init }, []⟩ (cs.map (fun c => match c with
        | .op (.add q) => XCmd.op (.add q)
        | .op (.remove p) => XCmd.op (.remove p)
        | .commit => XCmd.commit
        | .rollback => XCmd.rollback))).m.cur
      (W.runCmds ⟨init, []⟩ cs).cur

theorem code_model_agrees_with_abstract : Statement_code_model_agrees_with_abstract := by
  intro init cs hnd hw
  rw [XW.run, List.foldl_map]
  -- both models simulate one and the same state of the specification
  let R (x : XW) (w : W) : Prop := ∃ base sc, Sim base sc x.m.cur x.log ∧ Sim base sc w.cur w.log
  have hR : ∀ x w, R x w → SetEq x.m.cur w.cur := fun _ _ ⟨_, _, hx, hw'⟩ => hx.set.trans hw'.set.symm
  refine hR _ _ (List.foldl_rel (r := R) (g := W.cmd) ⟨init, init, Sim.begin hnd, Sim.begin hnd⟩ ?_)
  rintro c hc x w ⟨base, sc, hx, hw'⟩
  have hwn := hw c hc
  cases c with
  | op o => cases o with
    | add q => exact ⟨_, _, sim_xstep hx (.add q) rfl, sim_wstep hw' (.add q)⟩
    | remove p => exact ⟨_, _, sim_xstep hx (.remove p) hwn, sim_wstep hw' (.remove p)⟩
  | commit => exact ⟨_, _, hx.commit, hw'.commit⟩
  | rollback => exact ⟨_, _, sim_xrollback hx, hw'.rollback rfl⟩

/-- The hypothesis on graph names is needed: with a falsy identifier (`0`), `if ctxId:` sends a wildcard
    remove down the all-graphs branch, which cancels the pending undo entry of a quad of ANOTHER graph
    although the store call only touches the named graph; rollback then leaves that quad behind.  (No
    `Graph` carries a falsy identifier: `Graph.__init__` replaces it by a blank node; the harness checks
    that on every run.) -/
theorem falsy_graph_name_witness :
    ¬ SetEq (XW.run ⟨{ cur := [] }, []⟩
        [.op (.add (1, 2, 3, 5)), .op (.remove (some 1, none, none, some 0)), .rollback]).m.cur [] := by
  intro h
  have := (h (1, 2, 3, 5)).1 (by decide +kernel)
  cases this

/-- What the code does with bindings: a `bind` inside a transaction survives `rollback()`. -/
theorem binding_survives_rollback :
    (XW.run ⟨{ cur := [] }, []⟩ [.op (.bind 1 7 true), .op (.add (1, 2, 3, 5)), .rollback]).m
      = { cur := [], ctxs := [5], b := { ns := [(1, 7)], pf := [(7, 1)] } } := by decide +kernel

/-- non-vacuity: a history through all three branches of `remove`, an early return, a bind, a commit -/
example :
    let cs : List XCmd :=
      [.op (.remove (some 1, none, none, some 9)), .op (.add (1, 2, 3, 9)), .op (.bind 1 7 false),
       .op (.remove (none, some 2, none, none)), .op (.remove (some 4, some 4, some 4, some 4)), .op (.add (7, 7, 7, 8)), .commit,
       .op (.remove (some 7, some 7, some 7, some 8)), .op .pass, .rollback]
    (XW.run ⟨{ cur := [(1, 2, 3, 9), (4, 2, 3, 8)] }, []⟩ cs).m.cur = [(7, 7, 7, 8)]
    ∧ (∀ c ∈ cs, c.wellNamed = true) := by decide +kernel

def NCmd.outerView : NCmd → Option XCmd
  | .op o => some (.op o)
  | .commitOut => some .commit
  | .rollbackOut => some .rollback
  | .commitIn => none
  | .rollbackIn => none

def NCmd.wellNamed : NCmd → Bool
  | .op o => o.wellNamed
  | _ => true

def NCmd.isRollbackIn : NCmd → Bool
  | .rollbackIn => true
  | _ => false

def NCmd.innerBoundary : NCmd → Bool
  | .commitIn => true
  | .rollbackIn => true
  | _ => false

theorem sim_ncmd {n : Nest} {sp : SpecX} (h : Sim sp.base sp.cur n.m.cur n.logOut) (c : NCmd)
    (hc : c.wellNamed = true) (hr : c.isRollbackIn = false) :
    Sim (sp.run c.outerView.toList).base (sp.run c.outerView.toList).cur (n.cmd c).m.cur (n.cmd c).logOut := by
  cases c with
  | op o =>
    -- content and outer log move as if the outer wrapper stood alone over the store (`nest_op`)
    have hcur : (n.cmd (.op o)).m.cur = (XW.step ⟨n.m, n.logOut⟩ o).m.cur := by
      rw [nest_op]; exact (xstep_cur n.inner o).trans (xstep_cur ⟨n.m, n.logOut⟩ o).symm
    have hlog : (n.cmd (.op o)).logOut = (XW.step ⟨n.m, n.logOut⟩ o).log := by rw [nest_op]
    rw [hcur, hlog]
    have h1 := sim_xstep (s := ⟨n.m, n.logOut⟩) h o hc
    cases o <;> exact h1
  | commitOut => exact h.commit
  | rollbackOut => exact h.rollback (nest_rollbackOut_cur n)
  | commitIn => exact h
  | rollbackIn => cases hr

/-- The outer transaction of `AuditableStore(AuditableStore(store))`: whatever the inner wrapper has
    pending at the start and whenever it commits in between, the outer wrapper is atomic — every history
    of operations through the outer wrapper with outer commits / rollbacks anywhere refines the snapshot
    specification (in particular: outer rollback after inner commit restores the outer beginning). -/
def Statement_nested_outer_refines_spec : Prop :=
  ∀ (m0 : Mem) (logIn0 : List Entry) (cs : List NCmd), m0.cur.Nodup →
    (∀ c ∈ cs, c.wellNamed = true) → (∀ c ∈ cs, c.isRollbackIn = false) →
    SetEq (Nest.run ⟨m0, logIn0, []⟩ cs).m.cur
      (SpecX.run ⟨m0.cur, m0.cur, m0.b⟩ (cs.filterMap NCmd.outerView)).cur

theorem nested_outer_refines_spec : Statement_nested_outer_refines_spec := by
  intro m0 logIn0 cs hnd hw hr
  -- an inner commit is an empty run of the specification: `filterMap` as a `flatMap` of runs of length 0 or 1
  rw [List.filterMap_eq_flatMap_toList, SpecX.run, List.foldl_flatMap]
  exact (List.foldl_rel (r := fun (n : Nest) (sp : SpecX) => Sim sp.base sp.cur n.m.cur n.logOut)
    (a := ⟨m0, logIn0, []⟩) (b := ⟨m0.cur, m0.cur, m0.b⟩) (Sim.begin hnd) (fun c hc _ _ hs => sim_ncmd hs c (hw c hc) (hr c hc))).set

theorem nested_inner_step {base : List Quad} {n : Nest} (h : Inv base n.m.cur n.logIn ∧ n.m.cur.Nodup)
    (c : NCmd) (hc : c.wellNamed = true) (hb : c.innerBoundary = false) :
    Inv base (n.cmd c).m.cur (n.cmd c).logIn ∧ (n.cmd c).m.cur.Nodup := by
  cases c with
  | op o =>
    rw [nest_op]
    exact xinv_nodup_step (s := n.inner) h o hc
  | commitOut => exact h
  | rollbackOut => exact replayInner_inv n.logOut n.inner h
  | commitIn => cases hb
  | rollbackIn => cases hb

/-- The inner transaction: everything the outer wrapper does — its operations, its commits, the replay
    of its log by its rollback — reaches the inner wrapper as ordinary adds and removes, so an inner
    rollback restores the content of the inner transaction's beginning, outer boundaries notwithstanding
    and whatever the outer log held at that moment. -/
def Statement_nested_inner_rollback_restores : Prop :=
  ∀ (m0 : Mem) (logOut0 : List Entry) (cs : List NCmd), m0.cur.Nodup →
    (∀ c ∈ cs, c.wellNamed = true) → (∀ c ∈ cs, c.innerBoundary = false) →
    SetEq ((Nest.run ⟨m0, [], logOut0⟩ cs).cmd .rollbackIn).m.cur m0.cur

theorem nested_inner_rollback_restores : Statement_nested_inner_rollback_restores := by
  intro m0 logOut0 cs hnd hw hb
  have h := List.foldlRecOn cs Nest.cmd (b := ⟨m0, [], logOut0⟩)
    (motive := fun n => Inv m0.cur n.m.cur n.logIn ∧ n.m.cur.Nodup) ⟨Inv.begin (SetEq.refl _), hnd⟩
    (fun _ hn c hc => nested_inner_step hn c (hw c hc) (hb c hc))
  have hr := replay_restores _ h.1
  rwa [← replayMem_cur] at hr

/-- non-vacuity: outer add, inner commit, outer pattern remove, outer rollback (restores the outer
    beginning), then inner rollback (restores the inner beginning = after its commit) -/
example :
    (Nest.run ⟨{ cur := [(1, 2, 3, 9)] }, [], []⟩
      [.op (.add (4, 5, 6, 8)), .commitIn, .op (.remove (none, none, none, some 9)), .rollbackOut]).m.cur
        = [(1, 2, 3, 9)]
    ∧ (Nest.run ⟨{ cur := [(1, 2, 3, 9)] }, [], []⟩
      [.op (.add (4, 5, 6, 8)), .commitIn, .op (.remove (none, none, none, some 9)), .rollbackOut, .rollbackIn]).m.cur
        = [(1, 2, 3, 9), (4, 5, 6, 8)] := by decide +kernel

/-- What the code does with `Memory.__all_contexts` (the answer of `contexts()`): over every history,
    every graph that holds a quad is known, no name is ever forgotten, and `rollback()` / `commit()`
    change nothing about the known names — in particular a rollback teaches the store no new name
    (every quad it re-adds goes into a graph the store already knows). -/
def Statement_contexts_kept_by_rollback : Prop :=
  ∀ (m0 : Mem) (cs : List XCmd), (∀ q ∈ m0.cur, q.graph ∈ m0.ctxs) →
    let s := XW.run ⟨m0, []⟩ cs
    s.rollback.m.ctxs = s.m.ctxs ∧ s.commit.m.ctxs = s.m.ctxs ∧
    (∀ g ∈ m0.ctxs, g ∈ s.m.ctxs) ∧ (∀ q ∈ s.m.cur, q.graph ∈ s.m.ctxs)

theorem contexts_kept_by_rollback : Statement_contexts_kept_by_rollback := by
  intro m0 cs h0
  have h := List.foldlRecOn cs XW.cmd (b := ⟨m0, []⟩) (motive := fun s => Known m0.ctxs s.m.ctxs s.m.cur s.log)
    ⟨fun _ hg => hg, h0, List.forall_mem_nil _⟩ (fun _ hs c _ => known_cmd hs c)
  exact ⟨replayMem_ctxs _ _ (fun _ hq => h.ofLog _ hq), rfl, h.sub, h.ofCur⟩

/-- …and what it does NOT do: a graph name first used inside the transaction stays known (as an empty
    graph) after `rollback()`.  The property speaks of triples; `contexts()` of a graph-aware store is
    not transactional. -/
theorem new_graph_name_survives_rollback :
    (XW.run ⟨{ cur := [] }, []⟩ [.op (.add (1, 2, 3, 5)), .rollback]).m = { cur := [], ctxs := [5] } := by
  decide +kernel

/-- `two_wrappers_disjoint` over the code of `auditable.py` and the extended operation set: every
    interleaving of two wrappers whose operations touch statically disjoint territories (binds and
    pass-through calls touch nothing); rolling wrapper `i` back leaves exactly what the other wrapper's
    operations alone produce from the initial content. -/
def Statement_code_two_wrappers_disjoint : Prop :=
  ∀ (m0 : Mem) (i : Bool) (T : Quad → Bool) (ops : List (Bool × XOp)), m0.cur.Nodup →
    (∀ jo ∈ ops, jo.2.wellNamed = true) →
    (∀ jo ∈ ops, ∀ q, jo.2.touches q = true → (T q = true ↔ jo.1 = i)) →
    SetEq (((X2.run ⟨m0, [], []⟩ ops).rollback i).m.cur)
          ((XW.run ⟨m0, []⟩ (((ops.filter (fun jo => jo.1 != i)).map (·.2)).map .op)).m.cur)

theorem code_two_wrappers_disjoint : Statement_code_two_wrappers_disjoint := by
  intro m0 i T ops hnd hw hd
  have h := List.foldl_rel (r := fun (s : X2) I => Terr T I s.m.cur (s.w i).log) (l := ops)
    (g := fun I jo => imageStep i I jo.1 jo.2) (a := ⟨m0, [], []⟩)
    (by cases i <;> exact Terr.begin hnd) (fun jo hjo _ _ hs => terr_x2_step hs jo.1 jo.2 (hw jo hjo) (hd jo hjo))
  rw [x2_rollback_cur, xrun_ops, xsteps_cur, List.foldl_map, List.foldl_filter]
  exact replay_restores _ h.inv

/-- non-vacuity: wrapper 0 works on subject 1 (two branches of `remove`, a bind), wrapper 1 on subject 2 -/
example :
    let ops : List (Bool × XOp) :=
      [(false, .remove (some 1, none, none, none)), (true, .add (2, 5, 5, 9)), (false, .bind 1 7 true),
       (false, .add (1, 6, 6, 9)), (true, .remove (some 2, some 2, none, some 9))]
    (((X2.run ⟨{ cur := [(1, 2, 3, 9), (2, 2, 3, 9)] }, [], []⟩ ops).rollback false).m.cur = [(2, 5, 5, 9), (1, 2, 3, 9)])
    ∧ (∀ jo ∈ ops, jo.2.wellNamed = true)
    ∧ (∀ jo ∈ ops, ∀ q, jo.2.touches q = true → ((q.1 == 1) = true ↔ jo.1 = false)) := by
  refine ⟨by decide +kernel, by decide +kernel, ?_⟩
  intro jo hjo q hq
  simp only [List.mem_cons, List.not_mem_nil, or_false] at hjo
  rcases hjo with rfl | rfl | rfl | rfl | rfl <;>
    simp_all [XOp.touches, Pat.matches, matchPos]

def GOp.wellNamed : GOp → Bool
  | .store o => o.wellNamed
  | .set q => truthy q.graph
  | .removeContext g => truthy g
  | _ => true

def GCmd.wellNamed : GCmd → Bool
  | .op o => o.wellNamed
  | _ => true

theorem expand_wellNamed (g : GOp) (h : g.wellNamed = true) : ∀ o ∈ g.expand, o.wellNamed = true := by
  intro o ho
  cases g with
  | store o' => exact List.mem_singleton.mp ho ▸ h
  | addN qs =>
    obtain ⟨q, _, rfl⟩ := List.mem_map.mp ho
    rfl
  | set q =>
    simp only [GOp.expand, List.mem_cons, List.not_mem_nil, or_false] at ho
    rcases ho with rfl | rfl
    · exact h
    · rfl
  | isub qs =>
    obtain ⟨q, _, rfl⟩ := List.mem_map.mp ho
    exact pat_wellNamed q
  | removeContext g' => exact List.mem_singleton.mp ho ▸ h
  | addForeign q extra =>
    simp only [GOp.expand, List.mem_append, List.mem_map, List.mem_singleton] at ho
    rcases ho with ⟨t, _, rfl⟩ | rfl <;> rfl


/-- snapshot specification over graph-level commands: an operation's effect on the set of quads is the
    fold of its wrapper calls' effects (`curStepX`); what that fold MEANS for each operation is
    `graph_level_ops_meaning` below. -/
def SpecX.gstep (s : SpecX) : GCmd → SpecX
  | .op g => { s with cur := g.expand.foldl curStepX s.cur }
  | .commit => { s with base := s.cur }
  | .rollback => { s with cur := s.base }

def SpecX.grun (s : SpecX) (cs : List GCmd) : SpecX := cs.foldl SpecX.gstep s

/-- Every history of graph-level operations (batch adds / `+=` / parser adds, `Graph.set`, `-=`,
    `remove_context`, a quad carrying a foreign Graph object, single store calls) with boundaries
    anywhere: the wrapped store holds what the snapshot specification says. -/
def Statement_graph_level_history_refines_spec : Prop :=
  ∀ (m0 : Mem) (cs : List GCmd), m0.cur.Nodup → (∀ c ∈ cs, c.wellNamed = true) →
    SetEq (XW.run ⟨m0, []⟩ (cs.flatMap GCmd.expand)).m.cur (SpecX.grun ⟨m0.cur, m0.cur, m0.b⟩ cs).cur

theorem graph_level_history_refines_spec : Statement_graph_level_history_refines_spec := by
  intro m0 cs hnd hw
  rw [XW.run, List.foldl_flatMap]
  refine (List.foldl_rel (r := fun (s : XW) (sp : SpecX) => Sim sp.base sp.cur s.m.cur s.log)
    (a := ⟨m0, []⟩) (b := ⟨m0.cur, m0.cur, m0.b⟩) (Sim.begin hnd) (fun c hc s _ hs => ?_)).set
  cases c with
  | op g =>
    have h1 := sim_xops hs g.expand (expand_wellNamed g (hw _ hc))
    rw [← xrun_ops] at h1
    exact h1
  | commit => exact hs.commit
  | rollback => exact sim_xrollback hs

/-- what the folds on the right-hand side of `SpecX.gstep` leave of a set of quads `c` -/
def Statement_graph_level_ops_meaning : Prop :=
  ∀ (c : List Quad) (x : Quad),
    (∀ qs, x ∈ (GOp.addN qs).expand.foldl curStepX c ↔ x ∈ qs ∨ x ∈ c) ∧
    (∀ q, x ∈ (GOp.set q).expand.foldl curStepX c ↔
      x = q ∨ (x ∈ c ∧ ¬ (x.1 = q.1 ∧ x.2.1 = q.2.1 ∧ x.graph = q.graph))) ∧
    (∀ qs, x ∈ (GOp.isub qs).expand.foldl curStepX c ↔ x ∈ c ∧ x ∉ qs) ∧
    (∀ g, x ∈ (GOp.removeContext g).expand.foldl curStepX c ↔ x ∈ c ∧ x.graph ≠ g) ∧
    (∀ q extra, x ∈ (GOp.addForeign q extra).expand.foldl curStepX c ↔
      x = q ∨ (∃ t ∈ extra, x = mkQuad t q.graph) ∨ x ∈ c)

theorem graph_level_ops_meaning : Statement_graph_level_ops_meaning := by
  intro c x
  refine ⟨fun qs => ?addN, fun q => ?set, fun qs => mem_fold_removes qs c x, fun g => ?removeContext,
    fun q extra => ?addForeign⟩
  case addN => exact (mem_fold_adds id qs c x).trans (by rw [List.map_id])
  case set =>
    simp only [GOp.expand, List.foldl_cons, List.foldl_nil, mem_curStepX_add, mem_curStepX_remove,
      matches_subjPredGraph]
    rfl
  case removeContext =>
    simp only [GOp.expand, List.foldl_cons, List.foldl_nil, mem_curStepX_remove, matches_graphOnly, ne_eq]
  case addForeign =>
    simp only [GOp.expand, List.foldl_append, List.foldl_cons, List.foldl_nil, mem_curStepX_add,
      mem_fold_adds (fun t => mkQuad t q.graph), List.mem_map, eq_comm (b := x)]

/-! ### The defect C18-F3 (`remove` with a `ConjunctiveGraph` as context): regression witness.
    Before the fix the wildcard branch looped over `context.triples(pattern)`.  When the context is a
    `ConjunctiveGraph` (`cg.remove((None, None, None, cg))`) that lists the matching triples of EVERY
    graph; each was logged under the context's own name `g`, although the store call only removes from
    graph `g`.  Rollback then re-added, into `g`, triples that were never there. -/

/-- pre-fix enumeration for a ConjunctiveGraph context: triples of every graph, each paired with `g` -/
def graphTriplesUnion (cur : List Quad) (p : Pat) (g : Nat) : List Quad :=
  (memTriples cur p.anyGraph).map (fun tc => mkQuad tc.1 g)

def XW.removeUnionBuggy (s : XW) (p : Pat) (g : Nat) : XW :=
  ⟨s.m.remove p, logRemovals s.log (graphTriplesUnion s.m.cur p g)⟩

theorem conjunctive_context_broke_rollback :
    ¬ SetEq ((XW.removeUnionBuggy ⟨{ cur := [(1, 2, 3, 8)] }, []⟩ (none, none, none, some 9) 9).rollback).m.cur
        [(1, 2, 3, 8)] := by
  intro h
  have := (h (1, 2, 3, 9)).1 (by decide +kernel)
  revert this
  decide +kernel

/-- Every `Graph` object the wrapper hands out — by `contexts(triple)` or as the graphs of a triple yielded
    by `triples(pattern, context)` (hence by `ConjunctiveGraph.contexts`, `.quads`, `.get_graph`) — is bound
    to the wrapper, and a write made through an object bound to the wrapper IS a step of the wrapper: it is
    logged, and every theorem about histories (`code_history_refines_spec` …) covers it. -/
def Statement_handed_out_graphs_log : Prop :=
  ∀ (s : XW),
    (∀ t, ∀ h ∈ handOutContexts s.m t, h.2 = Bound.wrapper) ∧
    (∀ p, ∀ tc ∈ handOutTriples s.m.cur p, ∀ h ∈ tc.2, h.2 = Bound.wrapper) ∧
    (∀ (h : Handle) (w : HWrite), h.2 = Bound.wrapper → ∃ o : XOp, s.writeVia h w = s.step o)

theorem handed_out_graphs_log : Statement_handed_out_graphs_log := by
  intro s
  refine ⟨?_, ?_, ?_⟩
  · intro t h hh
    obtain ⟨g, _, rfl⟩ := List.mem_map.mp hh
    rfl
  · intro p tc htc h hh
    obtain ⟨tc0, _, rfl⟩ := List.mem_map.mp htc
    obtain ⟨g, _, rfl⟩ := List.mem_map.mp hh
    rfl
  · intro h w hb
    cases w with
    | add t => exact ⟨.add (mkQuad t h.1), by simp only [XW.writeVia, hb, XW.step]⟩
    | remove a b c => exact ⟨.remove (a, b, c, some h.1), by simp only [XW.writeVia, hb, XW.step]⟩

/-- …whereas a write through an object bound to the WRAPPED store (what `triples()` handed out before the
    fix C18-F4, and `contexts()` before C18-F2) bypasses the log: rollback does not undo it. -/
theorem bypass_breaks_rollback :
    ¬ SetEq (((XW.mk { cur := [(1, 2, 3, 9)], ctxs := [9] } []).writeVia (9, Bound.wrapped) (.remove none none none)).rollback).m.cur
        [(1, 2, 3, 9)] := by
  intro h
  have := (h (1, 2, 3, 9)).2 (by simp)
  revert this
  decide +kernel

/-- For every source of Graph objects (store-level `contexts` / `triples`, `ConjunctiveGraph.contexts`,
    `.contexts(triple)`, `.quads`, `get_context` / `default_context` / `get_graph`, `Graph.resource`,
    `Collection`, the namespace manager): every object handed out is bound to the wrapper, hence
    (`handed_out_graphs_log`) every write through it is a step of the wrapper and is covered by the history
    theorems.  (A `Graph(store=wrapper.store)` the caller builds himself is bound to the wrapped store by
    construction: outside the statement, `bypass_breaks_rollback` shows what it does.) -/
def Statement_every_source_hands_out_wrapper_graphs : Prop :=
  ∀ (s : XW) (src : Source), src ∈ Source.all ∧ ∀ h ∈ handOut s src, h.2 = Bound.wrapper ∧
    ∀ w : HWrite, ∃ o : XOp, s.writeVia h w = s.step o

theorem every_source_hands_out_wrapper_graphs : Statement_every_source_hands_out_wrapper_graphs := by
  intro s src
  obtain ⟨hctx, htri, hw⟩ := handed_out_graphs_log s
  have htri' : ∀ h ∈ (handOutTriples s.m.cur (none, none, none, none)).flatMap (·.2), h.2 = Bound.wrapper :=
    fun h hh => by obtain ⟨tc, htc, hh⟩ := List.mem_flatMap.mp hh; exact htri _ tc htc h hh
  have hb : ∀ h ∈ handOut s src, h.2 = Bound.wrapper := by
    cases src with
    | storeContexts | cgContexts | getContext | resource | collection | nsManager =>
      exact hctx none  -- `graphLayer` is what `contexts()` hands out
    | storeTriples | cgQuads => exact htri'
    | cgContextsOf =>
      intro h hh
      obtain ⟨t, _, hh⟩ := List.mem_flatMap.mp hh
      exact hctx (some t) h hh
  exact ⟨by cases src <;> decide +kernel, fun h hh => ⟨hb h hh, fun w => hw h w (hb h hh)⟩⟩

/-- the snapshot specification, with the effect of each request stated directly on the set of quads -/
structure SpecU where
  base : List Quad
  cur : List Quad

def SpecU.step (s : SpecU) : UCmd → SpecU
  | .u (.parse qs) => { s with cur := qs.foldl sinsert s.cur }
  | .u (.insertData qs) => { s with cur := qs.foldl sinsert s.cur }
  | .u (.deleteData qs) => { s with cur := s.cur.filter (fun x => decide (x ∉ qs)) }
  | .u (.deleteWhere p) => { s with cur := s.cur.filter (fun x => !p.matches x) }
  | .u (.clear gr) => { s with cur := s.cur.filter (fun x => x.graph != gr) }
  | .g o => { s with cur := o.expand.foldl curStepX s.cur }
  | .commit => { s with base := s.cur }
  | .rollback => { s with cur := s.base }

def SpecU.run (s : SpecU) (cs : List UCmd) : SpecU := cs.foldl SpecU.step s

def UCmd.wellNamed : UCmd → Bool
  | .u (.clear gr) => truthy gr
  | .g o => o.wellNamed
  | _ => true

theorem expandAt_wellNamed (cur : List Quad) (o : UOp) (hc : (UCmd.u o).wellNamed = true) :
    ∀ x ∈ o.expandAt cur, x.wellNamed = true := by
  intro x hx
  cases o with
  | parse qs => obtain ⟨q, _, rfl⟩ := List.mem_map.mp hx; rfl
  | insertData qs => obtain ⟨q, _, rfl⟩ := List.mem_map.mp hx; rfl
  | deleteData qs => obtain ⟨q, _, rfl⟩ := List.mem_map.mp hx; exact pat_wellNamed q
  | deleteWhere p => obtain ⟨q, _, rfl⟩ := List.mem_map.mp hx; exact pat_wellNamed q
  | clear g => exact List.mem_singleton.mp hx ▸ hc

theorem expandAt_meaning {cur c : List Quad} (hcur : SetEq cur c) (o : UOp) :
    SetEq ((o.expandAt cur).foldl curStepX c) (SpecU.step ⟨c, c⟩ (.u o)).cur := by
  -- `SpecU.step (.u o)` reads only `cur`: any `base` would do
  intro x
  cases o with
  | parse qs => simp only [UOp.expandAt, SpecU.step, List.foldl_map, curStepX]
  | insertData qs => simp only [UOp.expandAt, SpecU.step, List.foldl_map, curStepX]
  | deleteData qs =>
    simp only [UOp.expandAt, SpecU.step, mem_fold_removes, List.mem_filter, decide_eq_true_eq]
  | deleteWhere p =>
    simp only [UOp.expandAt, SpecU.step, mem_fold_removes, List.mem_filter, Bool.not_eq_true', not_and,
      Bool.not_eq_true]
    exact ⟨fun ⟨h2, h3⟩ => ⟨h2, h3 ((hcur x).mpr h2)⟩, fun ⟨h2, h3⟩ => ⟨h2, fun _ => h3⟩⟩
  | clear g =>
    simp only [UOp.expandAt, SpecU.step, List.foldl_cons, List.foldl_nil, mem_curStepX_remove, matches_graphOnly,
      List.mem_filter, bne_iff_ne, ne_eq]

theorem sim_ucmd {s : XW} {sp : SpecU} (h : Sim sp.base sp.cur s.m.cur s.log) (c : UCmd) (hc : c.wellNamed = true) :
    Sim (sp.step c).base (sp.step c).cur (s.ucmd c).m.cur (s.ucmd c).log := by
  cases c with
  | u o =>
    have h1 := (sim_xops h (o.expandAt s.m.cur) (expandAt_wellNamed s.m.cur o hc)).congr
      (expandAt_meaning h.set o)
    cases o <;> exact h1
  | g o => exact sim_xops h o.expand (expand_wellNamed o hc)
  | commit => exact h.commit
  | rollback => exact sim_xrollback h

/-- Every history of parser runs, SPARQL Update requests (INSERT DATA, DELETE DATA, DELETE WHERE — whose
    calls depend on the content at that moment —, CLEAR GRAPH) and graph-level operations, with commit /
    rollback anywhere: the wrapped store holds what the snapshot specification says. -/
def Statement_update_history_refines_spec : Prop :=
  ∀ (m0 : Mem) (cs : List UCmd), m0.cur.Nodup → (∀ c ∈ cs, c.wellNamed = true) →
    SetEq (XW.urun ⟨m0, []⟩ cs).m.cur (SpecU.run ⟨m0.cur, m0.cur⟩ cs).cur

theorem update_history_refines_spec : Statement_update_history_refines_spec := by
  intro m0 cs hnd hw
  exact (List.foldl_rel (r := fun (s : XW) (sp : SpecU) => Sim sp.base sp.cur s.m.cur s.log)
    (a := ⟨m0, []⟩) (b := ⟨m0.cur, m0.cur⟩) (Sim.begin hnd) (fun c hc _ _ hs => sim_ucmd hs c (hw c hc))).set

/-- non-vacuity: a parse, a DELETE WHERE that meets a parsed and an initial triple, a commit, a CLEAR, a rollback -/
example :
    (XW.urun ⟨{ cur := [(1, 2, 3, 9), (4, 2, 3, 8)] }, []⟩
      [.u (.parse [(1, 2, 5, 9), (6, 6, 6, 9)]), .u (.deleteWhere (some 1, none, none, some 9)), .commit,
       .u (.clear 9), .u (.insertData [(7, 7, 7, 9)]), .rollback]).m.cur = [(4, 2, 3, 8), (6, 6, 6, 9)] := by decide +kernel

end RV.C18

import RV.C18.Lemmas
import RV.C18.XModel
import Mathlib.Data.List.Nodup
/- The code-shaped model (`XModel.lean`): the words `Props.lean` states things in, what the store lists, what a call
   logs and does, rollback, the nested wrapper, the reads, `Known`, and `Sim` kept by either model's steps. -/
namespace RV.C18

def XOp.wellNamed : XOp → Bool
  | .remove p => p.wellNamed
  | _ => true

def XCmd.wellNamed : XCmd → Bool
  | .op o => o.wellNamed
  | _ => true

/-- the quads an operation can change -/
def XOp.touches : XOp → Quad → Bool
  | .add q', q => q == q'
  | .remove p, q => p.matches q
  | _, _ => false

def Op.touches : Op → Quad → Bool
  | .add q', q => q == q'
  | .remove p, q => p.matches q

/-- effect of one operation on the wrapped store's quads, whichever wrapper issues it -/
def curStepX (c : List Quad) : XOp → List Quad
  | .add q => sinsert c q
  | .remove p => c.filter (fun q => !p.matches q)
  | _ => c

/-- the abstract model's operations are two of the code-shaped model's -/
def Op.x : Op → XOp
  | .add q => .add q
  | .remove p => .remove p

theorem touches_x (o : Op) : o.x.touches = o.touches := by cases o <;> rfl

section
variable {cur : List Quad} {p : Pat} {q : Quad}

theorem mem_sdedup {α : Type} [DecidableEq α] (l : List α) (x : α) : x ∈ sdedup l ↔ x ∈ l := by
  induction l with
  | nil => rfl
  | cons y ys ih =>
    unfold sdedup
    split
    · next h => exact ih.trans ⟨List.mem_cons_of_mem _, fun e => (List.mem_cons.mp e).elim (· ▸ h) id⟩
    · rw [List.mem_cons, List.mem_cons, ih]

theorem nodup_sdedup {α : Type} [DecidableEq α] (l : List α) : (sdedup l).Nodup := by
  induction l with
  | nil => simp [sdedup]
  | cons y ys ih =>
    unfold sdedup
    split
    · exact ih
    · next h =>
      rw [List.nodup_cons]
      exact ⟨fun hc => h ((mem_sdedup ys y).mp hc), ih⟩

@[simp] theorem mkQuad_triple_graph (q : Quad) : mkQuad q.triple q.graph = q := rfl
@[simp] theorem mkQuad_triple (t : Triple) (c : Nat) : (mkQuad t c).triple = t := rfl
@[simp] theorem mkQuad_graph (t : Triple) (c : Nat) : (mkQuad t c).graph = c := rfl

theorem mkQuad_inj {t t' : Triple} {c c' : Nat} (h : mkQuad t c = mkQuad t' c') : t = t' ∧ c = c' :=
  ⟨congrArg Quad.triple h, congrArg Quad.graph h⟩

theorem quad_ext {q q' : Quad} (h1 : q.triple = q'.triple) (h2 : q.graph = q'.graph) : q = q' := by
  rw [← mkQuad_triple_graph q, ← mkQuad_triple_graph q', h1, h2]

theorem mem_ctxsOf (cur : List Quad) (t : Triple) (c : Nat) : c ∈ ctxsOf cur t ↔ mkQuad t c ∈ cur := by
  unfold ctxsOf
  simp only [List.mem_map, List.mem_filter, beq_iff_eq]
  constructor
  · rintro ⟨q, ⟨hq, ht⟩, hc⟩
    rw [← ht, ← hc]
    exact hq
  · intro h
    exact ⟨mkQuad t c, ⟨h, rfl⟩, rfl⟩

theorem nodup_ctxsOf (hnd : cur.Nodup) (t : Triple) : (ctxsOf cur t).Nodup := by
  unfold ctxsOf
  refine List.Nodup.map_on ?_ (hnd.filter _)
  intro x hx y hy hxy
  simp only [List.mem_filter, beq_iff_eq] at hx hy
  exact quad_ext (hx.2.trans hy.2.symm) hxy

theorem mem_memTriples (cur : List Quad) (p : Pat) (tc : Triple × List Nat) :
    tc ∈ memTriples cur p ↔ (∃ q ∈ cur, p.matches q = true ∧ q.triple = tc.1) ∧ tc.2 = ctxsOf cur tc.1 := by
  unfold memTriples
  simp only [List.mem_map, mem_sdedup, List.mem_filter]
  constructor
  · rintro ⟨t, ⟨q, ⟨hq, hm⟩, ht⟩, rfl⟩
    exact ⟨⟨q, hq, hm, ht⟩, rfl⟩
  · rintro ⟨⟨q, hq, hm, ht⟩, h2⟩
    refine ⟨tc.1, ⟨q, ⟨hq, hm⟩, ht⟩, ?_⟩
    rw [← h2]

theorem memTriples_of_mem {x : Quad} (hx : x ∈ cur) (hm : p.matches x = true) :
    (x.triple, ctxsOf cur x.triple) ∈ memTriples cur p :=
  (mem_memTriples cur p _).mpr ⟨⟨x, hx, hm, rfl⟩, rfl⟩

theorem nodup_memTriples_fst (cur : List Quad) (p : Pat) : ((memTriples cur p).map (·.1)).Nodup := by
  unfold memTriples
  rw [List.map_map]
  exact (List.map_id _).symm ▸ nodup_sdedup _

theorem memTriples_isEmpty (cur : List Quad) (p : Pat) :
    (memTriples cur p).isEmpty = true ↔ ∀ q ∈ cur, p.matches q = false := by
  rw [List.isEmpty_iff]
  constructor
  · intro h q hq
    exact Bool.eq_false_iff.mpr fun hm => List.not_mem_nil (h ▸ memTriples_of_mem hq hm)
  · intro h
    cases hl : memTriples cur p with
    | nil => rfl
    | cons tc r =>
      obtain ⟨⟨q, hq, hm, _⟩, _⟩ := (mem_memTriples cur p tc).mp (hl ▸ List.mem_cons_self)
      exact absurd hm (Bool.eq_false_iff.mp (h q hq))

theorem matchPos_iff (p : Option Nat) (x : Nat) : matchPos p x = true ↔ ∀ y, p = some y → x = y := by
  cases p <;> simp [matchPos]

theorem matches_iff (p : Pat) (x : Quad) : p.matches x = true ↔
    (∀ a, p.1 = some a → x.1 = a) ∧ (∀ a, p.2.1 = some a → x.2.1 = a) ∧ (∀ a, p.2.2.1 = some a → x.2.2.1 = a) ∧
      (∀ a, p.2.2.2 = some a → x.graph = a) := by
  simp only [Pat.matches, Bool.and_eq_true, matchPos_iff, and_assoc, Quad.graph]

theorem pat_matches_self (q x : Quad) : q.pat.matches x = true ↔ x = q := by
  obtain ⟨a, b, c, d⟩ := q
  obtain ⟨a', b', c', d'⟩ := x
  simp only [matches_iff, Quad.pat, Quad.graph, Option.some.injEq, forall_eq', Prod.mk.injEq]

theorem ground_pat (h : p.ground? = some q) : p = q.pat := by
  unfold Pat.ground? at h
  split at h
  · cases h; rfl
  · cases h

theorem pat_wellNamed (q : Quad) : q.pat.wellNamed = true := rfl

theorem matches_graphOnly (g : Nat) (x : Quad) :
    Pat.matches (none, none, none, some g) x = true ↔ x.graph = g := by
  simp only [matches_iff, Option.some.injEq, forall_eq', reduceCtorEq, false_imp_iff, implies_true, true_and]

theorem matches_subjPredGraph (a b g : Nat) (x : Quad) :
    Pat.matches (some a, some b, none, some g) x = true ↔ x.1 = a ∧ x.2.1 = b ∧ x.graph = g := by
  simp only [matches_iff, Option.some.injEq, forall_eq', reduceCtorEq, false_imp_iff, implies_true, true_and]

theorem matches_graph {g : Nat} (hp : p.2.2.2 = some g) (h : p.matches q = true) :
    q.graph = g :=
  ((matches_iff p q).mp h).2.2.2 g hp

theorem anyGraph_of_none (hp : p.2.2.2 = none) : p.anyGraph = p := by
  obtain ⟨a, b, c, d⟩ := p
  subst hp
  rfl

theorem anyGraph_matches (p : Pat) (t : Triple) (c c' : Nat) :
    p.anyGraph.matches (mkQuad t c) = p.anyGraph.matches (mkQuad t c') := by
  simp only [Pat.matches, Pat.anyGraph, mkQuad, matchPos, Bool.and_true]

theorem memTriples_isEmpty_pat (cur : List Quad) (q : Quad) :
    (memTriples cur q.pat).isEmpty = true ↔ q ∉ cur := by
  simp only [memTriples_isEmpty, ← Bool.not_eq_true, pat_matches_self]
  exact ⟨fun h hq => h q hq rfl, fun h x hx e => h (e ▸ hx)⟩

theorem mem_graphTriples {g : Nat} (hp : p.2.2.2 = some g) (x : Quad) :
    x ∈ graphTriples cur p g ↔ x ∈ cur ∧ p.matches x = true := by
  unfold graphTriples
  rw [List.mem_map]
  constructor
  · rintro ⟨tc, htc, rfl⟩
    obtain ⟨⟨q, hq, hm, ht⟩, _⟩ := (mem_memTriples cur p tc).mp htc
    rw [← ht, ← matches_graph hp hm, mkQuad_triple_graph]
    exact ⟨hq, hm⟩
  · rintro ⟨hx, hm⟩
    refine ⟨_, memTriples_of_mem hx hm, ?_⟩
    rw [← matches_graph hp hm]
    rfl

theorem nodup_graphTriples (cur : List Quad) (p : Pat) (g : Nat) : (graphTriples cur p g).Nodup := by
  have := (nodup_memTriples_fst cur p).map (f := fun t => mkQuad t g) (fun _ _ h => (mkQuad_inj h).1)
  rwa [List.map_map] at this

theorem mem_cgQuads (cur : List Quad) (p : Pat) (x : Quad) :
    x ∈ cgQuads cur p ↔ x ∈ cur ∧ p.anyGraph.matches x = true := by
  unfold cgQuads
  simp only [List.mem_flatMap, List.mem_map]
  constructor
  · rintro ⟨tc, htc, c, hc, rfl⟩
    obtain ⟨⟨q, _, hm, ht⟩, h2⟩ := (mem_memTriples cur _ tc).mp htc
    rw [h2, mem_ctxsOf] at hc
    exact ⟨hc, by rw [← ht, anyGraph_matches p q.triple c q.graph]; exact hm⟩
  · rintro ⟨hx, hm⟩
    exact ⟨_, memTriples_of_mem hx hm, x.graph, (mem_ctxsOf _ _ _).mpr hx, rfl⟩

theorem nodup_cgQuads (hnd : cur.Nodup) (p : Pat) : (cgQuads cur p).Nodup := by
  unfold cgQuads
  rw [List.nodup_flatMap]
  constructor
  · intro tc htc
    rw [mem_memTriples] at htc
    rw [htc.2]
    exact List.Nodup.map (fun c c' h => (mkQuad_inj h).2) (nodup_ctxsOf hnd _)
  · -- the lists of two different triples share no quad
    have h := nodup_memTriples_fst cur p.anyGraph
    rw [List.Nodup, List.pairwise_map] at h
    refine h.imp ?_
    intro a b hab x hxa hxb
    simp only [List.mem_map] at hxa hxb
    obtain ⟨c, _, rfl⟩ := hxa
    obtain ⟨c', _, h2⟩ := hxb
    exact hab (mkQuad_inj h2).1.symm

theorem sremove_eq_filter_pat (cur : List Quad) (q : Quad) :
    sremove cur q = cur.filter (fun x => !q.pat.matches x) := by
  rw [sremove_eq_filter]
  refine List.filter_congr fun y _ => ?_
  rw [Bool.eq_iff_iff, decide_eq_true_iff, Bool.not_eq_true', ← Bool.not_eq_true, pat_matches_self]

/-- the quads whose removal `remove` logs, as the code lists them -/
def removed (cur : List Quad) (p : Pat) : List Quad :=
  match p.ground? with
  | some q => [q]
  | none =>
    match p.2.2.2 with
    | some g => if truthy g then graphTriples cur p g else cgQuads cur p
    | none => cgQuads cur p

/-- `remove` returns early: fully bound and absent -/
def absent (cur : List Quad) (p : Pat) : Bool := p.ground?.isSome && (memTriples cur p).isEmpty

theorem removeLog_eq (cur : List Quad) (log : List Entry) (p : Pat) :
    removeLog cur log p = if absent cur p then none else some (logRemovals log (removed cur p)) := by
  unfold removeLog removed absent
  cases p.ground? with
  | none =>
    simp only [Option.isSome_none, Bool.false_and, Bool.false_eq_true, if_false]
    cases p.2.2.2 with
    | none => rfl
    | some g => simp only; split <;> rfl
  | some q => rfl

theorem absent_no_match (h : absent cur p = true) :
    ∀ q ∈ cur, p.matches q = false :=
  (memTriples_isEmpty cur p).mp (Bool.and_eq_true_iff.mp h).2

/-- What the enumeration holds: the matching quads present — of every graph, when the pattern names a graph
    by a falsy identifier (`if ctxId:` fails). -/
theorem mem_removed (ha : absent cur p = false) (x : Quad) :
    x ∈ removed cur p ↔ x ∈ cur ∧ (if p.wellNamed then p else p.anyGraph).matches x = true := by
  unfold removed Pat.wellNamed
  unfold absent at ha
  cases hg : p.ground? with
  | none =>
    simp only [Option.isSome_none, Bool.false_or]
    cases hpg : p.2.2.2 with
    | none =>
      rw [if_pos rfl, ← anyGraph_of_none hpg]
      exact mem_cgQuads cur _ x
    | some g =>
      simp only
      split
      · exact mem_graphTriples hpg x
      · exact mem_cgQuads cur p x
  | some q =>
    have hpq := ground_pat hg
    subst hpq
    have hq : q ∈ cur := by
      by_contra hc
      rw [hg, (memTriples_isEmpty_pat cur q).mpr hc] at ha
      cases ha
    simp only [Option.isSome_some, Bool.true_or, if_true, List.mem_singleton, pat_matches_self]
    exact ⟨fun e => ⟨e ▸ hq, e⟩, fun e => e.2⟩

theorem nodup_removed (hnd : cur.Nodup) (p : Pat) : (removed cur p).Nodup := by
  unfold removed
  split
  · exact List.nodup_singleton _
  · split
    · split
      · exact nodup_graphTriples cur p _
      · exact nodup_cgQuads hnd p
    · exact nodup_cgQuads hnd p

end

theorem mem_curStepX_add (c : List Quad) (q x : Quad) : x ∈ curStepX c (.add q) ↔ x = q ∨ x ∈ c :=
  mem_sinsert

theorem mem_curStepX_remove (c : List Quad) (p : Pat) (x : Quad) :
    x ∈ curStepX c (.remove p) ↔ x ∈ c ∧ ¬ p.matches x = true := by
  simp only [curStepX, List.mem_filter, Bool.not_eq_true', Bool.not_eq_true]

theorem mem_curStepX_congr {c c' : List Quad} (o : XOp) (q : Quad) (h : q ∈ c ↔ q ∈ c') :
    (q ∈ curStepX c o ↔ q ∈ curStepX c' o) := by
  cases o with
  | add q' => rw [mem_curStepX_add, mem_curStepX_add, h]
  | remove p => rw [mem_curStepX_remove, mem_curStepX_remove, h]
  | bind a b o => exact h
  | pass => exact h

theorem mem_curStepX_untouched (c : List Quad) (o : XOp) (q : Quad) (h : o.touches q = false) :
    (q ∈ curStepX c o ↔ q ∈ c) := by
  cases o with
  | add q' =>
    simp only [XOp.touches, beq_eq_false_iff_ne, ne_eq] at h
    simp [mem_curStepX_add, h]
  | remove p =>
    simp only [XOp.touches] at h
    simp [mem_curStepX_remove, h]
  | bind a b o => rfl
  | pass => rfl

theorem nodup_curStepX {c : List Quad} (h : c.Nodup) (o : XOp) : (curStepX c o).Nodup := by
  cases o with
  | add q => exact nodup_sinsert h
  | remove p => exact h.filter _
  | bind a b o => exact h
  | pass => exact h

theorem mem_fold_adds {α : Type} (f : α → Quad) (l : List α) : ∀ (c : List Quad) (x : Quad),
    x ∈ (l.map (fun a => XOp.add (f a))).foldl curStepX c ↔ x ∈ l.map f ∨ x ∈ c := by
  induction l with
  | nil => intro c x; simp
  | cons a l ih =>
    intro c x
    simp only [List.map_cons, List.foldl_cons, ih, mem_curStepX_add, List.mem_cons, or_assoc, or_left_comm]

theorem mem_fold_removes (qs : List Quad) : ∀ (c : List Quad) (x : Quad),
    x ∈ (qs.map (fun q => XOp.remove q.pat)).foldl curStepX c ↔ x ∈ c ∧ x ∉ qs := by
  induction qs with
  | nil => intro c x; simp
  | cons q qs ih =>
    intro c x
    simp only [List.map_cons, List.foldl_cons, ih, mem_curStepX_remove, List.mem_cons, not_or, pat_matches_self, and_assoc]

section
variable {base sc cur cur' : List Quad} {log : List Entry}

/-- `(cur, log)` of a wrapper against a specification that keeps a snapshot: `base` the content when the
    transaction began, `sc` the content now -/
structure Sim (base sc cur : List Quad) (log : List Entry) : Prop where
  set : SetEq cur sc
  inv : Inv base cur log
  nodup : cur.Nodup

theorem Sim.begin (h : cur.Nodup) : Sim cur cur cur [] :=
  ⟨SetEq.refl _, Inv.begin (SetEq.refl _), h⟩

theorem Sim.congr {sc' : List Quad} (h : Sim base sc cur log) (e : SetEq sc sc') : Sim base sc' cur log :=
  ⟨h.set.trans e, h.inv, h.nodup⟩

theorem Sim.commit (h : Sim base sc cur log) : Sim sc sc cur [] :=
  ⟨h.set, Inv.begin h.set.symm, h.nodup⟩

theorem Sim.rollback (h : Sim base sc cur log) (hcur : cur' = replay cur log) : Sim base base cur' [] :=
  hcur ▸ ⟨replay_restores log h.inv, Inv.begin (replay_restores log h.inv).symm, nodup_replay _ _ h.nodup⟩

/-- all that is asked of a model's step: it moves the content by `curStepX` and keeps the invariant -/
theorem Sim.step {log' : List Entry} {o : XOp} (h : Sim base sc cur log)
    (hcur : cur' = curStepX cur o) (hinv : Inv base cur' log') : Sim base (curStepX sc o) cur' log' :=
  ⟨fun x => hcur ▸ mem_curStepX_congr o x (h.set x), hinv, hcur ▸ nodup_curStepX h.nodup o⟩

end

/-- the outcomes of one call through the wrapper; `same` is an early return or a pass-through -/
theorem xstep_cases (P : XW → Prop) (s : XW) (o : XOp)
    (same : curStepX s.m.cur o = s.m.cur → P s)
    (add : ∀ q, o = .add q → q ∉ s.m.cur → P ⟨s.m.add q, cancelOr s.log q .add .remove⟩)
    (remove : ∀ p, o = .remove p → absent s.m.cur p = false →
      P ⟨s.m.remove p, logRemovals s.log (removed s.m.cur p)⟩)
    (bind : ∀ a b ov, o = .bind a b ov → P ⟨s.m.bind a b ov, s.log⟩) : P (s.step o) := by
  cases o with
  | add q =>
    rw [XW.step, XW.add, addLog]
    by_cases he : (memTriples s.m.cur q.pat).isEmpty = true
    · rw [if_pos he]
      exact add q rfl ((memTriples_isEmpty_pat _ q).mp he)
    · rw [if_neg he]
      exact same (sinsert_of_mem (Decidable.of_not_not fun hq => he ((memTriples_isEmpty_pat _ q).mpr hq)))
  | remove p =>
    rw [XW.step, XW.remove, removeLog_eq]
    cases ha : absent s.m.cur p with
    | true => exact same (List.filter_eq_self.mpr fun x hx => by rw [absent_no_match ha x hx]; rfl)
    | false => exact remove p rfl ha
  | bind a b ov => exact bind a b ov rfl
  | pass => exact same rfl

theorem xstep_cur (s : XW) (o : XOp) : (s.step o).m.cur = curStepX s.m.cur o := by
  refine xstep_cases (fun w => w.m.cur = curStepX s.m.cur o) s o
    (same := Eq.symm) (add := ?_) (remove := ?_) (bind := ?_)
  · rintro q rfl _; rfl
  · rintro p rfl _; rfl
  · rintro a b ov rfl; rfl

theorem xinv_step {init : List Quad} {s : XW} (h : Inv init s.m.cur s.log) (hnd : s.m.cur.Nodup)
    (o : XOp) (ho : o.wellNamed = true) : Inv init (s.step o).m.cur (s.step o).log := by
  refine xstep_cases (fun w => Inv init w.m.cur w.log) s o
    (same := fun _ => h) (add := fun q _ hq => inv_add1 h q hq) (remove := ?_) (bind := fun _ _ _ _ => h)
  rintro p rfl ha
  refine inv_logRemovals_filter h p _ (nodup_removed hnd p) (fun x => ?_)
  -- here `wellNamed` is needed: what is logged is then what the store call removes
  rw [mem_removed ha, if_pos (show p.wellNamed = true from ho)]

theorem xinv_nodup_step {init : List Quad} {s : XW} (h : Inv init s.m.cur s.log ∧ s.m.cur.Nodup) (o : XOp)
    (ho : o.wellNamed = true) : Inv init (s.step o).m.cur (s.step o).log ∧ (s.step o).m.cur.Nodup :=
  ⟨xinv_step h.1 h.2 o ho, xstep_cur s o ▸ nodup_curStepX h.2 o⟩

theorem xw_add_b (s : XW) (q : Quad) : (s.add q).m.b = s.m.b := by
  unfold XW.add; split <;> rfl

theorem xw_remove_b (s : XW) (p : Pat) : (s.remove p).m.b = s.m.b := by
  unfold XW.remove; split <;> rfl

theorem replayMem_cur (log : List Entry) : ∀ (m : Mem), (replayMem m log).cur = replay m.cur log := by
  induction log using log_induction with
  | nil => intro m; rfl
  | add q es ih => intro m; exact ih _
  | remove q es ih => intro m; simp only [replayMem, replay, ih, Mem.remove, sremove_eq_filter_pat]

theorem replayMem_b (log : List Entry) : ∀ (m : Mem), (replayMem m log).b = m.b := by
  induction log using log_induction with
  | nil => intro m; rfl
  | add q es ih => intro m; exact ih _
  | remove q es ih => intro m; exact ih _

theorem replayMem_ctxs (log : List Entry) : ∀ (m : Mem), (∀ q, (q, Undo.add) ∈ log → q.graph ∈ m.ctxs) →
    (replayMem m log).ctxs = m.ctxs := by
  induction log using log_induction with
  | nil => intro m _; rfl
  | add q es ih =>
    intro m h
    have hm : (m.add q).ctxs = m.ctxs := sinsert_of_mem (h q (by simp))
    exact (ih (m.add q) (fun x hx => hm ▸ h x (List.mem_cons_of_mem _ hx))).trans hm
  | remove q es ih =>
    intro m h
    exact ih (m.remove q.pat) (fun x hx => h x (List.mem_cons_of_mem _ hx))

@[simp] theorem withInner_m (n : Nest) (w : XW) : (n.withInner w).m = w.m := rfl
@[simp] theorem withInner_logIn (n : Nest) (w : XW) : (n.withInner w).logIn = w.log := rfl
@[simp] theorem withInner_logOut (n : Nest) (w : XW) : (n.withInner w).logOut = n.logOut := rfl
@[simp] theorem inner_m (n : Nest) : n.inner.m = n.m := rfl
@[simp] theorem inner_log (n : Nest) : n.inner.log = n.logIn := rfl

/-- The same wrapper step on both logs: the presence tests read the same store, so both log or both return early. -/
theorem nest_op (n : Nest) (o : XOp) :
    n.cmd (.op o) = ⟨(n.inner.step o).m, (n.inner.step o).log, (XW.step ⟨n.m, n.logOut⟩ o).log⟩ := by
  cases o with
  | add q =>
    show n.add q = ⟨(n.inner.add q).m, (n.inner.add q).log, (XW.add ⟨n.m, n.logOut⟩ q).log⟩
    unfold Nest.add XW.add addLog Nest.inner
    cases (memTriples n.m.cur q.pat).isEmpty <;> rfl
  | remove p =>
    show n.remove p = ⟨(n.inner.remove p).m, (n.inner.remove p).log, (XW.remove ⟨n.m, n.logOut⟩ p).log⟩
    unfold Nest.remove XW.remove Nest.inner
    rw [removeLog_eq, removeLog_eq]
    cases absent n.m.cur p <;> rfl
  | bind a b o => rfl
  | pass => rfl

theorem nest_add_b (n : Nest) (q : Quad) : (n.add q).m.b = n.m.b :=
  (congrArg (·.m.b) (nest_op n (.add q))).trans (xw_add_b _ q)

theorem nest_remove_b (n : Nest) (p : Pat) : (n.remove p).m.b = n.m.b :=
  (congrArg (·.m.b) (nest_op n (.remove p))).trans (xw_remove_b _ p)

theorem replayInner_cur (log : List Entry) : ∀ (w : XW), (replayInner w log).m.cur = replay w.m.cur log := by
  induction log using log_induction with
  | nil => intro w; rfl
  | add q es ih =>
    intro w
    rw [replayInner, replay, ih]
    exact congrArg (replay · es) (xstep_cur w (.add q))
  | remove q es ih =>
    intro w
    rw [replayInner, replay, ih, sremove_eq_filter_pat]
    exact congrArg (replay · es) (xstep_cur w (.remove q.pat))

theorem nest_rollbackOut_cur (n : Nest) : (n.cmd .rollbackOut).m.cur = replay n.m.cur n.logOut :=
  replayInner_cur n.logOut n.inner

theorem replayInner_inv {base : List Quad} (log : List Entry) : ∀ (w : XW), Inv base w.m.cur w.log ∧ w.m.cur.Nodup →
    Inv base (replayInner w log).m.cur (replayInner w log).log ∧ (replayInner w log).m.cur.Nodup := by
  induction log using log_induction with
  | nil => intro w h; exact h
  | add q es ih =>
    intro w h
    rw [replayInner]
    exact ih _ (xinv_nodup_step h (.add q) rfl)
  | remove q es ih =>
    intro w h
    rw [replayInner]
    exact ih _ (xinv_nodup_step h (.remove q.pat) (pat_wellNamed q))

theorem replayInner_b (log : List Entry) : ∀ (w : XW), (replayInner w log).m.b = w.m.b := by
  induction log using log_induction with
  | nil => intro w; rfl
  | add q es ih => intro w; simp only [replayInner, ih, xw_add_b]
  | remove q es ih => intro w; simp only [replayInner, ih, xw_remove_b]

theorem memTriples_listed_congr {c c' : List Quad} (h : SetEq c c') (p : Pat) (t : Triple) (g : Nat) :
    (∃ cs, (t, cs) ∈ memTriples c p ∧ g ∈ cs) ↔ (∃ cs, (t, cs) ∈ memTriples c' p ∧ g ∈ cs) := by
  have key : ∀ c : List Quad, (∃ cs, (t, cs) ∈ memTriples c p ∧ g ∈ cs) ↔
      (∃ q ∈ c, p.matches q = true ∧ q.triple = t) ∧ mkQuad t g ∈ c := fun c => by
    simp only [mem_memTriples, and_assoc, exists_and_left, exists_eq_left, mem_ctxsOf]
  simp only [key, h _]

theorem memLen_congr {c c' : List Quad} (hc : c.Nodup) (hc' : c'.Nodup) (h : SetEq c c') (g : Option Nat) :
    memLen c g = memLen c' g := by
  cases g with
  | some g =>
    apply length_eq_of_setEq (hc.filter _) (hc'.filter _)
    intro x
    simp only [List.mem_filter, h x]
  | none =>
    apply length_eq_of_setEq (nodup_sdedup _) (nodup_sdedup _)
    intro x
    simp only [mem_sdedup, List.mem_map, h _]

/-- what `contexts_kept_by_rollback` folds over a history: `ofLog` is what `replayMem_ctxs` asks of a log; `c0` are the
    names known at the beginning -/
structure Known (c0 ctxs : List Nat) (cur : List Quad) (log : List Entry) : Prop where
  sub : ∀ g ∈ c0, g ∈ ctxs
  ofCur : ∀ q ∈ cur, q.graph ∈ ctxs
  ofLog : ∀ e ∈ log, e.1.graph ∈ ctxs

theorem Known.step_add {c0 ctxs : List Nat} {cur : List Quad} {log : List Entry} (h : Known c0 ctxs cur log)
    (q : Quad) (c o : Undo) : Known c0 (sinsert ctxs q.graph) (sinsert cur q) (cancelOr log q c o) := by
  refine ⟨fun g hg => mem_sinsert.mpr (Or.inr (h.sub g hg)), fun x hx => mem_sinsert.mpr ?_, fun e he => mem_sinsert.mpr ?_⟩
  · rcases mem_sinsert.mp hx with rfl | hx
    · exact Or.inl rfl
    · exact Or.inr (h.ofCur x hx)
  · rcases mem_cancelOr_sub he with he | rfl
    · exact Or.inr (h.ofLog e he)
    · exact Or.inl rfl

theorem Known.step_remove {c0 ctxs : List Nat} {cur : List Quad} {log : List Entry} (h : Known c0 ctxs cur log)
    (f : Quad → Bool) {ms : List Quad} (hms : ∀ x ∈ ms, x ∈ cur) :
    Known c0 ctxs (cur.filter f) (logRemovals log ms) :=
  ⟨h.sub, fun x hx => h.ofCur x (List.mem_filter.mp hx).1,
   fun e he => (mem_logRemovals _ _ e he).elim (h.ofLog e) (fun he => h.ofCur _ (hms _ he))⟩

theorem Known.replay {c0 ctxs : List Nat} {cur : List Quad} {log : List Entry} (h : Known c0 ctxs cur log) :
    Known c0 ctxs (replay cur log) [] :=
  ⟨h.sub, fun x hx => (mem_replay_sub _ _ _ hx).elim (h.ofCur x) (h.ofLog _), List.forall_mem_nil _⟩

theorem known_cmd {c0 : List Nat} {s : XW} (h : Known c0 s.m.ctxs s.m.cur s.log) (c : XCmd) :
    Known c0 (s.cmd c).m.ctxs (s.cmd c).m.cur (s.cmd c).log := by
  cases c with
  | op o =>
    exact xstep_cases (fun w => Known c0 w.m.ctxs w.m.cur w.log) s o
      (same := fun _ => h) (add := fun q _ _ => h.step_add q _ _)
      (remove := fun p _ ha => h.step_remove _ (fun x hx => ((mem_removed ha x).mp hx).1))
      (bind := fun _ _ _ _ => h)
  | commit => exact ⟨h.sub, h.ofCur, List.forall_mem_nil _⟩
  | rollback =>
    have hc : (replayMem s.m s.log).ctxs = s.m.ctxs := replayMem_ctxs s.log s.m (fun q hq => h.ofLog _ hq)
    have hr := h.replay
    rw [← replayMem_cur, ← hc] at hr
    exact hr

theorem wstep_cur (s : W) (o : Op) : (s.step o).cur = curStepX s.cur o.x := by
  cases o with
  | add q =>
    simp only [W.step, W.add, Op.x, curStepX]
    split
    · next h => exact (sinsert_of_mem h).symm
    · rfl
  | remove p => rfl

theorem sim_wstep {base sc : List Quad} {s : W} (h : Sim base sc s.cur s.log) (o : Op) :
    Sim base (curStepX sc o.x) (s.step o).cur (s.step o).log :=
  h.step (wstep_cur s o) (inv_step h.inv h.nodup o)

theorem sim_xstep {base sc : List Quad} {s : XW} (h : Sim base sc s.m.cur s.log) (o : XOp)
    (ho : o.wellNamed = true) : Sim base (curStepX sc o) (s.step o).m.cur (s.step o).log :=
  h.step (xstep_cur s o) (xinv_step h.inv h.nodup o ho)

theorem sim_xrollback {base sc : List Quad} {s : XW} (h : Sim base sc s.m.cur s.log) :
    Sim base base s.rollback.m.cur s.rollback.log :=
  h.rollback (replayMem_cur _ _)

theorem sim_xops {base sc : List Quad} {s : XW} (h : Sim base sc s.m.cur s.log) (os : List XOp)
    (hw : ∀ o ∈ os, o.wellNamed = true) :
    Sim base (os.foldl curStepX sc) (os.foldl XW.step s).m.cur (os.foldl XW.step s).log :=
  List.foldl_rel (r := fun (s : XW) sc => Sim base sc s.m.cur s.log) h (fun o ho _ _ hs => sim_xstep hs o (hw o ho))

theorem xrun_ops (os : List XOp) (s : XW) : s.run (os.map .op) = os.foldl XW.step s :=
  List.foldl_map

theorem xsteps_cur (os : List XOp) (s : XW) : (os.foldl XW.step s).m.cur = os.foldl curStepX s.m.cur :=
  List.foldl_rel (r := fun (s : XW) c => s.m.cur = c) rfl (fun o _ s _ hs => hs ▸ xstep_cur s o)

theorem wrun_cur (os : List Op) (s : W) : (s.run os).cur = os.foldl (fun c o => curStepX c o.x) s.cur :=
  List.foldl_rel (r := fun (s : W) c => s.cur = c) rfl (fun o _ s _ hs => hs ▸ wstep_cur s o)

end RV.C18

import RV.C15.LemmasTD
/-
  initBindings against a VALUES row for the evaluator as it runs, through OPTIONAL and UNION:
      SELECT pv { B0 . tail* } ,  tail = OPTIONAL { B [FILTER e] }  |  { B1 } UNION { B2 }.
  `SeedClaim` is carried along the tails.  The UNION tail and the closing VALUES row are bag algebra (`Pushable`,
  `join_pushable`); OPTIONAL is the one tail that is not, and goes row by row (`seed_flatMap`).
-/
namespace RV.C15

open List

variable {n : Nat}

/-- `x` binds every variable of `κ` (to whatever value): such a row contains `κ` or is incompatible with it -/
def BindsDom (κ x : Row n) : Prop := ∀ v, κ v ≠ none → x v ≠ none

theorem BindsDom.mono {κ x y : Row n} (h : BindsDom κ x) (hxy : Sup x y) : BindsDom κ y :=
  fun v hv => hxy.ne_none v (h v hv)

theorem BindsDom.sup {κ x : Row n} (hb : BindsDom κ x) (hc : compat x κ = true) : Sup κ x := fun v t hv => by
  cases hx : x v with
  | none => exact absurd hx (hb v (by simp [hv]))
  | some t' => rw [(compat_iff x κ).1 hc v t' t hx hv]

theorem compat_anti {x y κ : Row n} (hxy : Sup x y) (hc : compat y κ = true) : compat x κ = true :=
  (compat_iff x κ).2 fun v a b ha hb => (compat_iff y κ).1 hc v a b (hxy v a ha) hb

theorem sup_remember {κ x : Row n} (av : List (Fin n)) (h : Sup κ x) (hv : ∀ v, κ v ≠ none → v ∈ av) :
    Sup κ (remember av x) := by
  intro v t hk
  have : av.contains v = true := List.contains_iff_mem.mpr (hv v (by simp [hk]))
  simp only [remember, project, this, if_true]
  exact h v t hk

theorem thaw_of_sup {κ x : Row n} (h : Sup κ x) : thaw κ x = x := h.merge_left

theorem thaw_empty (x : Row n) : thaw Row.empty x = x := rfl

theorem forget_self (κ : Row n) (exc : List (Fin n)) (y : Row n) : forget κ κ exc y = y := by
  funext v
  cases hv : κ v <;> simp only [forget, hv, Option.isSome_none, Option.isNone_none, Option.isSome_some, Bool.or_true,
    Bool.true_or, if_true]

theorem ebvOpt_sup (e : Option (Ex n)) {κ y : Row n} (h : Sup κ y) : ebvOpt e κ y = ebvOpt e Row.empty y := by
  cases e with
  | none => rfl
  | some e => simp only [ebvOpt, ebv, exprView, h.merge_right, merge_empty_right]

/-- a row function that behaves alike on rows containing `κ` and whose outputs extend its input maps a seeded bag
    to the seeded bag of outputs: a row that binds `dom κ` and is incompatible with `κ` has only such extensions -/
theorem seed_flatMap (κ : Row n) {A Aκ : List (Row n)} {F1 F2 : Row n → List (Row n)}
    (hA : Aκ.Perm (joinBag A [κ])) (hb : ∀ x ∈ A, BindsDom κ x)
    (hF : ∀ x, Sup κ x → F1 x = F2 x) (hext : ∀ x y, y ∈ F2 x → Sup x y) :
    (Aκ.flatMap F1).Perm (joinBag (A.flatMap F2) [κ]) ∧ ∀ y ∈ A.flatMap F2, BindsDom κ y := by
  refine ⟨(hA.flatMap_right F1).trans (.of_eq ?_), fun y hy => ?_⟩
  · rw [joinBag_singleton_right, joinBag_singleton_right, filterMap_eq_flatMap, List.flatMap_assoc,
      List.filterMap_flatMap]
    refine congrArg List.flatten (List.map_congr_left fun x hx => ?_)
    cases hc : compat x κ with
    | false =>
      have : ∀ y ∈ F2 x, joinRow y κ = none := fun y hy => by
        cases hy' : compat y κ with
        | false => exact joinRow_of_not_compat hy'
        | true => rw [compat_anti (hext x y hy) hy'] at hc; cases hc
      rw [joinRow_of_not_compat hc, List.filterMap_eq_nil_iff.2 this]; rfl
    | true =>
      have hs := (hb x hx).sup hc
      rw [joinRow_of_sup hs, Option.toList_some, List.flatMap_singleton, hF x hs]
      -- the outputs extend `x`, hence contain `κ`
      exact (filterMap_eq_self_of_forall fun y hy => joinRow_of_sup (hs.trans (hext x y hy))).symm
  · obtain ⟨x, hx, hyx⟩ := List.mem_flatMap.mp hy
    exact (hb x hx).mono (hext x y hyx)

/-- OPTIONAL { B [FILTER e] } after a part whose `_vars` cover `dom κ`: on a row that contains `κ` the body of
    `evalLeftJoin` does the same with `initBindings = κ` pushed as `ctx` and with no initBindings at all -/
theorem ljRow_seed {κ : Row n} (own av : List (Fin n)) (e : Option (Ex n)) {B : Row n → List (Row n)}
    (hB : ∀ ν y, y ∈ B ν → Sup ν y) (hav : ∀ v, κ v ≠ none → v ∈ av) {x : Row n} (hx : Sup κ x) :
    ljRow κ κ own av e B x = ljRow Row.empty Row.empty own av e B x := by
  have hr := sup_remember av hx hav
  have h1 : ((B x).filter fun y => ebvOpt e κ (forget κ κ own y)) =
      (B x).filter fun y => ebvOpt e Row.empty (forget Row.empty Row.empty own y) :=
    List.filter_congr fun y hy => by rw [forget_self, forget_self]; exact ebvOpt_sup e (hx.trans (hB x y hy))
  have h2 : ((B (remember av x)).any fun y => ebvOpt e κ y) = (B (remember av x)).any fun y => ebvOpt e Row.empty y :=
    any_congr_mem fun y hy => ebvOpt_sup e (hr.trans (hB _ y hy))
  -- after these rewritings the two sides differ by `thaw Row.empty _` only, which unfolds
  simp only [ljRow, thaw_of_sup hx, thaw_of_sup hr, h1, h2]
  rfl

theorem ljRow_ext {init μ : Row n} {own av : List (Fin n)} {e : Option (Ex n)} {B : Row n → List (Row n)}
    {x y : Row n} (h : y ∈ ljRow init μ own av e B x) : Sup x y := by
  unfold ljRow at h
  split at h
  · split at h
    · cases h
    · cases List.mem_singleton.1 h; exact Sup.refl _
  · obtain ⟨y', _, rfl⟩ := List.mem_map.mp h
    exact sup_merge x y'

/-- `B` under pushed bindings `ν` is `B` evaluated bare, joined with `ν`, whatever the initBindings: what makes pushing
    bindings into `B` (the lazy join) the same as joining afterwards (`_join`) -/
def Pushable (ds : DSet) (g : Store) (B : P n) : Prop :=
  ∀ init ν, (evalTD ds init B g ν).Perm (joinBag [ν] (evalTD ds Row.empty B g Row.empty))

theorem Pushable.bgp (ds : DSet) (gl : List Triple) (ts : List (TP n)) : Pushable ds (graphStore gl) (.bgp ts) :=
  fun _ ν => by
    simp only [evalTD]
    rw [evalBGP_graph_seed]
    exact joinBag_perm (.refl _)
      (evalBGP_graph_perm gl ((dynOrder_perm ν ts).trans (dynOrder_perm Row.empty ts).symm) Row.empty)

theorem Pushable.union {ds : DSet} {g : Store} {a b : P n} (ha : Pushable ds g a) (hb : Pushable ds g b) :
    Pushable ds g (.union a b) := fun init ν => by
  have ha' := ha init ν
  have hb' := hb init ν
  rw [joinBag_singleton_left] at ha' hb'
  -- a UNION is `++`, and `[ν] ⋈ ·` distributes over it
  simp only [evalTD, joinBag_singleton_left, List.filterMap_append]
  exact ha'.append hb'

theorem evalTD_values_empty (ds : DSet) (g : Store) (rows : List (Row n)) :
    evalTD ds Row.empty (.values rows) g Row.empty = rows := by
  rw [evalTD_values, joinBag_singleton_left]
  exact filterMap_eq_self_of_forall fun r _ => joinRow_empty_left r

theorem Pushable.values (ds : DSet) (g : Store) (rows : List (Row n)) : Pushable ds g (.values rows) := fun init ν => by
  rw [evalTD_values_empty, evalTD_values]

/-- a join whose right operand is pushable is `_join` with that operand's bare bag, evaluated lazily or not (where the
    pushed bindings are the initBindings, which every row of the left operand contains) -/
theorem join_pushable {ds : DSet} {g : Store} {κ : Row n} {A B : P n} (hB : Pushable ds g B)
    (hA : ∀ x ∈ evalTD ds κ A g κ, Sup κ x) :
    (evalTD ds κ (.join A B) g κ).Perm (joinBag (evalTD ds κ A g κ) (evalTD ds Row.empty B g Row.empty)) := by
  rw [evalTD_join]
  split
  · -- lazy: `B` under `x` is `[x] ⋈ B`, whose rows contain `x`: merging them with `x` changes nothing
    rw [joinBag_eq]
    refine perm_flatMap_congr fun x hx => ?_
    rw [thaw_of_sup (hA x hx), ← joinBag_singleton_left]
    have hm : ∀ y ∈ joinBag [x] (evalTD ds Row.empty B g Row.empty), merge x y = y := fun y hy => by
      rw [joinBag_singleton_left, List.mem_filterMap] at hy
      obtain ⟨b, _, h⟩ := hy
      exact (joinRow_spec h).1.merge_left
    exact ((hB κ x).map _).trans (.of_eq ((List.map_congr_left hm).trans (List.map_id _)))
  · -- `_join`: `A ⋈ ([κ] ⋈ B) = (A ⋈ [κ]) ⋈ B = A ⋈ B`
    refine (joinBag_perm (.refl _) (hB κ κ)).trans (.of_eq ?_)
    rw [← joinBag_assoc, joinBag_singleton_right]
    exact congrArg (joinBag · _) (filterMap_eq_self_of_forall fun x hx => joinRow_of_sup (hA x hx))

theorem joinBag_right_comm (A B C : List (Row n)) : (joinBag (joinBag A B) C).Perm (joinBag (joinBag A C) B) := by
  rw [joinBag_assoc, joinBag_assoc]
  exact joinBag_perm (.refl A) (joinBag_comm B C)

/-- Carried along the tails: under `κ` the group gives its bare bag joined with `[κ]`; every row of the *bare* bag
    binds `dom κ` (what lets an OPTIONAL tail through); `dom κ ⊆ _vars` (the OPTIONAL re-check keeps `κ`). -/
structure SeedClaim (ds : DSet) (g : Store) (κ : Row n) (G : P n) : Prop where
  seed : (evalTD ds κ G g κ).Perm (joinBag (evalTD ds Row.empty G g Row.empty) [κ])
  binds : ∀ x ∈ evalTD ds Row.empty G g Row.empty, BindsDom κ x
  vars : ∀ v, κ v ≠ none → v ∈ G.vars

theorem SeedClaim.bgp (ds : DSet) (gl : List Triple) (κ : Row n) (ts : List (TP n))
    (h : ∀ v, κ v ≠ none → v ∈ bgpVars ts) : SeedClaim ds (graphStore gl) κ (.bgp ts) :=
  ⟨(Pushable.bgp ds gl ts κ κ).trans (joinBag_comm _ _), fun x hx v hv => by
    -- a solution binds every variable of the patterns, in whatever order they were taken
    have hv' : v ∈ bgpVars (dynOrder Row.empty ts) := (bgpVars_perm (dynOrder_perm Row.empty ts) v).2 (h v hv)
    exact ((evalBGP_graph_grows hx).dom v).2 (.inr hv'), h⟩

theorem SeedClaim.opt {ds : DSet} {gl : List Triple} {κ : Row n} {G : P n} (c : SeedClaim ds (graphStore gl) κ G)
    (ts : List (TP n)) (e : Option (Ex n)) : SeedClaim ds (graphStore gl) κ (.leftJoin G (.bgp ts) e) := by
  -- by definition (`evalTD_leftJoin`) the OPTIONAL is the `flatMap` of `ljRow` over the bag of `G`; `B`: the BGP, unfolded
  have key := seed_flatMap κ c.seed c.binds
    (fun x hx => ljRow_seed (G.vars ++ (P.bgp ts).vars) G.vars e
      (B := fun ν => evalBGP (graphStore gl) ν (dynOrder ν ts))
      (fun _ _ hy => (evalBGP_graph_grows hy).sup) c.vars hx)
    (fun _ _ hy => ljRow_ext hy)
  exact ⟨key.1, key.2, fun v hv => List.mem_append_left _ (c.vars v hv)⟩

theorem SeedClaim.sup {ds : DSet} {g : Store} {κ : Row n} {G : P n} (c : SeedClaim ds g κ G) :
    ∀ x ∈ evalTD ds κ G g κ, Sup κ x := fun x hx => by
  have := c.seed.mem_iff.1 hx
  rw [joinBag_singleton_right, List.mem_filterMap] at this
  obtain ⟨a, _, h⟩ := this
  exact (joinRow_spec h).2.1

theorem SeedClaim.join {ds : DSet} {g : Store} {κ : Row n} {G B : P n} (c : SeedClaim ds g κ G)
    (hB : Pushable ds g B) : SeedClaim ds g κ (.join G B) := by
  have h0 := join_pushable (A := G) hB fun x _ => Sup.empty x
  refine ⟨?_, fun y hy => ?_, fun v hv => List.mem_append_left _ (c.vars v hv)⟩
  · -- (G∅ ⋈ [κ]) ⋈ B∅  ~  (G∅ ⋈ B∅) ⋈ [κ]
    exact ((join_pushable hB c.sup).trans (joinBag_perm c.seed (.refl _))).trans
      ((joinBag_right_comm _ _ _).trans (joinBag_perm h0.symm (.refl _)))
  · have := h0.mem_iff.1 hy
    simp only [joinBag_eq, List.mem_flatMap, List.mem_filterMap] at this
    obtain ⟨a, ha, b, _, hab⟩ := this
    exact (c.binds a ha).mono (joinRow_spec hab).1

theorem values_join (ds : DSet) (g : Store) (κ : Row n) (G : P n) :
    (evalTD ds Row.empty (.join G (.values [κ])) g Row.empty).Perm (joinBag (evalTD ds Row.empty G g Row.empty) [κ]) := by
  have := join_pushable (A := G) (Pushable.values ds g [κ]) fun x _ => Sup.empty x
  rwa [evalTD_values_empty] at this

/-- what may follow the outermost BGP of the group -/
inductive Tail (n : Nat)
  | opt (ts : List (TP n)) (e : Option (Ex n))      -- OPTIONAL { ts [FILTER e] }
  | uni (ts1 ts2 : List (TP n))                     -- { ts1 } UNION { ts2 }

/-- `translateGroupGraphPattern`: left-deep -/
def Tail.apply (G : P n) : Tail n → P n
  | .opt ts e => .leftJoin G (.bgp ts) e
  | .uni a b => .join G (.union (.bgp a) (.bgp b))

def buildT (ts0 : List (TP n)) (tails : List (Tail n)) : P n := tails.foldl Tail.apply (.bgp ts0)

/-- every join of the tree is evaluated lazily: at most one UNION tail (a later one joins a part that already
    contains a join, and is evaluated by `_join`) -/
def tailsLazy : Bool → List (Tail n) → Bool
  | _, [] => true
  | nj, .opt _ _ :: r => tailsLazy nj r
  | nj, .uni _ _ :: r => nj && tailsLazy false r

theorem SeedClaim.allTails {ds : DSet} {gl : List Triple} {κ : Row n} (tails : List (Tail n)) :
    ∀ G : P n, SeedClaim ds (graphStore gl) κ G → SeedClaim ds (graphStore gl) κ (tails.foldl Tail.apply G) := by
  induction tails with
  | nil => exact fun _ c => c
  | cons t r ih =>
    intro G c
    cases t with
    | opt ts e => exact ih _ (c.opt ts e)
    | uni a b => exact ih _ (c.join ((Pushable.bgp ds gl a).union (Pushable.bgp ds gl b)))

/-- `SeedClaim.allTails` is this statement without the laziness hypothesis, which the proof does not need -/
theorem SeedClaim.tails {ds : DSet} {gl : List Triple} {κ : Row n} :
    ∀ (tails : List (Tail n)) (G : P n), SeedClaim ds (graphStore gl) κ G → tailsLazy G.noJoin tails = true →
      SeedClaim ds (graphStore gl) κ (tails.foldl Tail.apply G) :=
  fun tails G c _ => SeedClaim.allTails tails G c

end RV.C15

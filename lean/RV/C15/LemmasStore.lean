import RV.C15.Lemmas
/-
  Each store model answers `triples(pattern)` with every matching triple exactly once (`ExactlyOnce`), provided its
  indexes hold the same set of triples; two such stores over the same set answer alike, and each answers like a graph.
-/
namespace RV.C15

open List

theorem ExactlyOnce.nodup {st : Store} {d : List Triple} (h : ExactlyOnce st d) (pat : Pat) : (st pat).Nodup := (h pat).1

theorem ExactlyOnce.mem_iff {st : Store} {d : List Triple} (h : ExactlyOnce st d) (pat : Pat) (t : Triple) :
    t ∈ st pat ↔ t ∈ d ∧ pat.matches t = true := (h pat).2 t

theorem matches_top (t : Triple) : Pat.matches (none, none, none) t = true := rfl

theorem mem_filter_matches_top (g : List Triple) (t : Triple) :
    t ∈ g.filter (Pat.matches (none, none, none)) ↔ t ∈ g := by
  rw [List.mem_filter, matches_top, and_iff_left rfl]

theorem matches_full_iff (s p o : Term) (t : Triple) :
    Pat.matches (some s, some p, some o) t = true ↔ t = (s, p, o) := by
  obtain ⟨a, b, c⟩ := t
  simp [Pat.matches, matchPos, Prod.ext_iff, and_assoc]

/-- the indexes of a `Memory` store all hold the triple set `d` -/
structure Mem.Holds (m : Mem) (d : List Triple) : Prop where
  nodup : d.Nodup
  all : m.all.Perm d
  spo : m.spo.Perm d
  pos : m.pos.Perm d
  osp : m.osp.Perm d

theorem exactlyOnce_filter_index {idx d : List Triple} (hn : d.Nodup) (hp : idx.Perm d) (pat : Pat) :
    (idx.filter pat.matches).Nodup ∧ ∀ t, t ∈ idx.filter pat.matches ↔ (t ∈ d ∧ pat.matches t = true) := by
  refine ⟨((hp.nodup_iff).2 hn).filter _, fun t => ?_⟩
  rw [List.mem_filter, hp.mem_iff]

theorem Mem.exactlyOnce {m : Mem} {d : List Triple} (h : m.Holds d) : ExactlyOnce m.triples d := by
  intro pat
  rcases pat with ⟨_ | s, _ | p, _ | o⟩
  · -- (?, ?, ?): the per-context dump
    refine ⟨(h.all.nodup_iff).2 h.nodup, fun t => ?_⟩
    simp only [Mem.triples, h.all.mem_iff, matches_top, and_true]
  · exact exactlyOnce_filter_index h.nodup h.osp _   -- (?, ?, o)
  · exact exactlyOnce_filter_index h.nodup h.pos _   -- (?, p, ?)
  · exact exactlyOnce_filter_index h.nodup h.pos _   -- (?, p, o)
  · exact exactlyOnce_filter_index h.nodup h.spo _   -- (s, ?, ?)
  · exact exactlyOnce_filter_index h.nodup h.spo _   -- (s, ?, o)
  · exact exactlyOnce_filter_index h.nodup h.spo _   -- (s, p, ?)
  · -- (s, p, o): one dictionary look-up
    simp only [Mem.triples]
    refine ⟨by split <;> simp, fun t => ?_⟩
    rw [matches_full_iff, ← h.spo.mem_iff]
    split
    · next hm => exact ⟨fun e => by cases List.mem_singleton.1 e; exact ⟨hm, rfl⟩, fun e => e.2 ▸ mem_cons_self⟩
    · next hm => exact ⟨fun e => (nomatch e), fun e => (hm (e.2 ▸ e.1)).elim⟩

/-- the indexes of a `SimpleMemory` store all hold the triple set `d` -/
structure SMem.Holds (m : SMem) (d : List Triple) : Prop where
  nodup : d.Nodup
  spo : m.spo.Perm d
  pos : m.pos.Perm d
  osp : m.osp.Perm d

theorem SMem.exactlyOnce {m : SMem} {d : List Triple} (h : m.Holds d) : ExactlyOnce m.triples d := by
  intro pat
  rcases pat with ⟨_ | s, _ | p, _ | o⟩
  · -- (?, ?, ?)
    refine ⟨(h.spo.nodup_iff).2 h.nodup, fun t => ?_⟩
    simp only [SMem.triples, h.spo.mem_iff, matches_top, and_true]
  · exact exactlyOnce_filter_index h.nodup h.osp _   -- (?, ?, o)
  · exact exactlyOnce_filter_index h.nodup h.pos _   -- (?, p, ?)
  · exact exactlyOnce_filter_index h.nodup h.pos _   -- (?, p, o)
  · exact exactlyOnce_filter_index h.nodup h.spo _   -- (s, ?, ?)
  · exact exactlyOnce_filter_index h.nodup h.spo _   -- (s, ?, o)
  · exact exactlyOnce_filter_index h.nodup h.spo _   -- (s, p, ?)
  · exact exactlyOnce_filter_index h.nodup h.spo _   -- (s, p, o)

theorem aud_exactlyOnce {st : Store} {d : List Triple} (h : ExactlyOnce st d) :
    ExactlyOnce (audTriples st) d := h

theorem graphStore_exactlyOnce {g : List Triple} (h : g.Nodup) : ExactlyOnce (graphStore g) g := by
  intro pat
  exact ⟨h.filter _, fun t => by simp [graphStore, List.mem_filter]⟩

theorem holds_iff {st : Store} {d : List Triple} (h : ExactlyOnce st d) (t : Triple) :
    holds st t = true ↔ t ∈ d := by
  obtain ⟨a, b, c⟩ := t
  simp only [holds, Bool.not_eq_true', List.isEmpty_eq_false_iff_exists_mem]
  constructor
  · rintro ⟨x, hx⟩
    have := (h.mem_iff _ x).1 hx
    rw [matches_full_iff] at this
    obtain ⟨h1, e⟩ := this
    subst e
    exact h1
  · intro hd
    exact ⟨(a, b, c), (h.mem_iff _ _).2 ⟨hd, (matches_full_iff a b c _).2 rfl⟩⟩

/-- `seen` stands for "held by an earlier member"; the loop extends it by the member just visited -/
theorem aggFrom_spec (pat : Pat) (ms : List (Store × List Triple)) (hms : ∀ x ∈ ms, ExactlyOnce x.1 x.2) :
    ∀ (E : List Store) (seen : Triple → Prop), (∀ t, (E.any fun e => holds e t) = true ↔ seen t) →
      (aggFrom E (ms.map (·.1)) pat).Nodup ∧
      ∀ t, t ∈ aggFrom E (ms.map (·.1)) pat ↔ (t ∈ ms.flatMap (·.2) ∧ ¬ seen t ∧ pat.matches t = true) := by
  induction ms with
  | nil => exact fun _ _ _ => ⟨.nil, fun t => ⟨fun h => (nomatch h), fun h => (nomatch h.1)⟩⟩
  | cons m ms ih =>
    intro E seen hE
    have hm := hms m mem_cons_self
    obtain ⟨hn, hmem⟩ := ih (fun x hx => hms x (mem_cons_of_mem _ hx)) (E ++ [m.1]) (fun t => seen t ∨ t ∈ m.2)
      fun t => by rw [List.any_append, Bool.or_eq_true, hE t, List.any_cons, List.any_nil, Bool.or_false, holds_iff hm t]
    have hfst : ∀ t, t ∈ (m.1 pat).filter (fun t => !(E.any fun e => holds e t)) ↔
        (t ∈ m.2 ∧ pat.matches t = true) ∧ ¬ seen t := fun t => by
      rw [List.mem_filter, hm.mem_iff pat t, Bool.not_eq_true', ← Bool.not_eq_true, hE t]
    refine ⟨List.nodup_append.2 ⟨(hm.nodup pat).filter _, hn, fun a ha b hb e => ?_⟩, fun t => ?_⟩
    · subst e
      exact ((hmem a).1 hb).2.1 (.inr ((hfst a).1 ha).1.1)
    · show t ∈ _ ++ _ ↔ _
      rw [List.mem_append, hfst t, hmem t, List.flatMap_cons, List.mem_append]
      constructor
      · rintro (⟨⟨h1, h2⟩, h3⟩ | ⟨h1, h2, h3⟩)
        · exact ⟨.inl h1, h3, h2⟩
        · exact ⟨.inr h1, fun h => h2 (.inl h), h3⟩
      · rintro ⟨h1, h2, h3⟩
        by_cases hm' : t ∈ m.2
        · exact .inl ⟨⟨hm', h3⟩, h2⟩
        · exact .inr ⟨h1.resolve_left hm', fun h => h.elim h2 hm', h3⟩

theorem agg_exactlyOnce (ms : List (Store × List Triple)) (h : ∀ x ∈ ms, ExactlyOnce x.1 x.2)
    (d : List Triple) (hd : ∀ t, t ∈ d ↔ ∃ x ∈ ms, t ∈ x.2) :
    ExactlyOnce (aggTriples (ms.map (·.1))) d := fun pat => by
  have := aggFrom_spec pat ms h [] (fun _ => False) fun t => by simp only [List.any_nil, Bool.false_eq_true]
  exact ⟨this.1, fun t => by rw [aggTriples, this.2 t, hd t, List.mem_flatMap, not_false_eq_true, true_and]⟩

theorem exactlyOnce_perm {st1 st2 : Store} {d1 d2 : List Triple}
    (h1 : ExactlyOnce st1 d1) (h2 : ExactlyOnce st2 d2) (e : SetEq d1 d2) (pat : Pat) :
    (st1 pat).Perm (st2 pat) := by
  refine (List.perm_ext_iff_of_nodup (h1.nodup pat) (h2.nodup pat)).2 fun t => ?_
  rw [h1.mem_iff pat t, h2.mem_iff pat t, e t]

/-- the list the store answers like is its own dump for the all-wildcard pattern: `d` may repeat a triple, the dump
    holds each once -/
theorem exactlyOnce_graphLike {st : Store} {d : List Triple} (h : ExactlyOnce st d) :
    GraphLike st (st (none, none, none)) :=
  exactlyOnce_perm h (graphStore_exactlyOnce (h.nodup _)) fun t => by rw [h.mem_iff _ t, matches_top, and_iff_left rfl]

end RV.C15

import RV.C15.LemmasTD
/-
  The top-down evaluator is equivariant under every injective renaming of the variables (query, initBindings and
  pushed bindings renamed together) — as lists.
-/
namespace RV.C15

open List

variable {n m : Nat}

/-- the renamed query: variables through `ρ.f`, the rows of a VALUES block through `ρ.push` -/
def Ren.p (ρ : Ren n m) : P n → P m
  | .bgp ts => .bgp (ts.map ρ.tp)
  | .join a b => .join (ρ.p a) (ρ.p b)
  | .leftJoin a b e => .leftJoin (ρ.p a) (ρ.p b) (e.map ρ.ex)
  | .union a b => .union (ρ.p a) (ρ.p b)
  | .minus a b => .minus (ρ.p a) (ρ.p b)
  | .filter e p => .filter (ρ.ex e) (ρ.p p)
  | .extend p v e => .extend (ρ.p p) (ρ.f v) (ρ.pt e)
  | .graph t p => .graph (ρ.pt t) (ρ.p p)
  | .values rows => .values (rows.map ρ.push)
  | .sub pv p => .sub (pv.map ρ.f) (ρ.p p)

theorem Ren.ptVars_pt (ρ : Ren n m) (t : PT n) : ptVars (ρ.pt t) = (ptVars t).map ρ.f := by
  cases t <;> rfl

theorem Ren.tpVars_tp (ρ : Ren n m) (t : TP n) : tpVars (ρ.tp t) = (tpVars t).map ρ.f := by
  simp only [tpVars, Ren.tp, ρ.ptVars_pt, List.map_append]

theorem Ren.bgpVars_map (ρ : Ren n m) (ts : List (TP n)) : bgpVars (ts.map ρ.tp) = (bgpVars ts).map ρ.f := by
  simp only [bgpVars, List.flatMap_map, List.map_flatMap, ρ.tpVars_tp]

theorem Ren.vars_p (ρ : Ren n m) (q : P n) : (ρ.p q).vars = q.vars.map ρ.f := by
  induction q <;> simp only [Ren.p, P.vars, ρ.bgpVars_map, ρ.ptVars_pt, List.map_append, List.map_cons, List.map_nil, *]

theorem Ren.noJoin_p (ρ : Ren n m) (q : P n) : (ρ.p q).noJoin = q.noJoin := by
  induction q <;> simp only [Ren.p, P.noJoin, *]

theorem insertBy_map {α β : Type} (f : α → β) (le : α → α → Bool) (le' : β → β → Bool)
    (h : ∀ a b, le' (f a) (f b) = le a b) (x : α) (l : List α) :
    insertBy le' (f x) (l.map f) = (insertBy le x l).map f := by
  induction l with
  | nil => rfl
  | cons y ys ih =>
    simp only [List.map_cons, insertBy, h]
    split
    · rfl
    · simp only [List.map_cons, ih]

theorem sortBy_map {α β : Type} (f : α → β) (le : α → α → Bool) (le' : β → β → Bool)
    (h : ∀ a b, le' (f a) (f b) = le a b) (l : List α) : sortBy le' (l.map f) = (sortBy le l).map f := by
  induction l with
  | nil => rfl
  | cons x xs ih =>
    simp only [sortBy, List.map_cons, List.foldr_cons] at ih ⊢
    rw [ih]
    exact insertBy_map f le le' h x _

theorem Ren.unboundCount_push (ρ : Ren n m) (μ : Row n) (t : TP n) :
    unboundCount (ρ.push μ) (ρ.tp t) = unboundCount μ t := by
  simp only [unboundCount, Ren.tp, ρ.look_push]

theorem Ren.dynOrder_push (ρ : Ren n m) (μ : Row n) (ts : List (TP n)) :
    dynOrder (ρ.push μ) (ts.map ρ.tp) = (dynOrder μ ts).map ρ.tp := by
  unfold dynOrder
  exact sortBy_map ρ.tp _ _ (fun a b => by simp only [ρ.unboundCount_push]) ts

theorem Ren.forget_push (ρ : Ren n m) (init μ : Row n) (exc : List (Fin n)) (y : Row n) :
    forget (ρ.push init) (ρ.push μ) (exc.map ρ.f) (ρ.push y) = ρ.push (forget init μ exc y) :=
  ρ.eq_push (fun v => by simp only [forget, ρ.push_f, ρ.contains_map]) fun w hw => by
    simp only [forget, ρ.push_off _ hw, ite_self]

theorem Ren.remember_push (ρ : Ren n m) (vs : List (Fin n)) (y : Row n) :
    remember (vs.map ρ.f) (ρ.push y) = ρ.push (remember vs y) := ρ.project_push vs y

theorem Ren.thaw_push (ρ : Ren n m) (init a : Row n) : thaw (ρ.push init) (ρ.push a) = ρ.push (thaw init a) :=
  ρ.merge_push init a

theorem Ren.ebv_push (ρ : Ren n m) (e : Ex n) (init b : Row n) :
    ebv (ρ.ex e) (ρ.push init) (ρ.push b) = ebv e init b := by
  simp only [ebv, exprView, ρ.merge_push, ρ.ex_eval]

theorem Ren.ebvOpt_push (ρ : Ren n m) (e : Option (Ex n)) (init b : Row n) :
    ebvOpt (e.map ρ.ex) (ρ.push init) (ρ.push b) = ebvOpt e init b := by
  cases e with
  | none => rfl
  | some e => exact ρ.ebv_push e init b

theorem Ren.disjointDom_push (ρ : Ren n m) (a b : Row n) :
    disjointDom (ρ.push a) (ρ.push b) = disjointDom a b := by
  rw [Bool.eq_iff_iff]
  simp only [disjointDom, List.all_eq_true, List.mem_finRange, true_imp_iff]
  exact ρ.forall_push a b (p := fun x y => (!(x.isSome && y.isSome)) = true) rfl

theorem withGraphName_eq_assign (t : PT n) (nm : Term) (x : Row n) : withGraphName t nm x = assign none t nm x := by
  cases t <;> rfl

theorem Ren.withGraphName_push (ρ : Ren n m) (t : PT n) (nm : Term) (x : Row n) :
    withGraphName (ρ.pt t) nm (ρ.push x) = (withGraphName t nm x).map ρ.push := by
  rw [withGraphName_eq_assign, withGraphName_eq_assign, ρ.assign_push]

theorem Ren.ljRow_push (ρ : Ren n m) (init μ : Row n) (own av : List (Fin n)) (e : Option (Ex n))
    (B : Row n → List (Row n)) (B' : Row m → List (Row m)) (hB : ∀ ν, B' (ρ.push ν) = (B ν).map ρ.push) (x : Row n) :
    ljRow (ρ.push init) (ρ.push μ) (own.map ρ.f) (av.map ρ.f) (e.map ρ.ex) B' (ρ.push x) =
      (ljRow init μ own av e B x).map ρ.push := by
  simp only [ljRow, ρ.thaw_push, ρ.remember_push, hB, List.filter_map, List.isEmpty_map, List.any_map, Function.comp_def,
    ρ.forget_push, ρ.ebvOpt_push, List.map_map, ρ.merge_push, apply_ite (List.map ρ.push), List.map_nil, List.map_cons]

theorem Ren.evalTD_push (ρ : Ren n m) (ds : DSet) (init : Row n) (q : P n) :
    ∀ (g : Store) (μ : Row n),
      evalTD ds (ρ.push init) (ρ.p q) g (ρ.push μ) = (evalTD ds init q g μ).map ρ.push := by
  induction q with
  | bgp ts =>
    intro g μ
    simp only [Ren.p, evalTD, ρ.dynOrder_push]
    exact ρ.evalBGP_push g _ μ
  | join a b iha ihb =>
    intro g μ
    simp only [Ren.p, evalTD_join, ρ.noJoin_p, iha, ihb, apply_ite (List.map ρ.push), ← ρ.joinBag_push, List.flatMap_map,
      List.map_flatMap, ρ.thaw_push, List.map_map, Function.comp_def, ρ.merge_push]
  | leftJoin a b e iha ihb =>
    intro g μ
    rw [evalTD_leftJoin, Ren.p, evalTD_leftJoin, iha, List.flatMap_map, List.map_flatMap, ρ.vars_p, ρ.vars_p,
      ← List.map_append]
    congr 1
    funext x
    exact ρ.ljRow_push init μ _ _ e _ _ (fun ν => ihb g ν) x
  | union a b iha ihb =>
    intro g μ
    simp only [Ren.p, evalTD, iha, ihb, List.map_append]
  | minus a b iha ihb =>
    intro g μ
    simp only [Ren.p, evalTD, iha, ihb, ρ.vars_p, List.filter_map, List.map_map, List.all_map, Function.comp_def,
      ρ.remember_push, ρ.compat_push, ρ.disjointDom_push]
  | filter e p ih =>
    intro g μ
    simp only [Ren.p, evalTD, ih, ρ.vars_p, List.filter_map, Function.comp_def, ρ.forget_push, ρ.ebv_push]
  | extend p v e ih =>
    intro g μ
    -- `p.vars.map ρ.f ++ [ρ.f v]` is folded back into `(p.vars ++ [v]).map ρ.f`, the form `forget_push` wants
    simp only [Ren.p, evalTD, ih, ρ.vars_p, List.filterMap_map, List.map_filterMap, Function.comp_def,
      ← List.map_singleton (f := ρ.f), ← List.map_append, ρ.forget_push, exprView, ρ.merge_push, ρ.look_push, ρ.push_f]
    refine congrArg (List.filterMap · _) (funext fun c => ?_)
    cases (merge (forget init μ (p.vars ++ [v]) c) init).look e with
    | none => rfl
    | some t =>
      cases merge c init v with
      | none => simp only [Option.map_some, ρ.push_set]
      | some t' => by_cases h : t' = t <;> simp only [h, if_true, if_false, Option.map_some, Option.map_none, ρ.push_set]
  | graph t p ih =>
    intro g μ
    simp only [Ren.p, evalTD, ρ.look_push]
    cases μ.look t with
    | none =>
      simp only [ih, List.map_flatMap, List.filterMap_map, List.map_filterMap, Function.comp_def,
        ρ.withGraphName_push]
    | some nm =>
      simp only []
      cases lookupGraph ds.named nm with
      | none => rfl
      | some gs => exact ih gs μ
  | values rows =>
    intro g μ
    rw [Ren.p, evalTD_values, evalTD_values]
    exact ρ.joinBag_push [μ] rows
  | sub pv p ih =>
    intro g μ
    simp only [Ren.p, evalTD, ih, ← ρ.joinBag_push, List.map_map, Function.comp_def, ρ.project_push, List.map_cons,
      List.map_nil]

end RV.C15

import RV.C15.Model
/-
  Bags (lists modulo `List.Perm`), the join of rows and of bags, a pattern match as a join, a basic graph pattern over a
  graph as a join; from a graph to the stores that answer like it (`GraphLike.transfer`: with `exactlyOnce_graphLike` of
  LemmasStore the way the theorems over `ExactlyOnce` go that are proved over a graph first); the two re-orderings are
  permutations.
-/
namespace RV.C15

open List

theorem perm_flatMap_congr {α β : Type} {l : List α} {f g : α → List β}
    (h : ∀ a ∈ l, (f a).Perm (g a)) : (l.flatMap f).Perm (l.flatMap g) := by
  induction l with
  | nil => exact .refl _
  | cons a l ih =>
    simp only [List.flatMap_cons]
    exact (h a mem_cons_self).append (ih fun b hb => h b (mem_cons_of_mem _ hb))

theorem perm_flatMap {α β : Type} {l l' : List α} {f g : α → List β} (hl : l.Perm l')
    (h : ∀ a ∈ l, (f a).Perm (g a)) : (l.flatMap f).Perm (l'.flatMap g) :=
  (perm_flatMap_congr h).trans (hl.flatMap_right g)

theorem flatMap_append_perm {α β : Type} (l : List α) (f g : α → List β) :
    (l.flatMap fun x => f x ++ g x).Perm (l.flatMap f ++ l.flatMap g) := by
  induction l with
  | nil => exact .refl _
  | cons a l ih =>
    simp only [List.flatMap_cons, List.append_assoc]
    -- f a ++ (g a ++ R)  ~  f a ++ (F ++ (g a ++ G))   with R ~ F ++ G
    exact ((ih.append_left _).trans (perm_append_comm_assoc _ _ _)).append_left _

theorem flatMap_swap {α β γ : Type} (l1 : List α) (l2 : List β) (F : α → β → List γ) :
    (l1.flatMap fun a => l2.flatMap fun b => F a b).Perm (l2.flatMap fun b => l1.flatMap fun a => F a b) := by
  induction l1 with
  | nil => simp
  | cons a l1 ih =>
    simp only [List.flatMap_cons]
    exact (ih.append_left _).trans (flatMap_append_perm l2 _ _).symm

theorem filterMap_eq_flatMap {α β : Type} (f : α → Option β) (l : List α) :
    l.filterMap f = l.flatMap fun x => (f x).toList := by
  induction l with
  | nil => rfl
  | cons a l ih =>
    simp only [List.filterMap_cons, List.flatMap_cons, ih]
    cases f a <;> rfl

theorem filterMap_eq_map_of_forall {α β : Type} (l : List α) (f : α → Option β) (g : α → β)
    (h : ∀ x ∈ l, f x = some (g x)) : l.filterMap f = l.map g := by
  induction l with
  | nil => rfl
  | cons a l ih =>
    rw [List.filterMap_cons, h a mem_cons_self, List.map_cons, ih fun x hx => h x (mem_cons_of_mem _ hx)]

theorem filterMap_eq_self_of_forall {α : Type} {l : List α} {f : α → Option α} (h : ∀ x ∈ l, f x = some x) :
    l.filterMap f = l :=
  (filterMap_eq_map_of_forall l f id h).trans (List.map_id l)

theorem any_congr_mem {α : Type} {l : List α} {p q : α → Bool} (h : ∀ x ∈ l, p x = q x) : l.any p = l.any q := by
  induction l with
  | nil => rfl
  | cons a l ih => rw [List.any_cons, List.any_cons, h a mem_cons_self, ih fun x hx => h x (mem_cons_of_mem _ hx)]

variable {n : Nat}

@[simp] theorem Row.empty_apply (v : Fin n) : (Row.empty : Row n) v = none := rfl

theorem Row.empty_set_apply (v w : Fin n) (t : Term) :
    (Row.empty.set v t : Row n) w = if w = v then some t else none := rfl

@[simp] theorem Row.set_same (μ : Row n) (v : Fin n) (t : Term) : (μ.set v t) v = some t := by
  simp [Row.set]

theorem Row.set_other (μ : Row n) {v w : Fin n} (t : Term) (h : w ≠ v) : (μ.set v t) w = μ w := by
  simp [Row.set, h]

theorem Row.set_idem (μ : Row n) {v : Fin n} {t : Term} (h : μ v = some t) : μ.set v t = μ := by
  funext x
  simp only [Row.set]
  by_cases h1 : x = v
  · subst h1; simp [h]
  · simp [h1]

theorem contains_congr {a b : List (Fin n)} (h : ∀ v, v ∈ a ↔ v ∈ b) (v : Fin n) : a.contains v = b.contains v := by
  rw [Bool.eq_iff_iff, List.contains_iff_mem, List.contains_iff_mem]; exact h v

theorem project_congr {a b : List (Fin n)} (h : ∀ v, v ∈ a ↔ v ∈ b) : (project a : Row n → Row n) = project b := by
  funext y v
  simp only [project, contains_congr h v]

/-- what `compat` tests at one variable -/
def okPair (x y : Option Term) : Bool :=
  match x, y with
  | some a, some b => a == b
  | _, _ => true

theorem compat_iff_ok (a b : Row n) : compat a b = true ↔ ∀ v, okPair (a v) (b v) = true := by
  simp only [compat, List.all_eq_true, List.mem_finRange, true_imp_iff]
  rfl  -- `okPair` is the `match` inside `compat`

theorem okPair_iff (x y : Option Term) : okPair x y = true ↔ ∀ a b, x = some a → y = some b → a = b := by
  cases x with
  | none => exact ⟨fun _ _ _ h => (nomatch h), fun _ => rfl⟩
  | some a =>
    cases y with
    | none => exact ⟨fun _ _ _ _ h => (nomatch h), fun _ => rfl⟩
    | some b =>
      exact ⟨fun h _ _ ha hb => by cases ha; cases hb; exact beq_iff_eq.1 h, fun h => beq_iff_eq.2 (h a b rfl rfl)⟩

theorem compat_iff (a b : Row n) :
    compat a b = true ↔ ∀ v x y, a v = some x → b v = some y → x = y := by
  simp only [compat_iff_ok, okPair_iff]

theorem merge_apply (a b : Row n) (v : Fin n) : merge a b v = (a v).or (b v) := by
  simp only [merge]; cases a v <;> rfl

theorem or_comm_of_ok {x y : Option Term} (h : okPair x y = true) : x.or y = y.or x := by
  cases x <;> cases y <;> simp_all [okPair]

theorem okPair_three (x y z : Option Term) :
    (okPair y z && okPair x (y.or z)) = (okPair x y && okPair (x.or y) z) := by
  cases x <;> cases y <;> cases z <;> simp [okPair]
  -- left: all three bound, `b = c ∧ a = b ↔ a = b ∧ a = c`
  rw [Bool.eq_iff_iff]
  simp only [Bool.and_eq_true, beq_iff_eq]
  constructor <;> rintro ⟨rfl, rfl⟩ <;> exact ⟨rfl, rfl⟩

theorem compat_comm (a b : Row n) : compat a b = compat b a := by
  rw [Bool.eq_iff_iff, compat_iff, compat_iff]
  constructor <;> intro h v x y hx hy <;> exact (h v y x hy hx).symm

theorem merge_comm {a b : Row n} (h : compat a b = true) : merge a b = merge b a := by
  funext v
  rw [merge_apply, merge_apply, or_comm_of_ok ((compat_iff_ok a b).1 h v)]

theorem merge_assoc (a b c : Row n) : merge a (merge b c) = merge (merge a b) c := by
  funext v
  simp only [merge_apply, Option.or_assoc]

theorem compat_three (a b c : Row n) :
    (compat b c && compat a (merge b c)) = (compat a b && compat (merge a b) c) := by
  rw [Bool.eq_iff_iff]
  simp only [Bool.and_eq_true, compat_iff_ok, merge_apply, ← forall_and]
  exact forall_congr' fun v => by rw [← Bool.and_eq_true, ← Bool.and_eq_true, okPair_three]

/-- The body of `_join` on two rows.  The model writes it out in `joinBag`, in `groupRows` and in the VALUES case of
    `evalTD`, each with its own order of arguments: `joinBag_eq`, `groupRows_eq_join`, `evalTD_values`. -/
def joinRow (a b : Row n) : Option (Row n) := if compat a b then some (merge a b) else none

theorem joinRow_of_compat {a b : Row n} (h : compat a b = true) : joinRow a b = some (merge a b) := if_pos h

theorem joinRow_of_not_compat {a b : Row n} (h : compat a b = false) : joinRow a b = none := by
  rw [joinRow, h]; rfl

theorem joinRow_comm (a b : Row n) : joinRow a b = joinRow b a := by
  unfold joinRow
  rw [compat_comm a b]
  cases h : compat b a
  · rfl
  · rw [merge_comm ((compat_comm a b).trans h)]

theorem ite_ite_none {α : Type} (p q : Bool) (x : α) :
    (if p = true then (if q = true then some x else none) else none) = if (p && q) = true then some x else none := by
  cases p <;> cases q <;> rfl

theorem joinRow_bind (a b : Row n) (f : Row n → Option (Row n)) :
    (joinRow a b).bind f = if compat a b then f (merge a b) else none := by
  unfold joinRow; split <;> rfl

theorem joinRow_assoc (a b c : Row n) :
    ((joinRow a b).bind fun ab => joinRow ab c) = ((joinRow b c).bind fun bc => joinRow a bc) := by
  rw [joinRow_bind, joinRow_bind]
  unfold joinRow
  rw [ite_ite_none, ite_ite_none, compat_three, merge_assoc]

theorem compat_empty_left (a : Row n) : compat Row.empty a = true :=
  (compat_iff_ok _ _).2 fun _ => rfl

theorem merge_empty_left (a : Row n) : merge Row.empty a = a := funext fun _ => rfl

theorem joinRow_empty_left (a : Row n) : joinRow Row.empty a = some a :=
  joinRow_of_compat (compat_empty_left a)

/-- `x` extends `κ`: `κ ⊆ x` as sets of bindings -/
def Sup (κ x : Row n) : Prop := ∀ v t, κ v = some t → x v = some t

theorem Sup.refl (x : Row n) : Sup x x := fun _ _ h => h
theorem Sup.trans {a b c : Row n} (h1 : Sup a b) (h2 : Sup b c) : Sup a c := fun v t h => h2 v t (h1 v t h)
theorem Sup.ne_none {a c : Row n} (h : Sup a c) (v : Fin n) (hv : a v ≠ none) : c v ≠ none := by
  cases ha : a v with
  | none => exact absurd ha hv
  | some t => rw [h v t ha]; exact Option.some_ne_none t

theorem Sup.empty (x : Row n) : Sup Row.empty x := fun _ _ h => nomatch h

theorem sup_merge (x y : Row n) : Sup x (merge x y) := fun v t h => by rw [merge_apply, h]; rfl

theorem Sup.merge_right {κ x : Row n} (h : Sup κ x) : merge x κ = x := by
  funext v
  rw [merge_apply]
  cases hv : κ v with
  | none => exact Option.or_none
  | some t => rw [h v t hv]; rfl

theorem compat_of_sup {κ x : Row n} (h : Sup κ x) : compat x κ = true :=
  (compat_iff x κ).2 fun v _ b ha hb => Option.some.inj ((h v b hb).symm.trans ha).symm

theorem Sup.merge_left {κ x : Row n} (h : Sup κ x) : merge κ x = x := by
  rw [← merge_comm (compat_of_sup h), h.merge_right]

theorem joinRow_of_sup {κ x : Row n} (h : Sup κ x) : joinRow x κ = some x := by
  rw [joinRow_of_compat (compat_of_sup h), h.merge_right]

theorem merge_empty_right (a : Row n) : merge a Row.empty = a := (Sup.empty a).merge_right

theorem joinRow_empty_right (a : Row n) : joinRow a Row.empty = some a := joinRow_of_sup (Sup.empty a)

theorem joinRow_spec {a b c : Row n} (h : joinRow a b = some c) :
    Sup a c ∧ Sup b c ∧ ∀ v, c v ≠ none → a v ≠ none ∨ b v ≠ none := by
  cases hc : compat a b
  · rw [joinRow_of_not_compat hc] at h; cases h
  rw [joinRow_of_compat hc] at h; cases h
  refine ⟨sup_merge a b, merge_comm hc ▸ sup_merge b a, fun v hv => ?_⟩
  rw [merge_apply] at hv
  cases ha : a v with
  | none => rw [ha] at hv; exact Or.inr hv
  | some x => exact Or.inl (by simp)

theorem joinBag_eq (A B : List (Row n)) : joinBag A B = A.flatMap fun a => B.filterMap (joinRow a) := rfl

theorem joinBag_singleton_left (a : Row n) (B : List (Row n)) : joinBag [a] B = B.filterMap (joinRow a) := by
  simp only [joinBag_eq, List.flatMap_cons, List.flatMap_nil, List.append_nil]

theorem joinBag_singleton_right (A : List (Row n)) (b : Row n) : joinBag A [b] = A.filterMap fun a => joinRow a b := by
  simp only [joinBag_eq, filterMap_eq_flatMap, List.flatMap_cons, List.flatMap_nil, List.append_nil]

theorem joinBag_perm {A A' B B' : List (Row n)} (hA : A.Perm A') (hB : B.Perm B') :
    (joinBag A B).Perm (joinBag A' B') :=
  perm_flatMap hA fun _ _ => hB.filterMap _

theorem joinBag_comm (A B : List (Row n)) : (joinBag A B).Perm (joinBag B A) := by
  simp only [joinBag_eq, filterMap_eq_flatMap]
  refine (flatMap_swap A B _).trans ?_
  exact perm_flatMap_congr fun b _ => perm_flatMap_congr fun _ _ => by rw [joinRow_comm]

theorem option_flatMap_filterMap {α β γ : Type} (o : Option α) (l : List β) (f : α → β → Option γ) :
    (o.toList.flatMap fun x => l.filterMap (f x)) = l.filterMap fun y => o.bind fun x => f x y := by
  cases o <;> simp

/-- as lists, not only as bags -/
theorem joinBag_assoc (A B C : List (Row n)) : joinBag (joinBag A B) C = joinBag A (joinBag B C) := by
  simp only [joinBag_eq, List.flatMap_assoc, List.filterMap_flatMap]
  congr 1
  funext a
  rw [filterMap_eq_flatMap, List.flatMap_assoc]
  congr 1
  funext b
  rw [option_flatMap_filterMap, List.filterMap_filterMap]
  congr 1
  funext c
  exact joinRow_assoc a b c

theorem matchPos_look_const (c x : Term) : matchPos (some c) x = (x == c) := rfl

/-- the solution of one position against one term: a constant has to be that term, a variable gets it -/
def posRow (pt : PT n) (val : Term) : Option (Row n) :=
  match pt with
  | .const c => if c = val then some Row.empty else none
  | .var v => some (Row.empty.set v val)

/-- extend `μ` so that pattern `t` becomes triple `tr`: the three positions joined in turn -/
def matchRow (μ : Row n) (t : TP n) (tr : Triple) : Option (Row n) :=
  ((posRow t.1 tr.1).bind (joinRow μ)).bind fun c1 =>
    ((posRow t.2.1 tr.2.1).bind (joinRow c1)).bind fun c2 => (posRow t.2.2 tr.2.2).bind (joinRow c2)

/-- joining with the one-variable row `{v ↦ val}` is the guarded assignment of `evalBGP` -/
theorem joinRow_single (μ : Row n) (v : Fin n) (val : Term) :
    joinRow μ (Row.empty.set v val) =
      match μ v with
      | none => some (μ.set v val)
      | some x => if x = val then some μ else none := by
  have hs : ∀ w y, (Row.empty.set v val : Row n) w = some y → w = v ∧ y = val := by
    intro w y h
    rw [Row.empty_set_apply] at h
    split at h
    · exact ⟨‹_›, (Option.some.inj h).symm⟩
    · cases h
  cases hv : μ v with
  | none =>
    have hc : compat μ (Row.empty.set v val) = true := (compat_iff _ _).2 fun w x y hx hy => by
      rw [(hs w y hy).1, hv] at hx; cases hx
    rw [joinRow_of_compat hc]
    congr 1
    funext w
    rw [merge_apply]
    by_cases e : w = v
    · subst e; simp [hv]
    · rw [Row.empty_set_apply, if_neg e, Row.set_other _ _ e, Option.or_none]
  | some x =>
    show _ = if x = val then some μ else none
    by_cases e : x = val
    · subst e
      rw [if_pos rfl, joinRow_of_sup fun w y h => by obtain ⟨rfl, rfl⟩ := hs w y h; exact hv]
    · have hc : compat μ (Row.empty.set v val) = false :=
        Bool.eq_false_iff.2 fun h => e ((compat_iff _ _).1 h v x val hv (Row.set_same _ _ _))
      rw [joinRow_of_not_compat hc, if_neg e]

theorem bind_join_assoc (o o' : Option (Row n)) (μ : Row n) :
    ((o.bind (joinRow μ)).bind fun c => o'.bind (joinRow c)) = (o.bind fun s => o'.bind (joinRow s)).bind (joinRow μ) := by
  cases o with
  | none => rfl
  | some s =>
    cases o' with
    | none => simp
    | some s' => exact joinRow_assoc μ s s'

theorem matchRow_eq_join (μ : Row n) (t : TP n) (tr : Triple) : matchRow μ t tr = (matchRow Row.empty t tr).bind (joinRow μ) := by
  -- re-associate the three joins so that the seed is joined last; for the empty seed that last join drops
  have e : ∀ ν : Row n, matchRow ν t tr = ((posRow t.1 tr.1).bind fun s => ((posRow t.2.1 tr.2.1).bind fun s' =>
      (posRow t.2.2 tr.2.2).bind (joinRow s')).bind (joinRow s)).bind (joinRow ν) := fun ν => by
    simp only [matchRow, bind_join_assoc]
  rw [e μ, e Row.empty]
  congr 1
  exact ((Option.bind_congr fun s _ => joinRow_empty_left s).trans (Option.bind_fun_some _)).symm

/-- `c` extends `μ` and binds, besides what `μ` binds, exactly `vs` -/
structure Grows (μ c : Row n) (vs : List (Fin n)) : Prop where
  sup : Sup μ c
  dom : ∀ v, c v ≠ none ↔ μ v ≠ none ∨ v ∈ vs

theorem Grows.refl (μ : Row n) : Grows μ μ [] := ⟨Sup.refl μ, fun _ => by simp⟩

theorem Grows.trans {μ c ν : Row n} {vs ws : List (Fin n)} (h1 : Grows μ c vs) (h2 : Grows c ν ws) :
    Grows μ ν (vs ++ ws) :=
  ⟨h1.sup.trans h2.sup, fun v => by rw [h2.dom v, h1.dom v, List.mem_append, or_assoc]⟩

theorem posRow_dom {pt : PT n} {val : Term} {s : Row n} (h : posRow pt val = some s) (v : Fin n) :
    s v ≠ none ↔ v ∈ ptVars pt := by
  cases pt with
  | const c =>
    simp only [posRow] at h
    split at h <;> cases h
    simp [ptVars]
  | var w =>
    cases h
    by_cases e : v = w <;> simp [Row.empty_set_apply, ptVars, e]

theorem posRow_join_grows {pt : PT n} {val : Term} {μ c : Row n} (h : (posRow pt val).bind (joinRow μ) = some c) :
    Grows μ c (ptVars pt) := by
  obtain ⟨s, hs, hj⟩ := Option.bind_eq_some_iff.1 h
  obtain ⟨h1, h2, h3⟩ := joinRow_spec hj
  exact ⟨h1, fun v => ⟨fun hv => (h3 v hv).imp_right (posRow_dom hs v).1,
    fun hv => hv.elim (h1.ne_none v) fun hv => h2.ne_none v ((posRow_dom hs v).2 hv)⟩⟩

theorem matchRow_grows {μ c : Row n} {t : TP n} {tr : Triple} (h : matchRow μ t tr = some c) : Grows μ c (tpVars t) := by
  obtain ⟨c1, h1, h⟩ := Option.bind_eq_some_iff.1 h
  obtain ⟨c2, h2, h3⟩ := Option.bind_eq_some_iff.1 h
  exact ((posRow_join_grows h1).trans (posRow_join_grows h2)).trans (posRow_join_grows h3)

/-- `assign` is the join with the solution of the position on what the store's look-up (made in `μ0`) lets through;
    what it holds back would not have joined -/
theorem posRow_join {μ0 c : Row n} {pt : PT n} {val : Term} (hmono : Sup μ0 c) :
    (posRow pt val).bind (joinRow c) =
      if matchPos (μ0.look pt) val then assign (μ0.look pt) pt val c else none := by
  cases pt with
  | const k =>
    by_cases e : k = val
    · simp [posRow, Row.look, matchPos, assign, e, joinRow_empty_right]
    · simp [posRow, Row.look, matchPos, e, Ne.symm e]
  | var v =>
    rw [posRow, Option.bind_some, joinRow_single, Row.look]
    cases h0 : μ0 v with
    | none => rfl
    | some x =>
      rw [hmono v x h0]
      simp only [matchPos, assign, beq_iff_eq]
      by_cases e : x = val
      · subst e; simp
      · rw [if_neg e, if_neg (Ne.symm e)]

theorem assign_eq_join {μ0 c : Row n} {pt : PT n} {val : Term}
    (hm : matchPos (μ0.look pt) val = true) (hmono : Sup μ0 c) :
    assign (μ0.look pt) pt val c = (posRow pt val).bind (joinRow c) := by
  rw [posRow_join hmono, hm, if_pos rfl]

theorem bindTriple_eq_matchRow (μ : Row n) (t : TP n) (tr : Triple)
    (hm : (instPat μ t).matches tr = true) : bindTriple μ t tr = matchRow μ t tr := by
  simp only [instPat, Pat.matches, Bool.and_eq_true] at hm
  obtain ⟨⟨h1, h2⟩, h3⟩ := hm
  simp only [bindTriple, matchRow]
  rw [assign_eq_join h1 (Sup.refl μ)]
  refine Option.bind_congr fun c1 hu1 => ?_
  have m1 := (posRow_join_grows hu1).sup
  rw [assign_eq_join h2 m1]
  exact Option.bind_congr fun c2 hu2 => assign_eq_join h3 (m1.trans (posRow_join_grows hu2).sup)

theorem matchRow_none_of_not_match (μ : Row n) (t : TP n) (tr : Triple)
    (hm : (instPat μ t).matches tr = false) : matchRow μ t tr = none := by
  simp only [instPat, Pat.matches, Bool.and_eq_false_iff] at hm
  cases h : matchRow μ t tr with
  | none => rfl
  | some c =>
    obtain ⟨c1, h1, h⟩ := Option.bind_eq_some_iff.1 h
    obtain ⟨c2, h2, h3⟩ := Option.bind_eq_some_iff.1 h
    have m1 := (posRow_join_grows h1).sup
    rcases hm with (hm | hm) | hm
    · rw [posRow_join (Sup.refl μ), hm] at h1; cases h1
    · rw [posRow_join m1, hm] at h2; cases h2
    · rw [posRow_join (m1.trans (posRow_join_grows h2).sup), hm] at h3; cases h3

/-- the loop of `evalBGP` over the triples of a graph; `k` is general because in `evalBGP_graph_cons` it mentions `g` -/
theorem evalBGP_loop_eq (g : List Triple) (μ : Row n) (t : TP n) (k : Row n → List (Row n)) :
    ((g.filter (instPat μ t).matches).flatMap fun tr =>
        match bindTriple μ t tr with
        | none => []
        | some c => k c) = (g.filterMap (matchRow μ t)).flatMap k := by
  induction g with
  | nil => rfl
  | cons tr g ih =>
    rw [List.filter_cons, List.filterMap_cons]
    cases hm : (instPat μ t).matches tr with
    | true =>
      rw [if_pos rfl, List.flatMap_cons, ih, bindTriple_eq_matchRow μ t tr hm]
      cases matchRow μ t tr <;> rfl
    | false => rw [if_neg Bool.false_ne_true, ih, matchRow_none_of_not_match μ t tr hm]

theorem evalBGP_graph_cons (g : List Triple) (μ : Row n) (t : TP n) (rest : List (TP n)) :
    evalBGP (graphStore g) μ (t :: rest) = (g.filterMap (matchRow μ t)).flatMap fun c => evalBGP (graphStore g) c rest :=
  evalBGP_loop_eq g μ t _

theorem filterMap_matchRow_seed (g : List Triple) (μ : Row n) (t : TP n) :
    g.filterMap (matchRow μ t) = joinBag [μ] (g.filterMap (matchRow Row.empty t)) := by
  rw [joinBag_singleton_left, List.filterMap_filterMap]
  exact congrArg (List.filterMap · g) (funext (matchRow_eq_join μ t))

theorem evalBGP_graph_cons_join_of {g : List Triple} {rest : List (TP n)} {R : List (Row n)}
    (h : ∀ c, evalBGP (graphStore g) c rest = joinBag [c] R) (μ : Row n) (t : TP n) :
    evalBGP (graphStore g) μ (t :: rest) = joinBag (g.filterMap (matchRow μ t)) R := by
  rw [evalBGP_graph_cons, joinBag_eq]
  exact congrArg (List.flatMap · _) (funext fun c => by rw [h c, joinBag_singleton_left])

/-- as lists -/
theorem evalBGP_graph_seed (g : List Triple) (ts : List (TP n)) :
    ∀ μ : Row n, evalBGP (graphStore g) μ ts = joinBag [μ] (evalBGP (graphStore g) Row.empty ts) := by
  induction ts with
  | nil => intro μ; rw [joinBag_singleton_left]; simp only [evalBGP, List.filterMap_cons, joinRow_empty_right, List.filterMap_nil]
  | cons t rest ih =>
    intro μ
    rw [evalBGP_graph_cons_join_of ih μ, evalBGP_graph_cons_join_of ih Row.empty, filterMap_matchRow_seed, joinBag_assoc]

theorem evalBGP_graph_cons_join (g : List Triple) (μ : Row n) (t : TP n) (rest : List (TP n)) :
    evalBGP (graphStore g) μ (t :: rest) =
      joinBag (g.filterMap (matchRow μ t)) (evalBGP (graphStore g) Row.empty rest) :=
  evalBGP_graph_cons_join_of (evalBGP_graph_seed g rest) μ t

/-- the form with the seed joined last, as a VALUES row is -/
theorem evalBGP_graph_seed_right (g : List Triple) (κ : Row n) (ts : List (TP n)) :
    (evalBGP (graphStore g) κ ts).Perm (joinBag (evalBGP (graphStore g) Row.empty ts) [κ]) := by
  rw [evalBGP_graph_seed]
  exact joinBag_comm _ _

/-- any two orders of the same patterns give the same bag (graph held as a list, duplicates allowed):
    join is commutative and associative on bags -/
theorem evalBGP_graph_perm (g : List Triple) {ts ts' : List (TP n)} (h : ts.Perm ts') (μ : Row n) :
    (evalBGP (graphStore g) μ ts).Perm (evalBGP (graphStore g) μ ts') := by
  rw [evalBGP_graph_seed g ts, evalBGP_graph_seed g ts']
  refine joinBag_perm (.refl _) ?_
  induction h with
  | nil => exact .refl _
  | cons t _ ih => simp only [evalBGP_graph_cons_join]; exact joinBag_perm (.refl _) ih
  | swap t1 t2 l =>
    simp only [evalBGP_graph_cons_join, ← joinBag_assoc]
    exact joinBag_perm (joinBag_comm _ _) (.refl _)
  | trans _ _ ih1 ih2 => exact ih1.trans ih2

theorem bgpVars_perm {ts ts' : List (TP n)} (h : ts.Perm ts') (v : Fin n) : v ∈ bgpVars ts ↔ v ∈ bgpVars ts' :=
  (h.flatMap_right tpVars).mem_iff

theorem evalBGP_graph_grows {g : List Triple} {ts : List (TP n)} :
    ∀ {μ ν : Row n}, ν ∈ evalBGP (graphStore g) μ ts → Grows μ ν (bgpVars ts) := by
  induction ts with
  | nil =>
    intro μ ν h
    cases List.mem_singleton.1 h
    exact Grows.refl μ
  | cons t rest ih =>
    intro μ ν h
    rw [evalBGP_graph_cons] at h
    simp only [List.mem_flatMap, List.mem_filterMap] at h
    obtain ⟨c, ⟨tr, _, hc⟩, hν⟩ := h
    exact (matchRow_grows hc).trans (ih hν)

theorem evalBGP_store_congr {st1 st2 : Store} (h : ∀ pat, (st1 pat).Perm (st2 pat)) (ts : List (TP n)) :
    ∀ μ : Row n, (evalBGP st1 μ ts).Perm (evalBGP st2 μ ts) := by
  induction ts with
  | nil => intro μ; exact List.Perm.refl _
  | cons t rest ih =>
    intro μ
    simp only [evalBGP]
    refine perm_flatMap (h (instPat μ t)) fun tr _ => ?_
    cases bindTriple μ t tr with
    | none => exact List.Perm.refl _
    | some c => exact ih c

/-- a store that answers every pattern like the graph `g` (a list of triples) does -/
def GraphLike (st : Store) (g : List Triple) : Prop := ∀ pat, (st pat).Perm (g.filter pat.matches)

theorem graphLike_graphStore (g : List Triple) : GraphLike (graphStore g) g := fun _ => List.Perm.refl _

/-- what holds of two store-congruent evaluations over the graph itself holds over every store that answers like it -/
theorem GraphLike.transfer {α : Type} {st : Store} {g : List Triple} (hg : GraphLike st g) {F G : Store → List α}
    (hF : ∀ s1 s2, (∀ pat, (s1 pat).Perm (s2 pat)) → (F s1).Perm (F s2))
    (hG : ∀ s1 s2, (∀ pat, (s1 pat).Perm (s2 pat)) → (G s1).Perm (G s2))
    (h : (F (graphStore g)).Perm (G (graphStore g))) : (F st).Perm (G st) :=
  ((hF _ _ hg).trans h).trans (hG _ _ fun pat => (hg pat).symm)

theorem evalBGP_graphLike_perm {st : Store} {g : List Triple} (hg : GraphLike st g)
    {ts ts' : List (TP n)} (h : ts.Perm ts') (μ : Row n) :
    (evalBGP st μ ts).Perm (evalBGP st μ ts') :=
  hg.transfer (fun _ _ hs => evalBGP_store_congr hs ts μ) (fun _ _ hs => evalBGP_store_congr hs ts' μ)
    (evalBGP_graph_perm g h μ)

theorem evalBGP_graphLike_seed_right {st : Store} {g : List Triple} (hg : GraphLike st g) (κ : Row n) (ts : List (TP n)) :
    (evalBGP st κ ts).Perm (joinBag (evalBGP st Row.empty ts) [κ]) :=
  hg.transfer (fun _ _ hs => evalBGP_store_congr hs ts κ)
    (fun _ _ hs => joinBag_perm (evalBGP_store_congr hs ts Row.empty) (.refl _)) (evalBGP_graph_seed_right g κ ts)

theorem insertBy_perm {α : Type} (le : α → α → Bool) (x : α) (l : List α) : (insertBy le x l).Perm (x :: l) := by
  induction l with
  | nil => exact List.Perm.refl _
  | cons y ys ih =>
    simp only [insertBy]
    split
    · exact List.Perm.refl _
    · exact (ih.cons y).trans (List.Perm.swap x y ys)

theorem sortBy_perm {α : Type} (le : α → α → Bool) (l : List α) : (sortBy le l).Perm l := by
  induction l with
  | nil => exact List.Perm.refl _
  | cons x xs ih =>
    simp only [sortBy, List.foldr_cons]
    exact (insertBy_perm le x _).trans (ih.cons x)

theorem dynOrder_perm (μ : Row n) (ts : List (TP n)) : (dynOrder μ ts).Perm ts := sortBy_perm _ ts

theorem reorderLoop_perm (isLit : Term → Bool) (tle : TP n → TP n → Bool) (count : Fin n → Nat) :
    ∀ (fuel : Nat) (known : List (Fin n)) (l : List (TP n)),
      (reorderLoop isLit tle count fuel known l).Perm l := by
  intro fuel
  induction fuel with
  | zero => intro known l; exact List.Perm.refl _
  | succ fuel ih =>
    intro known l
    -- the sorted decorated list, undecorated, is a permutation of `l`
    have hs := (sortBy_perm (decoLe tle) (l.map fun t => (knownKey isLit known count t, t))).map (·.2)
    rw [List.map_map, show ((·.2) ∘ fun t => (knownKey isLit known count t, t)) = id from rfl, List.map_id] at hs
    simp only [reorderLoop]
    split
    · next heq => rw [heq] at hs; exact hs
    · next k h tl heq => rw [heq] at hs; exact ((ih _ _).cons h).trans hs

theorem reorderTriples_perm (isLit : Term → Bool) (tle : TP n → TP n → Bool) (ts : List (TP n)) :
    (reorderTriples isLit tle ts).Perm ts := reorderLoop_perm isLit tle _ _ _ _

end RV.C15

import RV.C15.Lemmas
/-
  `Graph.query(q, initBindings=κ)` against the same query with `VALUES κ` in its group, for the fragment `SelQ`
  (outermost BGP, optional sub-select, filter, projection).  The core is `evalBGP_graph_seed`: seeding a BGP with `κ`
  is joining its unseeded solutions with `κ`.
-/
namespace RV.C15

open List

variable {n : Nat}

/-- the side condition of the property: the initBindings are for variables that the outermost basic
    graph pattern binds, and no sub-query reuses them -/
def Outermost (init : Row n) (q : SelQ n) : Prop :=
  (∀ v, init v ≠ none → v ∈ bgpVars q.ts) ∧
  (match q.sub with
   | none => True
   | some (pv, ts') => ∀ v, init v ≠ none → v ∉ pv ∧ v ∉ bgpVars ts')

theorem project_append_of_subset (vs ws : List (Fin n)) (h : ∀ v ∈ ws, v ∈ vs) (μ : Row n) :
    project (vs ++ ws) μ = project vs μ :=
  congrFun (project_congr fun v => by rw [List.mem_append]; exact ⟨fun hv => hv.elim id (h v), Or.inl⟩) μ

theorem mem_domOf (μ : Row n) (v : Fin n) : v ∈ domOf μ ↔ μ v ≠ none := by
  simp only [domOf, List.mem_filter, List.mem_finRange, true_and, ne_eq]
  cases μ v <;> simp

theorem project_merge_of_disjoint (pv : List (Fin n)) (κ ν : Row n) (h : ∀ v, κ v ≠ none → v ∉ pv) :
    project pv (merge κ ν) = project pv ν := by
  funext v
  simp only [project]
  split
  · next hv =>
    cases hκ : κ v with
    | none => rw [merge_apply, hκ]; rfl
    | some k => exact absurd (List.contains_iff_mem.1 hv) (h v (by simp [hκ]))
  · rfl

theorem compat_of_disjoint (κ ν : Row n) (h : ∀ v, κ v ≠ none → ν v = none) : compat κ ν = true :=
  (compat_iff κ ν).2 fun v x y hx hy => by rw [h v (by simp [hx])] at hy; cases hy

theorem subRows_seed (g : List Triple) {κ : Row n} {q : SelQ n} (h : Outermost κ q) :
    subRows (graphStore g) κ q.sub = subRows (graphStore g) Row.empty q.sub := by
  obtain ⟨_, h⟩ := h
  generalize q.sub = sub at h ⊢
  cases sub with
  | none => rfl
  | some x =>
    obtain ⟨pv, ts'⟩ := x
    simp only [subRows]
    rw [evalBGP_graph_seed g ts' κ, joinBag_singleton_left, List.map_filterMap]
    refine filterMap_eq_map_of_forall _ _ _ fun ν hν => ?_
    -- `ν` binds only variables of `ts'`, which `κ` does not bind
    have hd : ∀ v, κ v ≠ none → ν v = none := fun v hv => by
      cases hν' : ν v with
      | none => rfl
      | some _ =>
        have := ((evalBGP_graph_grows hν).dom v).1 (by simp [hν'])
        exact absurd (this.resolve_left fun h0 => h0 rfl) (h v hv).2
    rw [joinRow_of_compat (compat_of_disjoint κ ν hd), Option.map_some,
      project_merge_of_disjoint pv κ ν fun v hv => (h v hv).1]

theorem groupRows_eq_join (st : Store) (init : Row n) (q : SelQ n) :
    groupRows st init q = joinBag (evalBGP st init q.ts) (subRows st init q.sub) := by
  simp only [groupRows, joinBag_eq]
  exact congrArg (List.flatMap · _) (funext fun a => congrArg (List.filterMap · _) (funext fun s => joinRow_comm s a))

theorem groupRows_store_congr {st1 st2 : Store} (h : ∀ pat, (st1 pat).Perm (st2 pat)) (init : Row n) (q : SelQ n) :
    (groupRows st1 init q).Perm (groupRows st2 init q) := by
  rw [groupRows_eq_join, groupRows_eq_join]
  refine joinBag_perm (evalBGP_store_congr h q.ts init) ?_
  cases q.sub with
  | none => exact .refl _
  | some x => exact (evalBGP_store_congr h x.2 init).map _

theorem groupRows_seed {st : Store} {g : List Triple} (hg : GraphLike st g) (κ : Row n) (q : SelQ n) (h : Outermost κ q) :
    (groupRows st κ q).Perm (joinBag (groupRows st Row.empty q) [κ]) := by
  refine hg.transfer (F := fun s => groupRows s κ q) (G := fun s => joinBag (groupRows s Row.empty q) [κ])
    (fun _ _ hs => groupRows_store_congr hs κ q) (fun _ _ hs => joinBag_perm (groupRows_store_congr hs _ q) (.refl _)) ?_
  rw [groupRows_eq_join, groupRows_eq_join, subRows_seed g h, evalBGP_graph_seed g q.ts κ, joinBag_assoc]
  exact joinBag_comm _ _

theorem finish_star (q : SelQ n) (κ : Row n) (h : ∀ v, κ v ≠ none → v ∈ bgpVars q.ts) (rows : List (Row n)) :
    finish q (starVars q ++ domOf κ) rows = finish q (starVars q) rows := by
  simp only [finish]
  cases q.proj with
  | some pv => rfl
  | none =>
    refine List.map_congr_left fun μ _ => project_append_of_subset _ _ (fun v hv => ?_) μ
    simp only [starVars, List.mem_append]
    exact Or.inl (Or.inl (h v ((mem_domOf κ v).1 hv)))

theorem finish_perm (q : SelQ n) (star : List (Fin n)) {r1 r2 : List (Row n)} (h : r1.Perm r2) :
    (finish q star r1).Perm (finish q star r2) := by
  simp only [finish]
  cases q.filt with
  | none => exact h.map _
  | some e => exact (h.filter _).map _

theorem evalInit_perm_evalValues {st : Store} {g : List Triple} (hg : GraphLike st g) (κ : Row n) (q : SelQ n)
    (h : Outermost κ q) : (evalInit st κ q).Perm (evalValues st κ q) := by
  simp only [evalInit, evalValues]
  rw [finish_star q κ h.1]
  exact finish_perm q _ (groupRows_seed hg κ q h)

end RV.C15

import RV.C15.ModelTD
import RV.C15.LemmasAlg
import RV.C15.LemmasStore
/-
  The top-down evaluator `evalTD` (ModelTD.lean): permuting the triple patterns of any BGP anywhere in the tree leaves
  the bag alone (through lazy and non-lazy joins, OPTIONAL with its re-check, MINUS, FILTER, BIND, GRAPH, UNION), and
  so does putting other stores that answer alike behind the graphs — one congruence (`Cong`), proved operator by
  operator, gives both.  No lemma relates `evalTD` to `Q.eval` or `QS.run`: they differ already on a BGP (`dynOrder` under
  the pushed bindings) and on a join (design note, "Deviations").
-/
namespace RV.C15

open List

variable {n : Nat}

/-- the same variables (`RV.SetEq`): all that `forget` and `remember` see of a `_vars` list -/
def VEq (a b : List (Fin n)) : Prop := ∀ v, v ∈ a ↔ v ∈ b

theorem VEq.refl (a : List (Fin n)) : VEq a a := fun _ => Iff.rfl

theorem VEq.append {a a' b b' : List (Fin n)} (h1 : VEq a a') (h2 : VEq b b') : VEq (a ++ b) (a' ++ b') := by
  intro v; simp only [List.mem_append, h1 v, h2 v]

theorem VEq.contains {a b : List (Fin n)} (h : VEq a b) (v : Fin n) : a.contains v = b.contains v :=
  contains_congr h v

theorem forget_congr {init μ : Row n} {a b : List (Fin n)} (h : VEq a b) : forget init μ a = forget init μ b := by
  funext y v; simp only [forget, h.contains v]

theorem remember_congr {a b : List (Fin n)} (h : VEq a b) : (remember a : Row n → Row n) = remember b :=
  project_congr h

/-- BGP permutations anywhere in the tree (everything else as it is) -/
inductive RwB : P n → P n → Prop
  | refl (q : P n) : RwB q q
  | trans {a b c : P n} : RwB a b → RwB b c → RwB a c
  | bgp {ts ts' : List (TP n)} : ts.Perm ts' → RwB (.bgp ts) (.bgp ts')
  | join {a a' b b' : P n} : RwB a a' → RwB b b' → RwB (.join a b) (.join a' b')
  | leftJoin (e : Option (Ex n)) {a a' b b' : P n} : RwB a a' → RwB b b' → RwB (.leftJoin a b e) (.leftJoin a' b' e)
  | union {a a' b b' : P n} : RwB a a' → RwB b b' → RwB (.union a b) (.union a' b')
  | minus {a a' b b' : P n} : RwB a a' → RwB b b' → RwB (.minus a b) (.minus a' b')
  | filter (e : Ex n) {p p' : P n} : RwB p p' → RwB (.filter e p) (.filter e p')
  | extend (v : Fin n) (e : PT n) {p p' : P n} : RwB p p' → RwB (.extend p v e) (.extend p' v e)
  | graph (t : PT n) {p p' : P n} : RwB p p' → RwB (.graph t p) (.graph t p')
  | sub (pv : List (Fin n)) {p p' : P n} : RwB p p' → RwB (.sub pv p) (.sub pv p')

/-- the body of `for a in evalPart(ctx, join.p1)` in `evalLeftJoin` -/
def ljRow (init μ : Row n) (own av : List (Fin n)) (e : Option (Ex n)) (B : Row n → List (Row n)) (x : Row n) :
    List (Row n) :=
  if ((B (thaw init x)).filter fun y => ebvOpt e init (forget init μ own y)).isEmpty then
    if (B (thaw init (remember av x))).any fun y => ebvOpt e init y then [] else [x]
  else ((B (thaw init x)).filter fun y => ebvOpt e init (forget init μ own y)).map fun y => merge x y

theorem evalTD_leftJoin (ds : DSet) (init : Row n) (a b : P n) (e : Option (Ex n)) (g : Store) (μ : Row n) :
    evalTD ds init (.leftJoin a b e) g μ =
      (evalTD ds init a g μ).flatMap
        (ljRow init μ (a.vars ++ b.vars) a.vars e (fun ν => evalTD ds init b g ν)) := rfl

theorem ljRow_perm {init μ : Row n} {own av : List (Fin n)} {e : Option (Ex n)} {B B' : Row n → List (Row n)}
    (h : ∀ ν, (B ν).Perm (B' ν)) (x : Row n) : (ljRow init μ own av e B x).Perm (ljRow init μ own av e B' x) := by
  have h1 := (h (thaw init x)).filter fun y => ebvOpt e init (forget init μ own y)
  have h2 : ((B (thaw init (remember av x))).any fun y => ebvOpt e init y) =
      ((B' (thaw init (remember av x))).any fun y => ebvOpt e init y) := (h _).any_eq
  unfold ljRow
  rw [h1.isEmpty_eq, h2]
  split
  · exact List.Perm.refl _
  · exact h1.map _

theorem ljRow_congr_vars (init μ : Row n) {own own' av av' : List (Fin n)} (h1 : VEq own own') (h2 : VEq av av')
    (e : Option (Ex n)) : ljRow init μ own av e = ljRow init μ own' av' e := by
  funext B x
  unfold ljRow
  rw [forget_congr h1, remember_congr h2]

theorem evalTD_join (ds : DSet) (init : Row n) (a b : P n) (g : Store) (μ : Row n) :
    evalTD ds init (.join a b) g μ =
      if a.noJoin && b.noJoin then
        (evalTD ds init a g μ).flatMap fun x => (evalTD ds init b g (thaw init x)).map fun y => merge x y
      else joinBag (evalTD ds init a g μ) (evalTD ds init b g μ) := rfl

theorem evalTD_values (ds : DSet) (init : Row n) (rows : List (Row n)) (g : Store) (μ : Row n) :
    evalTD ds init (.values rows) g μ = joinBag [μ] rows := by
  simp only [evalTD, joinBag_singleton_left]
  exact congrArg (List.filterMap · _) (funext fun r => by rw [joinRow, compat_comm r μ])

/-- Two stores that answer exactly once over the same set of triples (spelled out in `SameData.cons` and in
    `Statement_td_store_irrelevant`).  Symmetric and transitive; `SEq g g`: `g` answers exactly once over some set. -/
def SEq (g g' : Store) : Prop := ∃ d d', ExactlyOnce g d ∧ ExactlyOnce g' d' ∧ SetEq d d'

/-- the same graph names, and under each name two stores that answer exactly once over the same set of triples -/
inductive SameData : List (Term × Store) → List (Term × Store) → Prop
  | nil : SameData [] []
  | cons {k : Term} {s s' : Store} {l l' : List (Term × Store)} :
      (∃ d d', ExactlyOnce s d ∧ ExactlyOnce s' d' ∧ SetEq d d') → SameData l l' →
      SameData ((k, s) :: l) ((k, s') :: l')

theorem SEq.of_exactlyOnce {g : Store} {d : List Triple} (h : ExactlyOnce g d) : SEq g g := ⟨d, d, h, h, fun _ => Iff.rfl⟩

theorem SEq.perm {g g' : Store} (h : SEq g g') (pat : Pat) : (g pat).Perm (g' pat) := by
  obtain ⟨_, _, h1, h2, e⟩ := h
  exact exactlyOnce_perm h1 h2 e pat

theorem SEq.graphLike {g g' : Store} (h : SEq g g') : GraphLike g (g (none, none, none)) := by
  obtain ⟨_, _, h1, _⟩ := h
  exact exactlyOnce_graphLike h1

theorem SameData.of_all {l : List (Term × Store)} (h : ∀ x ∈ l, ∃ d, ExactlyOnce x.2 d) : SameData l l := by
  induction l with
  | nil => exact .nil
  | cons x l ih =>
    obtain ⟨d, hd⟩ := h x mem_cons_self
    exact .cons (SEq.of_exactlyOnce hd) (ih fun y hy => h y (mem_cons_of_mem _ hy))

theorem SameData.flatMap_perm {γ : Type} {f f' : Term × Store → List γ} {l l' : List (Term × Store)}
    (hl : SameData l l') (h : ∀ k s s', SEq s s' → (f (k, s)).Perm (f' (k, s'))) :
    (l.flatMap f).Perm (l'.flatMap f') := by
  induction hl with
  | nil => exact .refl _
  | cons hs _ ih => exact (h _ _ _ hs).append ih

theorem SameData.lookupGraph (nm : Term) {l l' : List (Term × Store)} (hl : SameData l l') :
    (lookupGraph l nm = none ∧ lookupGraph l' nm = none) ∨
      ∃ gs gs', lookupGraph l nm = some gs ∧ lookupGraph l' nm = some gs' ∧ SEq gs gs' := by
  induction hl with
  | nil => exact .inl ⟨rfl, rfl⟩
  | @cons k s s' _ _ hs _ ih =>
    simp only [RV.C15.lookupGraph]
    by_cases e : k = nm
    · rw [if_pos e, if_pos e]
      exact .inr ⟨s, s', rfl, rfl, hs⟩
    · rw [if_neg e, if_neg e]
      exact ih

/-- `evalPart` cannot tell `q` over the data set `ds` from `q'` over `ds'`: the same `_vars`, the same laziness, the same
    bag in every context.  Every operator preserves this; it comes from permuting a BGP (`Cong.bgp`, `Cong.of_rwB`) and
    from putting other stores behind the graphs (`Cong.of_sameData`). -/
structure Cong (ds ds' : DSet) (init : Row n) (q q' : P n) : Prop where
  vars : VEq q.vars q'.vars
  noJoin : q.noJoin = q'.noJoin
  perm : ∀ g g' μ, SEq g g' → (evalTD ds init q g μ).Perm (evalTD ds' init q' g' μ)

section
variable {ds ds' : DSet} {init : Row n} {a a' b b' p p' : P n}

theorem Cong.bgp {ts ts' : List (TP n)} (h : ts.Perm ts') : Cong ds ds' init (.bgp ts) (.bgp ts') :=
  ⟨bgpVars_perm h, rfl, fun _ _ μ hg =>
    (evalBGP_graphLike_perm hg.graphLike ((dynOrder_perm μ _).trans (h.trans (dynOrder_perm μ _).symm)) μ).trans
      (evalBGP_store_congr hg.perm _ μ)⟩

theorem Cong.join (ha : Cong ds ds' init a a') (hb : Cong ds ds' init b b') : Cong ds ds' init (.join a b) (.join a' b') :=
  ⟨ha.vars.append hb.vars, rfl, fun g g' μ hg => by
    rw [evalTD_join, evalTD_join, ← ha.noJoin, ← hb.noJoin]
    split
    · exact perm_flatMap (ha.perm g g' μ hg) fun x _ => (hb.perm g g' _ hg).map _
    · exact joinBag_perm (ha.perm g g' μ hg) (hb.perm g g' μ hg)⟩

theorem Cong.leftJoin (e : Option (Ex n)) (ha : Cong ds ds' init a a') (hb : Cong ds ds' init b b') :
    Cong ds ds' init (.leftJoin a b e) (.leftJoin a' b' e) :=
  ⟨ha.vars.append hb.vars, by simp only [P.noJoin, ha.noJoin, hb.noJoin], fun g g' μ hg => by
    rw [evalTD_leftJoin, evalTD_leftJoin, ← ljRow_congr_vars init μ (ha.vars.append hb.vars) ha.vars]
    exact perm_flatMap (ha.perm g g' μ hg) fun x _ => ljRow_perm (fun ν => hb.perm g g' ν hg) x⟩

theorem Cong.union (ha : Cong ds ds' init a a') (hb : Cong ds ds' init b b') : Cong ds ds' init (.union a b) (.union a' b') :=
  ⟨ha.vars.append hb.vars, by simp only [P.noJoin, ha.noJoin, hb.noJoin],
    fun g g' μ hg => (ha.perm g g' μ hg).append (hb.perm g g' μ hg)⟩

theorem Cong.minus (ha : Cong ds ds' init a a') (hb : Cong ds ds' init b b') : Cong ds ds' init (.minus a b) (.minus a' b') :=
  ⟨ha.vars, by simp only [P.noJoin, ha.noJoin, hb.noJoin], fun g g' μ hg => by
    simp only [evalTD, ← remember_congr ha.vars, ← remember_congr hb.vars]
    have hR := (hb.perm g g' init hg).map (remember b.vars)
    exact ((ha.perm g g' μ hg).filter _).trans (.of_eq (List.filter_congr fun x _ => hR.all_eq))⟩

theorem Cong.filter (e : Ex n) (hp : Cong ds ds' init p p') : Cong ds ds' init (.filter e p) (.filter e p') :=
  ⟨hp.vars, hp.noJoin, fun g g' μ hg => by
    simp only [evalTD, ← forget_congr hp.vars]
    exact (hp.perm g g' μ hg).filter _⟩

theorem Cong.extend (v : Fin n) (e : PT n) (hp : Cong ds ds' init p p') : Cong ds ds' init (.extend p v e) (.extend p' v e) :=
  ⟨hp.vars.append (VEq.refl _), hp.noJoin, fun g g' μ hg => by
    simp only [evalTD, ← forget_congr (hp.vars.append (VEq.refl [v]))]
    exact (hp.perm g g' μ hg).filterMap _⟩

theorem Cong.graph (hds : SameData ds.named ds'.named) (t : PT n) (hp : Cong ds ds' init p p') :
    Cong ds ds' init (.graph t p) (.graph t p') :=
  ⟨(VEq.refl _).append hp.vars, hp.noJoin, fun g g' μ hg => by
    cases hl : μ.look t with
    | none =>
      simp only [evalTD, hl]
      exact hds.flatMap_perm fun k s s' hs => (hp.perm s s' μ hs).filterMap _
    | some nm =>
      simp only [evalTD, hl]
      rcases hds.lookupGraph nm with ⟨h1, h2⟩ | ⟨gs, gs', h1, h2, h3⟩
      · rw [h1, h2]
      · rw [h1, h2]; exact hp.perm gs gs' μ h3⟩

theorem Cong.sub (pv : List (Fin n)) (hp : Cong ds ds' init p p') : Cong ds ds' init (.sub pv p) (.sub pv p') :=
  ⟨hp.vars.append (VEq.refl _), hp.noJoin, fun g g' μ hg => by
    simp only [evalTD]
    exact joinBag_perm ((hp.perm g g' init hg).map _) (List.Perm.refl _)⟩

/-- the same query over the same data behind other stores -/
theorem Cong.of_sameData (hds : SameData ds.named ds'.named) (q : P n) : Cong ds ds' init q q := by
  induction q with
  | bgp ts => exact .bgp (.refl _)
  | join a b iha ihb => exact .join iha ihb
  | leftJoin a b e iha ihb => exact .leftJoin e iha ihb
  | union a b iha ihb => exact .union iha ihb
  | minus a b iha ihb => exact .minus iha ihb
  | filter e p ih => exact .filter e ih
  | extend p v e ih => exact .extend v e ih
  | graph t p ih => exact .graph hds t ih
  | values rows => exact ⟨VEq.refl _, rfl, fun _ _ _ _ => .refl _⟩
  | sub pv p ih => exact .sub pv ih

theorem Cong.of_rwB (hds : SameData ds.named ds'.named) {q q' : P n} (h : RwB q q') : Cong ds ds' init q q' := by
  induction h with
  | refl q => exact .of_sameData hds q
  | @trans a b c _ _ ih1 ih2 =>
    -- both steps cross from `ds` to `ds'`; `of_sameData`, read backwards, brings the middle query back to `ds`
    exact ⟨fun v => (ih1.vars v).trans (ih2.vars v), ih1.noJoin.trans ih2.noJoin, fun g g' μ hg =>
      ((ih1.perm g g' μ hg).trans ((Cong.of_sameData hds b).perm g g' μ hg).symm).trans (ih2.perm g g' μ hg)⟩
  | bgp hp => exact .bgp hp
  | join _ _ iha ihb => exact .join iha ihb
  | leftJoin e _ _ iha ihb => exact .leftJoin e iha ihb
  | union _ _ iha ihb => exact .union iha ihb
  | minus _ _ iha ihb => exact .minus iha ihb
  | filter e _ ih => exact .filter e ih
  | extend v e _ ih => exact .extend v e ih
  | graph t _ ih => exact .graph hds t ih
  | sub pv _ ih => exact .sub pv ih

end

theorem RwB.reorder (isLit : Term → Bool) (tle : TP n → TP n → Bool) (q : P n) : RwB q (q.reorder isLit tle) := by
  induction q with
  | bgp ts => exact .bgp (reorderTriples_perm isLit tle ts).symm
  | join a b iha ihb => exact .join iha ihb
  | leftJoin a b e iha ihb => exact .leftJoin e iha ihb
  | union a b iha ihb => exact .union iha ihb
  | minus a b iha ihb => exact .minus iha ihb
  | filter e p ih => exact .filter e ih
  | extend p v e ih => exact .extend v e ih
  | graph t p ih => exact .graph t ih
  | values rows => exact .refl _
  | sub pv p ih => exact .sub pv ih

end RV.C15

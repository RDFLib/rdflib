import RV.C15.ModelIri
/-
  BASE-relative resolution (`urljoin` as CPython codes it) on the shape the spelling rewrites use — a base whose path
  is a directory, a reference that is one plain segment.
-/
namespace RV.C15.Iri

open List

/-- a path segment that `urljoin` leaves alone: not empty, not a dot segment, no "/" inside -/
structure PlainSeg (s : S) : Prop where
  ne : s ≠ []
  nd : s ≠ dot
  ndd : s ≠ dotdot
  ns : cSlash ∉ s

theorem splitSlash_prefix {s : S} (h : cSlash ∉ s) {t l : S} {ls : List S} (ht : splitSlash t = l :: ls) :
    splitSlash (s ++ t) = (s ++ l) :: ls := by
  induction s with
  | nil => exact ht
  | cons c cs ih =>
    have hc : c ≠ cSlash := fun e => h (by simp [e])
    simp [splitSlash, hc, ih fun m => h (List.mem_cons_of_mem _ m)]

theorem splitSlash_append {s : S} (h : cSlash ∉ s) (t : S) :
    splitSlash (s ++ cSlash :: t) = s :: splitSlash t := by
  simpa using splitSlash_prefix h (t := cSlash :: t) (l := []) rfl

theorem splitSlash_plain {s : S} (h : cSlash ∉ s) : splitSlash s = [s] := by
  simpa using splitSlash_prefix h (t := []) rfl

theorem splitSlash_joinSlash (l : List S) (hne : l ≠ []) (hs : ∀ s ∈ l, cSlash ∉ s) : splitSlash (joinSlash l) = l := by
  induction l with
  | nil => exact absurd rfl hne
  | cons s rest ih =>
    cases rest with
    | nil => exact splitSlash_plain (hs s mem_cons_self)
    | cons t ss =>
      rw [joinSlash, splitSlash_append (hs s mem_cons_self), ih (cons_ne_nil _ _) fun x hx => hs x (mem_cons_of_mem _ hx)]

theorem joinSlash_snoc (loc : S) (l : List S) : joinSlash (l ++ [[]]) ++ loc = joinSlash (l ++ [loc]) := by
  induction l with
  | nil => rfl
  | cons s rest ih =>
    cases rest with
    | nil => simp [joinSlash]
    | cons t ss =>
      simp only [List.cons_append, joinSlash, List.append_assoc] at ih ⊢
      rw [ih]

theorem joinSlash_nil_cons : ∀ l : List S, l ≠ [] → joinSlash ([] :: l) = cSlash :: joinSlash l
  | [], h => absurd rfl h
  | _ :: _, _ => rfl

theorem resolveSegs_noDots (l : List S) : ∀ stk : List S, (∀ s ∈ l, s ≠ dot ∧ s ≠ dotdot) →
    resolveSegs stk l = stk.reverse ++ l := by
  induction l with
  | nil => intro stk _; simp [resolveSegs]
  | cons s rest ih =>
    intro stk h
    have hs := h s mem_cons_self
    rw [resolveSegs, if_neg hs.2, if_neg hs.1, ih (s :: stk) fun x hx => h x (mem_cons_of_mem _ hx),
      List.reverse_cons, List.append_assoc]
    rfl

theorem dropEmptyMiddle_snoc (a x : S) : ∀ m : List S,
    dropEmptyMiddle (a :: (m ++ [x])) = a :: m.filter (fun s => !s.isEmpty) ++ [x]
  | [] => rfl
  | b :: m => by
    rw [List.cons_append, dropEmptyMiddle, ← List.cons_append, List.dropLast_concat, List.getLastD_concat]

theorem filter_nonempty_plain (dirs : List S) (h : ∀ d ∈ dirs, PlainSeg d) :
    (dirs ++ [[]]).filter (fun s => !s.isEmpty) = dirs := by
  induction dirs with
  | nil => rfl
  | cons d ds ih =>
    have : d.isEmpty = false := by
      cases d with
      | nil => exact absurd rfl (h [] mem_cons_self).ne
      | cons _ _ => rfl
    rw [List.cons_append, List.filter_cons, this, ih fun x hx => h x (mem_cons_of_mem _ hx)]
    rfl

theorem dropEmptyMiddle_dir (a x : S) (dirs : List S) (hd : ∀ d ∈ dirs, PlainSeg d) :
    dropEmptyMiddle (a :: dirs ++ [[]] ++ [x]) = a :: dirs ++ [x] := by
  rw [List.cons_append, List.cons_append, dropEmptyMiddle_snoc, filter_nonempty_plain dirs hd]

theorem head_joinSlash_ne (dirs : List S) (x : S) (hd : ∀ d ∈ dirs, PlainSeg d) (hx : cSlash ∉ x) :
    (joinSlash (dirs ++ [x])).head? ≠ some cSlash := by
  -- a join starts with "/" exactly when its first segment is empty and another follows
  have key : ∀ (s : S) (l : List S), cSlash ∉ s → (s ≠ [] ∨ l = []) → (joinSlash (s :: l)).head? ≠ some cSlash := by
    intro s l hs hne
    cases s with
    | nil =>
      cases hne with
      | inl h => exact absurd rfl h
      | inr h => subst h; simp [joinSlash]
    | cons c cs =>
      have hc : c ≠ cSlash := fun e => hs (by simp [e])
      cases l <;> simpa [joinSlash] using hc
  cases dirs with
  | nil => exact key x [] hx (.inr rfl)
  | cons d ds => exact key d _ (hd d mem_cons_self).ns (.inl (hd d mem_cons_self).ne)

theorem forall_mem_dir {p : S → Prop} {dirs : List S} {x : S} (h0 : p []) (hd : ∀ d ∈ dirs, p d) (hx : p x) :
    ∀ s ∈ ([] : S) :: dirs ++ [x], p s := fun s hs => by
  rcases List.mem_append.1 hs with h | h
  · rcases List.mem_cons.1 h with rfl | h
    · exact h0
    · exact hd s h
  · cases List.mem_singleton.1 h; exact hx

theorem splitSlash_dir (dirs : List S) (hd : ∀ d ∈ dirs, PlainSeg d) :
    splitSlash (joinSlash (([] : S) :: dirs ++ [[]])) = [] :: dirs ++ [[]] :=
  splitSlash_joinSlash _ (cons_ne_nil _ _) (forall_mem_dir List.not_mem_nil (fun d h => (hd d h).ns) List.not_mem_nil)

theorem resolveSegs_dir (dirs : List S) (loc : S) (hd : ∀ d ∈ dirs, PlainSeg d) (hl : PlainSeg loc) :
    resolveSegs [] (([] : S) :: dirs ++ [loc]) = [] :: dirs ++ [loc] :=
  resolveSegs_noDots _ [] (forall_mem_dir ⟨by decide, by decide⟩ (fun d h => ⟨(hd d h).nd, (hd d h).ndd⟩) ⟨hl.nd, hl.ndd⟩)

/-- for a path that starts with exactly one "/", `urlunparse` puts in front of it a prefix that depends on scheme and
    authority only -/
theorem unparse_slash_path (scheme netloc : S) : ∃ P : S, ∀ X : S, X.head? ≠ some cSlash →
    unparse ⟨scheme, netloc, cSlash :: X, [], [], []⟩ = P ++ cSlash :: X := by
  refine ⟨(if scheme.isEmpty then [] else scheme ++ [cColon]) ++
    (if !netloc.isEmpty || !scheme.isEmpty && usesNetloc.contains scheme then [cSlash, cSlash] ++ netloc else []),
    fun X hX => ?_⟩
  have t : ((cSlash :: X).take 2 != [cSlash, cSlash]) = true := by
    cases X with
    | nil => rfl
    | cons x xs => simpa using hX
  simp only [unparse, List.isEmpty_nil, if_true, List.isEmpty_cons, Bool.not_false, Bool.true_and, List.head?_cons,
    bne_self_eq_false, Bool.false_eq_true, if_false, t, Bool.and_true]
  generalize (!netloc.isEmpty || !scheme.isEmpty && usesNetloc.contains scheme) = c
  cases scheme.isEmpty <;> cases c <;> simp only [if_true, Bool.false_eq_true, if_false, List.append_assoc,
    List.cons_append, List.nil_append, List.append_nil]

/-- every scheme `urljoin` resolves against has an authority part -/
theorem usesRelative_sub_usesNetloc : usesRelative.all (fun s => usesNetloc.contains s) = true := by decide +kernel

theorem joinParts_plain (scheme netloc : S) (dirs : List S) (loc : S) (hs : usesRelative.contains scheme = true)
    (hd : ∀ d ∈ dirs, PlainSeg d) (hl : PlainSeg loc) :
    joinParts ⟨scheme, netloc, joinSlash ([] :: dirs ++ [[]]), [], [], []⟩ ⟨scheme, [], loc, [], [], []⟩ =
      some (unparse ⟨scheme, netloc, joinSlash ([] :: dirs ++ [[]]), [], [], []⟩ ++ loc) := by
  have hn : usesNetloc.contains scheme = true :=
    List.all_eq_true.mp usesRelative_sub_usesNetloc scheme (List.contains_iff_mem.mp hs)
  have hloc : loc.isEmpty = false ∧ (loc.head? == some cSlash) = false := by
    cases loc with
    | nil => exact absurd rfl hl.ne
    | cons c cs => exact ⟨rfl, by simpa using fun e : c = cSlash => hl.ns (by simp [e])⟩
  obtain ⟨P, hP⟩ := unparse_slash_path scheme netloc
  have hj : ∀ x : S, joinSlash (([] : S) :: dirs ++ [x]) = cSlash :: joinSlash (dirs ++ [x]) := fun x =>
    joinSlash_nil_cons _ (by simp)
  simp only [joinParts,
    -- same scheme, one that `urljoin` resolves; the reference has no authority, path or params of its own to return early on
    bne_self_eq_false, hs, hn, Bool.not_true, Bool.or_self, Bool.false_eq_true, if_false, if_true, List.isEmpty_nil,
    Bool.and_false, hloc.1, hloc.2, Bool.false_and,
    -- base directory: `split('/')` of the base path, whose last segment is empty and stays
    splitSlash_dir dirs hd, List.getLastD_concat,
    -- merged with the one segment of the reference; the empty-segment filter removes the trailing "" of the directory
    splitSlash_plain hl.ns, dropEmptyMiddle_dir _ _ dirs hd,
    -- no dot segment anywhere: the loop copies the list, nothing is appended after it
    resolveSegs_dir dirs loc hd hl, hl.nd, hl.ndd, decide_false]
  -- the new path starts with one "/" and is not empty; `urlunparse` prefixes it as it prefixes the base path
  rw [hj, hj, List.isEmpty_cons, if_neg Bool.false_ne_true, hP _ (head_joinSlash_ne dirs loc hd hl.ns),
    hP _ (head_joinSlash_ne dirs [] hd List.not_mem_nil), ← joinSlash_snoc loc dirs, List.append_assoc, List.cons_append]

theorem absolutize_colon (base iri : S) (h : iri.contains cColon = true) : absolutize base iri = iri := by
  unfold absolutize
  rw [if_pos h]

theorem absolutize_nobase (iri : S) : absolutize [] iri = iri := by
  unfold absolutize
  split
  · rfl
  · simp [uriRefBase, urljoin]

end RV.C15.Iri

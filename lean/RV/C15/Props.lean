import RV.C15.LemmasInit
import RV.C15.LemmasTDRename
import RV.C15.LemmasTDInit
import RV.C15.LemmasIri
/-
  C15 — the property theorems: "Query answers do not depend on how the query is written, prepared or stored."
  The general statements are `def Statement_… : Prop`, so that they can be read without their proofs (witnesses,
  `td_join_swap_partial`, `initbindings_values_td_partial` and concrete instances are stated where they are proved).

  Bags of solution mappings are lists modulo `List.Perm`; a mapping over the `n` variables of a
  query is a function `Fin n → Option Term`.
-/
namespace RV.C15

/-- Central theorem. `evalBGP` (rdflib's algorithm: one pattern at a time, under the bindings made so
    far) gives the same bag whatever order the patterns are taken in — for every store whose
    `triples(pattern)` returns each matching triple once, every seed `μ` (initBindings, bindings pushed
    in by an enclosing join), every list of patterns. -/
def Statement_reorder_irrelevant : Prop :=
  ∀ (n : Nat) (st : Store) (d : List Triple) (μ : Row n) (ts ts' : List (TP n)),
    ExactlyOnce st d → ts.Perm ts' → (evalBGP st μ ts).Perm (evalBGP st μ ts')

/-- The same over a graph given as a list in which a triple may occur several times. -/
def Statement_reorder_irrelevant_bag : Prop :=
  ∀ (n : Nat) (g : List Triple) (μ : Row n) (ts ts' : List (TP n)),
    ts.Perm ts' → (evalBGP (graphStore g) μ ts).Perm (evalBGP (graphStore g) μ ts')

/-- `reorderTriples` (static, at translation) and the sort in `evalPart` (dynamic) only permute. -/
def Statement_reorderings_are_permutations : Prop :=
  ∀ (n : Nat) (isLit : Term → Bool) (tle : TP n → TP n → Bool) (μ : Row n) (ts : List (TP n)),
    (reorderTriples isLit tle ts).Perm ts ∧ (dynOrder μ ts).Perm ts

/-- What rdflib really runs (both re-orderings, then `evalBGP`) equals `evalBGP` in any order of
    the patterns as written, whatever the (abstract) tie-break order of terms is. -/
def Statement_plan_order_irrelevant : Prop :=
  ∀ (n : Nat) (isLit : Term → Bool) (tle : TP n → TP n → Bool) (st : Store) (d : List Triple) (μ : Row n)
    (ts ts' : List (TP n)),
    ExactlyOnce st d → ts.Perm ts' → (evalPartBGP isLit tle st μ ts).Perm (evalBGP st μ ts')

theorem reorder_irrelevant : Statement_reorder_irrelevant := by
  intro n st d μ ts ts' hst hperm
  exact evalBGP_graphLike_perm (exactlyOnce_graphLike hst) hperm μ

theorem reorder_irrelevant_bag : Statement_reorder_irrelevant_bag := by
  intro n g μ ts ts' hperm
  exact evalBGP_graph_perm g hperm μ

theorem reorderings_are_permutations : Statement_reorderings_are_permutations :=
  fun _ isLit tle μ ts => ⟨reorderTriples_perm isLit tle ts, dynOrder_perm μ ts⟩

theorem plan_order_irrelevant : Statement_plan_order_irrelevant := by
  intro n isLit tle st d μ ts ts' hst hperm
  exact evalBGP_graphLike_perm (exactlyOnce_graphLike hst)
    (((dynOrder_perm μ _).trans (reorderTriples_perm isLit tle ts)).trans hperm) μ

def Statement_join_comm : Prop :=
  ∀ (n : Nat) (A B : List (Row n)), (joinBag A B).Perm (joinBag B A)

def Statement_join_assoc : Prop :=
  ∀ (n : Nat) (A B C : List (Row n)), joinBag (joinBag A B) C = joinBag A (joinBag B C)

def Statement_union_comm : Prop :=
  ∀ (n : Nat) (st : Store) (a b : Q n), ((Q.union a b).eval st).Perm ((Q.union b a).eval st)

/-- Every chain of the rewrites {permute a BGP, swap the operands of a join, swap the operands of a
    union}, applied anywhere in the tree of a query of the fragment, leaves the bag of answers alone. -/
def Statement_model_rewrite_invariant : Prop :=
  ∀ (n : Nat) (st : Store) (d : List Triple) (q q' : Q n),
    ExactlyOnce st d → Rw q q' → (q.eval st).Perm (q'.eval st)

/-- Consistent renaming of variables (any injective `ρ`, also onto a larger variable set): the
    answers of the renamed query are the renamed answers — as lists, not only as bags. -/
def Statement_rename_equivariant : Prop :=
  ∀ (n m : Nat) (ρ : Ren n m) (st : Store) (q : Q n), (ρ.q q).eval st = (q.eval st).map ρ.push

theorem join_comm : Statement_join_comm := fun _ A B => joinBag_comm A B
theorem join_assoc : Statement_join_assoc := fun _ A B C => joinBag_assoc A B C
theorem union_comm : Statement_union_comm := fun _n _st _a _b => List.perm_append_comm
theorem model_rewrite_invariant : Statement_model_rewrite_invariant :=
  fun _n _st _d _q _q' hst hrw => Rw.eval_perm (exactlyOnce_graphLike hst) hrw
theorem rename_equivariant : Statement_rename_equivariant := fun _ _ ρ st q => ρ.eval_q st q

/-- a triple pattern as written: its terms are spelled (full IRI, prefixed name, relative reference) -/
abbrev STP := STerm × STerm × STerm

/-- translation of one spelled position: resolve it, then intern the IRI as a term (`intern` is
    whatever maps an IRI to the term the store holds); an unknown prefix is an error -/
def resolvePos (pr : Prologue) (intern : List Nat → Term) {n : Nat} : Sum (Fin n) STerm → Option (PT n)
  | .inl v => some (.var v)
  | .inr s => (resolve1 pr s).map fun iri => .const (intern iri)

def resolveTP (pr : Prologue) (intern : List Nat → Term) {n : Nat}
    (t : Sum (Fin n) STerm × Sum (Fin n) STerm × Sum (Fin n) STerm) : Option (TP n) := do
  let s ← resolvePos pr intern t.1
  let p ← resolvePos pr intern t.2.1
  let o ← resolvePos pr intern t.2.2
  pure (s, p, o)

/-- evaluation of a spelled BGP: translation (PName resolution) first, evaluation afterwards -/
def evalSpelled (pr : Prologue) (intern : List Nat → Term) {n : Nat} (st : Store)
    (ts : List (Sum (Fin n) STerm × Sum (Fin n) STerm × Sum (Fin n) STerm)) : Option (List (Row n)) :=
  (ts.mapM (resolveTP pr intern)).map fun ts' => evalBGP st Row.empty ts'

/-- Spelling is gone before evaluation starts: two texts whose terms resolve alike (under their own
    prologues) are evaluated alike; a prefixed name means namespace ++ local part whatever other
    prefixes are declared (also several prefixes for one namespace), and equals the full IRI. -/
def Statement_prefix_irrelevant : Prop :=
  (∀ (pr1 pr2 : Prologue) (intern : List Nat → Term) (n : Nat) (st : Store)
      (ts1 ts2 : List (Sum (Fin n) STerm × Sum (Fin n) STerm × Sum (Fin n) STerm)),
      ts1.mapM (resolveTP pr1 intern) = ts2.mapM (resolveTP pr2 intern) →
      evalSpelled pr1 intern st ts1 = evalSpelled pr2 intern st ts2) ∧
  (∀ (pr : Prologue) (p p' : Nat) (ns ns' loc : List Nat), p ≠ p' →
      resolve1 ((pr.bind p ns).bind p' ns') (.pname p loc) = some (ns ++ loc) ∧
      resolve1 ((pr.bind p ns).bind p' ns') (.pname p loc) = resolve1 pr (.full (ns ++ loc)))

theorem prefix_irrelevant : Statement_prefix_irrelevant := by
  refine ⟨fun pr1 pr2 intern n st ts1 ts2 h => by simp [evalSpelled, h], fun pr p p' ns ns' loc hne => ?_⟩
  have hne' : ¬ p' = p := fun e => hne e.symm
  simp [resolve1, Prologue.bind, lookupPrefix, hne']

/-- `SPARQLProcessor.query(text, initNs)` — the string path of `Graph.query`: every call parses and
    translates the text against the prologue of *that* call (its `initNs`, i.e. the graph's bindings unless
    given, then the text's own declarations) and evaluates; the processor keeps nothing from one call to the
    next (there is no translation cache in the code, so the model has no state to thread). -/
def runTexts (intern : List Nat → Term) {n : Nat} :
    List (Prologue × Store × List (Sum (Fin n) STerm × Sum (Fin n) STerm × Sum (Fin n) STerm)) →
      List (Option (List (Row n)))
  | [] => []
  | (pr, st, ts) :: rest => evalSpelled pr intern st ts :: runTexts intern rest

/-- A sequence of string queries, the same text or not, under the same or different prefix bindings, on the
    same or different graphs: each call answers as it would alone; and one prefixed name evaluated under two
    prologues that give its prefix different namespaces denotes the respective namespace ++ local part each
    time, whatever came before. -/
def Statement_string_query_stateless : Prop :=
  (∀ (intern : List Nat → Term) (n : Nat)
      (calls : List (Prologue × Store × List (Sum (Fin n) STerm × Sum (Fin n) STerm × Sum (Fin n) STerm))),
      runTexts intern calls = calls.map fun c => evalSpelled c.1 intern c.2.1 c.2.2) ∧
  (∀ (pr : Prologue) (p : Nat) (ns1 ns2 loc : List Nat),
      resolve1 (pr.bind p ns1) (.pname p loc) = some (ns1 ++ loc) ∧
      resolve1 (pr.bind p ns2) (.pname p loc) = some (ns2 ++ loc) ∧
      resolve1 ((pr.bind p ns1).bind p ns2) (.pname p loc) = some (ns2 ++ loc))

theorem string_query_stateless : Statement_string_query_stateless := by
  refine ⟨fun intern n calls => ?_, fun pr p ns1 ns2 loc => by simp [resolve1, Prologue.bind, lookupPrefix]⟩
  induction calls with
  | nil => rfl
  | cons c rest ih =>
    obtain ⟨pr, st, ts⟩ := c
    simp [runTexts, ih]

/-- For the fragment `SELECT pv|* { BGP . { SELECT pv' { BGP' } } FILTER e }` (sub-select and filter
    optional), evaluated as rdflib does it (lazy join pushing into the sub-select's isolated context,
    initBindings re-seeded there): initBindings for variables that the outermost basic graph pattern
    binds and no sub-query reuses (`Outermost`) = a VALUES row for them in the group. -/
def Statement_initbindings_values : Prop :=
  ∀ (n : Nat) (st : Store) (d : List Triple) (init : Row n) (q : SelQ n),
    ExactlyOnce st d → Outermost init q → (evalInit st init q).Perm (evalValues st init q)

/-- The core of it, for every seed and every BGP (no side condition): seeding = evaluating unseeded
    and joining every solution with the seed. -/
def Statement_bgp_seed_is_join : Prop :=
  ∀ (n : Nat) (st : Store) (d : List Triple) (κ : Row n) (ts : List (TP n)),
    ExactlyOnce st d → (evalBGP st κ ts).Perm (joinBag (evalBGP st Row.empty ts) [κ])

theorem initbindings_values : Statement_initbindings_values := fun _n _st _d init q hst ho =>
  evalInit_perm_evalValues (exactlyOnce_graphLike hst) init q ho

theorem bgp_seed_is_join : Statement_bgp_seed_is_join := fun _n _st _d κ ts hst =>
  evalBGP_graphLike_seed_right (exactlyOnce_graphLike hst) κ ts

/-- rows as lists, for the concrete instances below -/
def showRows {n : Nat} (rs : List (Row n)) : List (List (Option Term)) := rs.map fun μ => (List.finRange n).map μ

/-- The side condition is needed (on the model, as on the code): with a sub-query that reuses the variable,
    initBindings reach inside it, the VALUES row does not. -/
theorem initbindings_values_needs_no_subquery_reuse :
    let g : List Triple := [(1, 2, 3), (4, 2, 3)]
    let q : SelQ 2 := { ts := [(.var 0, .const 2, .var 1)], sub := some ([1], [(.var 0, .const 2, .var 1)]),
                        filt := none, proj := none }
    let init : Row 2 := Row.empty.set 0 1
    showRows (evalInit (graphStore g) init q) ≠ showRows (evalValues (graphStore g) init q) := by
  decide +kernel

/-- … and so is its other half: a variable the outermost BGP does not bind is shown by `SELECT *` only in the
    VALUES form. -/
theorem initbindings_values_needs_outermost_binding :
    let g : List Triple := [(1, 2, 1)]
    let q : SelQ 2 := { ts := [(.var 0, .const 2, .var 0)], sub := none, filt := none, proj := none }
    let init : Row 2 := Row.empty.set 1 5
    showRows (evalInit (graphStore g) init q) ≠ showRows (evalValues (graphStore g) init q) := by
  decide +kernel

/-- `Expr.eval` leaves every `ctx` field of the tree it visited at `None` — whatever they held
    before (the `finally` clause) — and its value does not depend on what they held. -/
def Statement_expr_eval_clears : Prop :=
  ∀ (n : Nat) (e : ExS n) (c : Row n), (e.eval c).2 = ExS.ofEx e.erase ∧ (e.eval c).1 = e.erase.eval c

/-- One evaluation of a prepared query: the tree afterwards is the tree before — every `ctx` field `None`, and the
    triple lists of its BGPs in the order they had (the per-evaluation sort of `evalPart` works on a copy) — and the
    answers are those of the algebra (which has no state), as a bag. -/
def Statement_prepared_stateless : Prop :=
  ∀ (n : Nat) (q : QS n) (st : Store) (d : List Triple), q.clean = true → ExactlyOnce st d →
    (q.run st).2 = q ∧ (q.run st).1.Perm (q.erase.eval st)

/-- Evaluating one prepared object any number of times, on the same or on other data: each run
    answers as a freshly translated tree does on that data. -/
def Statement_prepared_repeat : Prop :=
  ∀ (n : Nat) (q : Q n) (sts : List Store),
    (runMany (QS.ofQ q) sts).1 = sts.map (fun st => ((QS.ofQ q).run st).1) ∧ (runMany (QS.ofQ q) sts).2 = QS.ofQ q

/-- Any schedule of `Expr.eval` calls on the expression nodes of a prepared tree (rows of several
    evaluations interleaved, result generators abandoned half-way): the nodes end as they began. -/
def Statement_prepared_any_schedule : Prop :=
  ∀ (n : Nat) (es : List (ExS n)) (calls : List (Nat × Row n)),
    (∀ e ∈ es, e.clean = true) → (runCalls es calls).2 = es

/-- The whole prepared object — `prologue.base` included — is the same after an evaluation, whatever `base=`
    keyword the evaluation was given, and the keyword of one evaluation has no influence on the next. -/
def Statement_prepared_base_unchanged : Prop :=
  ∀ (n : Nat) (p : PQ n) (st st' : Store) (b b' : Option (List Nat)), p.tree.clean = true →
    (p.run st b).2 = p ∧ ((p.run st b).2.run st' b').1 = (p.run st' b').1

theorem prepared_base_unchanged : Statement_prepared_base_unchanged := fun _ p st st' b b' h => by
  have e : (p.run st b).2 = p := by
    cases p with
    | mk base tree => simp [PQ.run, QS.run_snd st tree h]
  exact ⟨e, by rw [e]⟩

theorem expr_eval_clears : Statement_expr_eval_clears := fun _ e c => by rw [e.eval_eq c]; exact ⟨rfl, rfl⟩

theorem prepared_stateless : Statement_prepared_stateless := fun _ q st _ h hd =>
  ⟨QS.run_snd st q h, QS.run_fst_perm (exactlyOnce_graphLike hd) q h⟩

theorem prepared_repeat : Statement_prepared_repeat := fun _ q sts => by
  have hc := QS.clean_ofQ q
  rw [runMany_spec _ hc]
  exact ⟨rfl, rfl⟩

theorem prepared_any_schedule : Statement_prepared_any_schedule := fun _ es calls h => runCalls_state es h calls

/-- The evaluator reaches a store only through `triples`: two stores that each return every matching
    triple exactly once, over the same set of triples, give the same bag — for a BGP under any seed and
    for every query of the fragment. -/
def Statement_store_irrelevant : Prop :=
  ∀ (n : Nat) (st1 st2 : Store) (d1 d2 : List Triple), ExactlyOnce st1 d1 → ExactlyOnce st2 d2 → SetEq d1 d2 →
    (∀ (μ : Row n) (ts : List (TP n)), (evalBGP st1 μ ts).Perm (evalBGP st2 μ ts)) ∧
    (∀ q : Q n, (q.eval st1).Perm (q.eval st2))

/-- The store models meet that hypothesis: `Memory` and `SimpleMemory` when their indexes hold the same
    set (C01), the auditable wrapper because it passes `triples` through, the read-only aggregate over
    the union of its members — overlapping members included, because a triple of an earlier member is
    skipped. -/
def Statement_stores_exactly_once : Prop :=
  (∀ (m : Mem) (d : List Triple), m.Holds d → ExactlyOnce m.triples d) ∧
  (∀ (m : SMem) (d : List Triple), m.Holds d → ExactlyOnce m.triples d) ∧
  (∀ (st : Store) (d : List Triple), ExactlyOnce st d → ExactlyOnce (audTriples st) d) ∧
  (∀ (ms : List (Store × List Triple)) (d : List Triple), (∀ x ∈ ms, ExactlyOnce x.1 x.2) →
      (∀ t, t ∈ d ↔ ∃ x ∈ ms, t ∈ x.2) → ExactlyOnce (aggTriples (ms.map (·.1))) d)

theorem store_irrelevant : Statement_store_irrelevant := by
  intro n st1 st2 d1 d2 h1 h2 hd
  have hst := exactlyOnce_perm h1 h2 hd
  exact ⟨fun μ ts => evalBGP_store_congr hst ts μ, fun q => Q.eval_store_congr hst q⟩

theorem stores_exactly_once : Statement_stores_exactly_once :=
  ⟨fun _ _ h => Mem.exactlyOnce h, fun _ _ h => SMem.exactlyOnce h, fun _ _ h => aud_exactlyOnce h,
   fun ms d h hd => agg_exactlyOnce ms h d hd⟩

/-- Without the skip (the code before the repair) an overlapping split answers a triple twice. -/
theorem aggregate_without_skip_duplicates :
    let g1 : List Triple := [(1, 2, 3)]
    let g2 : List Triple := [(1, 2, 3), (4, 2, 3)]
    (graphStore g1 (none, none, none) ++ graphStore g2 (none, none, none)).length = 3 ∧
    (aggTriples [graphStore g1, graphStore g2] (none, none, none)).length = 2 := by
  decide +kernel

/-! ## the evaluator as rdflib runs it (top-down, bindings pushed into the operand evaluated next):
       BGP order and variable names through OPTIONAL, MINUS, GRAPH, VALUES, BIND, FILTER, lazy and non-lazy joins -/

/-- every graph an evaluation can reach answers `triples(pattern)` with each matching triple once -/
def DSet.AllExactlyOnce (ds : DSet) : Prop :=
  (∃ d, ExactlyOnce ds.dflt d) ∧ ∀ x ∈ ds.named, ∃ d, ExactlyOnce x.2 d

/-- Permuting the triple patterns of any BGPs anywhere in the algebra tree — under OPTIONAL (left or right side),
    MINUS (either side), GRAPH, BIND, FILTER, UNION, lazy or non-lazy joins — leaves the bag of `evalPart` alone, in
    every context (current graph `g`, pushed bindings `μ`, initBindings `init`), hence for the SELECT query. -/
def Statement_td_bgp_reorder : Prop :=
  ∀ (n : Nat) (ds : DSet) (init : Row n) (q q' : P n), ds.AllExactlyOnce → RwB q q' →
    (∀ (g : Store) (μ : Row n), (∃ d, ExactlyOnce g d) → (evalTD ds init q g μ).Perm (evalTD ds init q' g μ)) ∧
    (∀ pv, (evalSelectTD ds init pv q).Perm (evalSelectTD ds init pv q'))

/-- What rdflib runs — `reorderTriples` on every BGP at translation, the dynamic sort at each `evalPart` — equals
    the query with its BGPs in any written order, whatever the (abstract) tie-break order of terms. -/
def Statement_td_plan_order_irrelevant : Prop :=
  ∀ (n : Nat) (isLit : Term → Bool) (tle : TP n → TP n → Bool) (ds : DSet) (init : Row n) (pv : List (Fin n))
    (q q' : P n), ds.AllExactlyOnce → RwB q q' →
    (evalSelectTD ds init pv (q.reorder isLit tle)).Perm (evalSelectTD ds init pv q')

/-- Consistent renaming of the variables (any injective `ρ`; the query, its projection, the initBindings and the
    pushed bindings renamed together): the answers are the renamed answers, as lists — through every operator. -/
def Statement_td_rename_equivariant : Prop :=
  ∀ (n m : Nat) (ρ : Ren n m) (ds : DSet) (init : Row n) (q : P n),
    (∀ (g : Store) (μ : Row n), evalTD ds (ρ.push init) (ρ.p q) g (ρ.push μ) = (evalTD ds init q g μ).map ρ.push) ∧
    (∀ pv, evalSelectTD ds (ρ.push init) (pv.map ρ.f) (ρ.p q) = (evalSelectTD ds init pv q).map ρ.push)

def Statement_td_union_swap : Prop :=
  ∀ (n : Nat) (ds : DSet) (init : Row n) (a b : P n) (g : Store) (μ : Row n),
    (evalTD ds init (.union a b) g μ).Perm (evalTD ds init (.union b a) g μ)

/-- Swapping the operands of a join — at full strength, for the evaluator as it runs.  FALSE for rdflib (known
    findings C15-K3 / K7 / K8: `_vars` is an upper bound used as if exact): see `td_join_swap_witness`; what holds is
    `td_join_swap_partial` (joins that are not evaluated lazily) and, on the bottom-up algebra, `model_rewrite_invariant`. -/
def Statement_td_join_swap : Prop :=
  ∀ (n : Nat) (ds : DSet) (init : Row n) (a b : P n) (g : Store) (μ : Row n),
    (evalTD ds init (.join a b) g μ).Perm (evalTD ds init (.join b a) g μ)

/-- The evaluator as it runs reaches its stores only through `triples`: the same data (default graph and named
    graphs) behind other stores gives the same bag — through every operator, GRAPH included. -/
def Statement_td_store_irrelevant : Prop :=
  ∀ (n : Nat) (ds ds' : DSet) (init : Row n) (pv : List (Fin n)) (q : P n),
    (∃ d d', ExactlyOnce ds.dflt d ∧ ExactlyOnce ds'.dflt d' ∧ SetEq d d') → SameData ds.named ds'.named →
    (evalSelectTD ds init pv q).Perm (evalSelectTD ds' init pv q)

theorem td_store_irrelevant : Statement_td_store_irrelevant := by
  intro n ds ds' init pv q hdflt hnamed
  exact ((Cong.of_sameData hnamed q).perm ds.dflt ds'.dflt init hdflt).map _

theorem td_bgp_reorder : Statement_td_bgp_reorder := by
  intro n ds init q q' hds hrw
  obtain ⟨⟨_, hdflt⟩, hnamed⟩ := hds
  have c : Cong ds ds init q q' := .of_rwB (.of_all hnamed) hrw
  exact ⟨fun g μ ⟨_, hg⟩ => c.perm g g μ (.of_exactlyOnce hg), fun pv => (c.perm _ _ init (.of_exactlyOnce hdflt)).map _⟩

theorem td_plan_order_irrelevant : Statement_td_plan_order_irrelevant := by
  intro n isLit tle ds init pv q q' hds hrw
  have hplan := (td_bgp_reorder n ds init q (q.reorder isLit tle) hds (RwB.reorder isLit tle q)).2 pv
  exact hplan.symm.trans ((td_bgp_reorder n ds init q q' hds hrw).2 pv)

theorem td_rename_equivariant : Statement_td_rename_equivariant := by
  intro n m ρ ds init q
  refine ⟨ρ.evalTD_push ds init q, fun pv => ?_⟩
  have h := ρ.evalTD_push ds init q ds.dflt init
  simp only [evalSelectTD, h, List.map_map]
  congr 1
  funext μ
  exact ρ.project_push pv μ

theorem td_union_swap : Statement_td_union_swap := by
  intro n ds init a b g μ
  exact List.perm_append_comm

/-- a join that is not evaluated lazily (an operand contains a join) is `_join` of the two bags: commutative -/
theorem td_join_swap_partial :
    ∀ (n : Nat) (ds : DSet) (init : Row n) (a b : P n) (g : Store) (μ : Row n), (a.noJoin && b.noJoin) = false →
      (evalTD ds init (.join a b) g μ).Perm (evalTD ds init (.join b a) g μ) := by
  intro n ds init a b g μ h
  have h' : (b.noJoin && a.noJoin) = false := by rw [Bool.and_comm]; exact h
  rw [evalTD_join, evalTD_join, h, h']
  exact joinBag_comm _ _

/-- `{ ?x p ?y } { OPTIONAL { ?x q ?z } FILTER(bound(?x)) }` over one `p` triple: the lazy join pushes `?x` into the
    right group, whose filter keeps it (it is in `_vars` of the OPTIONAL, which did not match): 1 solution; with the
    operands swapped the group is evaluated first, `?x` is unbound: 0 solutions. -/
theorem td_join_swap_witness : ¬ Statement_td_join_swap := by
  intro h
  have := (h 3 { dflt := graphStore [(1, 10, 2)], named := [] } Row.empty
    (.bgp [(.var 0, .const 10, .var 1)])
    (.filter (.bound 0) (.leftJoin (.bgp []) (.bgp [(.var 0, .const 11, .var 2)]) none))
    (graphStore [(1, 10, 2)]) Row.empty).length_eq
  revert this
  decide +kernel

/-- `Graph.query("SELECT pv { B0 tail* }", initBindings=κ)`, tails = `OPTIONAL { B [FILTER e] }` | `{B1} UNION {B2}`,
    over a graph given as a list of triples -/
def evalInitT {n : Nat} (g : List Triple) (κ : Row n) (pv : List (Fin n)) (ts0 : List (TP n)) (tails : List (Tail n)) :
    List (Row n) :=
  evalSelectTD { dflt := graphStore g, named := [] } κ pv (buildT ts0 tails)

/-- the same query with `VALUES (dom κ) { (κ) }` at the end of its group, no initBindings -/
def evalValuesT {n : Nat} (g : List Triple) (κ : Row n) (pv : List (Fin n)) (ts0 : List (TP n)) (tails : List (Tail n)) :
    List (Row n) :=
  evalSelectTD { dflt := graphStore g, named := [] } Row.empty pv (.join (buildT ts0 tails) (.values [κ]))

/-- initBindings for variables the outermost BGP binds = a VALUES row for them, with any number of OPTIONAL (with or
    without a filter of their own) and UNION elements after the outermost BGP — evaluated as rdflib evaluates
    (bindings pushed into the OPTIONAL parts and UNION branches, the OPTIONAL re-check, `forget`, `thaw`). -/
def Statement_initbindings_values_td : Prop :=
  ∀ (n : Nat) (g : List Triple) (κ : Row n) (pv : List (Fin n)) (ts0 : List (TP n)) (tails : List (Tail n)),
    (∀ v, κ v ≠ none → v ∈ bgpVars ts0) → (evalInitT g κ pv ts0 tails).Perm (evalValuesT g κ pv ts0 tails)

theorem initbindings_values_td : Statement_initbindings_values_td := by
  intro n g κ pv ts0 tails h
  have c := SeedClaim.allTails (ds := { dflt := graphStore g, named := [] }) tails _ (SeedClaim.bgp _ g κ ts0 h)
  unfold evalInitT evalValuesT evalSelectTD
  -- the VALUES row at the end of the group is one more join with `[κ]`
  exact (c.seed.trans (values_join _ _ κ _).symm).map _

/-- the special case in which every join of the tree is evaluated lazily (`tailsLazy`: any number of OPTIONAL
    tails, at most one UNION tail; a later one is joined by `_join`) -/
theorem initbindings_values_td_partial :
    ∀ (n : Nat) (g : List Triple) (κ : Row n) (pv : List (Fin n)) (ts0 : List (TP n)) (tails : List (Tail n)),
      tailsLazy true tails = true → (∀ v, κ v ≠ none → v ∈ bgpVars ts0) →
      (evalInitT g κ pv ts0 tails).Perm (evalValuesT g κ pv ts0 tails) := by
  exact fun n g κ pv ts0 tails _ h => initbindings_values_td n g κ pv ts0 tails h

/-- the side condition is needed on the evaluator as it runs, too: `{ ?x p ?y OPTIONAL { ?x q ?z } }` with
    initBindings for `?z` (which the outermost BGP does not bind): the value restricts the OPTIONAL part and the
    solution survives without it; the VALUES row, joined afterwards, removes the solution whose `?z` differs -/
theorem initbindings_values_td_needs_outermost_binding :
    let g : List Triple := [(1, 10, 2), (1, 11, 3)]
    let κ : Row 3 := Row.empty.set 2 4
    let tails : List (Tail 3) := [.opt [(.var 0, .const 11, .var 2)] none]
    showRows (evalInitT g κ [0, 1, 2] [(.var 0, .const 10, .var 1)] tails) ≠
      showRows (evalValuesT g κ [0, 1, 2] [(.var 0, .const 10, .var 1)] tails) := by
  decide +kernel

/-- (a) Under a BASE whose path is a directory (`scheme://authority/d1/…/dk/`, plain segments, no query or fragment; any
    scheme `urljoin` resolves against) a reference that is one plain segment denotes BASE ++ reference: the IRI that
    the full spelling denotes and that the prefixed name `p:loc` denotes when `p` is bound to the BASE string — stated on
    the parsed components (`joinParts` = `urljoin` after its two `urlparse` calls; the parser is tied to the
    implementation by the `iri` stream).  (b) A reference that contains ":" is never resolved: it is its own full
    spelling whatever the BASE.  (c) Without a BASE nothing is resolved. -/
def Statement_base_relative_spelling : Prop :=
  (∀ (scheme netloc : Iri.S) (dirs : List Iri.S) (loc : Iri.S), Iri.usesRelative.contains scheme = true →
      (∀ d ∈ dirs, Iri.PlainSeg d) → Iri.PlainSeg loc →
      Iri.joinParts ⟨scheme, netloc, Iri.joinSlash ([] :: dirs ++ [[]]), [], [], []⟩ ⟨scheme, [], loc, [], [], []⟩ =
        some (Iri.unparse ⟨scheme, netloc, Iri.joinSlash ([] :: dirs ++ [[]]), [], [], []⟩ ++ loc)) ∧
  (∀ (pr : Prologue) (iri : List Nat), iri.contains Iri.cColon = true →
      resolve1 pr (.rel iri) = resolve1 pr (.full iri)) ∧
  (∀ (pfx : List (Nat × List Nat)) (iri : List Nat), resolve1 { base := [], prefixes := pfx } (.rel iri) = some iri)

theorem base_relative_spelling : Statement_base_relative_spelling :=
  ⟨fun scheme netloc dirs loc hs hd hl => Iri.joinParts_plain scheme netloc dirs loc hs hd hl,
   fun pr iri h => by simp only [resolve1, Iri.absolutize_colon pr.base iri h],
   fun pfx iri => by simp only [resolve1, Iri.absolutize_nobase]⟩

/-- the string-level pipeline on concrete instances (`ws://e/n/` is BASE): a plain reference is appended, dot segments
    are removed, an empty middle segment of the merged path is dropped (CPython, not RFC 3986), a trailing "#" that
    `urljoin` loses is put back by `URIRef.__new__`, a reference with ":" is left alone, an unknown scheme resolves
    nothing -/
theorem absolutize_instances :
    let base : List Nat := [119, 115, 58, 47, 47, 101, 47, 110, 47]
    Iri.absolutize base [97] = base ++ [97] ∧
    Iri.absolutize base [46, 46, 47, 98] = [119, 115, 58, 47, 47, 101, 47, 98] ∧
    Iri.absolutize base [97, 47, 47, 98] = base ++ [97, 47, 98] ∧
    Iri.absolutize base [97, 35] = base ++ [97, 35] ∧
    Iri.absolutize base [97, 58, 98] = [97, 58, 98] ∧
    Iri.absolutize [120, 121, 58, 47, 47, 101, 47, 110, 47] [97] = [97] := by
  decide +kernel

/-! ## non-vacuity: the hypotheses are met by concrete, non-trivial instances -/

example : ExactlyOnce (graphStore [(1, 2, 3), (4, 2, 3), (3, 2, 1)]) [(1, 2, 3), (4, 2, 3), (3, 2, 1)] :=
  graphStore_exactlyOnce (by decide)

example : ({ all := [(1, 2, 3), (4, 2, 3)], spo := [(4, 2, 3), (1, 2, 3)], pos := [(1, 2, 3), (4, 2, 3)],
             osp := [(4, 2, 3), (1, 2, 3)] } : Mem).Holds [(1, 2, 3), (4, 2, 3)] :=
  ⟨by decide, List.Perm.refl _, List.Perm.swap _ _ _, List.Perm.refl _, List.Perm.swap _ _ _⟩

/-- a two-pattern BGP with two answers, evaluated in both orders -/
example :
    showRows (evalBGP (graphStore [(1, 2, 3), (4, 2, 3), (3, 5, 1)]) (Row.empty : Row 3)
      [(.var 0, .const 2, .var 1), (.var 1, .const 5, .var 2)]) = [[some 1, some 3, some 1], [some 4, some 3, some 1]] ∧
    showRows (evalBGP (graphStore [(1, 2, 3), (4, 2, 3), (3, 5, 1)]) (Row.empty : Row 3)
      [(.var 1, .const 5, .var 2), (.var 0, .const 2, .var 1)]) = [[some 1, some 3, some 1], [some 4, some 3, some 1]] := by
  decide +kernel

/-- a renaming that is not the identity: swap the two variables -/
def swap2 : Ren 2 2 where
  f := fun v => if v = 0 then 1 else 0
  inv := fun w => some (if w = 0 then 1 else 0)
  left := by decide
  right := by decide

example :
    showRows ((Q.bgp [(.var 0, .const 2, .var 1)] : Q 2).eval (graphStore [(1, 2, 3)])) = [[some 1, some 3]] ∧
    showRows ((swap2.q (.bgp [(.var 0, .const 2, .var 1)])).eval (graphStore [(1, 2, 3)])) = [[some 3, some 1]] := by
  decide +kernel

/-- an initBindings instance that satisfies `Outermost` and restricts the answer -/
example :
    let q : SelQ 2 := { ts := [(.var 0, .const 2, .var 1)], sub := none, filt := none, proj := none }
    let init : Row 2 := Row.empty.set 0 1
    Outermost init q ∧
      showRows (evalInit (graphStore [(1, 2, 3), (4, 2, 3)]) init q) = [[some 1, some 3]] := by
  exact ⟨⟨by decide +kernel, trivial⟩, by decide +kernel⟩

/-- the dynamic sort really reorders (so a sort done in place on the prepared tree would change its state) -/
example :
    dynOrder (Row.empty : Row 2) [(.var 0, .const 2, .var 1), (.const 1, .const 2, .var 1)] =
      [(.const 1, .const 2, .var 1), (.var 0, .const 2, .var 1)] := by
  decide +kernel

/-- a prepared filter query evaluated on two data sets in turn: clean before, clean after -/
example :
    let q : Q 2 := .filter (.not (.same (.var 0) (.const 4))) (.bgp [(.var 0, .const 2, .var 1)])
    let r := runMany (QS.ofQ q) [graphStore [(1, 2, 3), (4, 2, 3)], graphStore [(4, 2, 3)], graphStore [(1, 2, 3), (4, 2, 3)]]
    r.1.map showRows = [[[some 1, some 3]], [], [[some 1, some 3]]] ∧ r.2.clean = true := by
  decide +kernel

/-- a data set with a named graph meets `AllExactlyOnce`; an OPTIONAL + MINUS + GRAPH query over it has answers, and
    the same answers with the patterns of its BGP swapped -/
example :
    let ds : DSet := { dflt := graphStore [(1, 10, 2), (3, 10, 2), (3, 11, 4)], named := [(7, graphStore [(1, 10, 2)])] }
    let q : P 3 := .minus (.leftJoin (.bgp [(.var 0, .const 10, .var 1), (.var 0, .const 10, .const 2)])
                              (.bgp [(.var 0, .const 11, .var 2)]) none)
                          (.graph (.const 7) (.bgp [(.var 0, .const 10, .var 1)]))
    let q' : P 3 := .minus (.leftJoin (.bgp [(.var 0, .const 10, .const 2), (.var 0, .const 10, .var 1)])
                              (.bgp [(.var 0, .const 11, .var 2)]) none)
                          (.graph (.const 7) (.bgp [(.var 0, .const 10, .var 1)]))
    ds.AllExactlyOnce ∧ RwB q q' ∧
      showRows (evalSelectTD ds Row.empty [0, 1, 2] q) = [[some 3, some 2, some 4]] ∧
      showRows (evalSelectTD ds Row.empty [0, 1, 2] q') = [[some 3, some 2, some 4]] := by
  refine ⟨⟨⟨_, graphStore_exactlyOnce (by decide)⟩, fun x hx => ?_⟩,
    .minus (.leftJoin none (.bgp (List.Perm.swap _ _ _)) (.refl _)) (.refl _), by decide +kernel, by decide +kernel⟩
  cases List.mem_singleton.1 hx
  exact ⟨_, graphStore_exactlyOnce (by decide)⟩

/-- an initBindings instance through OPTIONAL and UNION that meets the side condition and restricts the answer -/
example :
    let g : List Triple := [(1, 10, 2), (3, 10, 2), (1, 11, 5), (2, 12, 6)]
    let κ : Row 4 := Row.empty.set 0 1
    let tails : List (Tail 4) := [.opt [(.var 0, .const 11, .var 2)] (some (.bound 2)),
                                  .uni [(.var 1, .const 12, .var 3)] [(.var 1, .const 13, .var 3)]]
    (∀ v, κ v ≠ none → v ∈ bgpVars [((.var 0, .const 10, .var 1) : TP 4)]) ∧ tailsLazy true tails = true ∧
      showRows (evalInitT g κ [0, 1, 2, 3] [(.var 0, .const 10, .var 1)] tails) = [[some 1, some 2, some 5, some 6]] ∧
      showRows (evalValuesT g κ [0, 1, 2, 3] [(.var 0, .const 10, .var 1)] tails) = [[some 1, some 2, some 5, some 6]] := by
  decide +kernel

/-- a sub-SELECT under a lazy join: its un-projected variable `?1` is not correlated with the outer `?1` (the
    sub-select runs in a cleaned context), its projected `?0` is joined -/
example :
    let ds : DSet := { dflt := graphStore [(1, 10, 2), (3, 10, 4), (1, 11, 5)], named := [] }
    let q : P 2 := .join (.bgp [(.var 0, .const 10, .var 1), (.var 0, .const 10, .var 1)])
                         (.sub [0] (.bgp [(.var 0, .const 11, .var 1)]))
    RwB q (.join (.bgp [(.var 0, .const 10, .var 1), (.var 0, .const 10, .var 1)]) (.sub [0] (.bgp [(.var 0, .const 11, .var 1)]))) ∧
      showRows (evalSelectTD ds Row.empty [0, 1] q) = [[some 1, some 2]] := by
  exact ⟨.refl _, by decide +kernel⟩

end RV.C15

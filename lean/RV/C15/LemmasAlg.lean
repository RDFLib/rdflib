import RV.C15.Lemmas
/-
  The algebra over bags of mappings and its rewrites (`Rw`), renaming of variables (`Ren`), and the prepared tree: the
  `ctx` fields of its expression nodes under one evaluation and under any schedule of `Expr.eval` calls (`runCalls`).
-/
namespace RV.C15

open List

variable {n : Nat}

/-- the algebra only looks at a store through `evalBGP` -/
theorem Q.eval_store_congr {st1 st2 : Store} (h : ∀ pat, (st1 pat).Perm (st2 pat)) (q : Q n) :
    (q.eval st1).Perm (q.eval st2) := by
  induction q with
  | bgp ts => exact evalBGP_store_congr h ts Row.empty
  | join a b iha ihb => exact joinBag_perm iha ihb
  | union a b iha ihb => exact iha.append ihb
  | filter e q ih => exact ih.filter _
  | proj vs q ih => exact ih.map _

/-- semantics-preserving rewrites of the fragment: permuting a BGP, swapping the operands of a
    join or of a union, anywhere in the tree -/
inductive Rw : Q n → Q n → Prop
  | refl (q : Q n) : Rw q q
  | trans {a b c : Q n} : Rw a b → Rw b c → Rw a c
  | bgp {ts ts' : List (TP n)} : ts.Perm ts' → Rw (.bgp ts) (.bgp ts')
  | joinSwap (a b : Q n) : Rw (.join a b) (.join b a)
  | unionSwap (a b : Q n) : Rw (.union a b) (.union b a)
  | join {a a' b b' : Q n} : Rw a a' → Rw b b' → Rw (.join a b) (.join a' b')
  | union {a a' b b' : Q n} : Rw a a' → Rw b b' → Rw (.union a b) (.union a' b')
  | filter (e : Ex n) {q q' : Q n} : Rw q q' → Rw (.filter e q) (.filter e q')
  | proj (vs : List (Fin n)) {q q' : Q n} : Rw q q' → Rw (.proj vs q) (.proj vs q')

theorem Rw.eval_perm {st : Store} {g : List Triple} (hg : GraphLike st g) {q q' : Q n} (h : Rw q q') :
    (q.eval st).Perm (q'.eval st) := by
  induction h with
  | refl q => exact List.Perm.refl _
  | trans _ _ ih1 ih2 => exact ih1.trans ih2
  | bgp hp => exact evalBGP_graphLike_perm hg hp Row.empty
  | joinSwap a b => exact joinBag_comm _ _
  | unionSwap a b => exact List.perm_append_comm
  | join _ _ ih1 ih2 => exact joinBag_perm ih1 ih2
  | union _ _ ih1 ih2 => exact ih1.append ih2
  | filter e _ ih => exact ih.filter _
  | proj vs _ ih => exact ih.map _

/-- an injective renaming of the variables, with its partial inverse -/
structure Ren (n m : Nat) where
  f : Fin n → Fin m
  inv : Fin m → Option (Fin n)
  left : ∀ v, inv (f v) = some v
  right : ∀ w v, inv w = some v → f v = w

/-- the solution `μ` over the renamed variables: `ρ.f v` bound to what `μ` binds `v` to, nothing else bound -/
def Ren.push {n m : Nat} (ρ : Ren n m) (μ : Row n) : Row m :=
  fun w => match ρ.inv w with
    | some v => μ v
    | none => none

def Ren.pt {n m : Nat} (ρ : Ren n m) : PT n → PT m
  | .var v => .var (ρ.f v)
  | .const c => .const c

def Ren.tp {n m : Nat} (ρ : Ren n m) (t : TP n) : TP m := (ρ.pt t.1, ρ.pt t.2.1, ρ.pt t.2.2)

def Ren.ex {n m : Nat} (ρ : Ren n m) : Ex n → Ex m
  | .same a b => .same (ρ.pt a) (ρ.pt b)
  | .bound v => .bound (ρ.f v)
  | .not e => .not (ρ.ex e)
  | .and a b => .and (ρ.ex a) (ρ.ex b)
  | .or a b => .or (ρ.ex a) (ρ.ex b)

def Ren.q {n m : Nat} (ρ : Ren n m) : Q n → Q m
  | .bgp ts => .bgp (ts.map ρ.tp)
  | .join a b => .join (ρ.q a) (ρ.q b)
  | .union a b => .union (ρ.q a) (ρ.q b)
  | .filter e q => .filter (ρ.ex e) (ρ.q q)
  | .proj vs q => .proj (vs.map ρ.f) (ρ.q q)

variable {m : Nat}

theorem Ren.push_f (ρ : Ren n m) (μ : Row n) (v : Fin n) : ρ.push μ (ρ.f v) = μ v := by
  simp [Ren.push, ρ.left v]

theorem Ren.inj (ρ : Ren n m) {v v' : Fin n} (h : ρ.f v = ρ.f v') : v = v' := by
  have := ρ.left v
  rw [h, ρ.left v'] at this
  exact (Option.some.inj this).symm

theorem Ren.push_off (ρ : Ren n m) (μ : Row n) {w : Fin m} (h : ρ.inv w = none) : ρ.push μ w = none := by
  simp only [Ren.push, h]

theorem Ren.eq_push (ρ : Ren n m) {x : Row m} {μ : Row n} (h1 : ∀ v, x (ρ.f v) = μ v)
    (h2 : ∀ w, ρ.inv w = none → x w = none) : x = ρ.push μ := by
  funext w
  cases hw : ρ.inv w with
  | none => rw [h2 w hw, ρ.push_off μ hw]
  | some v => cases ρ.right w v hw; rw [h1, ρ.push_f]

theorem Ren.forall_push (ρ : Ren n m) (a b : Row n) {p : Option Term → Option Term → Prop} (hp : p none none) :
    (∀ w, p (ρ.push a w) (ρ.push b w)) ↔ ∀ v, p (a v) (b v) := by
  refine ⟨fun h v => by simpa only [ρ.push_f] using h (ρ.f v), fun h w => ?_⟩
  cases hw : ρ.inv w with
  | none => rwa [ρ.push_off a hw, ρ.push_off b hw]
  | some v => cases ρ.right w v hw; simpa only [ρ.push_f] using h v

theorem Ren.contains_map (ρ : Ren n m) (vs : List (Fin n)) (v : Fin n) :
    (vs.map ρ.f).contains (ρ.f v) = vs.contains v := by
  rw [Bool.eq_iff_iff, List.contains_iff_mem, List.contains_iff_mem, List.mem_map]
  exact ⟨fun ⟨v', hv', e⟩ => ρ.inj e ▸ hv', fun hv => ⟨v, hv, rfl⟩⟩

theorem Ren.look_push (ρ : Ren n m) (μ : Row n) (pt : PT n) : (ρ.push μ).look (ρ.pt pt) = μ.look pt := by
  cases pt with
  | var v => exact ρ.push_f μ v
  | const c => rfl

theorem Ren.push_empty (ρ : Ren n m) : ρ.push (Row.empty : Row n) = Row.empty :=
  (ρ.eq_push (fun _ => rfl) fun _ _ => rfl).symm

theorem Ren.push_set (ρ : Ren n m) (μ : Row n) (v : Fin n) (t : Term) :
    ρ.push (μ.set v t) = (ρ.push μ).set (ρ.f v) t := by
  refine (ρ.eq_push (fun v' => ?_) fun w hw => ?_).symm
  · simp only [Row.set, ρ.push_f]
    by_cases e : v' = v
    · rw [if_pos e, if_pos (congrArg ρ.f e)]
    · rw [if_neg e, if_neg fun e' => e (ρ.inj e')]
  · have : w ≠ ρ.f v := fun e => by rw [e, ρ.left v] at hw; cases hw
    rw [Row.set_other _ _ this, ρ.push_off μ hw]

theorem Ren.assign_push (ρ : Ren n m) (orig : Option Term) (pt : PT n) (val : Term) (c : Row n) :
    assign orig (ρ.pt pt) val (ρ.push c) = (assign orig pt val c).map ρ.push := by
  cases orig with
  | some x => rfl
  | none =>
    cases pt with
    | const k => rfl
    | var v =>
      simp only [assign, Ren.pt, ρ.push_f]
      cases hc : c v with
      | none => simp [ρ.push_set]
      | some x => by_cases h : x = val <;> simp [h]

theorem Ren.instPat_push (ρ : Ren n m) (μ : Row n) (t : TP n) :
    instPat (ρ.push μ) (ρ.tp t) = instPat μ t := by
  simp [instPat, Ren.tp, ρ.look_push]

theorem Ren.bindTriple_push (ρ : Ren n m) (μ : Row n) (t : TP n) (tr : Triple) :
    bindTriple (ρ.push μ) (ρ.tp t) tr = (bindTriple μ t tr).map ρ.push := by
  simp only [bindTriple, Ren.tp, ρ.look_push, ρ.assign_push, Option.bind_map, Option.map_bind, Function.comp_def]

theorem Ren.evalBGP_push (ρ : Ren n m) (st : Store) (ts : List (TP n)) :
    ∀ μ : Row n, evalBGP st (ρ.push μ) (ts.map ρ.tp) = (evalBGP st μ ts).map ρ.push := by
  induction ts with
  | nil => intro μ; rfl
  | cons t rest ih =>
    intro μ
    simp only [List.map_cons, evalBGP, ρ.instPat_push, List.map_flatMap]
    congr 1
    funext tr
    rw [ρ.bindTriple_push]
    cases bindTriple μ t tr with
    | none => rfl
    | some c => simp [ih c]

theorem Ren.compat_push (ρ : Ren n m) (a b : Row n) : compat (ρ.push a) (ρ.push b) = compat a b := by
  rw [Bool.eq_iff_iff, compat_iff_ok, compat_iff_ok]
  exact ρ.forall_push a b (p := fun x y => okPair x y = true) rfl

theorem Ren.merge_push (ρ : Ren n m) (a b : Row n) : merge (ρ.push a) (ρ.push b) = ρ.push (merge a b) :=
  ρ.eq_push (fun v => by simp only [merge, ρ.push_f]) fun w hw => by simp only [merge, ρ.push_off _ hw]

theorem Ren.joinBag_push (ρ : Ren n m) (A B : List (Row n)) :
    joinBag (A.map ρ.push) (B.map ρ.push) = (joinBag A B).map ρ.push := by
  simp only [joinBag, List.flatMap_map, List.map_flatMap, List.filterMap_map, List.map_filterMap]
  congr 1
  funext a
  congr 1
  funext b
  simp only [Function.comp, ρ.compat_push, ρ.merge_push]
  cases compat a b <;> rfl

theorem Ren.ex_eval (ρ : Ren n m) (e : Ex n) (μ : Row n) : (ρ.ex e).eval (ρ.push μ) = e.eval μ := by
  induction e <;> simp only [Ren.ex, Ex.eval, ρ.look_push, ρ.push_f, *]

theorem Ren.project_push (ρ : Ren n m) (vs : List (Fin n)) (μ : Row n) :
    project (vs.map ρ.f) (ρ.push μ) = ρ.push (project vs μ) :=
  ρ.eq_push (fun v => by simp only [project, ρ.push_f, ρ.contains_map]) fun w hw => by
    simp only [project, ρ.push_off _ hw, ite_self]

theorem Ren.eval_q (ρ : Ren n m) (st : Store) (q : Q n) : (ρ.q q).eval st = (q.eval st).map ρ.push := by
  induction q with
  | bgp ts =>
    simp only [Ren.q, Q.eval]
    rw [← ρ.push_empty]
    exact ρ.evalBGP_push st ts Row.empty
  | join a b iha ihb => simp only [Ren.q, Q.eval, iha, ihb, ρ.joinBag_push]
  | union a b iha ihb => simp only [Ren.q, Q.eval, iha, ihb, List.map_append]
  | filter e q ih => simp only [Ren.q, Q.eval, ih, List.filter_map, Function.comp_def, ρ.ex_eval]
  | proj vs q ih => simp only [Ren.q, Q.eval, ih, List.map_map, Function.comp_def, ρ.project_push]

theorem ExS.eval_eq (e : ExS n) (c : Row n) : e.eval c = (e.erase.eval c, ExS.ofEx e.erase) := by
  induction e with
  | same ctx a b => rfl
  | bound ctx v => rfl
  | not ctx e ih => simp only [ExS.eval, ih, ExS.erase, Ex.eval, ExS.ofEx]
  | and ctx a b iha ihb => simp only [ExS.eval, iha, ihb, ExS.erase, Ex.eval, ExS.ofEx]
  | or ctx a b iha ihb => simp only [ExS.eval, iha, ihb, ExS.erase, Ex.eval, ExS.ofEx]

theorem ExS.ofEx_erase_of_clean (e : ExS n) (h : e.clean = true) : ExS.ofEx e.erase = e := by
  induction e <;> simp_all only [ExS.clean, ExS.erase, ExS.ofEx, Bool.and_eq_true, Option.isNone_iff_eq_none]

theorem ExS.clean_ofEx (e : Ex n) : (ExS.ofEx e).clean = true := by
  induction e <;> simp only [ExS.ofEx, ExS.clean, Option.isNone_none, Bool.and_self, *]

theorem ExS.erase_ofEx (e : Ex n) : (ExS.ofEx e).erase = e := by
  induction e <;> simp only [ExS.ofEx, ExS.erase, *]

theorem filterS_spec (e : ExS n) (h : e.clean = true) (rs : List (Row n)) :
    filterS e rs = (rs.filter fun r => e.erase.eval r == some true, e) := by
  induction rs with
  | nil => rfl
  | cons r rs ih =>
    simp only [filterS, ExS.eval_eq, ExS.ofEx_erase_of_clean e h, ih, List.filter_cons]

theorem QS.run_snd (st : Store) (q : QS n) (h : q.clean = true) : (q.run st).2 = q := by
  induction q <;> simp_all only [QS.run, QS.clean, filterS_spec, Bool.and_eq_true]

theorem QS.run_fst_perm {st : Store} {g : List Triple} (hg : GraphLike st g) (q : QS n) (h : q.clean = true) :
    (q.run st).1.Perm (q.erase.eval st) := by
  induction q with
  | bgp ts => exact evalBGP_graphLike_perm hg (dynOrder_perm Row.empty ts) Row.empty
  | join a b iha ihb => have h := Bool.and_eq_true_iff.1 h; exact joinBag_perm (iha h.1) (ihb h.2)
  | union a b iha ihb => have h := Bool.and_eq_true_iff.1 h; exact (iha h.1).append (ihb h.2)
  | filter e q ih =>
    have h := Bool.and_eq_true_iff.1 h
    simp only [QS.run, QS.erase, Q.eval, filterS_spec e h.1]
    exact (ih h.2).filter _
  | proj vs q ih => exact (ih h).map _

theorem QS.clean_ofQ (q : Q n) : (QS.ofQ q).clean = true := by
  induction q <;> simp only [QS.ofQ, QS.clean, ExS.clean_ofEx, Bool.and_self, *]

theorem QS.erase_ofQ (q : Q n) : (QS.ofQ q).erase = q := by
  induction q <;> simp only [QS.ofQ, QS.erase, ExS.erase_ofEx, *]

theorem runMany_spec (q : QS n) (h : q.clean = true) (sts : List Store) :
    runMany q sts = (sts.map fun st => (q.run st).1, q) := by
  induction sts with
  | nil => rfl
  | cons st sts ih => simp [runMany, QS.run_snd st q h, ih]

/-- an arbitrary schedule of `Expr.eval` calls on the expression nodes of a prepared query
    (rows of different evaluations interleaved, generators abandoned half-way, …) -/
def runCalls : List (ExS n) → List (Nat × Row n) → List (Option Bool) × List (ExS n)
  | es, [] => ([], es)
  | es, (i, r) :: calls =>
    match es[i]? with
    | none => runCalls es calls
    | some e =>
      let x := e.eval r
      let rest := runCalls (es.set i x.2) calls
      (x.1 :: rest.1, rest.2)

theorem set_self_of_getElem? {α : Type} (l : List α) : ∀ (i : Nat) (e : α), l[i]? = some e → l.set i e = l := by
  induction l with
  | nil => intro i e h; cases h
  | cons a l ih =>
    intro i e h
    cases i with
    | zero => cases h; rfl
    | succ i => exact congrArg (a :: ·) (ih i e h)

theorem runCalls_state (es : List (ExS n)) (h : ∀ e ∈ es, e.clean = true) (calls : List (Nat × Row n)) :
    (runCalls es calls).2 = es := by
  induction calls with
  | nil => rfl
  | cons c calls ih =>
    simp only [runCalls]
    cases hi : es[c.1]? with
    | none => exact ih
    | some e =>
      simp only [ExS.eval_eq, ExS.ofEx_erase_of_clean e (h e (List.mem_of_getElem? hi)), set_self_of_getElem? es c.1 e hi]
      exact ih

end RV.C15

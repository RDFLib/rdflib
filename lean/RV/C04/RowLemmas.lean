import RV.C04.Types
/-
  C04 — solution mappings (`Row n = Vector (Option Term) n`) read as partial functions through `Row.get`: what each
  operation does to `get`, and the algebra the push-down lemmas rest on.  `a.compat b` says that `a` and `b` have a
  common extension, `a.merge b` is then the least one (`Row.le` is the extension order).  `compat_merge_left`,
  `merge_assoc`, `merge_comm_of_compat`, `merge_of_le` give the laws of the partial join `Row.join`, which is what the
  push-down lemmas use.
-/
namespace RV.C04
variable {n : Nat}
namespace Row

theorem get_of_lt {μ : Row n} {v : Nat} (h : v < n) : μ.get v = μ[v] := by
  simp [Row.get, Vector.getElem?_eq_getElem h]

theorem get_of_ge {μ : Row n} {v : Nat} (h : n ≤ v) : μ.get v = none := by
  simp [Row.get, Vector.getElem?_eq_none_iff.mpr h]

theorem get_of_not_lt {μ : Row n} {v : Nat} (h : ¬ v < n) : μ.get v = none := get_of_ge (Nat.le_of_not_lt h)

theorem ext_get {a b : Row n} (h : ∀ v, a.get v = b.get v) : a = b := by
  apply Vector.ext
  intro i hi
  have := h i
  rwa [get_of_lt hi, get_of_lt hi] at this

@[simp] theorem get_empty {v : Nat} : (Row.empty : Row n).get v = none := by
  by_cases h : v < n
  · simp [get_of_lt h, Row.empty]
  · exact get_of_not_lt h

theorem get_merge {a b : Row n} {v : Nat} : (a.merge b).get v = (b.get v).orElse (fun _ => a.get v) := by
  by_cases h : v < n
  · simp [get_of_lt h, Row.merge]
  · simp [get_of_not_lt h]

theorem get_merge_of {a b : Row n} {v : Nat} (h : a.get v = none ∨ (b.get v).isSome = true) :
    (a.merge b).get v = b.get v := by
  rw [get_merge]
  rcases h with h | h
  · rw [h]; cases b.get v <;> rfl
  · obtain ⟨y, hy⟩ := Option.isSome_iff_exists.mp h
    rw [hy]; rfl

theorem get_set {μ : Row n} {v w : Nat} {t : Term} :
    (μ.set v t).get w = if v = w ∧ w < n then some t else μ.get w := by
  by_cases h : w < n
  · simp [get_of_lt h, h, Row.set, Vector.getElem_setIfInBounds]
  · simp [get_of_not_lt h, h]

theorem get_restrict {μ : Row n} {vs : List Nat} {v : Nat} :
    (μ.restrict vs).get v = if v ∈ vs then μ.get v else none := by
  by_cases h : v < n
  · simp [get_of_lt h, Row.restrict]
  · simp [get_of_not_lt h]

theorem get_forget {c b : Row n} {ex : List Nat} {v : Nat} :
    (c.forget b ex).get v = if v ∈ ex ∨ b.get v = none then c.get v else none := by
  by_cases h : v < n
  · simp [get_of_lt h, Row.forget]
  · simp [get_of_not_lt h]

theorem all_zipWith_iff {f : Option Term → Option Term → Bool} (hf : f none none = true) {a b : Row n} :
    (Vector.zipWith f a b).all id = true ↔ ∀ v, f (a.get v) (b.get v) = true := by
  simp only [Vector.all_eq_true, Vector.getElem_zipWith, id]
  constructor
  · intro h v
    by_cases hv : v < n
    · rw [get_of_lt hv, get_of_lt hv]; exact h v hv
    · rw [get_of_not_lt hv, get_of_not_lt hv]; exact hf
  · intro h i hi
    have := h i
    rwa [get_of_lt hi, get_of_lt hi] at this

theorem compat_iff {a b : Row n} :
    a.compat b = true ↔ ∀ v s t, a.get v = some s → b.get v = some t → s = t := by
  rw [Row.compat, all_zipWith_iff rfl]
  apply forall_congr'
  intro v
  cases a.get v <;> cases b.get v <;> simp [cellCompat]

theorem disjoint_iff {a b : Row n} :
    a.disjoint b = true ↔ ∀ v, a.get v = none ∨ b.get v = none := by
  rw [Row.disjoint, all_zipWith_iff rfl]
  apply forall_congr'
  intro v
  cases a.get v <;> cases b.get v <;> simp [cellDisjoint]

/-! ### compatibility and merge -/

theorem compat_refl (a : Row n) : a.compat a = true := by
  rw [compat_iff]
  intro v s t hs ht
  rw [hs] at ht
  exact Option.some.inj ht

theorem compat_comm (a b : Row n) : a.compat b = b.compat a := by
  rw [Bool.eq_iff_iff, compat_iff, compat_iff]
  exact ⟨fun h v s t hs ht => (h v t s ht hs).symm, fun h v s t hs ht => (h v t s ht hs).symm⟩

theorem compat_symm {a b : Row n} (h : a.compat b = true) : b.compat a = true := by rwa [compat_comm]

theorem compat_eq_false_iff {a b : Row n} :
    a.compat b = false ↔ ∃ v s t, a.get v = some s ∧ b.get v = some t ∧ s ≠ t := by
  rw [← Bool.not_eq_true, compat_iff]
  simp only [Classical.not_forall, exists_prop, ne_eq]

@[simp] theorem merge_empty (μ : Row n) : μ.merge Row.empty = μ := by
  apply ext_get; intro v; simp [get_merge]

@[simp] theorem empty_merge (μ : Row n) : (Row.empty : Row n).merge μ = μ := by
  apply ext_get; intro v; rw [get_merge]; cases μ.get v <;> simp

@[simp] theorem compat_empty_left (μ : Row n) : (Row.empty : Row n).compat μ = true := by
  rw [compat_iff]; intro v s t h; simp at h

@[simp] theorem compat_empty_right (μ : Row n) : μ.compat (Row.empty : Row n) = true := by
  rw [compat_iff]; intro v s t _ h; simp at h

theorem merge_assoc (a b c : Row n) : (a.merge b).merge c = a.merge (b.merge c) := by
  apply ext_get
  intro v
  simp only [get_merge]
  cases c.get v <;> rfl

theorem merge_comm_of_compat {a b : Row n} (h : a.compat b = true) : a.merge b = b.merge a := by
  rw [compat_iff] at h
  apply ext_get
  intro v
  simp only [get_merge]
  cases ea : a.get v <;> cases eb : b.get v <;> try rfl
  exact congrArg some (h v _ _ ea eb).symm

theorem compat_merge_left {a b : Row n} (h : a.compat b = true) (c : Row n) :
    (a.merge b).compat c = (a.compat c && b.compat c) := by
  rw [Bool.eq_iff_iff, Bool.and_eq_true]
  simp only [compat_iff, get_merge] at h ⊢
  constructor
  · intro hc
    refine ⟨fun v s t hs ht => ?_, fun v s t hs ht => hc v s t (by rw [hs]; rfl) ht⟩
    cases hb : b.get v with
    | none => exact hc v s t (by rw [hb]; exact hs) ht
    | some u => rw [h v s u hs hb]; exact hc v u t (by rw [hb]; rfl) ht
  · rintro ⟨ha, hb⟩ v s t hs ht
    cases hbv : b.get v with
    | none => rw [hbv] at hs; exact ha v s t hs ht
    | some u => rw [hbv] at hs; exact hb v s t (hbv.trans hs) ht

theorem compat_merge_right {a b : Row n} (h : a.compat b = true) (c : Row n) :
    c.compat (a.merge b) = (c.compat a && c.compat b) := by
  rw [compat_comm, compat_merge_left h, compat_comm a, compat_comm b]

end Row

/-- `b` extends `a` -/
def Row.le (a b : Row n) : Prop := ∀ v t, a.get v = some t → b.get v = some t

namespace Row

theorem le_refl (a : Row n) : a.le a := fun _ _ h => h
theorem le_trans {a b c : Row n} (h1 : a.le b) (h2 : b.le c) : a.le c :=
  fun v t h => h2 v t (h1 v t h)

theorem le_isSome {a b : Row n} (h : a.le b) {v : Nat} (hv : (a.get v).isSome = true) :
    (b.get v).isSome = true := by
  cases ha : a.get v with
  | none => rw [ha] at hv; cases hv
  | some t => rw [h v t ha]; rfl

theorem le_merge_of_compat {a b : Row n} (h : a.compat b = true) : a.le (a.merge b) := by
  rw [compat_iff] at h
  intro v t hv
  rw [get_merge]
  cases hb : b.get v with
  | none => exact hv
  | some s => rw [h v t s hv hb]; rfl

theorem merge_of_le {a b : Row n} (h : a.le b) : b.merge a = b := by
  apply ext_get
  intro v
  rw [get_merge]
  cases ha : a.get v with
  | none => rfl
  | some t => rw [h v t ha]; rfl

theorem merge_both_pushed {μ0 μ1 μ2 : Row n} (h1 : μ1.compat μ0 = true) (_h2 : μ2.compat μ0 = true) :
    (μ0.merge μ1).merge (μ0.merge μ2) = μ0.merge (μ1.merge μ2) := by
  rw [← merge_assoc, merge_of_le (le_merge_of_compat (compat_symm h1)), merge_assoc]

theorem not_compat_of_le {a b c : Row n} (h : a.le b) (hc : a.compat c = false) :
    b.compat c = false := by
  cases hb : b.compat c with
  | false => rfl
  | true =>
    rw [compat_iff] at hb
    have : a.compat c = true := compat_iff.mpr fun v s t ha hcv => hb v s t (h v s ha) hcv
    rw [this] at hc; cases hc

theorem compat_of_le {a b : Row n} (h : a.le b) : a.compat b = true :=
  compat_iff.mpr fun v s _ hs ht => Option.some.inj ((h v s hs).symm.trans ht)

theorem merge3_eq {μ0 μ1 μ2 : Row n} (_h1 : μ1.compat μ0 = true) (h2 : μ2.compat (μ0.merge μ1) = true) :
    ((μ0.merge μ1).merge μ2).merge (μ0.merge μ1) = μ0.merge (μ1.merge μ2) := by
  rw [merge_of_le (le_merge_of_compat (compat_symm h2)), merge_assoc]

theorem compat_merge_ctx {μ0 μ1 μ2 : Row n} (h1 : μ1.compat μ0 = true) :
    μ2.compat (μ0.merge μ1) = (μ1.compat μ2 && (μ1.merge μ2).compat μ0) := by
  rw [compat_merge_right (compat_symm h1), compat_comm μ2 μ1]
  cases h : μ1.compat μ2
  · rw [Bool.and_false]; rfl
  · rw [compat_merge_left h, h1, Bool.and_true]; rfl

theorem compat_both_pushed {μ0 μ1 μ2 : Row n} (h1 : μ1.compat μ0 = true) :
    (μ2.compat μ0 && (μ0.merge μ1).compat (μ0.merge μ2)) = (μ1.compat μ2 && (μ1.merge μ2).compat μ0) := by
  have h01 := compat_symm h1
  rw [← compat_merge_ctx h1, compat_merge_right h01]
  cases h2 : μ2.compat μ0
  · rfl
  · have h02 := compat_symm h2
    simp only [compat_merge_right h02, compat_merge_left h01, compat_refl, h1, h02, compat_comm μ2 μ1, Bool.true_and]

/-! ### the partial join

  `a.join b` is `_join` on one pair of solutions (`pushOne μ0 ν`, the join with the pushed-in bindings, is `μ0.join ν`).
  It is commutative, associative (as a partial operation) and absorbs what it already contains (`join_of_le`). -/

def join (a b : Row n) : Option (Row n) := if a.compat b then some (a.merge b) else none

theorem join_symm (a b : Row n) : a.join b = b.join a := by
  unfold join
  rw [compat_comm b a]
  cases h : a.compat b
  · rfl
  · rw [merge_comm_of_compat h]

theorem join_assoc (a b c : Row n) :
    (a.join b).bind (fun x => x.join c) = (b.join c).bind (fun y => a.join y) := by
  unfold join
  cases hab : a.compat b <;> cases hbc : b.compat c
  · rfl
  · simp only [if_true, Option.bind_some, compat_merge_right hbc, hab]; rfl
  · simp only [if_true, Option.bind_some, compat_merge_left hab, hbc, Bool.and_false]; rfl
  · simp only [if_true, Option.bind_some, compat_merge_left hab, compat_merge_right hbc, hab, hbc, merge_assoc,
      Bool.and_true, Bool.true_and]

theorem join_of_le {a b : Row n} (h : a.le b) : b.join a = some b := by
  rw [join, compat_comm, compat_of_le h, if_pos rfl, merge_of_le h]

theorem eq_merge_of_join {a b c : Row n} (h : a.join b = some c) : c = a.merge b := by
  unfold join at h
  split at h <;> cases h
  rfl

theorem le_of_join {a b c : Row n} (h : a.join b = some c) : a.le c := by
  unfold join at h
  split at h
  · next hc => cases h; exact le_merge_of_compat hc
  · cases h

/-! ### `set`: one more binding -/

theorem le_set {μ : Row n} {v : Nat} {x : Term} (h : μ.get v = none) : μ.le (μ.set v x) := by
  intro w t hw
  rw [get_set]
  split
  · next hvw => rw [← hvw.1, h] at hw; cases hw
  · exact hw

theorem set_same {μ : Row n} {v : Nat} {t : Term} (h : μ.get v = some t) : μ.set v t = μ := by
  apply ext_get
  intro w
  rw [get_set]
  split
  · next hw => rw [← hw.1, h]
  · rfl

theorem set_of_ge {μ : Row n} {v : Nat} {x : Term} (h : ¬ v < n) : μ.set v x = μ := by
  apply ext_get
  intro u
  rw [get_set]
  split
  · next hu => exact absurd (hu.1 ▸ hu.2) h
  · rfl

theorem merge_set_comm {ν μ0 : Row n} {v : Nat} {x : Term} :
    μ0.merge (ν.set v x) = (μ0.merge ν).set v x := by
  apply ext_get
  intro w
  rw [get_merge, get_set, get_set, get_merge]
  split <;> rfl

theorem compat_single {μ : Row n} {v : Nat} {x : Term} :
    μ.compat ((Row.empty : Row n).set v x) = true ↔ ∀ y, μ.get v = some y → y = x := by
  rw [compat_iff]
  constructor
  · intro h y hy
    by_cases hv : v < n
    · exact h v y x hy (by rw [get_set, if_pos ⟨rfl, hv⟩])
    · rw [get_of_not_lt hv] at hy; cases hy
  · intro h w s t hs ht
    rw [get_set, get_empty] at ht
    split at ht
    · next hw => cases ht; rw [← hw.1] at hs; exact h s hs
    · cases ht

theorem compat_set_iff {ν μ0 : Row n} {v : Nat} {x : Term} (h : ν.compat μ0 = true) (hv : ν.get v = none) :
    (ν.set v x).compat μ0 = true ↔ (∀ z, μ0.get v = some z → z = x) := by
  have hc : ν.compat ((Row.empty : Row n).set v x) = true := compat_single.mpr fun y hy => by rw [hv] at hy; cases hy
  have e : ν.set v x = ν.merge ((Row.empty : Row n).set v x) := by rw [merge_set_comm, merge_empty]
  rw [e, compat_merge_left hc, h, Bool.true_and, compat_comm, compat_single]

theorem merge_set_same {ν μ0 : Row n} {v : Nat} {x : Term} (hν : ν.get v = none) (hv : μ0.get v = some x) :
    μ0.merge (ν.set v x) = μ0.merge ν := by
  rw [merge_set_comm, set_same]
  rw [get_merge, hν]
  exact hv

/-! ### `restrict` and rows that agree on some variables -/

@[simp] theorem restrict_empty (pv : List Nat) : (Row.empty : Row n).restrict pv = Row.empty := by
  apply ext_get; intro v; rw [get_restrict]; simp

theorem compat_congr_right {a a' y : Row n} (h : ∀ v, (y.get v).isSome = true → a.get v = a'.get v) :
    a.compat y = a'.compat y := by
  rw [Bool.eq_iff_iff, compat_iff, compat_iff]
  constructor <;> intro hc v s t hs ht
  · exact hc v s t ((h v (by rw [ht]; rfl)).trans hs) ht
  · exact hc v s t ((h v (by rw [ht]; rfl)).symm.trans hs) ht

theorem disjoint_congr_right {a a' y : Row n} (h : ∀ v, (y.get v).isSome = true → a.get v = a'.get v) :
    a.disjoint y = a'.disjoint y := by
  rw [Bool.eq_iff_iff, disjoint_iff, disjoint_iff]
  apply forall_congr'
  intro v
  cases hy : y.get v with
  | none => exact ⟨fun _ => Or.inr rfl, fun _ => Or.inr rfl⟩
  | some t => rw [h v (by rw [hy]; rfl)]

end Row

theorem Row.le_merge_left (a b : Row n) (h : b.compat a = true) : a.le (a.merge b) :=
  Row.le_merge_of_compat (Row.compat_symm h)

theorem Row.compat_restrict (μ μ0 : Row n) (pv : List Nat) :
    μ.compat (μ0.restrict pv) = (μ.restrict pv).compat μ0 := by
  rw [Bool.eq_iff_iff]
  simp only [Row.compat_iff, Row.get_restrict]
  constructor <;> intro h v s t hs ht <;> by_cases hv : v ∈ pv
  · rw [if_pos hv] at hs; exact h v s t hs (by rw [if_pos hv]; exact ht)
  · rw [if_neg hv] at hs; cases hs
  · rw [if_pos hv] at ht; exact h v s t (by rw [if_pos hv]; exact hs) ht
  · rw [if_neg hv] at ht; cases ht

theorem Row.project_merge (μ μ0 : Row n) (pv : List Nat) (h : μ.compat (μ0.restrict pv) = true) :
    (((μ0.restrict pv).merge μ).restrict pv).merge μ0 = μ0.merge (μ.restrict pv) := by
  rw [Row.compat_iff] at h
  apply Row.ext_get
  intro v
  have hv := h v
  simp only [Row.get_merge, Row.get_restrict] at hv ⊢
  by_cases hp : v ∈ pv
  · simp only [if_pos hp] at hv ⊢
    cases e0 : μ0.get v <;> cases e1 : μ.get v <;> try rfl
    exact congrArg some (hv _ _ e1 e0).symm
  · simp only [if_neg hp]
    cases μ0.get v <;> rfl

/-- every variable the row binds is listed -/
def Row.domIn (μ : Row n) (L : List Nat) : Prop := ∀ v, (μ.get v).isSome = true → v ∈ L

namespace Row

theorem domIn.get_eq_none {μ : Row n} {L : List Nat} {v : Nat} (h : μ.domIn L) (hv : v ∉ L) : μ.get v = none := by
  cases hμ : μ.get v with
  | none => rfl
  | some y => exact absurd (h v (by rw [hμ]; rfl)) hv

theorem domIn_empty (L : List Nat) : (Row.empty : Row n).domIn L := by
  intro v hv; simp [Row.get_empty] at hv

theorem domIn_range (μ : Row n) : μ.domIn (List.range n) := by
  intro v hv
  by_cases h : v < n
  · exact List.mem_range.mpr h
  · rw [get_of_not_lt h] at hv; cases hv

theorem domIn_restrict {x : Row n} {L : List Nat} (h : x.domIn L) (vs : List Nat) : (x.restrict vs).domIn L := by
  intro v hv
  rw [get_restrict] at hv
  split at hv
  · exact h v hv
  · cases hv

theorem restrict_of_domIn {y : Row n} {vs : List Nat} (h : y.domIn vs) : y.restrict vs = y := by
  apply ext_get
  intro v
  rw [get_restrict]
  split
  · rfl
  · next hv => exact (h.get_eq_none hv).symm

end Row
end RV.C04

import RV.C04.OpLemmas
/-
  C04 — the induction: rdflib's top-down evaluation of `P` under pushed-in bindings `μ0` is the bottom-up
  evaluation joined with `μ0`, wherever `P.safeIn ctx` holds and `μ0` binds at most `ctx`.  The induction follows
  `Alg.safeIn`, which threads `ctx` the way `evalPart` threads the bindings.
-/
namespace RV.C04
open Spec Model
variable {n : Nat}

theorem domIn_of_mem_push {μ0 x : Row n} {A : List (Row n)} {ctx must may : List Nat} (h0 : μ0.domIn ctx)
    (hA : ∀ μ ∈ A, BoundsOK μ must may) (hx : x ∈ push μ0 A) : x.domIn (ctx ++ may) := by
  obtain ⟨μ1, hμ1, _, rfl⟩ := mem_push.mp hx
  exact Row.domIn_merge h0 (hA μ1 hμ1)

theorem pushdown_induction {D : Dataset} (hD : (D.named.map (·.1)).Nodup) : ∀ (P : Alg) (ctx : List Nat),
    P.safeIn ctx = true → (∀ v ∈ P.allVars, v < n) → ∀ (g : Graph) (μ0 : Row n), μ0.domIn ctx →
      (Model.evalPart D g μ0 P).Perm (push μ0 (Spec.eval D g Row.empty P)) := by
  intro P ctx
  fun_induction Alg.safeIn P ctx <;> intro hs hws g μ0 h0 <;>
    simp only [Alg.allVars, List.forall_mem_append, List.forall_mem_cons, Bool.and_eq_true, and_assoc] at hs hws
  case case1 =>  -- BGP
    simp only [Model.evalPart, Spec.eval]
    exact pushdown_bgp g μ0 _
  case case2 lz a b ctx iha ihb =>  -- Join
    cases lz <;> simp only [Model.evalPart, Spec.eval]
    · exact pushdown_join_strict (iha hs.1 hws.1 g μ0 h0) (ihb hs.2 hws.2 g μ0 h0)
    · exact pushdown_join_lazy (iha hs.1 hws.1 g μ0 h0)
        fun x hx => ihb hs.2 hws.2 g x (domIn_of_mem_push h0 (specEval_bounds a hws.1 g) hx)
  case case3 a b ctx iha ihb =>  -- Union
    simp only [Model.evalPart, Spec.eval]
    exact pushdown_union (iha hs.1 hws.1 g μ0 h0) (ihb hs.2 hws.2 g μ0 h0)
  case case4 e p vars noIso ctx ih =>  -- Filter
    obtain ⟨hps, hes, hni, hsc⟩ := hs
    rw [Bool.not_eq_true'] at hni
    subst hni
    simp only [Model.evalPart, Spec.eval, Bool.false_eq_true, if_false]
    exact pushdown_filter (ih hps hws.2 g μ0 h0) (exprOK_of_safe e hes g) (ForgetOK.of_scopeForget h0 hsc)
      (specEval_bounds p hws.2 g)
  case case5 p v e vars ctx ih =>  -- Extend (BIND)
    obtain ⟨hps, hes, hvm, _, hsc⟩ := hs
    rw [evalPart_extend, specEval_extend]
    exact pushdown_extend (ih hps hws.2.2 g μ0 h0) (exprOK_of_safe e hes g) (ForgetOK.of_scopeForget h0 hsc)
      (specEval_bounds p hws.2.2 g) (by simpa using hvm)
  case case6 vars rows _ =>  -- VALUES
    simp only [Model.evalPart, Spec.eval]
    exact List.Perm.of_eq (pushdown_values μ0 vars rows)
  case case7 p pv _ ih =>  -- sub-select
    simp only [Model.evalPart, Spec.eval, Row.restrict_empty]
    exact pushdown_project pv (by simpa using ih hs hws.2 g (Row.empty : Row n) (Row.domIn_empty _))
  case case8 gp p ctx ih =>  -- GRAPH
    exact pushdown_graph hD gp p (fun gr => ih hs hws.2 gr μ0 h0) g
  case case9 a b p1vars p2vars ctx iha ihb =>  -- MINUS
    cases p1vars with
    | none => simp at hs
    | some vs =>
      obtain ⟨has, hbs, hsc, hp2⟩ := hs
      simp only [Model.evalPart, Spec.eval]
      refine pushdown_minus (iha has hws.1 g μ0 h0)
        (by simpa using ihb hbs hws.2 g (Row.empty : Row n) (Row.domIn_empty _))
        (RememberOK.of_scopeRemember h0 hsc) (specEval_bounds a hws.1 g)
        (specEval_domIn b hws.2 g) ?_
      rintro vs2 rfl v hv
      simpa using List.all_eq_true.mp hp2 v hv
  case case10 a b e p1vars p2vars ctx iha ihb =>  -- LeftJoin (OPTIONAL)
    cases p1vars with
    | none => simp at hs
    | some vs =>
      obtain ⟨has, hbs, hes, hs1, hs2⟩ := hs
      rw [evalPart_leftJoin, Spec.eval]
      exact pushdown_leftjoin h0 (iha has hws.1 g μ0 h0)
        (fun c hc => ihb hbs hws.2.1 g c hc) (exprOK_of_safe e hes g) (ForgetOK.of_scopeForget h0 hs1)
        (RememberOK.of_scopeRemember h0 hs2) (specEval_bounds a hws.1 g) (specEval_bounds b hws.2.1 g)

theorem Alg.safeIn_of_safe : ∀ (P : Alg) (ctx : List Nat), P.safe = true → P.safeIn ctx = true := by
  intro P ctx
  fun_induction Alg.safeIn P ctx <;> intro h <;> simp only [Alg.safe, Bool.and_eq_true, and_assoc] at h ⊢
  case case2 iha ihb => exact ⟨iha h.1, ihb h.2⟩  -- Join
  case case3 iha ihb => exact ⟨iha h.1, ihb h.2⟩  -- Union
  case case4 ih =>  -- Filter
    obtain ⟨hp, he, hn, hsc⟩ := h
    exact ⟨ih hp, he, hn, scopeForget_of_scopeOK hsc⟩
  case case5 ih =>  -- Extend (BIND)
    obtain ⟨hp, he, hv, hve, hsc⟩ := h
    exact ⟨ih hp, he, hv, hve, scopeForget_of_scopeOK hsc⟩
  case case7 ih => exact ih h  -- sub-select
  case case8 ih => exact ih h  -- GRAPH
  case case9 a b p1 p2 ctx iha ihb =>  -- MINUS
    cases p1 with
    | none => simp at h
    | some vs =>
      obtain ⟨ha, hb, hsc, hp2⟩ := h
      exact ⟨iha ha, ihb hb, scopeRemember_of_scopeOK hsc, hp2⟩
  case case10 a b e p1 p2 ctx iha ihb =>  -- LeftJoin (OPTIONAL)
    cases p1 with
    | none => simp at h
    | some vs =>
      obtain ⟨ha, hb, he, hs1, hs2⟩ := h
      exact ⟨iha ha, ihb hb, he, scopeForget_of_scopeOK hs1, scopeRemember_of_scopeOK hs2⟩

/-- the context-free form (hypothesis `Alg.safe`: exact annotations, any pushed-in bindings) -/
theorem pushdown_fragment {D : Dataset} (hD : (D.named.map (·.1)).Nodup) (P : Alg) (_hf : P.inFragment = true)
    (hs : P.safe = true) (hws : ∀ v ∈ P.allVars, v < n) (g : Graph) (μ0 : Row n) :
    (Model.evalPart D g μ0 P).Perm (push μ0 (Spec.eval D g Row.empty P)) :=
  pushdown_induction hD P (List.range n) (Alg.safeIn_of_safe P _ hs) hws g μ0 (Row.domIn_range μ0)

end RV.C04

import RV.C04.BagLemmas
/-
  C04 — expressions and EXISTS.  rdflib evaluates an expression on one row; the specification evaluates it on a
  solution `μ` under a substitution `σ` (§18.6; `σ` is non-empty only inside an EXISTS pattern).  The two agree at
  the row `μ ⊕ σ` (`ExprSub`), for EXISTS because rdflib runs the pattern under the current solution
  (`ctx.ctx.thaw(ctx)`) where the specification substitutes the solution into it: on the patterns `Alg.existsOK`
  describes (triples, joins, UNION, GRAPH, a top-level filter) the two give the same solutions up to the substituted
  bindings (`exists_body`), hence the same answer to "is there a solution" (`exists_ok`).
-/
namespace RV.C04
open Spec Model
variable {n : Nat}

/-- what the push-down lemmas need from a filter / BIND expression: rdflib's evaluation only looks at the
    expression's variables, and is the specification's (at the empty substitution) -/
structure ExprOK (D : Dataset) (g : Graph) (n : Nat) (e : Expr) : Prop where
  congr : ∀ c1 c2 : Row n, (∀ v ∈ e.vars, c1.get v = c2.get v) →
    Model.evalExpr D g c1 e = Model.evalExpr D g c2 e
  spec : ∀ c : Row n, Model.evalExpr D g c e = Spec.evalExpr D g Row.empty c e

/-- the same under any substitution: the specification's value of `e` on `μ` under `σ` is rdflib's on `μ ⊕ σ` -/
structure ExprSub (D : Dataset) (g : Graph) (n : Nat) (e : Expr) : Prop where
  congr : ∀ c1 c2 : Row n, (∀ v ∈ e.vars, c1.get v = c2.get v) →
    Model.evalExpr D g c1 e = Model.evalExpr D g c2 e
  spec : ∀ σ μ : Row n, Spec.evalExpr D g σ μ e = Model.evalExpr D g (μ.merge σ) e

namespace ExprSub
variable {D : Dataset} {g : Graph}

theorem exprOK {e : Expr} (h : ExprSub D g n e) : ExprOK D g n e :=
  ⟨h.congr, fun c => by rw [h.spec, Row.merge_empty]⟩

theorem spec_congr {e : Expr} (h : ExprSub D g n e) {σ σ' : Row n} (hσ : ∀ v ∈ e.vars, σ.get v = σ'.get v)
    (μ : Row n) : Spec.evalExpr D g σ μ e = Spec.evalExpr D g σ' μ e := by
  rw [h.spec, h.spec]
  exact h.congr _ _ fun v hv => by rw [Row.get_merge, Row.get_merge, hσ v hv]

theorem var (v : Nat) : ExprSub D g n (.var v) :=
  ⟨fun _ _ h => by simp only [Model.evalExpr, h v (by simp [Expr.vars])],
   fun σ μ => by simp only [Spec.evalExpr, Model.evalExpr, Row.get_merge]⟩

theorem const (t : Term) : ExprSub D g n (.const t) := ⟨fun _ _ _ => rfl, fun _ _ => rfl⟩

theorem bound (v : Nat) : ExprSub D g n (.bound v) :=
  ⟨fun _ _ h => by simp only [Model.evalExpr, h v (by simp [Expr.vars])],
   fun σ μ => by
    simp only [Spec.evalExpr, Model.evalExpr, Row.get_merge]
    cases σ.get v <;> cases μ.get v <;> rfl⟩

/-- a node whose value is a function `F` of its two operands' values (comparison, `&&`, `||`): both evaluators and
    `Expr.vars` unfold to that by definition -/
theorem binary {mk : Expr → Expr → Expr} (F : Option Term → Option Term → Option Term) {a b : Expr}
    (ha : ExprSub D g n a) (hb : ExprSub D g n b)
    (hM : ∀ c : Row n, Model.evalExpr D g c (mk a b) = F (Model.evalExpr D g c a) (Model.evalExpr D g c b) := by
      intros; rfl)
    (hS : ∀ σ μ : Row n, Spec.evalExpr D g σ μ (mk a b) = F (Spec.evalExpr D g σ μ a) (Spec.evalExpr D g σ μ b) := by
      intros; rfl)
    (hv : (mk a b).vars = a.vars ++ b.vars := by rfl) :
    ExprSub D g n (mk a b) := by
  refine ⟨fun c1 c2 h => ?_, fun σ μ => by rw [hS, hM, ha.spec, hb.spec]⟩
  rw [hv] at h
  rw [hM, hM, ha.congr c1 c2 fun v hv => h v (List.mem_append.mpr (Or.inl hv)),
    hb.congr c1 c2 fun v hv => h v (List.mem_append.mpr (Or.inr hv))]

theorem cmp (op : CmpOp) {a b : Expr} (ha : ExprSub D g n a) (hb : ExprSub D g n b) : ExprSub D g n (.cmp op a b) :=
  binary (cmpV op) ha hb

theorem and {a b : Expr} (ha : ExprSub D g n a) (hb : ExprSub D g n b) : ExprSub D g n (.and a b) :=
  binary (fun x y => boolV (and3 (ebvV x) (ebvV y))) ha hb

theorem or {a b : Expr} (ha : ExprSub D g n a) (hb : ExprSub D g n b) : ExprSub D g n (.or a b) :=
  binary (fun x y => boolV (or3 (ebvV x) (ebvV y))) ha hb

theorem not {a : Expr} (ha : ExprSub D g n a) : ExprSub D g n (.not a) :=
  ⟨fun c1 c2 h => by simp only [Model.evalExpr, ha.congr c1 c2 h],
   fun σ μ => by simp only [Spec.evalExpr, Model.evalExpr, ha.spec]⟩

end ExprSub

/-- structural induction over an expression with EXISTS as a leaf: `q` is a property that passes to the operands
    (`Expr.existsFree`, `Expr.safe`) and settles the EXISTS nodes -/
theorem exprSub_of {D : Dataset} {g : Graph} (q : Expr → Bool)
    (hcmp : ∀ op a b, q (.cmp op a b) = (q a && q b)) (hand : ∀ a b, q (.and a b) = (q a && q b))
    (hor : ∀ a b, q (.or a b) = (q a && q b)) (hnot : ∀ a, q (.not a) = q a)
    (hex : ∀ neg P, q (.exists neg P) = true → ExprSub D g n (.exists neg P)) (e : Expr) :
    q e = true → ExprSub D g n e := by
  -- (the recursion of `Expr.existsFree` is that of `Expr` with EXISTS as a leaf)
  fun_induction Expr.existsFree e <;> intro h
  case case1 v => exact .var v  -- variable
  case case2 t => exact .const t  -- constant
  case case3 v => exact .bound v  -- bound
  case case4 op a b iha ihb => rw [hcmp, Bool.and_eq_true] at h; exact .cmp op (iha h.1) (ihb h.2)  -- comparison
  case case5 a b iha ihb => rw [hand, Bool.and_eq_true] at h; exact .and (iha h.1) (ihb h.2)  -- &&
  case case6 a b iha ihb => rw [hor, Bool.and_eq_true] at h; exact .or (iha h.1) (ihb h.2)  -- ||
  case case7 a ih => rw [hnot] at h; exact (ih h).not  -- !
  case case8 neg P => exact hex neg P h  -- EXISTS

theorem exprSub_of_existsFree {D : Dataset} {g : Graph} (e : Expr) : e.existsFree = true → ExprSub D g n e :=
  exprSub_of Expr.existsFree (fun _ _ _ => rfl) (fun _ _ => rfl) (fun _ _ => rfl) (fun _ => rfl)
    (fun _ _ h => nomatch h) e

theorem exprOK_of_existsFree {D : Dataset} {g : Graph} {e : Expr} (h : e.existsFree = true) : ExprOK D g n e :=
  (exprSub_of_existsFree e h).exprOK

/-! ### rows that bind none of the substitution's variables -/

/-- `μ` binds none of the variables `σ` binds -/
def Row.disjointFrom (σ μ : Row n) : Prop := ∀ v, (σ.get v).isSome = true → μ.get v = none

theorem Row.disjointFrom_empty (σ : Row n) : σ.disjointFrom Row.empty := fun _ _ => Row.get_empty

theorem Row.disjointFrom.compat {σ μ : Row n} (h : σ.disjointFrom μ) : σ.compat μ = true :=
  Row.compat_iff.mpr fun v s t hs ht => by rw [h v (by rw [hs]; rfl)] at ht; cases ht

theorem Row.disjointFrom_merge {σ a b : Row n} (ha : σ.disjointFrom a) (hb : σ.disjointFrom b) :
    σ.disjointFrom (a.merge b) := by
  intro v hv
  rw [Row.get_merge, ha v hv, hb v hv]; rfl

theorem push_of_disjoint {σ : Row n} {Y : List (Row n)} (h : ∀ μ ∈ Y, σ.disjointFrom μ) :
    push σ Y = Y.map (σ.merge ·) := by
  rw [push, ← List.filterMap_eq_map]
  refine List.filterMap_congr fun μ hμ => ?_
  exact pushOne_of_compat (Row.compat_symm (h μ hμ).compat)

theorem Row.Binds.disjointFrom {σ μ μ' : Row n} {L : List Nat} (h : μ.Binds μ' L) (hd : σ.disjointFrom μ)
    (hL : ∀ v ∈ L, σ.get v = none) : σ.disjointFrom μ' := by
  intro v hv
  cases hμ' : μ'.get v with
  | none => rfl
  | some y =>
    rcases h.may v (by rw [hμ']; rfl) with hvL | hμ
    · rw [hL v hvL] at hv; cases hv
    · rw [hd v hv] at hμ; cases hμ

theorem joinBag_disjoint {σ : Row n} {A B : List (Row n)} (hA : ∀ μ ∈ A, σ.disjointFrom μ)
    (hB : ∀ μ ∈ B, σ.disjointFrom μ) : ∀ μ ∈ joinBag A B, σ.disjointFrom μ := by
  intro μ hμ
  obtain ⟨μ1, h1, μ2, h2, _, rfl⟩ := mem_joinBag.mp hμ
  exact Row.disjointFrom_merge (hA μ1 h1) (hB μ2 h2)

/-! ### EXISTS -/

/-- EXISTS body, in the form of the push-down lemmas: rdflib's evaluation under the solution `σ` is the specification's
    evaluation of the substituted pattern, joined with `σ`.  Once `σ` is joined in, the substituted pattern matches
    like the original (`bgp_substTP`), so each operator is its push-down lemma at `μ0 = σ`; the second half (no
    solution binds a variable of `σ`) holds because a substituted position mentions none (`substPos_vars`). -/
theorem exists_body_push {D : Dataset} : ∀ (P : Alg), P.existsBody = true → ∀ (g : Graph) (σ : Row n),
    (Model.evalPart D g σ P).Perm (push σ (Spec.eval D g σ P)) ∧ ∀ μ ∈ Spec.eval D g σ P, σ.disjointFrom μ := by
  intro P
  fun_induction Alg.existsBody P <;> intro hb g σ
  case case1 tps =>  -- BGP
    simp only [Model.evalPart, Spec.eval]
    constructor
    · exact pushdown_bgp_subst g (Row.le_refl σ) tps
    · intro μ hμ
      refine (bgp_binds _ _ μ hμ).disjointFrom (Row.disjointFrom_empty σ) fun v hv => ?_
      simp only [List.mem_flatMap, List.mem_map] at hv
      obtain ⟨_, ⟨tp, _, rfl⟩, hv⟩ := hv
      simp only [TP.vars, substTP, List.mem_append] at hv
      rcases hv with (hv | hv) | hv <;> exact substPos_vars hv
  case case2 l a b iha ihb =>  -- Join
    simp only [Bool.and_eq_true, Bool.not_eq_true'] at hb
    obtain ⟨⟨rfl, ha⟩, hb⟩ := hb
    simp only [Model.evalPart, Spec.eval]
    exact ⟨pushdown_join_strict (iha ha g σ).1 (ihb hb g σ).1, joinBag_disjoint (iha ha g σ).2 (ihb hb g σ).2⟩
  case case3 a b iha ihb =>  -- Union
    rw [Bool.and_eq_true] at hb
    simp only [Model.evalPart, Spec.eval]
    exact ⟨pushdown_union (iha hb.1 g σ).1 (ihb hb.2 g σ).1,
      fun μ hμ => (List.mem_append.mp hμ).elim ((iha hb.1 g σ).2 μ) ((ihb hb.2 g σ).2 μ)⟩
  case case4 gp p ih =>  -- GRAPH
    have ih := fun gr => ih hb gr σ
    have named := fun t => graph_name_cases D t
      (fun X Y => X.Perm (push σ Y) ∧ ∀ μ ∈ Y, σ.disjointFrom μ) (Model.evalPart D · σ p)
      (Spec.eval D · σ p) ⟨List.Perm.refl _, fun _ h => (nomatch h)⟩ (ih _)
    simp only [Model.evalPart, Spec.eval]
    cases gp with
    | const t => exact named t
    | var v =>
      simp only [Pos.lookup, substPos]
      cases hv : σ.get v with
      | some t => exact named t
      | none =>
        refine ⟨pushdown_graph_unbound v D.named _ _ fun gr => (ih gr).1, fun μ hμ => ?_⟩
        simp only [List.mem_flatMap, List.mem_filterMap] at hμ
        obtain ⟨ng, _, μ', hμ', hb⟩ := hμ
        rw [bindGraphVar_eq_matchOne] at hb
        exact (matchOne_binds hb).disjointFrom ((ih ng.2).2 μ' hμ') fun w hw => by
          rw [List.mem_singleton.mp hw, hv]
  case case5 => cases hb  -- every other operator

/-- the same with `σ` merged in, which is joining it on rows that bind none of its variables -/
theorem exists_body {D : Dataset} : ∀ (P : Alg), P.existsBody = true → ∀ (g : Graph) (σ : Row n),
    (Model.evalPart D g σ P).Perm ((Spec.eval D g σ P).map (σ.merge ·)) ∧
    ∀ μ ∈ Spec.eval D g σ P, σ.disjointFrom μ := by
  intro P hP g σ
  have h := exists_body_push (D := D) P hP g σ
  rwa [push_of_disjoint h.2] at h

theorem Alg.existsOK_cases {motive : Alg → Prop} (P : Alg) (h : P.existsOK = true)
    (body : P.existsBody = true → motive P)
    (filter : ∀ e p vars, e.existsFree = true → p.existsBody = true → motive (.filter e p vars true)) :
    motive P := by
  cases P with
  | filter e p vars noIso =>
    simp only [Alg.existsOK, Bool.and_eq_true] at h
    obtain ⟨⟨hni, hfree⟩, hp⟩ := h
    subst hni
    exact filter e p vars hfree hp
  | bgp _ | join _ _ _ | union _ _ | graph _ _ => exact body h
  | leftJoin _ _ _ _ _ | minus _ _ _ _ | extend _ _ _ _ | values _ _ | project _ _ =>
    simp [Alg.existsOK, Alg.existsBody] at h

/-- EXISTS pattern: rdflib finds a solution under `σ` iff the substituted pattern has one -/
theorem exists_ok {D : Dataset} (P : Alg) (h : P.existsOK = true) (g : Graph) (σ : Row n) :
    (Model.evalPart D g σ P).isEmpty = (Spec.eval D g σ P).isEmpty := by
  refine P.existsOK_cases (motive := fun P => (Model.evalPart D g σ P).isEmpty = (Spec.eval D g σ P).isEmpty) h
    (fun hQ => ?_) (fun e p vars hfree hp => ?_)
  · rw [(exists_body P hQ g σ).1.isEmpty_eq, List.isEmpty_map]
  · have ih := exists_body (D := D) p hp g σ
    simp only [Model.evalPart, Spec.eval, if_true]
    rw [(ih.1.filter _).isEmpty_eq, List.filter_map, List.isEmpty_map]
    congr 1
    apply List.filter_congr
    intro μ hμ
    -- rdflib reads `σ ⊕ μ`, the specification `μ ⊕ σ`: the same row, as `μ` binds no variable of `σ`
    rw [Function.comp, (exprSub_of_existsFree e hfree).spec, Row.merge_comm_of_compat (ih.2 μ hμ).compat]

/-! the specification only reads the substitution at the variables of the pattern -/

theorem substPos_congr {σ σ' : Row n} (p : Pos) (h : ∀ v ∈ p.vars, σ.get v = σ'.get v) :
    substPos σ p = substPos σ' p := by
  cases p with
  | const _ => rfl
  | var v => simp only [substPos, h v (by simp [Pos.vars])]

theorem specEval_congr_body {D : Dataset} {σ σ' : Row n} : ∀ (P : Alg), P.existsBody = true →
    (∀ v ∈ P.allVars, σ.get v = σ'.get v) → ∀ g : Graph, Spec.eval D g σ P = Spec.eval D g σ' P := by
  intro P
  fun_induction Alg.existsBody P <;> intro hb h g
  case case5 => cases hb  -- every other operator
  all_goals simp only [Alg.allVars, List.forall_mem_append, Bool.and_eq_true] at hb h
  all_goals simp only [Spec.eval]
  case case1 tps =>  -- BGP
    congr 1
    apply List.map_congr_left
    intro tp htp
    have h' : ∀ v ∈ tp.s.vars ++ tp.p.vars ++ tp.o.vars, σ.get v = σ'.get v :=
      fun v hv => h v (List.mem_flatMap.mpr ⟨tp, htp, hv⟩)
    simp only [List.forall_mem_append] at h'
    rw [substTP, substTP, substPos_congr tp.s h'.1.1, substPos_congr tp.p h'.1.2, substPos_congr tp.o h'.2]
  case case2 iha ihb => rw [iha hb.1.2 h.1 g, ihb hb.2 h.2 g]  -- Join
  case case3 iha ihb => rw [iha hb.1 h.1 g, ihb hb.2 h.2 g]  -- Union
  case case4 gp p ih => simp only [substPos_congr gp h.1, fun gr => ih hb h.2 gr]  -- GRAPH

theorem specEval_congr {D : Dataset} {σ σ' : Row n} (P : Alg) (hP : P.existsOK = true)
    (h : ∀ v ∈ P.allVars, σ.get v = σ'.get v) (g : Graph) : Spec.eval D g σ P = Spec.eval D g σ' P := by
  revert h
  refine P.existsOK_cases (motive := fun P => (∀ v ∈ P.allVars, σ.get v = σ'.get v) →
    Spec.eval D g σ P = Spec.eval D g σ' P) hP (fun hQ h => specEval_congr_body _ hQ h g) (fun e p vars hfree hp h => ?_)
  simp only [Alg.allVars, List.forall_mem_append] at h
  simp only [Spec.eval]
  rw [specEval_congr_body p hp h.2 g]
  exact List.filter_congr fun μ _ => by rw [(exprSub_of_existsFree e hfree).spec_congr h.1]

theorem exprSub_of_safe {D : Dataset} (e : Expr) (hs : e.safe = true) (g : Graph) : ExprSub D g n e := by
  refine exprSub_of Expr.safe (fun _ _ _ => rfl) (fun _ _ => rfl) (fun _ _ => rfl) (fun _ => rfl)
    (fun neg P hP => ?_) e hs
  have hP : P.existsOK = true := hP
  refine ⟨fun c1 c2 h => ?_, fun σ μ => ?_⟩
  · simp only [Model.evalExpr]
    rw [exists_ok P hP g c1, exists_ok P hP g c2, specEval_congr P hP h g]
  · simp only [Model.evalExpr, Spec.evalExpr, exists_ok P hP g]

theorem exprOK_of_safe {D : Dataset} : ∀ (e : Expr), e.safe = true → ∀ g : Graph, ExprOK D g n e :=
  fun e hs g => (exprSub_of_safe e hs g).exprOK

end RV.C04

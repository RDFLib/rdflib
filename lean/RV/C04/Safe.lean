import RV.C04.Types
/-
  C04 — the decidable syntactic predicates of the correctness theorems (core imports only: the
  driver evaluates them too, so that the harness labels every generated query).

  `Alg.must P` / `Alg.may P`  variables that every / some solution of `P` binds (§18.2.1-style, on the algebra)
  `Alg.safe P`    where rdflib's binding push-down is exact: at every node whose evaluation trims the pushed-in
                  bindings with an annotation set (`_vars`) — FILTER, BIND, MINUS, OPTIONAL — the annotation
                  classifies every variable that matters exactly as "bound by the sub-pattern" (in `must`) or
                  "not bound by it" (not in `may`).  The known findings of C04 are the ways in
                  which rdflib's `_vars` fails this (see design.d/C04.md):
                    K1  a variable the sub-pattern MAY bind but need not (OPTIONAL, one UNION branch, VALUES UNDEF,
                        un-projected sub-select variable, right side of MINUS) counted as bound by it,
                    K2  VALUES variables missing from `_vars`,
                    (K3, variables that only occur in a FILTER expression counted as bound by the filter's group, is
                    repaired on /repo main: C04-F14.)
  `Alg.inFragment P`  the operators the push-down lemmas cover: all of them (`Alg.inFragment_true`).
-/
namespace RV.C04

def Pos.vars : Pos → List Nat
  | .var v => [v]
  | .const _ => []

def TP.vars (tp : TP) : List Nat := tp.s.vars ++ tp.p.vars ++ tp.o.vars

/-- variables bound in EVERY solution of the pattern -/
def Alg.must : Alg → List Nat
  | .bgp tps => tps.flatMap TP.vars
  | .join _ a b => a.must ++ b.must
  | .leftJoin a _ _ _ _ => a.must
  | .filter _ p _ _ => p.must
  | .union a b => a.must.filter (b.must.contains ·)
  | .minus a _ _ _ => a.must
  | .extend p _ _ _ => p.must
  | .graph g p => g.vars ++ p.must
  | .values _ _ => []          -- UNDEF cells: nothing is guaranteed
  | .project p pv => p.must.filter (pv.contains ·)

/-- variables bound in SOME solution of the pattern (an upper bound) -/
def Alg.may : Alg → List Nat
  | .bgp tps => tps.flatMap TP.vars
  | .join _ a b => a.may ++ b.may
  | .leftJoin a b _ _ _ => a.may ++ b.may
  | .filter _ p _ _ => p.may
  | .union a b => a.may ++ b.may
  | .minus a _ _ _ => a.may
  | .extend p v _ _ => v :: p.may
  | .graph g p => g.vars ++ p.may
  | .values vars _ => vars
  | .project p pv => p.may.filter (pv.contains ·)

mutual
/-- every variable an expression can look at (for EXISTS: every variable of the pattern) -/
def Expr.vars : Expr → List Nat
  | .var v => [v]
  | .const _ => []
  | .cmp _ a b => a.vars ++ b.vars
  | .and a b => a.vars ++ b.vars
  | .or a b => a.vars ++ b.vars
  | .not a => a.vars
  | .bound v => [v]
  | .exists _ p => p.allVars
def Alg.allVars : Alg → List Nat
  | .bgp tps => tps.flatMap TP.vars
  | .join _ a b => a.allVars ++ b.allVars
  | .leftJoin a b e _ _ => a.allVars ++ b.allVars ++ e.vars
  | .filter e p _ _ => e.vars ++ p.allVars
  | .union a b => a.allVars ++ b.allVars
  | .minus a b _ _ => a.allVars ++ b.allVars
  | .extend p v e _ => v :: (e.vars ++ p.allVars)
  | .graph g p => g.vars ++ p.allVars
  | .values vars _ => vars
  | .project p pv => pv ++ p.allVars
end

/-- the annotation set `ann` is exact on the variables `rel`: a listed variable is bound in every
    solution of the sub-pattern, an unlisted one in none -/
def scopeOK (rel ann must may : List Nat) : Bool :=
  rel.all fun i => (!(ann.contains i) || must.contains i) && (!(may.contains i) || ann.contains i)

mutual
def Expr.existsFree : Expr → Bool
  | .var _ | .const _ | .bound _ => true
  | .cmp _ a b => a.existsFree && b.existsFree
  | .and a b => a.existsFree && b.existsFree
  | .or a b => a.existsFree && b.existsFree
  | .not a => a.existsFree
  | .exists _ _ => false
end

/-- the pattern of an EXISTS as rdflib leaves it (never annotated: no lazy joins, `_vars` absent, only a top-level
    filter with `no_isolated_scope`) and for which "evaluate under the current solution" agrees with §18.6
    `substitute`: triples, joins, UNION, GRAPH, an EXISTS-free top filter.  (OPTIONAL / MINUS / BIND / VALUES /
    sub-select inside EXISTS: substitution and push-down differ or `substitute` is ambiguous.) -/
def Alg.existsBody : Alg → Bool
  | .bgp _ => true
  | .join l a b => !l && a.existsBody && b.existsBody
  | .union a b => a.existsBody && b.existsBody
  | .graph _ p => p.existsBody
  | _ => false

def Alg.existsOK : Alg → Bool
  | .filter e p _ noIso => noIso && e.existsFree && p.existsBody
  | p => p.existsBody

mutual
/-- push-down into `P` is exact (for every context) -/
def Alg.safe : Alg → Bool
  | .bgp _ => true
  | .join _ a b => a.safe && b.safe
  | .union a b => a.safe && b.safe
  | .filter e p vars noIso => p.safe && e.safe && !noIso && scopeOK e.vars vars p.must p.may
  | .extend p v e vars =>
    p.safe && e.safe && !(p.may.contains v) && !(e.vars.contains v) && scopeOK e.vars vars p.must p.may
  | .values _ _ => true
  | .project p _ => p.safe
  | .graph _ p => p.safe
  | .minus a b p1vars p2vars =>
    a.safe && b.safe &&
    (match p1vars with
     | none => false
     | some vs => scopeOK b.may vs a.must a.may) &&
    (match p2vars with
     | none => true
     | some vs => b.may.all (vs.contains ·))
  | .leftJoin a b e p1vars p2vars =>
    a.safe && b.safe && e.safe &&
    scopeOK e.vars (ownVars p1vars p2vars) (a.must ++ b.must) (a.may ++ b.may) &&
    (match p1vars with
     | none => false
     | some vs => scopeOK (b.may ++ e.vars) vs a.must a.may)
def Expr.safe : Expr → Bool
  | .var _ | .const _ | .bound _ => true
  | .cmp _ a b => a.safe && b.safe
  | .and a b => a.safe && b.safe
  | .or a b => a.safe && b.safe
  | .not a => a.safe
  | .exists _ p => p.existsOK
end

/-! ### context-sensitive `Safe`

  `Alg.safe` demands exact annotations whatever bindings are pushed in.  But an inexact annotation only matters for
  a variable that the context really binds: `forget(before, _except)` keeps every binding whose variable `before` does
  not bind, and `remember(vars)` of a merged solution is the sub-pattern's own solution on every listed variable the
  context does not bind.  `Alg.safeIn P ctx` follows the evaluator's data flow: `ctx` is an upper bound of the
  variables bound in `ctx.bindings` when `evalPart` reaches the node — nothing at the top of a query, the left side's
  `may` added for the right side of a lazy join and of an OPTIONAL, nothing again below a sub-select and on the right
  of MINUS (`ctx.clean()`). -/

/-- `forget(μ0, _except = ann)`: the annotation has to be exact only on relevant variables the context may bind -/
def scopeForget (ctx rel ann must may : List Nat) : Bool :=
  rel.all fun i =>
    !(ctx.contains i) || ((!(ann.contains i) || must.contains i) && (!(may.contains i) || ann.contains i))

/-- `remember(ann)`: a variable the sub-pattern may bind must be listed (whatever the context), a listed one must be
    bound by every solution only if the context may bind it too -/
def scopeRemember (ctx rel ann must may : List Nat) : Bool :=
  rel.all fun i =>
    (!(may.contains i) || ann.contains i) && (!(ctx.contains i) || !(ann.contains i) || must.contains i)

/-- push-down into `P` is exact for every context that binds at most the variables `ctx` -/
def Alg.safeIn : Alg → List Nat → Bool
  | .bgp _, _ => true
  | .join lz a b, ctx => a.safeIn ctx && b.safeIn (if lz then ctx ++ a.may else ctx)
  | .union a b, ctx => a.safeIn ctx && b.safeIn ctx
  | .filter e p vars noIso, ctx =>
    p.safeIn ctx && e.safe && !noIso && scopeForget ctx e.vars vars p.must p.may
  | .extend p v e vars, ctx =>
    p.safeIn ctx && e.safe && !(p.may.contains v) && !(e.vars.contains v) &&
      scopeForget ctx e.vars vars p.must p.may
  | .values _ _, _ => true
  | .project p _, _ => p.safeIn []
  | .graph _ p, ctx => p.safeIn ctx
  | .minus a b p1vars p2vars, ctx =>
    a.safeIn ctx && b.safeIn [] &&
    (match p1vars with
     | none => false
     | some vs => scopeRemember ctx b.may vs a.must a.may) &&
    (match p2vars with
     | none => true
     | some vs => b.may.all (vs.contains ·))
  | .leftJoin a b e p1vars p2vars, ctx =>
    a.safeIn ctx && b.safeIn (ctx ++ a.may) && e.safe &&
    scopeForget ctx e.vars (ownVars p1vars p2vars) (a.must ++ b.must) (a.may ++ b.may) &&
    (match p1vars with
     | none => false
     | some vs => scopeRemember ctx (b.may ++ e.vars) vs a.must a.may)

/-- operators covered by the PROVED push-down lemmas: all of them (`inFragment_true`); kept so that the harness and the
    driver report it -/
def Alg.inFragment : Alg → Bool
  | .bgp _ => true
  | .join _ a b => a.inFragment && b.inFragment
  | .union a b => a.inFragment && b.inFragment
  | .filter _ p _ _ => p.inFragment
  | .extend p _ _ _ => p.inFragment
  | .values _ _ => true
  | .project p _ => p.inFragment
  | .graph _ p => p.inFragment
  | .minus a b _ _ => a.inFragment && b.inFragment
  | .leftJoin a b _ _ _ => a.inFragment && b.inFragment

theorem Alg.inFragment_true : ∀ P : Alg, P.inFragment = true := by
  intro P
  fun_induction Alg.inFragment P <;> simp [*]

def Query.pattern : Query → Alg
  | .select _ p => p
  | .ask _ p => p
  | .construct _ _ p => p

def Query.safe (q : Query) : Bool := q.pattern.safe
def Query.inFragment (q : Query) : Bool := q.pattern.inFragment
/-- at the top of a query nothing is pushed in (`initBindings = {}`) -/
def Query.safeTop (q : Query) : Bool := q.pattern.safeIn []

end RV.C04

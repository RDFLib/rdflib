import RV.C04.BoundsLemmas
import RV.C04.ExprLemmas
/-
  C04 — push-down lemmas for the operators whose evaluation trims or extends the pushed-in bindings: FILTER and BIND
  (`forget`), VALUES, MINUS (`remember`), GRAPH, OPTIONAL.  BIND, a VALUES cell and GRAPH ?v all bind one variable by
  `Spec.matchOne`, which commutes with joining the pushed-in bindings (`matchOne_push`).
-/
namespace RV.C04
open Spec Model
variable {n : Nat}

/-- what `forget(μ0, _except = ann)` needs of the annotation: exact on every relevant variable that `μ0` binds -/
def ForgetOK (μ0 : Row n) (rel ann must may : List Nat) : Prop :=
  ∀ v ∈ rel, μ0.get v = none ∨ ((v ∈ ann → v ∈ must) ∧ (v ∈ may → v ∈ ann))

/-- what `remember(ann)` needs: every variable the sub-pattern may bind is listed; a listed one that `μ0` binds is
    bound by every solution of the sub-pattern -/
def RememberOK (μ0 : Row n) (rel ann must may : List Nat) : Prop :=
  ∀ v ∈ rel, (v ∈ may → v ∈ ann) ∧ (μ0.get v = none ∨ (v ∈ ann → v ∈ must))

/-! ### the decidable scope conditions of `Alg.safe` / `Alg.safeIn`, as propositions -/

theorem scopeOK_iff {rel ann must may : List Nat} :
    scopeOK rel ann must may = true ↔ ∀ i ∈ rel, (i ∈ ann → i ∈ must) ∧ (i ∈ may → i ∈ ann) := by
  simp only [scopeOK, List.all_eq_true, Bool.and_eq_true, Bool.or_eq_true, Bool.not_eq_true', List.contains_eq_mem,
    decide_eq_true_eq, decide_eq_false_iff_not, ← Decidable.imp_iff_not_or]

theorem scopeForget_iff {ctx rel ann must may : List Nat} :
    scopeForget ctx rel ann must may = true ↔
      ∀ i ∈ rel, i ∈ ctx → (i ∈ ann → i ∈ must) ∧ (i ∈ may → i ∈ ann) := by
  simp only [scopeForget, List.all_eq_true, Bool.and_eq_true, Bool.or_eq_true, Bool.not_eq_true', List.contains_eq_mem,
    decide_eq_true_eq, decide_eq_false_iff_not, ← Decidable.imp_iff_not_or]

theorem scopeRemember_iff {ctx rel ann must may : List Nat} :
    scopeRemember ctx rel ann must may = true ↔
      ∀ i ∈ rel, (i ∈ may → i ∈ ann) ∧ (i ∈ ctx → i ∈ ann → i ∈ must) := by
  simp only [scopeRemember, List.all_eq_true, Bool.and_eq_true, Bool.or_eq_true, Bool.not_eq_true',
    List.contains_eq_mem, decide_eq_true_eq, decide_eq_false_iff_not, or_assoc]
  simp only [← Decidable.imp_iff_not_or]

theorem scopeForget_of_scopeOK {ctx rel ann must may : List Nat} (hs : scopeOK rel ann must may = true) :
    scopeForget ctx rel ann must may = true :=
  scopeForget_iff.mpr fun i hi _ => scopeOK_iff.mp hs i hi

theorem scopeRemember_of_scopeOK {ctx rel ann must may : List Nat} (hs : scopeOK rel ann must may = true) :
    scopeRemember ctx rel ann must may = true :=
  scopeRemember_iff.mpr fun i hi => ⟨(scopeOK_iff.mp hs i hi).2, fun _ => (scopeOK_iff.mp hs i hi).1⟩

theorem ForgetOK.of_scopeForget {μ0 : Row n} {ctx rel ann must may : List Nat} (h0 : μ0.domIn ctx)
    (hs : scopeForget ctx rel ann must may = true) : ForgetOK μ0 rel ann must may :=
  fun v hv => if hc : v ∈ ctx then Or.inr (scopeForget_iff.mp hs v hv hc) else Or.inl (h0.get_eq_none hc)

theorem RememberOK.of_scopeRemember {μ0 : Row n} {ctx rel ann must may : List Nat} (h0 : μ0.domIn ctx)
    (hs : scopeRemember ctx rel ann must may = true) : RememberOK μ0 rel ann must may :=
  fun v hv => ⟨(scopeRemember_iff.mp hs v hv).1,
    if hc : v ∈ ctx then Or.inr ((scopeRemember_iff.mp hs v hv).2 hc) else Or.inl (h0.get_eq_none hc)⟩

theorem ForgetOK.of_scopeOK {μ0 : Row n} {rel ann must may : List Nat} (hs : scopeOK rel ann must may = true) :
    ForgetOK μ0 rel ann must may :=
  fun v hv => Or.inr (scopeOK_iff.mp hs v hv)

theorem RememberOK.of_scopeOK {μ0 : Row n} {rel ann must may : List Nat} (hs : scopeOK rel ann must may = true) :
    RememberOK μ0 rel ann must may :=
  fun v hv => ⟨(scopeOK_iff.mp hs v hv).2, Or.inr (scopeOK_iff.mp hs v hv).1⟩

/-! ### FILTER and BIND -/

/-- `forget` with an annotation that is exact where the context binds gives back the sub-pattern's own solution on
    the relevant variables -/
theorem forget_scope {μ0 μ : Row n} {rel ann must may : List Nat}
    (hs : ForgetOK μ0 rel ann must may) (hb : BoundsOK μ must may) :
    ∀ v ∈ rel, ((μ0.merge μ).forget μ0 ann).get v = μ.get v := by
  intro v hv
  rw [Row.get_forget]
  rcases hs v hv with h0 | ⟨h1, h2⟩
  · rw [if_pos (Or.inr h0), Row.get_merge_of (Or.inl h0)]
  · by_cases hann : v ∈ ann
    · rw [if_pos (Or.inl hann), Row.get_merge_of (Or.inr (hb.1 v (h1 hann)))]
    · split
      · next hc => exact Row.get_merge_of (Or.inl (hc.resolve_left hann))
      · exact (hb.domIn.get_eq_none fun hm => hann (h2 hm)).symm

theorem evalExpr_forget {D : Dataset} {g : Graph} {μ0 μ : Row n} {e : Expr} {ann must may : List Nat}
    (hok : ExprOK D g n e) (hs : ForgetOK μ0 e.vars ann must may) (hb : BoundsOK μ must may) :
    Model.evalExpr D g ((μ0.merge μ).forget μ0 ann) e = Spec.evalExpr D g Row.empty μ e := by
  rw [hok.congr _ _ (forget_scope hs hb), hok.spec]

theorem pushdown_filter {D : Dataset} {g : Graph} {μ0 : Row n} {Ω XP : List (Row n)} {e : Expr}
    {ann must may : List Nat}
    (hp : XP.Perm (push μ0 Ω)) (hok : ExprOK D g n e)
    (hs : ForgetOK μ0 e.vars ann must may) (hb : ∀ μ ∈ Ω, BoundsOK μ must may) :
    (XP.filter fun c => isTrue (Model.evalExpr D g (c.forget μ0 ann) e)).Perm
      (push μ0 (Ω.filter fun μ => isTrue (Spec.evalExpr D g Row.empty μ e))) := by
  exact (hp.filter _).trans (List.Perm.of_eq (push_filter fun μ hμ _ => by rw [evalExpr_forget hok hs (hb μ hμ)]))

/-- the function `evalPart` maps over the inner solutions at BIND, named so that `pushdown_extend` speaks of one row -/
def extendStepM (D : Dataset) (g : Graph) (μ0 : Row n) (v : Nat) (e : Expr) (ann : List Nat) (c : Row n) :
    Option (Row n) :=
  match Model.evalExpr D g (c.forget μ0 ann) e with
  | none => some c
  | some t =>
    match c.get v with
    | some y => if y = t then some (c.set v t) else none
    | none => some (c.set v t)

/-- the same for `Spec.eval` -/
def extendStepS (D : Dataset) (g : Graph) (v : Nat) (e : Expr) (μ : Row n) : Row n :=
  match μ.get v with
  | some _ => μ
  | none =>
    match Spec.evalExpr D g Row.empty μ e with
    | some t => μ.set v t
    | none => μ

theorem evalPart_extend (D : Dataset) (g : Graph) (μ0 : Row n) (p : Alg) (v : Nat) (e : Expr) (vars : List Nat) :
    Model.evalPart D g μ0 (.extend p v e vars) =
      (Model.evalPart D g μ0 p).filterMap (extendStepM D g μ0 v e vars) := by
  rw [Model.evalPart]; rfl

theorem specEval_extend (D : Dataset) (g : Graph) (p : Alg) (v : Nat) (e : Expr) (vars : List Nat) :
    Spec.eval D g Row.empty (.extend p v e vars) =
      (Spec.eval D g (Row.empty : Row n) p).map (extendStepS D g v e) := by
  rw [Spec.eval]; rfl

/-- `if var in c and c[var] != e: continue` / `yield c.merge({var: e})` is `matchOne` on the BIND variable -/
theorem extendStepM_eq (D : Dataset) (g : Graph) (μ0 : Row n) (v : Nat) (e : Expr) (ann : List Nat) (c : Row n) :
    extendStepM D g μ0 v e ann c =
      match Model.evalExpr D g (c.forget μ0 ann) e with
      | none => some c
      | some t => matchOne c (.var v) t := by
  unfold extendStepM
  cases Model.evalExpr D g (c.forget μ0 ann) e with
  | none => rfl
  | some t =>
    cases hc : c.get v with
    | none => exact (matchOne_var_none hc).symm
    | some y =>
      simp only [matchOne_var_some hc]
      split
      · next h => rw [Row.set_same (h ▸ hc)]
      · rfl

/-- evalExtend (BIND variable not bound by the inner pattern) -/
theorem pushdown_extend {D : Dataset} {g : Graph} {μ0 : Row n} {Ω XP : List (Row n)} {e : Expr} {v : Nat}
    {ann must may : List Nat}
    (hp : XP.Perm (push μ0 Ω)) (hok : ExprOK D g n e)
    (hs : ForgetOK μ0 e.vars ann must may) (hb : ∀ μ ∈ Ω, BoundsOK μ must may)
    (hv : v ∉ may) :
    (XP.filterMap (extendStepM D g μ0 v e ann)).Perm (push μ0 (Ω.map (extendStepS D g v e))) := by
  rw [← List.filterMap_eq_map]
  refine (hp.filterMap _).trans (List.Perm.of_eq (push_filterMap fun μ hμ => ?_))
  have hμv : μ.get v = none := (hb μ hμ).domIn.get_eq_none hv
  -- on the joined row the BIND step is `matchOne` on `?v` with the specification's value, and `matchOne` commutes
  -- with the join
  have hM : (pushOne μ0 μ).bind (extendStepM D g μ0 v e ann) = (pushOne μ0 μ).bind fun c =>
      match Spec.evalExpr D g Row.empty μ e with
      | none => some c
      | some t => matchOne c (.var v) t := by
    refine Option.bind_congr fun c hc => ?_
    rw [pushOne_eq_join] at hc
    rw [Row.eq_merge_of_join hc, extendStepM_eq, evalExpr_forget hok hs (hb μ hμ)]
  simp only [Function.comp, hM, extendStepS, hμv]
  cases Spec.evalExpr D g Row.empty μ e with
  | none => simp
  | some t => exact (matchOne_push μ0 (.var v) t μ).trans (by simp only [matchOne_var_none hμv, Option.bind_some])

/-! ### VALUES -/

theorem pushdown_values (μ0 : Row n) (vars : List Nat) (rows : List (List (Option Term))) :
    (rows.filterMap fun r => Model.valuesRow vars r μ0) =
      push μ0 (rows.filterMap fun r => Spec.valuesRow Row.empty vars r Row.empty) := by
  rw [push, List.filterMap_filterMap]
  refine List.filterMap_congr fun r _ => ?_
  rw [specValuesRow_empty]
  simpa [pushOne_of_compat] using valuesRow_push μ0 vars r Row.empty

/-! ### MINUS -/

/-- `remember` with an annotation that lists what the sub-pattern may bind, and is exact where the context binds,
    gives back the left solution on the relevant variables -/
theorem restrict_scope {μ0 μ : Row n} {rel ann must may : List Nat}
    (hs : RememberOK μ0 rel ann must may) (hb : BoundsOK μ must may) :
    ∀ v ∈ rel, ((μ0.merge μ).restrict ann).get v = μ.get v := by
  intro v hv
  obtain ⟨h2, h1⟩ := hs v hv
  rw [Row.get_restrict]
  by_cases hann : v ∈ ann
  · rw [if_pos hann, Row.get_merge_of (h1.imp id fun h => hb.1 v (h hann))]
  · rw [if_neg hann, hb.domIn.get_eq_none fun hm => hann (h2 hm)]

/-- evalMinus: right side without pushed-in bindings, each side compared on the variables it binds itself
    (`x.remember(p1._vars)`, `y.remember(p2._vars)`) -/
theorem pushdown_minus {μ0 : Row n} {A B XA XB : List (Row n)} {vs mustA mayA mayB : List Nat}
    {p2vars : Option (List Nat)}
    (ha : XA.Perm (push μ0 A)) (hb : XB.Perm B)
    (hs : RememberOK μ0 mayB vs mustA mayA) (hba : ∀ μ ∈ A, BoundsOK μ mustA mayA)
    (hbb : ∀ y ∈ B, ∀ v, (y.get v).isSome = true → v ∈ mayB)
    (hp2 : ∀ vs2, p2vars = some vs2 → ∀ v ∈ mayB, v ∈ vs2) :
    (XA.filter fun x => (XB.map fun y => y.rememberOpt p2vars).all fun y =>
        !((x.rememberOpt (some vs)).compat y) || (x.rememberOpt (some vs)).disjoint y).Perm
      (push μ0 (minusBag A B)) := by
  -- `remember(p2._vars)` leaves the right-hand solutions alone: `p2vars` lists all they may bind
  have hB : (XB.map fun y => y.rememberOpt p2vars).Perm B := by
    refine (hb.map _).trans (List.Perm.of_eq ((List.map_congr_left fun y hy => ?_).trans (List.map_id B)))
    cases p2vars with
    | none => rfl
    | some vs2 => exact Row.restrict_of_domIn fun v hv => hp2 vs2 rfl v (hbb y hy v hv)
  refine (ha.filter _).trans (List.Perm.of_eq ?_)
  simp only [hB.all_eq]
  refine push_filter fun μ hμ _ => ?_
  simp only [Row.rememberOpt]
  rw [Bool.eq_iff_iff, List.all_eq_true, List.all_eq_true]
  refine forall₂_congr fun y hy => ?_
  -- `compat` / `disjoint` against `y` read the other row only where `y` binds (inside `mayB`); there the remembered
  -- part of the joined row is `μ`
  have hag : ∀ v, (y.get v).isSome = true → ((μ0.merge μ).restrict vs).get v = μ.get v :=
    fun v hv => restrict_scope hs (hba μ hμ) v (hbb y hy v hv)
  rw [Row.compat_congr_right hag, Row.disjoint_congr_right hag]

/-! ### GRAPH -/

/-- with distinct graph names, a sum over the named graphs that only the graph called `t` contributes to -/
theorem flatMap_named_single {β : Type} (t : Term) (G : Graph → List β) :
    ∀ (named : List (Term × Graph)), (named.map (·.1)).Nodup →
      (named.flatMap fun ng => if ng.1 = t then G ng.2 else []) =
        bif named.any (fun ng => ng.1 == t) then G (graphOfList named t) else []
  | [], _ => rfl
  | (nm, gr) :: rest, hnd => by
    rw [List.map_cons, List.nodup_cons] at hnd
    rw [List.flatMap_cons, List.any_cons, graphOfList, flatMap_named_single t G rest hnd.2]
    by_cases h : nm = t
    · subst h
      have : rest.any (fun ng => ng.1 == nm) = false :=
        List.any_eq_false.mpr fun ng hng => by simpa using fun e => hnd.1 (List.mem_map.mpr ⟨ng, hng, e⟩)
      simp [this]
    · simp [h, beq_eq_false_iff_ne.mpr h]

/-- GRAPH ?v with `?v` bound to `t` by the context: only the graph named `t` can contribute -/
theorem push_graph_bound {μ0 : Row n} {v : Nat} {t : Term} (hv : μ0.get v = some t)
    (named : List (Term × Graph)) (hnd : (named.map (·.1)).Nodup) (Ω : Graph → List (Row n)) :
    push μ0 (named.flatMap fun ng => (Ω ng.2).filterMap (bindGraphVar v ng.1)) =
      bif named.any (fun ng => ng.1 == t) then push μ0 (Ω (graphOfList named t)) else [] := by
  rw [← flatMap_named_single t (fun gr => push μ0 (Ω gr)) named hnd]
  rw [push_flatMap]
  refine List.flatMap_congr fun ng _ => ?_
  rw [push, List.filterMap_filterMap]
  -- joined with `μ0`, a solution binds `?v` to `t`: matching `?v` against the graph's name is a test `name = t`
  have key : ∀ μ : Row n, (bindGraphVar v ng.1 μ).bind (pushOne μ0) =
      if ng.1 = t then pushOne μ0 μ else none := by
    intro μ
    rw [bindGraphVar_eq_matchOne, ← matchOne_push μ0 (.var v) ng.1 μ]
    cases hc : pushOne μ0 μ with
    | none => simp
    | some c =>
      rw [Option.bind_some, matchOne_var_some (le_of_pushOne hc v t hv)]
      by_cases h : ng.1 = t
      · rw [if_pos h, if_pos h.symm]
      · rw [if_neg h, if_neg fun e => h e.symm]
  by_cases h : ng.1 = t
  · simp only [h, if_true] at key ⊢
    exact List.filterMap_congr fun μ _ => key μ
  · simp only [h, if_false] at key ⊢
    exact List.filterMap_eq_nil_iff.mpr fun μ _ => key μ

/-- evalGraph: a constant name, or a variable that the context binds, selects one graph (an unknown name none); an
    unbound variable ranges over the named graphs -/
theorem pushdown_graph {D : Dataset} (hD : (D.named.map (·.1)).Nodup) {μ0 : Row n} (gp : Pos) (p : Alg)
    (ih : ∀ gr, (Model.evalPart D gr μ0 p).Perm (push μ0 (Spec.eval D gr Row.empty p))) (g : Graph) :
    (Model.evalPart D g μ0 (.graph gp p)).Perm (push μ0 (Spec.eval D g Row.empty (.graph gp p))) := by
  have named := fun t => graph_name_cases D t (fun X Y => X.Perm (push μ0 Y)) (Model.evalPart D · μ0 p)
    (Spec.eval D · (Row.empty : Row n) p) (List.Perm.refl _) (ih _)
  simp only [Model.evalPart, Spec.eval, substPos_empty]
  cases gp with
  | const t => exact named t
  | var v =>
    simp only [Pos.lookup]
    cases hv : μ0.get v with
    | none => exact pushdown_graph_unbound v D.named _ _ ih
    | some t =>
      simp only []
      rw [push_graph_bound hv D.named hD (fun gr => Spec.eval D gr (Row.empty : Row n) p)]
      refine (named t).trans (List.Perm.of_eq ?_)
      show _ = bif D.isName t then push μ0 (Spec.eval D (D.graphOf t) Row.empty p) else []
      cases D.isName t <;> rfl

/-! ### OPTIONAL

  rdflib evaluates the right side under each left solution, filters on `forget`-trimmed bindings and, when nothing
  matched, re-checks under `a.remember(p1._vars)` before keeping the left solution. -/

/-- the solutions joined with `μ1` that pass the OPTIONAL filter -/
def ljMatches (fe : Row n → Bool) (B : List (Row n)) (μ1 : Row n) : List (Row n) :=
  B.filterMap fun μ2 => if μ1.compat μ2 && fe (μ1.merge μ2) then some (μ1.merge μ2) else none

/-- LeftJoin, one left solution at a time -/
def ljRow (fe : Row n → Bool) (B : List (Row n)) (μ1 : Row n) : List (Row n) :=
  if (ljMatches fe B μ1).isEmpty then [μ1] else ljMatches fe B μ1

theorem ljMatches_eq_filter (fe : Row n → Bool) (B : List (Row n)) (μ1 : Row n) :
    ljMatches fe B μ1 = (joinBag [μ1] B).filter fe := by
  simp only [joinBag, List.flatMap_cons, List.flatMap_nil, List.append_nil, List.filter_filterMap, ljMatches]
  refine List.filterMap_congr fun μ2 _ => ?_
  cases μ1.compat μ2 <;> cases h : fe (μ1.merge μ2) <;> simp [Option.filter, h]

theorem ljMatches_isEmpty (fe : Row n → Bool) (B : List (Row n)) (μ1 : Row n) :
    (ljMatches fe B μ1).isEmpty = !B.any fun μ2 => μ1.compat μ2 && fe (μ1.merge μ2) := by
  rw [Bool.eq_iff_iff, List.isEmpty_iff, ljMatches, List.filterMap_eq_nil_iff, List.not_any_eq_all_not, List.all_eq_true]
  refine forall₂_congr fun μ2 _ => ?_
  cases μ1.compat μ2 && fe (μ1.merge μ2) <;> simp

/-- §18.5 `LeftJoin = Filter(Join) ∪ Diff`, regrouped per left solution -/
theorem leftJoin_regroup (fe : Row n → Bool) (A B : List (Row n)) :
    ((joinBag A B).filter fe ++
      A.filter (fun μ => B.all (fun μ' => !(μ.compat μ') || !(fe (μ.merge μ'))))).Perm
      (A.flatMap (ljRow fe B)) := by
  have e1 : (joinBag A B).filter fe = A.flatMap (ljMatches fe B) := by
    rw [joinBag, List.filter_flatMap]
    exact List.flatMap_congr fun μ1 _ => by
      simp only [ljMatches_eq_filter, joinBag, List.flatMap_cons, List.flatMap_nil, List.append_nil]
  have e2 : A.filter (fun μ => B.all (fun μ' => !(μ.compat μ') || !(fe (μ.merge μ')))) =
      A.flatMap (fun μ1 => bif (ljMatches fe B μ1).isEmpty then [μ1] else []) := by
    simp only [ljMatches_isEmpty, List.not_any_eq_all_not, Bool.not_and]
    rw [← flatMap_filter_eq, List.flatMap_singleton']
  rw [e1, e2]
  refine (List.flatMap_append_perm A _ _).trans (List.Perm.of_eq ?_)
  apply List.flatMap_congr
  intro μ1 _
  simp only [ljRow]
  cases h : (ljMatches fe B μ1).isEmpty with
  | true => rw [List.isEmpty_iff] at h; simp [h]
  | false => simp

theorem le_of_mem_ljRow {fe : Row n → Bool} {B : List (Row n)} {μ1 y : Row n} (hy : y ∈ ljRow fe B μ1) : μ1.le y := by
  simp only [ljRow, ljMatches_eq_filter] at hy
  split at hy
  · rw [List.mem_singleton.mp hy]; exact Row.le_refl _
  · obtain ⟨_, h1, μ2, _, hc, rfl⟩ := mem_joinBag.mp (List.mem_filter.mp hy).1
    cases List.mem_singleton.mp h1
    exact Row.le_merge_of_compat hc

/-- the model's OPTIONAL for one left solution `x` (`XB c` = the right side evaluated under context `c`) -/
def ljStepM (D : Dataset) (g : Graph) (μ0 : Row n) (XB : Row n → List (Row n)) (e : Expr)
    (own vs : List Nat) (x : Row n) : List (Row n) :=
  if ((XB x).filter fun y => isTrue (Model.evalExpr D g (y.forget μ0 own) e)).isEmpty then
    (if (XB (x.restrict vs)).any (fun y => isTrue (Model.evalExpr D g y e)) then [] else [x])
  else ((XB x).filter fun y => isTrue (Model.evalExpr D g (y.forget μ0 own) e)).map fun y => y.merge x

theorem evalPart_leftJoin (D : Dataset) (g : Graph) (μ0 : Row n) (a b : Alg) (e : Expr) (vs : List Nat)
    (p2vars : Option (List Nat)) :
    Model.evalPart D g μ0 (.leftJoin a b e (some vs) p2vars) =
      (Model.evalPart D g μ0 a).flatMap
        (ljStepM D g μ0 (fun c => Model.evalPart D g c b) e (ownVars (some vs) p2vars) vs) := by
  rw [Model.evalPart]; rfl

/-- evalLeftJoin on one left solution `μ0 ⊕ μ1`: the rows the specification keeps for `μ1` (`ljRow`), joined with `μ0` -/
theorem pushdown_leftjoin_row {D : Dataset} {g : Graph} {μ0 μ1 : Row n} {B : List (Row n)} {XB : Row n → List (Row n)}
    {e : Expr} {own vs mustA mayA mustB mayB ctx : List Nat} (h0 : μ0.domIn ctx)
    (hb : ∀ c : Row n, c.domIn (ctx ++ mayA) → (XB c).Perm (push c B)) (hok : ExprOK D g n e)
    (hs1 : ForgetOK μ0 e.vars own (mustA ++ mustB) (mayA ++ mayB))
    (hs2 : RememberOK μ0 (mayB ++ e.vars) vs mustA mayA)
    (hba : BoundsOK μ1 mustA mayA) (hbb : ∀ μ ∈ B, BoundsOK μ mustB mayB) (hc : μ1.compat μ0 = true) :
    (ljStepM D g μ0 XB e own vs (μ0.merge μ1)).Perm
      (push μ0 (ljRow (fun μ => isTrue (Spec.evalExpr D g Row.empty μ e)) B μ1)) := by
  let fe : Row n → Bool := fun μ => isTrue (Spec.evalExpr D g Row.empty μ e)
  let fm : Row n → Bool := fun y => isTrue (Model.evalExpr D g (y.forget μ0 own) e)
  let x := μ0.merge μ1
  have hx : pushOne μ0 μ1 = some x := pushOne_of_compat hc
  have hxd : x.domIn (ctx ++ mayA) := Row.domIn_merge h0 hba
  have hb1 := hb x hxd
  have hb2 := hb (x.restrict vs) (Row.domIn_restrict hxd vs)
  -- (1) the filtered right-hand solutions are the pushed matches: FILTER over the join of `{μ1}` with the right side
  have hF1 : ((XB x).filter fm).Perm (push μ0 (ljMatches fe B μ1)) := by
    rw [ljMatches_eq_filter]
    refine pushdown_filter ?_ hok hs1 fun μ hμ => ?_
    · rw [push_joinBag]
      simpa [push, hx] using hb1
    · obtain ⟨_, h1, μ2, h2, _, rfl⟩ := mem_joinBag.mp hμ
      cases List.mem_singleton.mp h1
      exact hba.merge (hbb μ2 h2)
  -- (2) merging the left solution back changes nothing
  have hmap : ((XB x).filter fm).map (fun y => y.merge x) = (XB x).filter fm := by
    refine (List.map_congr_left fun y hy => ?_).trans (List.map_id _)
    exact Row.merge_of_le (le_of_mem_push (hb1.subset (List.mem_filter.mp hy).1))
  -- (3) the re-check finds a match iff there is one: the remembered row is `μ1` wherever the right side or `e` look
  have hany : (XB (x.restrict vs)).any (fun y => isTrue (Model.evalExpr D g y e)) =
      !(ljMatches fe B μ1).isEmpty := by
    have hν : ∀ v ∈ mayB ++ e.vars, (x.restrict vs).get v = μ1.get v := restrict_scope hs2 hba
    rw [hb2.any_eq, any_push, ljMatches_isEmpty, Bool.not_not, Bool.eq_iff_iff, List.any_eq_true, List.any_eq_true]
    refine exists_congr fun μ2 => and_congr_right fun hμ2 => ?_
    have hdom : ∀ v, (μ2.get v).isSome = true → (x.restrict vs).get v = μ1.get v :=
      fun v hv => hν v (List.mem_append.mpr (Or.inl ((hbb μ2 hμ2).2 v hv)))
    have hev : Model.evalExpr D g ((x.restrict vs).merge μ2) e = Spec.evalExpr D g Row.empty (μ1.merge μ2) e := by
      rw [← hok.spec]
      refine hok.congr _ _ fun v hv => ?_
      rw [Row.get_merge, Row.get_merge, hν v (List.mem_append.mpr (Or.inr hv))]
    rw [Row.compat_comm μ2, Row.compat_congr_right hdom, hev]
  show (if ((XB x).filter fm).isEmpty then
      (if (XB (x.restrict vs)).any (fun y => isTrue (Model.evalExpr D g y e)) then [] else [x])
    else ((XB x).filter fm).map fun y => y.merge x).Perm (push μ0 (ljRow fe B μ1))
  rw [hmap, hany, ljRow]
  cases hm : (ljMatches fe B μ1).isEmpty with
  | true =>
    rw [hF1.isEmpty_eq, List.isEmpty_iff.mp hm]
    simp [push, hx]
  | false =>
    have : ∀ F : List (Row n), (if F.isEmpty = true then [] else F) = F := fun F => by cases F <;> rfl
    rw [Bool.not_false, if_pos rfl, this]
    exact hF1

theorem pushdown_leftjoin {D : Dataset} {g : Graph} {μ0 : Row n} {A B XA : List (Row n)}
    {XB : Row n → List (Row n)} {e : Expr} {own vs mustA mayA mustB mayB ctx : List Nat} (h0 : μ0.domIn ctx)
    (ha : XA.Perm (push μ0 A)) (hb : ∀ c : Row n, c.domIn (ctx ++ mayA) → (XB c).Perm (push c B))
    (hok : ExprOK D g n e)
    (hs1 : ForgetOK μ0 e.vars own (mustA ++ mustB) (mayA ++ mayB))
    (hs2 : RememberOK μ0 (mayB ++ e.vars) vs mustA mayA)
    (hba : ∀ μ ∈ A, BoundsOK μ mustA mayA) (hbb : ∀ μ ∈ B, BoundsOK μ mustB mayB) :
    (XA.flatMap (ljStepM D g μ0 XB e own vs)).Perm
      (push μ0 ((joinBag A B).filter (fun μ => isTrue (Spec.evalExpr D g Row.empty μ e)) ++
        A.filter (fun μ => B.all (fun μ' => !(μ.compat μ') ||
          !(isTrue (Spec.evalExpr D g Row.empty (μ.merge μ') e)))))) := by
  have hre := leftJoin_regroup (fun μ => isTrue (Spec.evalExpr D g Row.empty μ e)) A B
  refine List.Perm.trans ?_ ((hre.filterMap (pushOne μ0)).symm)
  refine (List.Perm.flatMap_right _ ha).trans ?_
  show ((push μ0 A).flatMap _).Perm (push μ0 _)
  rw [push_flatMap, push, flatMap_filterMap]
  refine List.Perm.flatMap_left _ fun μ1 hμ1 => ?_
  cases hc : μ1.compat μ0 with
  | true =>
    simp only [pushOne_of_compat hc]
    exact pushdown_leftjoin_row h0 hb hok hs1 hs2 (hba μ1 hμ1) hbb hc
  | false =>
    -- every row the specification keeps for `μ1` extends it, hence is incompatible with `μ0` as well
    simp only [pushOne_of_not_compat hc]
    exact List.Perm.of_eq (List.filterMap_eq_nil_iff.mpr fun y hy =>
      pushOne_of_not_compat (Row.not_compat_of_le (le_of_mem_ljRow hy) hc)).symm

end RV.C04

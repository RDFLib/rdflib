import RV.C04.BagLemmas
/-
  C04 — what `Alg.must` / `Alg.may` promise about the specification's solutions: every solution of `Spec.eval P`
  binds `P.must` and nothing outside `P.may` (`specEval_bounds`; `spec_bounds` is the same theorem with the hypothesis
  `P.inFragment`, which holds of every tree).
-/
namespace RV.C04
open Spec Model
variable {n : Nat}

/-- `μ` binds every variable of `must`, and binds only variables of `may` (the second half is `μ.domIn may`) -/
def BoundsOK (μ : Row n) (must may : List Nat) : Prop :=
  (∀ v ∈ must, (μ.get v).isSome = true) ∧ (∀ v, (μ.get v).isSome = true → v ∈ may)

theorem BoundsOK.domIn {μ : Row n} {must may : List Nat} (h : BoundsOK μ must may) : μ.domIn may := h.2

theorem Row.domIn.boundsOK {μ : Row n} {may : List Nat} (h : μ.domIn may) : BoundsOK μ [] may :=
  ⟨fun _ h => (nomatch h), h⟩

theorem BoundsOK.mono {μ : Row n} {m y m' y' : List Nat} (h : BoundsOK μ m y) (hm : ∀ v ∈ m', v ∈ m)
    (hy : ∀ v ∈ y, v ∈ y') : BoundsOK μ m' y' :=
  ⟨fun v hv => h.1 v (hm v hv), fun v hv => hy v (h.2 v hv)⟩

theorem BoundsOK.merge {μ1 μ2 : Row n} {m1 y1 m2 y2 : List Nat} (h1 : BoundsOK μ1 m1 y1) (h2 : BoundsOK μ2 m2 y2) :
    BoundsOK (μ1.merge μ2) (m1 ++ m2) (y1 ++ y2) := by
  constructor
  · -- must: bound by `μ2`, or else listed in `m1` and bound by `μ1`
    intro v hv
    rw [Row.get_merge]
    cases h : μ2.get v with
    | some _ => rfl
    | none =>
      rcases List.mem_append.mp hv with hv | hv
      · exact h1.1 v hv
      · have := h2.1 v hv; rw [h] at this; cases this
  · -- may: bound by `μ2` (then in `y2`) or by `μ1` (then in `y1`)
    intro v hv
    rw [Row.get_merge] at hv
    cases h : μ2.get v with
    | some _ => exact List.mem_append.mpr (Or.inr (h2.2 v (by rw [h]; rfl)))
    | none => rw [h] at hv; exact List.mem_append.mpr (Or.inl (h1.2 v hv))

theorem Row.domIn_merge {μ0 μ1 : Row n} {ctx must may : List Nat} (h0 : μ0.domIn ctx) (h1 : BoundsOK μ1 must may) :
    (μ0.merge μ1).domIn (ctx ++ may) :=
  (h0.boundsOK.merge h1).domIn

theorem BoundsOK.binds {μ μ' : Row n} {m y L : List Nat} (hb : BoundsOK μ m y) (h : μ.Binds μ' L)
    (hL : ∀ v ∈ L, v < n) : BoundsOK μ' (L ++ m) (L ++ y) :=
  ⟨fun v hv => (List.mem_append.mp hv).elim (fun hv => h.must v hv (hL v hv)) (fun hv => Row.le_isSome h.le (hb.1 v hv)),
   fun v hv => List.mem_append.mpr ((h.may v hv).imp id (hb.2 v))⟩

theorem valuesRow_may (vs : List Nat) (cs : List (Option Term)) (μ μ' : Row n) :
    Model.valuesRow vs cs μ = some μ' → ∀ v, (μ'.get v).isSome = true → v ∈ vs ∨ (μ.get v).isSome = true := by
  fun_induction Model.valuesRow vs cs μ <;> intro h v hv
  case case1 ih => exact (ih h v hv).imp (List.mem_cons_of_mem _) id  -- UNDEF cell
  case case2 ih => exact (ih h v hv).imp (List.mem_cons_of_mem _) id  -- variable bound to the cell's term
  case case3 => cases h  -- variable bound to another term
  case case4 w vs cs μ t hw ih =>  -- variable unbound
    rcases ih h v hv with h | h
    · exact Or.inl (List.mem_cons_of_mem _ h)
    · rw [Row.get_set] at h
      split at h
      · next hh => exact Or.inl (by simp [hh.1])
      · exact Or.inr h
  case case5 => cases h; exact Or.inr hv  -- no more cells

theorem specEval_bounds {D : Dataset} : ∀ (P : Alg), (∀ v ∈ P.allVars, v < n) →
    ∀ (g : Graph) (μ : Row n), μ ∈ Spec.eval D g Row.empty P → BoundsOK μ P.must P.may := by
  intro P
  -- the recursion of `Alg.inFragment` is that of `Alg`: one case per operator, in the order of its clauses
  fun_induction Alg.inFragment P <;> intro hws g μ h <;>
    simp only [Alg.allVars, List.forall_mem_append, List.forall_mem_cons] at hws
  case case1 tps =>  -- BGP
    simp only [Spec.eval, map_substTP_empty] at h
    simpa [Alg.must, Alg.may] using
      (Row.domIn_empty []).boundsOK.binds (bgp_binds tps _ μ h) hws
  case case2 l a b iha ihb =>  -- Join
    obtain ⟨μ1, h1, μ2, h2, _, rfl⟩ := mem_joinBag.mp (by simpa only [Spec.eval] using h)
    exact (iha hws.1 g μ1 h1).merge (ihb hws.2 g μ2 h2)
  case case3 a b iha ihb =>  -- Union
    simp only [Spec.eval, List.mem_append] at h
    rcases h with h | h
    · exact (iha hws.1 g μ h).mono (fun v hv => (List.mem_filter.mp hv).1) fun v => List.mem_append_left _
    · exact (ihb hws.2 g μ h).mono (fun v hv => by simpa using (List.mem_filter.mp hv).2)
        fun v => List.mem_append_right _
  case case4 e p vars noIso ih =>  -- Filter
    simp only [Spec.eval, List.mem_filter] at h
    exact ih hws.2 g μ h.1
  case case5 p w e vars ih =>  -- Extend (BIND)
    simp only [Spec.eval, List.mem_map] at h
    obtain ⟨μ', h', he⟩ := h
    have ih := ih hws.2.2 g μ' h'
    have hle : μ'.le μ ∧ ∀ v, (μ.get v).isSome = true → v ∈ [w] ∨ (μ'.get v).isSome = true := by
      split at he
      · subst he; exact ⟨Row.le_refl _, fun _ hv => Or.inr hv⟩
      · next hw =>
        split at he <;> subst he
        · exact ⟨(Row.Binds.set hw _).le, (Row.Binds.set hw _).may⟩
        · exact ⟨Row.le_refl _, fun _ hv => Or.inr hv⟩
    exact ⟨fun v hv => Row.le_isSome hle.1 (ih.1 v hv), fun v hv => List.mem_append.mpr ((hle.2 v hv).imp id (ih.2 v))⟩
  case case6 vars rows =>  -- VALUES
    simp only [Spec.eval, specValuesRow_empty, List.mem_filterMap] at h
    obtain ⟨r, _, hr⟩ := h
    exact ⟨fun _ hv => (nomatch hv), fun v hv => (valuesRow_may vars r Row.empty μ hr v hv).resolve_right (by simp)⟩
  case case7 p pv ih =>  -- sub-select
    simp only [Spec.eval, Row.restrict_empty, List.mem_map] at h
    obtain ⟨μ', hμ', rfl⟩ := h
    have ih := ih hws.2 g μ' hμ'
    simp only [BoundsOK, Alg.must, Alg.may, List.mem_filter, List.contains_eq_mem, decide_eq_true_eq, Row.get_restrict]
    refine ⟨fun v hv => by rw [if_pos hv.2]; exact ih.1 v hv.1, fun v hv => ?_⟩
    split at hv
    · next hp => exact ⟨ih.2 v hv, hp⟩
    · cases hv
  case case8 gp p ih =>  -- GRAPH
    cases gp with
    | const t =>
      simp only [Spec.eval, substPos] at h
      split at h
      · exact ih hws.2 (D.graphOf t) μ h
      · cases h
    | var w =>
      simp only [Spec.eval, substPos, Row.get_empty, List.mem_flatMap, List.mem_filterMap] at h
      obtain ⟨ng, _, μ', hμ', hb⟩ := h
      have ih := ih hws.2 ng.2 μ' hμ'
      rw [bindGraphVar_eq_matchOne] at hb
      exact ih.binds (matchOne_binds hb) hws.1
  case case9 a b _ _ iha _ =>  -- MINUS
    simp only [Spec.eval, minusBag, List.mem_filter] at h
    exact iha hws.1 g μ h.1
  case case10 a b e p1 p2 iha ihb =>  -- LeftJoin (OPTIONAL)
    simp only [Spec.eval, List.mem_append, List.mem_filter] at h
    rcases h with ⟨hj, _⟩ | ⟨ha, _⟩
    · obtain ⟨μ1, h1, μ2, h2, _, rfl⟩ := mem_joinBag.mp hj
      exact ((iha hws.1.1 g μ1 h1).merge (ihb hws.1.2 g μ2 h2)).mono
        (fun v => List.mem_append_left _) fun _ h => h
    · exact (iha hws.1.1 g μ ha).mono (fun _ h => h) fun v => List.mem_append_left _

theorem specEval_domIn {D : Dataset} (P : Alg) (hws : ∀ v ∈ P.allVars, v < n) (g : Graph) :
    ∀ μ ∈ Spec.eval D g (Row.empty : Row n) P, μ.domIn P.may :=
  fun μ hμ => (specEval_bounds P hws g μ hμ).domIn

theorem spec_bounds {D : Dataset} : ∀ (P : Alg), P.inFragment = true → (∀ v ∈ P.allVars, v < n) →
    ∀ (g : Graph) (μ : Row n), μ ∈ Spec.eval D g Row.empty P → BoundsOK μ P.must P.may :=
  fun P _ => specEval_bounds P

end RV.C04

import RV.C04.Pushdown
import RV.C04.Translate
/-
  C04 — facts about the models of rdflib's analysis passes (`Analysis.lean`) and of `simplify` (`Translate.lean`):
  the annotations are invisible to the specification and to `must` / `may`; `_addVars` is an upper bound of the
  may-bind set on VALUES-free patterns (and is not on VALUES: K2; and is no must-bind set: K1); on a VALUES-free tree
  annotated by the analysis the "bound but not listed" half of `Safe` always holds, so that `safeIn` is the decidable
  must-bind question `Alg.mustOK` (defined here, with `mustScope`); `safeIn` is antitone in the context and survives
  `Alg.strict` (no lazy joins); `simplify` (Join with the empty BGP removed) does not change what the specification
  assigns to the tree.
-/
namespace RV.C04
open Spec Model
variable {n : Nat}

/-! ### re-annotating changes nothing the specification or the bounds look at -/

theorem Alg.must_annotate (P : Alg) : P.annotate.must = P.must := by
  fun_induction Alg.annotate P <;> simp [Alg.must, *]

theorem Alg.may_annotate (P : Alg) : P.annotate.may = P.may := by
  fun_induction Alg.annotate P <;> simp [Alg.may, *]

theorem Alg.allVars_annotate (P : Alg) : P.annotate.allVars = P.allVars := by
  fun_induction Alg.annotate P <;> simp [Alg.allVars, *]

theorem Alg.addVars_annotate (P : Alg) : P.annotate.addVars = P.addVars := by
  fun_induction Alg.annotate P <;> simp [Alg.addVars, *]

theorem Alg.analyse_annotate (P : Alg) : P.annotate.analyse = P.analyse := by
  fun_induction Alg.annotate P <;> simp [Alg.analyse, *]

theorem Alg.annotate_idem : ∀ P : Alg, P.annotate.annotate = P.annotate := by
  intro P
  fun_induction Alg.annotate P <;> simp [Alg.annotate, Alg.analyse_annotate, Alg.addVars_annotate, *]

theorem specEval_annotate {D : Dataset} : ∀ (P : Alg) (g : Graph) (σ : Row n),
    Spec.eval D g σ P.annotate = Spec.eval D g σ P := by
  intro P
  fun_induction Alg.annotate P <;> intro g σ <;> simp only [Spec.eval, *]

/-! ### `_addVars` as a may-bind analysis -/

theorem Alg.may_subset_addVars : ∀ P : Alg, P.valuesFree = true → ∀ v ∈ P.may, v ∈ P.addVars := by
  intro P
  fun_induction Alg.valuesFree P <;> intro h v hv <;>
    simp only [Alg.may, Alg.addVars, Bool.and_eq_true, List.mem_append, List.mem_cons, List.mem_filter,
      List.not_mem_nil, or_false, List.contains_eq_mem, decide_eq_true_eq] at h hv ⊢
  case case1 => exact hv  -- BGP
  case case2 iha ihb => exact hv.imp (iha h.1 v) (ihb h.2 v)  -- Join
  case case3 iha ihb => exact hv.imp (iha h.1 v) (ihb h.2 v)  -- Union
  case case4 iha ihb => exact hv.imp (iha h.1 v) (ihb h.2 v)  -- LeftJoin (OPTIONAL)
  case case5 ih => exact ih h v hv  -- Filter
  case case6 ih => exact hv.symm.imp (ih h v) id  -- Extend (BIND)
  case case7 iha _ => exact iha h.1 v hv  -- MINUS
  case case8 ih => exact hv.imp id (ih h v)  -- GRAPH
  case case9 => cases h  -- VALUES
  case case10 => exact Or.inr hv.2  -- sub-select

/-! ### on a VALUES-free tree annotated by the analysis, only the must-bind half of `Safe` is left

  `Alg.mustOK P ctx`: at every FILTER / BIND / MINUS / OPTIONAL node, a relevant variable that the context may bind and
  that is listed in the `_vars` computed by `_addVars` is bound by EVERY solution of the sub-pattern (the K1 question). -/

def mustScope (ctx rel ann must : List Nat) : Bool :=
  rel.all fun i => !(ctx.contains i) || !(ann.contains i) || must.contains i

def Alg.mustOK : Alg → List Nat → Bool
  | .bgp _, _ => true
  | .join _ a b, ctx => a.mustOK ctx && b.mustOK (if a.analyse && b.analyse then ctx ++ a.may else ctx)
  | .union a b, ctx => a.mustOK ctx && b.mustOK ctx
  | .filter e p _ noIso, ctx => p.mustOK ctx && e.safe && !noIso && mustScope ctx e.vars p.addVars p.must
  | .extend p v e _, ctx =>
    p.mustOK ctx && e.safe && !(p.may.contains v) && !(e.vars.contains v) &&
      mustScope ctx e.vars (p.addVars ++ [v]) p.must
  | .values _ _, _ => true
  | .project p _, _ => p.mustOK []
  | .graph _ p, ctx => p.mustOK ctx
  | .minus a b _ _, ctx => a.mustOK ctx && b.mustOK [] && mustScope ctx b.may a.addVars a.must
  | .leftJoin a b e _ _, ctx =>
    a.mustOK ctx && b.mustOK (ctx ++ a.may) && e.safe &&
    mustScope ctx e.vars (a.addVars ++ b.addVars) (a.must ++ b.must) &&
    mustScope ctx (b.may ++ e.vars) a.addVars a.must

theorem mustScope_iff {ctx rel ann must : List Nat} :
    mustScope ctx rel ann must = true ↔ ∀ i ∈ rel, i ∈ ctx → i ∈ ann → i ∈ must := by
  simp only [mustScope, List.all_eq_true, Bool.or_eq_true, Bool.not_eq_true', List.contains_eq_mem,
    decide_eq_true_eq, decide_eq_false_iff_not, or_assoc]
  simp only [← Decidable.imp_iff_not_or]

/-- where the annotation lists all the sub-pattern may bind, only the must-bind half of the scope condition is left -/
theorem scopeForget_eq_must {ctx rel ann must may : List Nat} (hsub : ∀ v ∈ may, v ∈ ann) :
    scopeForget ctx rel ann must may = mustScope ctx rel ann must := by
  rw [Bool.eq_iff_iff, scopeForget_iff, mustScope_iff]
  exact forall₂_congr fun i _ => imp_congr_right fun _ => and_iff_left (hsub i)

theorem scopeRemember_eq_must {ctx rel ann must may : List Nat} (hsub : ∀ v ∈ may, v ∈ ann) :
    scopeRemember ctx rel ann must may = mustScope ctx rel ann must := by
  rw [Bool.eq_iff_iff, scopeRemember_iff, mustScope_iff]
  exact forall₂_congr fun i _ => and_iff_right (hsub i)

theorem subset_append {a b a' b' : List Nat} (ha : ∀ v ∈ a, v ∈ a') (hb : ∀ v ∈ b, v ∈ b') :
    ∀ v ∈ a ++ b, v ∈ a' ++ b' :=
  fun v h => List.mem_append.mpr ((List.mem_append.mp h).imp (ha v) (hb v))

/-- on a VALUES-free tree `_addVars` never under-approximates, so `safeIn` of the tree annotated by rdflib's analysis
    IS the must-bind question.  Both sides recurse alike: the unscoped operators close by rewriting with the induction
    hypotheses, the four scoped ones are left. -/
theorem Alg.safeIn_annotate_eq : ∀ (P : Alg) (ctx : List Nat), P.valuesFree = true →
    P.annotate.safeIn ctx = P.mustOK ctx := by
  intro P ctx
  fun_induction Alg.mustOK P ctx <;> intro hv <;>
    simp only [Alg.valuesFree, Bool.and_eq_true, Bool.false_eq_true] at hv <;>
    simp only [Alg.annotate, Alg.safeIn, Alg.may_annotate, Alg.must_annotate, ownVars, *]
  case case4 e p _ _ ctx ih => rw [scopeForget_eq_must (Alg.may_subset_addVars p hv)]  -- Filter
  case case5 p w e _ ctx ih =>  -- Extend (BIND)
    rw [scopeForget_eq_must fun v h => List.mem_append.mpr (Or.inl (Alg.may_subset_addVars p hv v h))]
  case case9 a b _ _ ctx iha ihb =>  -- MINUS
    rw [scopeRemember_eq_must (Alg.may_subset_addVars a hv.1),
      List.all_eq_true.mpr fun v h => by simpa using Alg.may_subset_addVars b hv.2 v h, Bool.and_true]
  case case10 a b e _ _ ctx iha ihb =>  -- LeftJoin (OPTIONAL)
    rw [scopeForget_eq_must (subset_append (Alg.may_subset_addVars a hv.1) (Alg.may_subset_addVars b hv.2)),
      scopeRemember_eq_must (Alg.may_subset_addVars a hv.1)]

theorem Alg.safeIn_annotate_of_mustOK : ∀ (P : Alg) (ctx : List Nat), P.valuesFree = true → P.mustOK ctx = true →
    P.annotate.safeIn ctx = true :=
  fun P ctx hv hm => by rw [Alg.safeIn_annotate_eq P ctx hv, hm]

/-! ### `safeIn` is antitone in the context and survives `Alg.strict` (what `lazy_irrelevant` rests on) -/

theorem scopeForget_mono {ctx ctx' rel ann must may : List Nat} (hsub : ∀ v ∈ ctx', v ∈ ctx)
    (h : scopeForget ctx rel ann must may = true) : scopeForget ctx' rel ann must may = true :=
  scopeForget_iff.mpr fun i hi hc => scopeForget_iff.mp h i hi (hsub i hc)

theorem scopeRemember_mono {ctx ctx' rel ann must may : List Nat} (hsub : ∀ v ∈ ctx', v ∈ ctx)
    (h : scopeRemember ctx rel ann must may = true) : scopeRemember ctx' rel ann must may = true :=
  scopeRemember_iff.mpr fun i hi =>
    ⟨(scopeRemember_iff.mp h i hi).1, fun hc => (scopeRemember_iff.mp h i hi).2 (hsub i hc)⟩

theorem Alg.safeIn_mono : ∀ (P : Alg) (ctx ctx' : List Nat), (∀ v ∈ ctx', v ∈ ctx) → P.safeIn ctx = true →
    P.safeIn ctx' = true := by
  intro P ctx
  have app : ∀ {ctx ctx' : List Nat} (L : List Nat), (∀ v ∈ ctx', v ∈ ctx) → ∀ v ∈ ctx' ++ L, v ∈ ctx ++ L :=
    fun L hsub => subset_append hsub fun _ h => h
  fun_induction Alg.safeIn P ctx <;> intro ctx' hsub h <;> simp only [Alg.safeIn, Bool.and_eq_true, and_assoc] at h ⊢
  case case2 lz a b ctx iha ihb =>  -- Join
    refine ⟨iha ctx' hsub h.1, ihb _ ?_ h.2⟩
    cases lz
    · exact hsub
    · exact app a.may hsub
  case case3 iha ihb => exact ⟨iha ctx' hsub h.1, ihb ctx' hsub h.2⟩  -- Union
  case case4 ih =>  -- Filter
    obtain ⟨hp, he, hn, hsc⟩ := h
    exact ⟨ih ctx' hsub hp, he, hn, scopeForget_mono hsub hsc⟩
  case case5 ih =>  -- Extend (BIND)
    obtain ⟨hp, he, hv, hve, hsc⟩ := h
    exact ⟨ih ctx' hsub hp, he, hv, hve, scopeForget_mono hsub hsc⟩
  case case7 => exact h  -- sub-select
  case case8 ih => exact ih ctx' hsub h  -- GRAPH
  case case9 a b p1 p2 ctx iha _ =>  -- MINUS
    cases p1 with
    | none => simp at h
    | some vs =>
      obtain ⟨ha, hb, hsc, hp2⟩ := h
      exact ⟨iha ctx' hsub ha, hb, scopeRemember_mono hsub hsc, hp2⟩
  case case10 a b e p1 p2 ctx iha ihb =>  -- LeftJoin (OPTIONAL)
    cases p1 with
    | none => simp at h
    | some vs =>
      obtain ⟨ha, hb, he, hs1, hs2⟩ := h
      exact ⟨iha ctx' hsub ha, ihb _ (app a.may hsub) hb, he, scopeForget_mono hsub hs1,
        scopeRemember_mono hsub hs2⟩

theorem Alg.must_strict (P : Alg) : P.strict.must = P.must := by
  fun_induction Alg.strict P <;> simp [Alg.must, *]

theorem Alg.may_strict (P : Alg) : P.strict.may = P.may := by
  fun_induction Alg.strict P <;> simp [Alg.may, *]

theorem Alg.allVars_strict (P : Alg) : P.strict.allVars = P.allVars := by
  fun_induction Alg.strict P <;> simp [Alg.allVars, *]

theorem specEval_strict {D : Dataset} (P : Alg) : ∀ (g : Graph) (σ : Row n),
    Spec.eval D g σ P.strict = Spec.eval D g σ P := by
  fun_induction Alg.strict P <;> intro g σ <;> simp only [Spec.eval, *]

/-- a lazy join only adds the left side's variables to the right side's context, so without it the context shrinks -/
theorem Alg.safeIn_strict : ∀ (P : Alg) (ctx : List Nat), P.safeIn ctx = true → P.strict.safeIn ctx = true := by
  intro P ctx
  fun_induction Alg.safeIn P ctx <;> intro h <;>
    simp only [Alg.strict, Alg.safeIn, Bool.and_eq_true, Alg.must_strict, Alg.may_strict, Bool.false_eq_true,
      if_false, and_assoc] at h ⊢
  case case2 lz a b ctx iha ihb =>  -- Join
    refine ⟨iha h.1, Alg.safeIn_mono _ _ ctx ?_ (ihb h.2)⟩
    cases lz
    · exact fun _ h => h
    · exact fun v hv => List.mem_append.mpr (Or.inl hv)
  case case3 iha ihb => exact ⟨iha h.1, ihb h.2⟩  -- Union
  case case4 ih =>  -- Filter
    obtain ⟨hp, he, hn, hsc⟩ := h
    exact ⟨ih hp, he, hn, hsc⟩
  case case5 ih =>  -- Extend (BIND)
    obtain ⟨hp, he, hv, hve, hsc⟩ := h
    exact ⟨ih hp, he, hv, hve, hsc⟩
  case case7 ih => exact ih h  -- sub-select
  case case8 ih => exact ih h  -- GRAPH
  case case9 a b p1 p2 ctx iha ihb =>  -- MINUS
    cases p1 with
    | none => simp at h
    | some vs =>
      obtain ⟨ha, hb, hsc, hp2⟩ := h
      exact ⟨iha ha, ihb hb, hsc, hp2⟩
  case case10 a b e p1 p2 ctx iha ihb =>  -- LeftJoin (OPTIONAL)
    cases p1 with
    | none => simp at h
    | some vs =>
      obtain ⟨ha, hb, he, hs1, hs2⟩ := h
      exact ⟨iha ha, ihb hb, he, hs1, hs2⟩

/-! ### `simplify` -/

theorem specEval_unit {D : Dataset} (g : Graph) (σ : Row n) {P : Alg} (h : P.isUnit = true) :
    Spec.eval D g σ P = [Row.empty] := by
  cases P with
  | bgp tps =>
    cases tps with
    | nil => simp [Spec.eval, Spec.bgp]
    | cons _ _ => simp [Alg.isUnit] at h
  | _ => simp [Alg.isUnit] at h

theorem specEval_simplify {D : Dataset} : ∀ (P : Alg) (g : Graph) (σ : Row n),
    Spec.eval D g σ P.simplify = Spec.eval D g σ P := by
  intro P
  fun_induction Alg.simplify P <;> intro g σ <;> simp only [Spec.eval, *]
  case case2 l a b ha iha ihb => rw [← iha, specEval_unit g σ ha]; simp [joinBag]  -- Join, left operand empty
  case case3 l a b _ hb iha ihb => rw [← ihb, specEval_unit g σ hb]; simp [joinBag]  -- Join, right operand empty

end RV.C04

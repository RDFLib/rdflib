import Mathlib.Data.List.Nodup
import Mathlib.Data.List.Perm.Basic
import RV.C04.RowLemmas
import RV.C04.Spec
import RV.C04.Model
/-
  C04 — CONSTRUCT.  `_fillTemplate` mints, for every solution, one `BNode()` per template label in the order the
  labels first occur in the template (also for triples it then skips); with the supply `mint` and the counter
  threaded through the solutions this is the specification's instantiation (`Spec.instNamed`) under the naming
  solution j, label l  ↦  mint (k + j·m + index of l)  (`fillAll_closed`).  A blank-node-free template does not look at
  the naming, and no template looks at variables it does not mention.
-/
namespace RV.C04
open Spec Model
variable {n : Nat}

def TPos.isBlank : TPos → Bool
  | .blank _ => true
  | _ => false

def tposVars : TPos → List Nat
  | .var v => [v]
  | _ => []

theorem isLiteral_isURIRef (s p : Term) :
    (Model.isLiteral s || !Model.isURIRef p) = !(Spec.isSubject s && Spec.isPredicate p) := by
  cases s <;> cases p <;> rfl

/-! ### the labels of a template, in the order `_fillTemplate` meets them -/

def addLabel (L : List Nat) : TPos → List Nat
  | .blank l => if l ∈ L then L else L ++ [l]
  | _ => L

def addLabelsTP (L : List Nat) (tp : TTP) : List Nat := addLabel (addLabel (addLabel L tp.1) tp.2.1) tp.2.2

def addLabelsTpl (L : List Nat) : List TTP → List Nat
  | [] => L
  | tp :: rest => addLabelsTpl (addLabelsTP L tp) rest

def tplLabels (tpl : List TTP) : List Nat := addLabelsTpl [] tpl

/-- the dict after the labels `L` were minted starting at counter `k` -/
def encFrom (mint : Nat → Term) : Nat → List Nat → BMap
  | _, [] => []
  | k, l :: L => (l, mint k) :: encFrom mint (k + 1) L

/-- the node of label `l` when the labels `L` are minted from counter `k` -/
def nameOf (mint : Nat → Term) (k : Nat) (L : List Nat) (l : Nat) : Term := mint (k + L.idxOf l)

theorem encFrom_append (mint : Nat → Term) : ∀ (k : Nat) (L : List Nat) (l : Nat),
    encFrom mint k (L ++ [l]) = encFrom mint k L ++ [(l, mint (k + L.length))]
  | k, [], l => rfl
  | k, x :: xs, l => by
    simp only [List.cons_append, encFrom, encFrom_append mint (k + 1) xs l, List.length_cons]
    rw [Nat.add_assoc, Nat.add_comm 1]

theorem bmLookup_encFrom (mint : Nat → Term) : ∀ (k : Nat) (L : List Nat) (l : Nat),
    bmLookup (encFrom mint k L) l = if l ∈ L then some (nameOf mint k L l) else none
  | k, [], l => rfl
  | k, x :: xs, l => by
    simp only [encFrom, bmLookup, nameOf, List.mem_cons]
    by_cases hx : x = l
    · simp [hx]
    · have hl : ¬ l = x := fun e => hx e.symm
      rw [if_neg hx, bmLookup_encFrom mint (k + 1) xs l, List.idxOf_cons_ne _ hx, nameOf, Nat.add_assoc, Nat.add_comm 1]
      simp only [hl, false_or]

theorem prefix_addLabel (L : List Nat) (x : TPos) : L <+: addLabel L x := by
  cases x with
  | blank l =>
    simp only [addLabel]
    split
    · exact List.prefix_refl L
    · exact List.prefix_append L _
  | var _ => exact List.prefix_refl L
  | const _ => exact List.prefix_refl L

theorem prefix_addLabelsTP (L : List Nat) (tp : TTP) : L <+: addLabelsTP L tp :=
  ((prefix_addLabel L tp.1).trans (prefix_addLabel _ tp.2.1)).trans (prefix_addLabel _ tp.2.2)

theorem prefix_addLabelsTpl : ∀ (tpl : List TTP) (L : List Nat), L <+: addLabelsTpl L tpl
  | [], L => List.prefix_refl L
  | tp :: rest, L => (prefix_addLabelsTP L tp).trans (prefix_addLabelsTpl rest _)

theorem mem_addLabel_self (L : List Nat) (l : Nat) : l ∈ addLabel L (.blank l) := by
  simp only [addLabel]
  split
  · assumption
  · simp

/-- one position: the dict / counter after it, and the term, in closed form; the name of a label does not change
    when more labels are met later -/
theorem fillPos_closed (mint : Nat → Term) (μ : Row n) (k : Nat) {L Lf : List Nat} (x : TPos)
    (hpre : addLabel L x <+: Lf) :
    Model.fillPos mint μ (encFrom mint k L, k + L.length) x =
      (instPosN (nameOf mint k Lf) μ x, (encFrom mint k (addLabel L x), k + (addLabel L x).length)) := by
  cases x with
  | var v => rfl
  | const t => rfl
  | blank l =>
    have hname : nameOf mint k Lf l = nameOf mint k (addLabel L (.blank l)) l := by
      rw [nameOf, nameOf, hpre.idxOf_eq_of_mem (mem_addLabel_self L l)]
    simp only [Model.fillPos, bnodeGet, bmLookup_encFrom, instPosN, hname, addLabel]
    by_cases hl : l ∈ L
    · simp [hl]
    · simp [hl, nameOf, List.idxOf_append_of_notMem hl, encFrom_append, Nat.add_assoc]

theorem legal_eq (a b c : Option Term) :
    Model.legalTriple a b c =
      (match a, b, c with
       | some s, some p, some o => if Spec.isSubject s && Spec.isPredicate p then some (s, p, o) else none
       | _, _, _ => none) := by
  cases a <;> cases b <;> cases c <;> try rfl
  rename_i s p o
  simp only [Model.legalTriple, isLiteral_isURIRef]
  cases (Spec.isSubject s && Spec.isPredicate p) <;> rfl

theorem fillTriple_closed (mint : Nat → Term) (μ : Row n) (k : Nat) (L Lf : List Nat) (tp : TTP)
    (hpre : addLabelsTP L tp <+: Lf) :
    Model.fillTriple mint μ (encFrom mint k L, k + L.length) tp =
      (instTripleN (nameOf mint k Lf) μ tp,
       (encFrom mint k (addLabelsTP L tp), k + (addLabelsTP L tp).length)) := by
  have pre2 := (prefix_addLabel _ tp.2.2).trans hpre
  have pre1 := (prefix_addLabel _ tp.2.1).trans pre2
  simp only [Model.fillTriple, fillPos_closed mint μ k tp.1 pre1, fillPos_closed mint μ k tp.2.1 pre2,
    fillPos_closed mint μ k tp.2.2 hpre, instTripleN, legal_eq]
  rfl

theorem fillTemplate_closed (mint : Nat → Term) (μ : Row n) (k : Nat) : ∀ (tpl : List TTP) (L Lf : List Nat),
    addLabelsTpl L tpl <+: Lf →
    Model.fillTemplate mint μ tpl (encFrom mint k L, k + L.length) =
      (tpl.filterMap (instTripleN (nameOf mint k Lf) μ),
       (encFrom mint k (addLabelsTpl L tpl), k + (addLabelsTpl L tpl).length))
  | [], L, Lf, _ => rfl
  | tp :: rest, L, Lf, hpre => by
    simp only [Model.fillTemplate, fillTriple_closed mint μ k L Lf tp ((prefix_addLabelsTpl rest _).trans hpre),
      fillTemplate_closed mint μ k rest (addLabelsTP L tp) Lf hpre, addLabelsTpl, List.filterMap_cons]
    cases instTripleN (nameOf mint k Lf) μ tp <;> rfl

/-- the namings of `c` consecutive solutions when the counter starts at `k` and each solution mints `Lf.length` nodes -/
def namers (mint : Nat → Term) (Lf : List Nat) : Nat → Nat → List (Nat → Term)
  | _, 0 => []
  | k, c + 1 => nameOf mint k Lf :: namers mint Lf (k + Lf.length) c

theorem length_namers (mint : Nat → Term) (Lf : List Nat) : ∀ (k c : Nat), (namers mint Lf k c).length = c
  | _, 0 => rfl
  | k, c + 1 => by simp [namers, length_namers mint Lf (k + Lf.length) c]

theorem fillAll_closed (mint : Nat → Term) (tpl : List TTP) : ∀ (X : List (Row n)) (k : Nat),
    Model.fillAll mint tpl X k = instNamed tpl (X.zip (namers mint (tplLabels tpl) k X.length))
  | [], k => rfl
  | μ :: rest, k => by
    have h := fillTemplate_closed mint μ k tpl [] (tplLabels tpl) (List.prefix_refl _)
    simp only [encFrom, List.length_nil, Nat.add_zero] at h
    simp only [Model.fillAll, h, List.length_cons, namers, List.zip_cons_cons, instNamed]
    rw [fillAll_closed mint tpl rest]
    rfl

/-! ### the same solutions in another order: the namings are permuted along -/

theorem perm_zip {α β : Type} {l1 l2 : List α} (h : l1.Perm l2) :
    ∀ (N1 : List β), N1.length = l1.length →
      ∃ N2 : List β, N2.Perm N1 ∧ N2.length = l2.length ∧ (l1.zip N1).Perm (l2.zip N2) := by
  intro N1 hl
  -- `l1.zip N1` lies over `l1`, and a permutation of `l1` lifts to one of the pairs
  have hf : List.Forall₂ (fun a (p : α × β) => a = p.1) l1 (l1.zip N1) := by
    rw [← List.forall₂_map_right_iff (f := Prod.fst), List.forall₂_eq_eq_eq, List.map_fst_zip (Nat.le_of_eq hl.symm)]
  obtain ⟨Z, hZ, hp⟩ := List.perm_comp_forall₂ h.symm hf
  rw [← List.forall₂_map_right_iff (f := Prod.fst), List.forall₂_eq_eq_eq] at hZ
  refine ⟨Z.map Prod.snd, ?_, by rw [hZ, List.length_map, List.length_map], ?_⟩
  · exact (hp.map Prod.snd).trans (List.Perm.of_eq (List.map_snd_zip (Nat.le_of_eq hl)))
  · rw [hZ, ← List.zip_of_prod rfl rfl]
    exact hp.symm

theorem instNamed_eq_flatMap (tpl : List TTP) : ∀ (Z : List (Row n × (Nat → Term))),
    instNamed tpl Z = Z.flatMap (fun z => tpl.filterMap (instTripleN z.2 z.1))
  | [] => rfl
  | (μ, ν) :: rest => by simp [instNamed, instNamed_eq_flatMap tpl rest]

theorem instNamed_perm (tpl : List TTP) {Z1 Z2 : List (Row n × (Nat → Term))} (h : Z1.Perm Z2) :
    (instNamed tpl Z1).Perm (instNamed tpl Z2) := by
  rw [instNamed_eq_flatMap, instNamed_eq_flatMap]
  exact List.Perm.flatMap_right _ h

/-! ### a template only looks at the variables it mentions -/

theorem instTripleN_restrict (ν : Nat → Term) (μ : Row n) (pv : List Nat) (tp : TTP)
    (h : ∀ v ∈ tposVars tp.1 ++ tposVars tp.2.1 ++ tposVars tp.2.2, v ∈ pv ∨ μ.get v = none) :
    instTripleN ν (μ.restrict pv) tp = instTripleN ν μ tp := by
  have e : ∀ x : TPos, (∀ v ∈ tposVars x, v ∈ pv ∨ μ.get v = none) →
      instPosN ν (μ.restrict pv) x = instPosN ν μ x := by
    intro x hx
    cases x with
    | var v =>
      simp only [instPosN, Row.get_restrict]
      rcases hx v (List.mem_singleton.mpr rfl) with h | h
      · rw [if_pos h]
      · rw [h]; split <;> rfl
    | const _ => rfl
    | blank _ => rfl
  simp only [List.forall_mem_append] at h
  rw [instTripleN, e tp.1 h.1.1, e tp.2.1 h.1.2, e tp.2.2 h.2]
  rfl

theorem instNamed_map_restrict (tpl : List TTP) (pv : List Nat) (Ω : List (Row n)) (N : List (Nat → Term))
    (h : ∀ μ ∈ Ω, ∀ tp ∈ tpl, ∀ ν, instTripleN ν (μ.restrict pv) tp = instTripleN ν μ tp) :
    instNamed tpl ((Ω.map (·.restrict pv)).zip N) = instNamed tpl (Ω.zip N) := by
  rw [instNamed_eq_flatMap, instNamed_eq_flatMap, List.zip_map_left, List.flatMap_map]
  refine List.flatMap_congr fun z hz => List.filterMap_congr fun tp htp => ?_
  exact h z.1 (List.of_mem_zip hz).1 tp htp z.2

/-! ### the minted nodes are pairwise distinct -/

theorem nodup_addLabel {L : List Nat} (h : L.Nodup) (x : TPos) : (addLabel L x).Nodup := by
  cases x with
  | blank l =>
    simp only [addLabel]
    split
    · exact h
    · next hl =>
      exact List.nodup_append.mpr ⟨h, List.nodup_singleton l, fun a ha b hb e => hl (List.mem_singleton.mp hb ▸ e ▸ ha)⟩
  | var _ => exact h
  | const _ => exact h

theorem nodup_addLabelsTpl : ∀ (tpl : List TTP) {L : List Nat}, L.Nodup → (addLabelsTpl L tpl).Nodup
  | [], _, h => h
  | tp :: rest, _, h =>
    nodup_addLabelsTpl rest (nodup_addLabel (nodup_addLabel (nodup_addLabel h tp.1) tp.2.1) tp.2.2)

theorem nodup_tplLabels (tpl : List TTP) : (tplLabels tpl).Nodup := nodup_addLabelsTpl tpl List.nodup_nil

theorem map_nameOf (mint : Nat → Term) (k : Nat) {L : List Nat} (h : L.Nodup) :
    L.map (nameOf mint k L) = (List.range L.length).map (fun i => mint (k + i)) := by
  apply List.ext_getElem (by simp)
  intro i h1 _
  simp [nameOf, h.idxOf_getElem i (by simpa using h1)]

theorem minted_eq (mint : Nat → Term) {L : List Nat} (h : L.Nodup) : ∀ (c k : Nat),
    (namers mint L k c).flatMap (fun ν => L.map ν) = (List.range (c * L.length)).map (fun i => mint (k + i))
  | 0, k => by simp [namers]
  | c + 1, k => by
    simp only [namers, List.flatMap_cons, map_nameOf mint k h, minted_eq mint h c (k + L.length)]
    have : (c + 1) * L.length = L.length + c * L.length := by rw [Nat.add_mul, Nat.one_mul, Nat.add_comm]
    rw [this, List.range_add, List.map_append, List.map_map]
    simp [Function.comp_def, Nat.add_assoc]

theorem nodup_minted (mint : Nat → Term) (hinj : Function.Injective mint) {L : List Nat} (h : L.Nodup)
    (c k : Nat) : ((namers mint L k c).flatMap (fun ν => L.map ν)).Nodup := by
  rw [minted_eq mint h]
  exact List.Nodup.map_on (fun a _ b _ e => Nat.add_left_cancel (hinj e)) List.nodup_range

theorem namers_are_minted (mint : Nat → Term) (L : List Nat) : ∀ (c k : Nat),
    ∀ ν ∈ namers mint L k c, ∀ l, ∃ j, ν l = mint j
  | 0, _, ν, h, _ => by simp [namers] at h
  | c + 1, k, ν, h, l => by
    simp only [namers, List.mem_cons] at h
    rcases h with rfl | h
    · exact ⟨_, rfl⟩
    · exact namers_are_minted mint L c _ ν h l

/-- rdflib's graph for solutions `X` that are, up to order and un-projected variables, the solutions `Ω`: the
    specification's instantiation of `Ω` under a permutation of the namings rdflib used -/
theorem fillAll_of_perm (mint : Nat → Term) (tpl : List TTP) (pv : List Nat) {X Ω : List (Row n)} (hperm : X.Perm Ω)
    {may : List Nat} (hb : ∀ μ ∈ Ω, μ.domIn may)
    (hv : ∀ tp ∈ tpl, ∀ v ∈ tposVars tp.1 ++ tposVars tp.2.1 ++ tposVars tp.2.2, v ∈ pv ∨ v ∉ may) :
    ∃ N : List (Nat → Term), N.Perm (namers mint (tplLabels tpl) 0 X.length) ∧ N.length = Ω.length ∧
      ∀ t, t ∈ Model.fillAll mint tpl (X.map (·.restrict pv)) 0 ↔ t ∈ instNamed tpl (Ω.zip N) := by
  obtain ⟨N, hp, hl, hz⟩ := perm_zip (hperm.map (·.restrict pv))
    (namers mint (tplLabels tpl) 0 (X.map (·.restrict pv)).length) (length_namers _ _ _ _)
  refine ⟨N, by simpa using hp, by simpa using hl, fun t => ?_⟩
  rw [fillAll_closed, (instNamed_perm tpl hz).mem_iff, instNamed_map_restrict]
  intro μ hμ tp htp ν
  exact instTripleN_restrict ν μ pv tp fun v hvv => (hv tp htp v hvv).imp id (hb μ hμ).get_eq_none

/-! ### the specification's canonical naming; blank-node-free templates -/

theorem instTripleN_fresh (μ : Row n) (i : Nat) (tp : TTP) :
    instTripleN (Term.fresh i) μ tp = Spec.instTriple μ i tp := by
  have e : ∀ x : TPos, instPosN (Term.fresh i) μ x = Spec.instPos μ i x := by intro x; cases x <;> rfl
  simp only [instTripleN, Spec.instTriple, e]

theorem instTriple_restrict (μ : Row n) (pv : List Nat) (tp : TTP)
    (h : ∀ v ∈ tposVars tp.1 ++ tposVars tp.2.1 ++ tposVars tp.2.2, v ∈ pv ∨ μ.get v = none) :
    Spec.instTriple (μ.restrict pv) 0 tp = Spec.instTriple μ 0 tp := by
  rw [← instTripleN_fresh, ← instTripleN_fresh, instTripleN_restrict _ μ pv tp h]

theorem instTemplate_eq_instNamed (tpl : List TTP) : ∀ (Ω : List (Row n)) (i : Nat),
    Spec.instTemplate tpl Ω i = instNamed tpl (Ω.zip ((List.range' i Ω.length).map Term.fresh))
  | [], _ => rfl
  | μ :: rest, i => by
    simp only [Spec.instTemplate, List.length_cons, List.range'_succ, List.map_cons, List.zip_cons_cons, instNamed,
      instTemplate_eq_instNamed tpl rest (i + 1), ← instTripleN_fresh]

theorem mem_instNamed_ground {tpl : List TTP}
    (hg : ∀ tp ∈ tpl, tp.1.isBlank = false ∧ tp.2.1.isBlank = false ∧ tp.2.2.isBlank = false) (t : Triple)
    (Ω : List (Row n)) (N : List (Nat → Term)) (hN : N.length = Ω.length) :
    t ∈ instNamed tpl (Ω.zip N) ↔ ∃ μ ∈ Ω, ∃ tp ∈ tpl, Spec.instTriple μ 0 tp = some t := by
  have key : ∀ ν (μ : Row n), ∀ tp ∈ tpl, instTripleN ν μ tp = Spec.instTriple μ 0 tp := by
    intro ν μ tp htp
    obtain ⟨h1, h2, h3⟩ := hg tp htp
    have e : ∀ x : TPos, x.isBlank = false → instPosN ν μ x = Spec.instPos μ 0 x := by
      intro x hx; cases x <;> first | rfl | cases hx
    simp only [instTripleN, Spec.instTriple, e _ h1, e _ h2, e _ h3]
  simp only [instNamed_eq_flatMap, List.mem_flatMap, List.mem_filterMap]
  constructor
  · rintro ⟨z, hz, tp, htp, h⟩
    exact ⟨z.1, (List.of_mem_zip hz).1, tp, htp, (key _ _ tp htp).symm.trans h⟩
  · rintro ⟨μ, hμ, tp, htp, h⟩
    rw [← List.map_fst_zip (l₂ := N) (Nat.le_of_eq hN.symm)] at hμ
    obtain ⟨z, hz, rfl⟩ := List.mem_map.mp hμ
    exact ⟨z, hz, tp, htp, (key _ _ tp htp).trans h⟩

theorem mem_instTemplate_ground {tpl : List TTP}
    (hg : ∀ tp ∈ tpl, tp.1.isBlank = false ∧ tp.2.1.isBlank = false ∧ tp.2.2.isBlank = false) (t : Triple)
    (bag : List (Row n)) (i : Nat) :
    t ∈ Spec.instTemplate tpl bag i ↔ ∃ μ ∈ bag, ∃ tp ∈ tpl, Spec.instTriple μ 0 tp = some t := by
  rw [instTemplate_eq_instNamed, mem_instNamed_ground hg t bag _ (by simp)]

theorem nodup_canonical (tpl : List TTP) (s c : Nat) :
    (((List.range' s c).map Term.fresh).flatMap (fun ν => (tplLabels tpl).map ν)).Nodup := by
  rw [List.nodup_flatMap]
  refine ⟨?_, ?_⟩
  · intro ν hν
    obtain ⟨i, _, rfl⟩ := List.mem_map.mp hν
    exact List.Pairwise.map _ (fun a b hab e => hab (by cases e; rfl)) (nodup_tplLabels tpl)
  · refine List.Pairwise.map _ ?_ (List.nodup_range' (s := s) (n := c))
    intro i j hij
    simp only [Function.onFun, List.disjoint_left]
    intro t h1 h2
    obtain ⟨l1, _, rfl⟩ := List.mem_map.mp h1
    obtain ⟨l2, _, e⟩ := List.mem_map.mp h2
    cases e
    exact hij rfl

end RV.C04

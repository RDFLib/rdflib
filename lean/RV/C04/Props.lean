import RV.C04.ConstructLemmas
import RV.C04.AnalysisLemmas
/-
  C04 — "SPARQL graph patterns evaluate to the solution multiset the algebra defines".

  `Model.evalPart D g μ0 P`  rdflib's top-down evaluator (binding push-down, `forget`/`remember`, lazy joins),
                              on rdflib's own annotated algebra tree `P`
  `Spec.eval D g σ P`        SPARQL 1.1 §18 bottom-up (ignores the annotations)
  `push μ0 Ω`                Join(Ω, {μ0}):  the solutions of Ω compatible with μ0, merged with it
  Bags are lists modulo `List.Perm`.

  `Statement_pushdown_unconditional` is what C04 literally asks (every well-formed query); it is FALSE of the code as
  modelled (`pushdown_witness_K1/K2/K4`: known findings C04-K1, C04-K2 — rdflib's `_vars` annotation is not the exact set
  of variables a sub-pattern binds — and C04-K4 — EXISTS patterns outside `Alg.existsOK` are evaluated under the
  solution instead of by substitution).  What is proved holds under the decidable hypothesis `Alg.safe`, or the weaker
  context-sensitive `Alg.safeIn`.  Then: rdflib's analysis passes inside the pipeline (`analysis_correct`, what
  `_addVars` does and does not compute), the lazy flags (`lazy_irrelevant`), and rdflib's translation
  (`translate_pipeline`; `Statement_translate_agrees` is stated only).
-/
namespace RV.C04
open Spec Model

/-- all variables of the pattern are columns of the rows -/
def WellScoped (n : Nat) (P : Alg) : Prop := ∀ v ∈ P.allVars, v < n

/-- graph names of the dataset are distinct -/
def Dataset.WF (D : Dataset) : Prop := (D.named.map (·.1)).Nodup

/-- Push-down is exact wherever `Safe` holds: evaluating `P` top-down under the pushed-in bindings `μ0` gives the
    algebra's solutions joined with `μ0`. -/
def Statement_pushdown : Prop :=
  ∀ (n : Nat) (D : Dataset) (P : Alg), D.WF → P.safe = true → WellScoped n P →
    ∀ (g : Graph) (μ0 : Row n), (Model.evalPart D g μ0 P).Perm (push μ0 (Spec.eval D g Row.empty P))

/-- The context-sensitive form.  `P.safeIn ctx` (Safe.lean) demands an exact `_vars` annotation only for
    variables that the pushed-in bindings can bind at that node, following the evaluator's data flow (nothing at the
    top of a query; the left side's may-bind set added on the right of a lazy join and of an OPTIONAL; nothing below a
    sub-select and on the right of MINUS).  Push-down is exact for every `μ0` that binds at most `ctx`. -/
def Statement_pushdown_ctx : Prop :=
  ∀ (n : Nat) (D : Dataset) (P : Alg) (ctx : List Nat), D.WF → P.safeIn ctx = true → WellScoped n P →
    ∀ (g : Graph) (μ0 : Row n), μ0.domIn ctx →
      (Model.evalPart D g μ0 P).Perm (push μ0 (Spec.eval D g Row.empty P))

/-- The property without the `Safe` hypothesis — what C04 literally asks of every query.  FALSE of the code as
    modelled (see the `_witness` theorems). -/
def Statement_pushdown_unconditional : Prop :=
  ∀ (n : Nat) (D : Dataset) (P : Alg), D.WF → WellScoped n P →
    ∀ (g : Graph) (μ0 : Row n), (Model.evalPart D g μ0 P).Perm (push μ0 (Spec.eval D g Row.empty P))

/-- two results are the same observation: same header and the same bag of rows / the same boolean /
    the same set of triples -/
def ResultEq {n : Nat} : Result n → Result n → Prop
  | .rows pv1 b1, .rows pv2 b2 => pv1 = pv2 ∧ b1.Perm b2
  | .bool x, .bool y => x = y
  | .graph t1, .graph t2 => ∀ t, t ∈ t1 ↔ t ∈ t2
  | _, _ => False

/-- a CONSTRUCT query whose template has no blank nodes (minted blank nodes make the graph depend on the
    enumeration order; graphs are then equal only up to renaming: `Statement_construct_correct_blank`) and whose template
    variables are projected or never bound -/
def Query.groundTemplate : Query → Prop
  | .construct tpl pv p =>
    (∀ tp ∈ tpl, tp.1.isBlank = false ∧ tp.2.1.isBlank = false ∧ tp.2.2.isBlank = false) ∧
    (∀ tp ∈ tpl, ∀ v ∈ tposVars tp.1 ++ tposVars tp.2.1 ++ tposVars tp.2.2, v ∈ pv ∨ v ∉ p.may)
  | _ => True

def Statement_eval_correct : Prop :=
  ∀ (n : Nat) (D : Dataset) (q : Query) (mint : Nat → Term), D.WF → q.safe = true → WellScoped n q.pattern →
    q.groundTemplate → ResultEq (Model.evalQuery (n := n) mint D q) (Spec.evalQuery D q)

/-- The same under the weaker hypothesis `q.safeTop` (= `q.pattern.safeIn []`: a query is evaluated with
    nothing pushed in at its top, `initBindings = {}`). -/
def Statement_eval_correct_top : Prop :=
  ∀ (n : Nat) (D : Dataset) (q : Query) (mint : Nat → Term), D.WF → q.safeTop = true → WellScoped n q.pattern →
    q.groundTemplate → ResultEq (Model.evalQuery (n := n) mint D q) (Spec.evalQuery D q)

/-- What `BNode()` is assumed to do for the supply `mint` (`mint k` = the node returned by the k-th call): the nodes
    are pairwise distinct, and none of them is among `avoid` (meant for the nodes of the data and the constants of the query; any list). -/
def FreshSupply (mint : Nat → Term) (avoid : List Term) : Prop :=
  Function.Injective mint ∧ ∀ k, mint k ∉ avoid

/-- CONSTRUCT with template blank nodes.  The specification instantiates the template over its solutions `Ω` with
    one node per (solution, template label); `Spec.instNamed tpl (Ω.zip names)` is that graph when solution number i
    names its nodes by `names[i]` (`Spec.instTemplate` is the instance `names[i] = Term.fresh i`, see
    `spec_naming_canonical`).  The model's graph — `_fillTemplate` run over the model's solutions in the model's
    order, every `bnodeMap[label]` drawing the next `BNode()` from the supply — IS such an instantiation of the
    specification's solutions, under a naming that is injective on (solution, label), whose nodes all come from the
    supply and hence avoid the data's nodes: the two graphs are equal up to a renaming of the minted nodes. -/
def Statement_construct_correct_blank : Prop :=
  ∀ (n : Nat) (D : Dataset) (tpl : List TTP) (pv : List Nat) (p : Alg) (mint : Nat → Term) (avoid : List Term),
    D.WF → p.safe = true → WellScoped n p →
    (∀ tp ∈ tpl, ∀ v ∈ tposVars tp.1 ++ tposVars tp.2.1 ++ tposVars tp.2.2, v ∈ pv ∨ v ∉ p.may) →
    FreshSupply mint avoid →
    ∃ names : List (Nat → Term),
      names.length = (Spec.eval D D.dflt (Row.empty : Row n) p).length ∧
      (names.flatMap (fun ν => (tplLabels tpl).map ν)).Nodup ∧
      (∀ ν ∈ names, ∀ l, (∃ k, ν l = mint k) ∧ ν l ∉ avoid) ∧
      ∀ t : Triple,
        t ∈ Model.fillAll mint tpl ((Model.evalPart D D.dflt (Row.empty : Row n) p).map (·.restrict pv)) 0 ↔
        t ∈ Spec.instNamed tpl ((Spec.eval D D.dflt (Row.empty : Row n) p).zip names)

def Statement_construct_correct_blank_top : Prop :=
  ∀ (n : Nat) (D : Dataset) (tpl : List TTP) (pv : List Nat) (p : Alg) (mint : Nat → Term) (avoid : List Term),
    D.WF → p.safeIn [] = true → WellScoped n p →
    (∀ tp ∈ tpl, ∀ v ∈ tposVars tp.1 ++ tposVars tp.2.1 ++ tposVars tp.2.2, v ∈ pv ∨ v ∉ p.may) →
    FreshSupply mint avoid →
    ∃ names : List (Nat → Term),
      names.length = (Spec.eval D D.dflt (Row.empty : Row n) p).length ∧
      (names.flatMap (fun ν => (tplLabels tpl).map ν)).Nodup ∧
      (∀ ν ∈ names, ∀ l, (∃ k, ν l = mint k) ∧ ν l ∉ avoid) ∧
      ∀ t : Triple,
        t ∈ Model.fillAll mint tpl ((Model.evalPart D D.dflt (Row.empty : Row n) p).map (·.restrict pv)) 0 ↔
        t ∈ Spec.instNamed tpl ((Spec.eval D D.dflt (Row.empty : Row n) p).zip names)

theorem pushdown_ctx : Statement_pushdown_ctx :=
  fun _ _ P ctx hD => pushdown_induction hD P ctx

theorem safeIn_of_safe (P : Alg) (ctx : List Nat) (h : P.safe = true) : P.safeIn ctx = true :=
  Alg.safeIn_of_safe P ctx h

/-- at the top of a query nothing is pushed in: the model's bag IS the algebra's bag (hypothesis `safeIn []`) -/
theorem evalPart_top0 (n : Nat) (D : Dataset) (P : Alg) (hD : D.WF) (hs : P.safeIn [] = true)
    (hws : WellScoped n P) (g : Graph) :
    (Model.evalPart D g (Row.empty : Row n) P).Perm (Spec.eval D g Row.empty P) := by
  simpa using pushdown_induction hD P [] hs hws g (Row.empty : Row n) (Row.domIn_empty _)

theorem pushdown : Statement_pushdown :=
  fun _ _ P hD => pushdown_fragment hD P (Alg.inFragment_true P)

theorem pushdown_partial (n : Nat) (D : Dataset) (P : Alg) (hD : D.WF) (hs : P.safe = true)
    (hws : WellScoped n P) (g : Graph) (μ0 : Row n) :
    (Model.evalPart D g μ0 P).Perm (push μ0 (Spec.eval D g Row.empty P)) :=
  pushdown n D P hD hs hws g μ0

theorem evalPart_top (n : Nat) (D : Dataset) (P : Alg) (hD : D.WF) (hs : P.safe = true)
    (hws : WellScoped n P) (g : Graph) :
    (Model.evalPart D g (Row.empty : Row n) P).Perm (Spec.eval D g Row.empty P) := by
  simpa using pushdown n D P hD hs hws g (Row.empty : Row n)

theorem eval_correct_top : Statement_eval_correct_top := by
  intro n D q mint hD hs hws hg
  cases q with
  | select pv p =>
    exact ⟨rfl, (evalPart_top0 n D p hD hs hws D.dflt).map _⟩
  | ask pv p =>
    simp only [Model.evalQuery, Spec.evalQuery, ResultEq, List.isEmpty_map,
      (evalPart_top0 n D p hD hs hws D.dflt).isEmpty_eq]
  | construct tpl pv p =>
    obtain ⟨N, _, hl, h⟩ := fillAll_of_perm mint tpl pv (evalPart_top0 n D p hD hs hws D.dflt)
      (specEval_domIn p hws D.dflt) hg.2
    intro t
    rw [h, mem_instNamed_ground hg.1 t _ N hl, mem_instTemplate_ground hg.1]

theorem eval_correct : Statement_eval_correct :=
  fun n D q mint hD hs => eval_correct_top n D q mint hD (Alg.safeIn_of_safe q.pattern [] hs)

theorem eval_correct_partial (n : Nat) (D : Dataset) (q : Query) (mint : Nat → Term) (hD : D.WF)
    (hs : q.safe = true) (hws : WellScoped n q.pattern) (hg : q.groundTemplate) :
    ResultEq (Model.evalQuery (n := n) mint D q) (Spec.evalQuery D q) :=
  eval_correct n D q mint hD hs hws hg

theorem ask_correct (n : Nat) (D : Dataset) (pv : List Nat) (p : Alg) (mint : Nat → Term) (hD : D.WF)
    (hs : p.safe = true) (hws : WellScoped n p) :
    Model.evalQuery (n := n) mint D (.ask pv p) = .bool (!(Spec.eval D D.dflt (Row.empty : Row n) p).isEmpty) := by
  simp only [Model.evalQuery, List.isEmpty_map, (evalPart_top n D p hD hs hws D.dflt).isEmpty_eq]

theorem construct_correct (n : Nat) (D : Dataset) (tpl : List TTP) (pv : List Nat) (p : Alg) (mint : Nat → Term)
    (hD : D.WF) (hs : p.safe = true) (hws : WellScoped n p)
    (hg : (Query.construct tpl pv p).groundTemplate) :
    ResultEq (Model.evalQuery (n := n) mint D (.construct tpl pv p))
      (.graph (Spec.instTemplate tpl (Spec.eval D D.dflt (Row.empty : Row n) p) 0)) :=
  eval_correct n D (.construct tpl pv p) mint hD hs hws hg

theorem construct_correct_blank_top : Statement_construct_correct_blank_top := by
  intro n D tpl pv p mint avoid hD hs hws hv hfresh
  obtain ⟨N, hp, hl, h⟩ := fillAll_of_perm mint tpl pv (evalPart_top0 n D p hD hs hws D.dflt)
    (specEval_domIn p hws D.dflt) hv
  refine ⟨N, hl, ?_, fun ν hν l => ?_, h⟩
  · exact ((hp.flatMap_right _).nodup_iff).mpr (nodup_minted mint hfresh.1 (nodup_tplLabels tpl) _ _)
  · obtain ⟨k, hk⟩ := namers_are_minted mint _ _ _ ν (hp.subset hν) l
    exact ⟨⟨k, hk⟩, by rw [hk]; exact hfresh.2 k⟩

theorem construct_correct_blank : Statement_construct_correct_blank :=
  fun n D tpl pv p mint avoid hD hs =>
    construct_correct_blank_top n D tpl pv p mint avoid hD (Alg.safeIn_of_safe p [] hs)

/-- the specification's own graph is the instantiation under the canonical naming `Term.fresh i` of solution `i`,
    which is injective on (solution, label) as well -/
theorem spec_naming_canonical (n : Nat) (tpl : List TTP) (Ω : List (Row n)) :
    Spec.instTemplate tpl Ω 0 = Spec.instNamed tpl (Ω.zip ((List.range' 0 Ω.length).map Term.fresh)) ∧
    (((List.range' 0 Ω.length).map Term.fresh).flatMap (fun ν => (tplLabels tpl).map ν)).Nodup :=
  ⟨instTemplate_eq_instNamed tpl Ω 0, nodup_canonical tpl 0 Ω.length⟩

/-! ### Where the unconditional statement fails: the known findings (model of the code as it is)

  Each witness is the algebra tree rdflib builds (annotations included) for a query of
  `known_findings.d/C04.jsonl`, over the dataset given there; `Alg.safe` is false on each. -/

def i (k : Nat) : Term := .iri k
def tp (s p o : Pos) : TP := ⟨s, p, o⟩

/-- K1: `{ <0> ?v2 <0> . { FILTER(bound(?v2)) { ?v3 <10> ?v2 } UNION { } } }` — v2 is bound by one UNION branch only -/
def k1Pattern : Alg :=
  .join true (.bgp [tp (.const (i 0)) (.var 2) (.const (i 0))])
    (.filter (.bound 2) (.union (.bgp [tp (.var 3) (.const (i 10)) (.var 2)]) (.bgp [])) [2, 3] false)
def k1Data : Dataset := ⟨[(i 0, i 0, i 0)], []⟩

/-- K2: `{ VALUES (?v0) { (<1>) (<2>) } OPTIONAL { ?v0 <10> ?v1 } }` — `_vars` of the VALUES block is empty -/
def k2Pattern : Alg :=
  .leftJoin (.values [0] [[some (i 1)], [some (i 2)]]) (.bgp [tp (.var 0) (.const (i 10)) (.var 1)])
    (.const (.bool true)) (some []) (some [0, 1])
def k2Data : Dataset := ⟨[(i 1, i 10, i 0)], []⟩

example : k1Pattern.safe = false ∧ k2Pattern.safe = false := by decide +kernel
/-- the witnesses are outside the context-sensitive hypothesis as well (K1: `?v2` is pushed in by the lazy join) -/
example : k1Pattern.safeIn [] = false ∧ k2Pattern.safeIn [] = false := by decide +kernel

theorem pushdown_witness_K1 :
    (Model.evalPart k1Data k1Data.dflt (Row.empty : Row 4) k1Pattern).length = 1 ∧
    (Spec.eval k1Data k1Data.dflt (Row.empty : Row 4) k1Pattern).length = 0 := by decide +kernel

theorem pushdown_witness_K2 :
    (Model.evalPart k2Data k2Data.dflt (Row.empty : Row 2) k2Pattern).length = 1 ∧
    (Spec.eval k2Data k2Data.dflt (Row.empty : Row 2) k2Pattern).length = 2 := by decide +kernel

/-- K4: `{ ?v0 <10> ?v1 FILTER(EXISTS { { ?v0 <11> ?v2 FILTER(?v2 != ?v0) } }) }` — the nested-group filter inside the
    EXISTS forgets `?v0` (the pattern is evaluated under the solution, its nodes are never annotated), §18.6 substitutes it -/
def k4Pattern : Alg :=
  .filter
    (.exists false (.join false (.bgp [])
      (.filter (.cmp .ne (.var 2) (.var 0)) (.join false (.bgp []) (.bgp [tp (.var 0) (.const (i 11)) (.var 2)])) [] false)))
    (.bgp [tp (.var 0) (.const (i 10)) (.var 1)]) [0, 1] false
def k4Data : Dataset := ⟨[(i 0, i 10, i 1), (i 0, i 11, i 2)], []⟩

example : k4Pattern.safe = false ∧ k4Pattern.safeIn [] = false := by decide +kernel

theorem pushdown_witness_K4 :
    (Model.evalPart k4Data k4Data.dflt (Row.empty : Row 3) k4Pattern).length = 0 ∧
    (Spec.eval k4Data k4Data.dflt (Row.empty : Row 3) k4Pattern).length = 1 := by decide +kernel

theorem pushdown_unconditional_witness : ¬ Statement_pushdown_unconditional := by
  intro h
  have := (h 4 k1Data k1Pattern (by unfold Dataset.WF; decide) (by unfold WellScoped; decide) k1Data.dflt Row.empty).length_eq
  rw [push_empty, pushdown_witness_K1.1, pushdown_witness_K1.2] at this
  cases this

/-! ### Non-vacuity: the hypotheses of the proved theorems are met by non-trivial queries -/

/-- `{ ?v0 <10> ?v1 . { ?v1 <11> ?v2 FILTER(?v2 != ?v1) } UNION { VALUES ?v2 { 7 } } BIND(?v1 = ?v0 AS ?v3) }`
    with a lazy join, a nested group with a filter on its own variables, UNION, VALUES and BIND -/
def exPattern : Alg :=
  .extend
    (.join true (.bgp [tp (.var 0) (.const (i 10)) (.var 1)])
      (.union
        (.filter (.cmp .ne (.var 2) (.var 1)) (.bgp [tp (.var 1) (.const (i 11)) (.var 2)]) [1, 2] false)
        (.values [2] [[some (.int 7)]])))
    3 (.cmp .eq (.var 1) (.var 0)) [0, 1, 3]
def exData : Dataset := ⟨[(i 0, i 10, i 1), (i 1, i 10, i 1), (i 1, i 11, i 2), (i 1, i 11, i 1)], []⟩

example : exPattern.safe = true ∧ (∀ v ∈ exPattern.allVars, v < 4) := by decide +kernel
example : (Model.evalPart exData exData.dflt (Row.empty : Row 4) exPattern).length = 4 := by decide +kernel
example : (Spec.eval exData exData.dflt (Row.empty : Row 4) exPattern).length = 4 := by decide +kernel
/-- `{ ?v0 <10> ?v1 FILTER(NOT EXISTS { ?v1 <11> ?v0 } || EXISTS { GRAPH ?v2 { ?v1 <11> ?v3 } }) }` -/
def exPattern2 : Alg :=
  .filter (.or (.exists true (.join false (.bgp []) (.bgp [tp (.var 1) (.const (i 11)) (.var 0)])))
               (.exists false (.join false (.bgp []) (.graph (.var 2) (.bgp [tp (.var 1) (.const (i 11)) (.var 3)])))))
    (.bgp [tp (.var 0) (.const (i 10)) (.var 1)]) [0, 1] false
def exData2 : Dataset := ⟨[(i 0, i 10, i 1), (i 1, i 10, i 1), (i 1, i 11, i 1)], [(i 20, [(i 1, i 11, i 2)])]⟩

example : exPattern2.safe = true ∧ (∀ v ∈ exPattern2.allVars, v < 4) ∧ exData2.WF := by
  refine ⟨by decide +kernel, by decide +kernel, ?_⟩
  unfold Dataset.WF; decide +kernel
example : (Model.evalPart exData2 exData2.dflt (Row.empty : Row 4) exPattern2).length = 2 := by decide +kernel
example : (Spec.eval exData2 exData2.dflt (Row.empty : Row 4) exPattern2).length = 2 := by decide +kernel

/-- `GRAPH ?v2 { OPTIONAL { ?v0 <10> ?v1 } }` over a dataset with a registered named graph WITHOUT triples: the empty
    graph contributes the solution that binds only `?v2` (`pushdown_graph_unbound` is about every named graph) -/
def exPattern3 : Alg :=
  .graph (.var 2) (.leftJoin (.bgp []) (.bgp [tp (.var 0) (.const (i 10)) (.var 1)]) (.const (.bool true))
    (some []) (some [0, 1]))
def exData3 : Dataset := ⟨[], [(i 20, []), (i 21, [(i 0, i 10, i 1), (i 1, i 10, i 1)])]⟩

example : exPattern3.safe = true ∧ (∀ v ∈ exPattern3.allVars, v < 3) ∧ exData3.WF := by
  refine ⟨by decide +kernel, by decide +kernel, ?_⟩
  unfold Dataset.WF; decide +kernel
example : (Model.evalPart exData3 exData3.dflt (Row.empty : Row 3) exPattern3).length = 3 := by decide +kernel
example : (Spec.eval exData3 exData3.dflt (Row.empty : Row 3) exPattern3).length = 3 := by decide +kernel
example : (Row.empty : Row 3).set 2 (i 20) ∈ Spec.eval exData3 exData3.dflt (Row.empty : Row 3) exPattern3 := by
  decide +kernel

/-- `{ ?v0 <10> ?v1 OPTIONAL { ?v1 <11> ?v2 } FILTER(!bound(?v2)) }`: `?v2` is listed in the FILTER's `_vars` but
    bound only where the OPTIONAL matches, so `Alg.safe` is false; nothing can be pushed in at the top of a query, so
    `safeIn []` holds and `pushdown_ctx` / `eval_correct_top` cover the query.  Under a context that binds `?v2` the
    hypothesis fails (`safeIn [2] = false`) and so does push-down: the model forgets nothing (`?v2 ∈ _vars`), sees the
    pushed-in `?v2` as bound and drops the solution the algebra keeps — the hypothesis of `pushdown_ctx` is sharp. -/
def exPattern5 : Alg :=
  .filter (.not (.bound 2))
    (.leftJoin (.bgp [tp (.var 0) (.const (i 10)) (.var 1)]) (.bgp [tp (.var 1) (.const (i 11)) (.var 2)])
      (.const (.bool true)) (some [0, 1]) (some [1, 2])) [0, 1, 2] false
def exData5 : Dataset := ⟨[(i 0, i 10, i 1), (i 1, i 10, i 2), (i 2, i 11, i 0)], []⟩

example : exPattern5.safe = false ∧ exPattern5.safeIn [] = true ∧ exPattern5.safeIn [2] = false ∧
    (∀ v ∈ exPattern5.allVars, v < 3) := by decide +kernel
example : (Model.evalPart exData5 exData5.dflt (Row.empty : Row 3) exPattern5).length = 1 ∧
    (Spec.eval exData5 exData5.dflt (Row.empty : Row 3) exPattern5).length = 1 := by decide +kernel
theorem pushdown_ctx_sharp :
    (Model.evalPart exData5 exData5.dflt ((Row.empty : Row 3).set 2 (i 5)) exPattern5).length = 0 ∧
    (push ((Row.empty : Row 3).set 2 (i 5)) (Spec.eval exData5 exData5.dflt (Row.empty : Row 3) exPattern5)).length = 1 := by
  decide +kernel

/-- the supply of the compiled driver — `BNode()` number k is `Term.fresh k 0` — is fresh for every list of terms
    that holds no minted node (the driver's term reader cannot produce `Term.fresh`) -/
theorem freshSupply_driver (avoid : List Term) (h : ∀ t ∈ avoid, ∀ s l, t ≠ Term.fresh s l) :
    FreshSupply (fun k => Term.fresh k 0) avoid := by
  refine ⟨?_, fun k hk => h _ hk k 0 rfl⟩
  intro a b hab
  cases hab
  rfl

/-- CONSTRUCT with two template blank nodes shared between template triples:
    `CONSTRUCT { _:b0 <10> _:b1 . _:b1 <11> ?v1 . ?v0 <10> _:b0 } WHERE { ?v0 <10> ?v1 }` over `exData` (2 solutions) -/
def exTpl : List TTP :=
  [(.blank 0, .const (i 10), .blank 1), (.blank 1, .const (i 11), .var 1), (.var 0, .const (i 10), .blank 0)]
def exPattern4 : Alg := .bgp [tp (.var 0) (.const (i 10)) (.var 1)]

example : tplLabels exTpl = [0, 1] := by decide +kernel
example : FreshSupply (fun k => Term.fresh k 0) [i 0, i 1, i 2, i 10, i 11] :=
  freshSupply_driver _ (by intro t ht s l; simp only [List.mem_cons, List.not_mem_nil, or_false] at ht
                           rcases ht with rfl | rfl | rfl | rfl | rfl <;> simp [i])
example : exPattern4.safe = true ∧ (∀ v ∈ exPattern4.allVars, v < 2) := by decide +kernel
/-- 2 solutions × 3 template triples, 4 minted nodes: `BNode()` calls 0,1 for the first solution, 2,3 for the second -/
example : Model.fillAll (fun k => Term.fresh k 0) exTpl
      ((Model.evalPart exData exData.dflt (Row.empty : Row 2) exPattern4).map (·.restrict [0, 1])) 0 =
    [(.fresh 0 0, i 10, .fresh 1 0), (.fresh 1 0, i 11, i 1), (i 0, i 10, .fresh 0 0),
     (.fresh 2 0, i 10, .fresh 3 0), (.fresh 3 0, i 11, i 1), (i 1, i 10, .fresh 2 0)] := by decide +kernel
example : (Spec.instTemplate exTpl (Spec.eval exData exData.dflt (Row.empty : Row 2) exPattern4) 0).length = 6 := by
  decide +kernel

/-- push-down with a non-empty context that rules solutions out -/
example : (Model.evalPart exData exData.dflt ((Row.empty : Row 4).set 0 (i 1)) exPattern).length = 2 := by decide +kernel

/-! ### rdflib's analysis passes (`analyse`, `_addVars` of algebra.py; model: Analysis.lean)

  `P.annotate` is the tree as the two passes at the end of `translateQuery` annotate it (`lazy` flags, `_vars` sets),
  whatever annotations `P` carried before; the harness compares it with the annotations found on rdflib's own tree on
  every case (driver line `annot`) and runs the evaluator model on it (`amodel`). -/

/-- the analysis inside the verified pipeline: `evaluate.py` run on the tree as `analyse` / `_addVars` annotate it gives
    the algebra's solutions of the tree, joined with the pushed-in bindings — wherever the annotated tree is
    `safeIn ctx` -/
def Statement_analysis_correct : Prop :=
  ∀ (n : Nat) (D : Dataset) (P : Alg) (ctx : List Nat), D.WF → P.annotate.safeIn ctx = true → WellScoped n P →
    ∀ (g : Graph) (μ0 : Row n), μ0.domIn ctx →
      (Model.evalPart D g μ0 P.annotate).Perm (push μ0 (Spec.eval D g Row.empty P))

/-- what `_addVars` says it computes ("find which variables may be bound by this part of the query"): no solution of
    the pattern binds a variable outside the node's `_vars`.  FALSE of the code as it is (VALUES: known finding K2). -/
def Statement_addVars_may : Prop :=
  ∀ (n : Nat) (D : Dataset) (P : Alg) (g : Graph) (μ : Row n), WellScoped n P →
    μ ∈ Spec.eval D g Row.empty P → μ.domIn P.addVars

/-- what `evaluate.py` uses `_vars` for (`forget(_except=_vars)`, `remember(_vars)` treat a listed variable as the
    sub-pattern's own binding): every solution binds every listed variable.  FALSE of the code as it is (K1). -/
def Statement_addVars_must : Prop :=
  ∀ (n : Nat) (D : Dataset) (P : Alg) (g : Graph) (μ : Row n), WellScoped n P →
    μ ∈ Spec.eval D g Row.empty P → ∀ v ∈ P.addVars, (μ.get v).isSome = true

/-- patterns built from triples, joins, FILTER, MINUS and GRAPH only: every solution binds every variable -/
def Alg.conjunctive : Alg → Bool
  | .bgp _ => true
  | .join _ a b => a.conjunctive && b.conjunctive
  | .filter _ p _ _ => p.conjunctive
  | .minus a _ _ _ => a.conjunctive
  | .graph _ p => p.conjunctive
  | _ => false

theorem analysis_correct : Statement_analysis_correct := by
  intro n D P ctx hD hs hws g μ0 h0
  have := pushdown_induction hD P.annotate ctx hs (by rw [Alg.allVars_annotate]; exact hws) g μ0 h0
  rwa [specEval_annotate] at this

theorem addVars_may_partial (n : Nat) (D : Dataset) (P : Alg) (g : Graph) (μ : Row n) (hv : P.valuesFree = true)
    (hws : WellScoped n P) (hμ : μ ∈ Spec.eval D g Row.empty P) : μ.domIn P.addVars :=
  fun v hb => Alg.may_subset_addVars P hv v (specEval_domIn P hws g μ hμ v hb)

/-- K2 as a fact about the analysis: `VALUES ?v0 { <1> }` binds `?v0`, its `_vars` is empty -/
theorem addVars_may_witness : ¬ Statement_addVars_may := by
  intro h
  -- the solution `{?0 ↦ <1>}` of the VALUES block binds `?0`
  have := h 1 ⟨[], []⟩ (.values [0] [[some (.iri 1)]]) [] ((Row.empty : Row 1).set 0 (.iri 1))
    (by unfold WellScoped; decide) (by decide : _ ∈ Spec.eval _ _ _ _) 0 (by decide : (Row.get _ 0).isSome = true)
  simp [Alg.addVars] at this

/-- on conjunctive patterns `_vars` IS the must-bind set (and the may-bind set) -/
theorem addVars_eq_must_of_conjunctive (P : Alg) : P.conjunctive = true → P.addVars = P.must := by
  fun_induction Alg.conjunctive P <;> simp +contextual [Alg.addVars, Alg.must, *]

theorem addVars_must_partial (n : Nat) (D : Dataset) (P : Alg) (g : Graph) (μ : Row n) (hc : P.conjunctive = true)
    (hws : WellScoped n P) (hμ : μ ∈ Spec.eval D g Row.empty P) : ∀ v ∈ P.addVars, (μ.get v).isSome = true := by
  intro v hv
  rw [addVars_eq_must_of_conjunctive P hc] at hv
  exact (specEval_bounds P hws g μ hμ).1 v hv

/-- K1 as a fact about the analysis: `{ ?v0 <10> ?v1 } UNION { }` lists `?v0`, the solution of the empty branch does
    not bind it -/
theorem addVars_must_witness : ¬ Statement_addVars_must := by
  intro h
  -- the empty solution comes from the empty branch; `?0` is listed
  have := h 2 ⟨[], []⟩ (.union (.bgp [⟨.var 0, .const (.iri 10), .var 1⟩]) (.bgp [])) [] (Row.empty : Row 2)
    (by unfold WellScoped; decide) (by decide : _ ∈ Spec.eval _ _ _ _) 0 (by decide : 0 ∈ Alg.addVars _)
  exact absurd this (by decide)

/-- for VALUES-free queries the analysis can only be wrong in the K1 way: if at every FILTER / BIND / MINUS / OPTIONAL
    node the relevant variables that the context may bind and `_addVars` lists are bound by every solution of the
    sub-pattern (`Alg.mustOK`, decidable), evaluation of the tree as rdflib annotates it is exact -/
theorem analysis_correct_mustOK (n : Nat) (D : Dataset) (P : Alg) (ctx : List Nat) (hD : D.WF)
    (hv : P.valuesFree = true) (hm : P.mustOK ctx = true) (hws : WellScoped n P) (g : Graph) (μ0 : Row n)
    (h0 : μ0.domIn ctx) :
    (Model.evalPart D g μ0 P.annotate).Perm (push μ0 (Spec.eval D g Row.empty P)) :=
  analysis_correct n D P ctx hD (Alg.safeIn_annotate_of_mustOK P ctx hv hm) hws g μ0 h0

/-- non-vacuity: `exPattern5` carries (as sets) the annotations the analysis computes for it; it is VALUES-free and
    `mustOK []` -/
example : exPattern5.annotate.annots = exPattern5.annots ∧ exPattern5.valuesFree = true ∧
    exPattern5.mustOK [] = true ∧ exPattern5.annots = ["F0,1,2", "L0,1|1,2"] := by decide +kernel
/-- the lazy flag: a join with `{ … } UNION { VALUES ?v2 {7} }` (triple blocks left empty) is lazy, a join of joins is not -/
example : (Alg.join false (.bgp []) (.union (.bgp []) (.values [2] [[some (.int 7)]]))).annotate =
    .join true (.bgp []) (.union (.bgp []) (.values [2] [[some (.int 7)]])) := rfl
example : (Alg.join true (.join true (.bgp []) (.bgp [])) (.bgp [])).annotate =
    .join false (.join true (.bgp []) (.bgp [])) (.bgp []) := rfl

/-- `analyse` decides which joins are evaluated lazily (right side under each left solution) and which by
    `_join` of two independent evaluations.  The choice is invisible in the answer wherever `safeIn` holds: the tree
    with NO lazy join (`Alg.strict`) is `safeIn` the same context (`Alg.safeIn_strict`: a lazy join only adds the left
    side's variables to the right side's context) and gives the same bag. -/
def Statement_lazy_irrelevant : Prop :=
  ∀ (n : Nat) (D : Dataset) (P : Alg) (ctx : List Nat), D.WF → P.safeIn ctx = true → WellScoped n P →
    ∀ (g : Graph) (μ0 : Row n), μ0.domIn ctx →
      (Model.evalPart D g μ0 P.strict).Perm (Model.evalPart D g μ0 P)

theorem lazy_irrelevant : Statement_lazy_irrelevant := by
  intro n D P ctx hD hs hws g μ0 h0
  have h1 := pushdown_induction hD P ctx hs hws g μ0 h0
  have h2 := pushdown_induction hD P.strict ctx (Alg.safeIn_strict P ctx hs)
    (by rw [Alg.allVars_strict]; exact hws) g μ0 h0
  rw [specEval_strict] at h2
  exact h2.trans h1.symm

/-- the converse fails, and this is how K1 shows at its witness: with the join NOT lazy the K1 pattern is `safeIn []`
    and evaluates to the algebra's (empty) answer; the lazy join that `analyse` chooses pushes `?v2` into the nested
    group, whose FILTER then takes it for the group's own binding -/
theorem lazy_exposes_K1 :
    k1Pattern.strict.safeIn [] = true ∧ k1Pattern.safeIn [] = false ∧
    (Model.evalPart k1Data k1Data.dflt (Row.empty : Row 4) k1Pattern.strict).length = 0 ∧
    (Model.evalPart k1Data k1Data.dflt (Row.empty : Row 4) k1Pattern).length = 1 := by decide +kernel

/-! ### rdflib's translation (`translateGroupGraphPattern`, `collectAndRemoveFilters`, `translateExists`, `simplify`; model:
    Translate.lean, compared with rdflib's own tree on every case through the driver line `translate`) -/

/-- the tree of `Translate.query` before `simplify` and the analysis passes -/
def Translate.rawQuery : SQuery → Query
  | .select (some pv) g => .select pv (Translate.rawGroup g)
  | .select none g => .select (Translate.starVars g) (Translate.rawGroup g)
  | .ask g => .ask (Translate.starVars g) (Translate.rawGroup g)
  | .construct tpl g => .construct tpl (Translate.starVars g) (Translate.rawGroup g)

/-- DESIGN's `translate_agrees`, at full strength: rdflib's translation of a parsed query (as modelled) and the §18.2
    translation of the specification denote the same answer.  STATED ONLY, not proved (the element fold
    differs from §18.2 by merged triple blocks, un-simplified EXISTS patterns and the `SELECT *` projection of sub-selects;
    a proof needs a mutual induction over the syntax with bag congruences).  It is tied on every run: rdflib's tree equals
    `Translate.query` (driver line `translate`), and rdflib's answers equal the reference evaluator's on `Spec.translate`. -/
def Statement_translate_agrees : Prop :=
  ∀ (n : Nat) (D : Dataset) (q : SQuery),
    ResultEq (Spec.evalQuery (n := n) D (Translate.query q)) (Spec.evalQuery D (Spec.translate q))

theorem specEvalQuery_translate (n : Nat) (D : Dataset) (q : SQuery) :
    Spec.evalQuery (n := n) D (Translate.query q) = Spec.evalQuery D (Translate.rawQuery q) := by
  rcases q with ⟨_ | _, _⟩ | _ | _ <;>
    simp [Translate.query, Translate.rawQuery, Spec.evalQuery, Translate.group, specEval_annotate, specEval_simplify]

/-- translation + `simplify` + `analyse` / `_addVars` + evaluator, all as modelled, from the PARSED query: wherever the
    resulting tree is `safeTop`, the answer is the §18 evaluation of the tree the element fold builds -/
theorem translate_pipeline (n : Nat) (D : Dataset) (q : SQuery) (mint : Nat → Term) (hD : D.WF)
    (hs : (Translate.query q).safeTop = true) (hws : WellScoped n (Translate.query q).pattern)
    (hg : (Translate.query q).groundTemplate) :
    ResultEq (Model.evalQuery (n := n) mint D (Translate.query q)) (Spec.evalQuery D (Translate.rawQuery q)) := by
  rw [← specEvalQuery_translate]
  exact eval_correct_top n D (Translate.query q) mint hD hs hws hg

/-- the order of group elements matters and the fold keeps it: `{ ?0 <10> ?1  MINUS { ?0 <11> ?2 }  ?0 <10> ?2 }` is
    `Join(Minus(P1, P2), P3)`, not `Minus(P1 + P3, P2)` -/
example : Translate.rawGroup (.cons (.tri [tp (.var 0) (.const (i 10)) (.var 1)])
      (.cons (.minus (.cons (.tri [tp (.var 0) (.const (i 11)) (.var 2)]) .nil))
        (.cons (.tri [tp (.var 0) (.const (i 10)) (.var 2)]) .nil))) =
    .join false
      (.minus (.join false (.bgp []) (.bgp [tp (.var 0) (.const (i 10)) (.var 1)]))
        (.join false (.bgp []) (.bgp [tp (.var 0) (.const (i 11)) (.var 2)])) none none)
      (.bgp [tp (.var 0) (.const (i 10)) (.var 2)]) := rfl

end RV.C04

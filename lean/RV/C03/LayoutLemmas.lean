import RV.C03.ListLemmas
/-
  C03 — layout_roundtrip for the family of serializers parameterised by the set `I` of blank nodes written
  inline: under `Pre`, the document `layout g I F` denotes a graph isomorphic (`Iso`) to `g`.
  Positions `At π s` are functional and injective: one renaming `sigma`.  The reader sees every object as its renamed
  term with the renamed triples written below it (`under`, `emitS`); what is written is the graph (`emit_all_iff`).
  Last: `preCheck` establishes `Pre`, with the depth below the hidden set as rank (`pre_of_preCheck`).
-/
namespace RV.C03

theorem mem_top {g : Graph} {I : List Nat} {s : Term} :
    s ∈ topSubjects g I ↔ (∃ p o, (s, p, o) ∈ g) ∧ inl I s = false := by
  simp only [topSubjects, List.mem_filter, mem_sdedup, mem_subjects, Bool.not_eq_true']

theorem nodup_top (g : Graph) (I : List Nat) : (topSubjects g I).Nodup :=
  (nodup_sdedup _).filter _

/-- `At g I top π s`: subject `s` is written at position `π` — a top-level statement (`[j]`), or the bracket
    that is the `i`-th object of the predicate-object list of a subject written at `π` -/
inductive At (g : Graph) (I : List Nat) (top : List Term) : List Nat → Term → Prop
  | top (j : Nat) (s : Term) : top[j]? = some s → At g I top [j] s
  | step (π : List Nat) (s : Term) (i : Nat) (p x : Term) :
      At g I top π s → (propsOf g s)[i]? = some (p, x) → inl I x = true → At g I top (i :: π) x

theorem bnO_of_inl {I : List Nat} {x : Term} (h : inl I x = true) : ∃ n, x = bnO n ∧ n ∈ I := by
  match x, h with
  | .bn (.orig n), h => exact ⟨n, rfl, by simpa [inl] using h⟩

theorem inl_bnO {I : List Nat} {n : Nat} (h : n ∈ I) : inl I (bnO n) = true := by simpa [inl] using h

theorem top_not_inl {g : Graph} {I : List Nat} {j : Nat} {s : Term}
    (h : (topSubjects g I)[j]? = some s) : inl I s = false :=
  (mem_top.mp (List.mem_of_getElem? h)).2

/-- a subject is written at one position only (referenced once; no duplicate triple) -/
theorem At_fun {g : Graph} {I : List Nat} {F : Nat} {rank : Nat → Nat} (hp : Pre g I F rank) :
    ∀ {π π' : List Nat} {x : Term}, At g I (topSubjects g I) π x → At g I (topSubjects g I) π' x → π = π' := by
  intro π π' x h
  induction h generalizing π' with
  | top j s hj =>
    intro h'
    cases h' with
    | top j' _ hj' => rw [getElem?_unique (nodup_top g I) hj hj']
    | step π₂ s₂ i₂ p₂ _ _ _ hin => rw [top_not_inl hj] at hin; cases hin
  | step π₁ s₁ i₁ p₁ x h₁ hi₁ hin₁ ih =>
    intro h'
    cases h' with
    | top j' _ hj' => rw [top_not_inl hj'] at hin₁; cases hin₁
    | step π₂ s₂ i₂ p₂ _ h₂ hi₂ _ =>
      obtain ⟨n, rfl, hn⟩ := bnO_of_inl hin₁
      obtain ⟨s, p, _, huniq⟩ := hp.ref_once n hn
      obtain ⟨rfl, rfl⟩ := huniq _ _ (mem_propsOf.mp (List.mem_of_getElem? hi₁))
      obtain ⟨rfl, rfl⟩ := huniq _ _ (mem_propsOf.mp (List.mem_of_getElem? hi₂))
      rw [getElem?_unique (nodup_propsOf hp.nodup _) hi₁ hi₂, ih h₂]

theorem At_inj {g : Graph} {I : List Nat} {top : List Term} :
    ∀ {π : List Nat} {x y : Term}, At g I top π x → At g I top π y → x = y := by
  intro π x y h
  induction h generalizing y with
  | top j s hj =>
    intro h'
    cases h' with
    | top _ _ hj' => exact Option.some.inj (hj.symm.trans hj')
    | step _ _ _ _ _ h₂ _ _ => nomatch h₂
  | step π₁ s₁ i₁ p₁ x h₁ hi₁ _ ih =>
    intro h'
    cases h' with
    | top _ _ _ => nomatch h₁
    | step _ s₂ _ p₂ _ h₂ hi₂ _ =>
      cases ih h₂
      exact (Prod.mk.inj (Option.some.inj (hi₁.symm.trans hi₂))).2

open Classical in
/-- the renaming: an inlined node goes to the reader's node for the bracket that stands for it -/
noncomputable def sigma (g : Graph) (I : List Nat) : BId → BId
  | .orig n =>
    if h : n ∈ I ∧ ∃ π, At g I (topSubjects g I) π (bnO n) then .fresh (Classical.choose h.2) else .orig n
  | .fresh π => .fresh π

theorem sigma_cases (g : Graph) (I : List Nat) (n : Nat) :
    (n ∈ I ∧ ∃ π, At g I (topSubjects g I) π (bnO n) ∧ sigma g I (.orig n) = .fresh π) ∨
      ((n ∈ I → ∀ π, ¬ At g I (topSubjects g I) π (bnO n)) ∧ sigma g I (.orig n) = .orig n) := by
  by_cases h : n ∈ I ∧ ∃ π, At g I (topSubjects g I) π (bnO n)
  · exact Or.inl ⟨h.1, _, Classical.choose_spec h.2, dif_pos h⟩
  · exact Or.inr ⟨fun hn π hπ => h ⟨hn, π, hπ⟩, dif_neg h⟩

theorem sigma_at {g : Graph} {I : List Nat} {F : Nat} {rank : Nat → Nat} (hp : Pre g I F rank)
    {π : List Nat} {n : Nat} (hn : n ∈ I) (h : At g I (topSubjects g I) π (bnO n)) :
    sigma g I (.orig n) = .fresh π := by
  rcases sigma_cases g I n with ⟨_, π', hπ', e⟩ | ⟨hno, _⟩
  · rw [e, At_fun hp hπ' h]
  · exact absurd h (hno hn π)

theorem renameT_not_inl {g : Graph} {I : List Nat} {x : Term} (ho : origOnly x) (h : inl I x = false) :
    renameT (sigma g I) x = x := by
  match x, ho, h with
  | .iri _, _, _ => rfl
  | .lit _, _, _ => rfl
  | .bn (.fresh _), ho, _ => cases ho
  | .bn (.orig n), _, h =>
    rcases sigma_cases g I n with ⟨hn, _⟩ | ⟨_, e⟩
    · rw [inl_bnO hn] at h; cases h
    · exact congrArg Term.bn e

theorem sigma_inj (g : Graph) (I : List Nat) : ∀ n m, sigma g I (.orig n) = sigma g I (.orig m) → n = m := by
  intro n m h
  rcases sigma_cases g I n with ⟨_, π, hπ, e⟩ | ⟨_, e⟩ <;> rcases sigma_cases g I m with ⟨_, π', hπ', e'⟩ | ⟨_, e'⟩ <;>
    rw [e, e'] at h
  · -- both written at the same position
    cases h; cases At_inj hπ hπ'; rfl
  · -- one inlined (`fresh`), the other not (`orig`)
    cases h
  · cases h
  · -- neither inlined
    cases h; rfl

/-- the triples written below an object at nesting fuel `f`: those of `emitObj g I f x` -/
def under (g : Graph) (I : List Nat) : Nat → Term → List Triple
  | 0, _ => []
  | f + 1, x => if inl I x then (propsOf g x).flatMap (fun po => (x, po.1, po.2) :: under g I f po.2) else []

/-- the triples written by the statement, or the bracket, of subject `s` when objects get nesting fuel `f` -/
def emitS (g : Graph) (I : List Nat) (f : Nat) (s : Term) : List Triple :=
  (propsOf g s).flatMap (fun po => (s, po.1, po.2) :: under g I f po.2)

theorem denProps_nil (S : Term) (π : List Nat) (i : Nat) : denProps S π i [] = [] := by
  rw [denProps]

theorem denProps_cons (S : Term) (π : List Nat) (i : Nat) (p : Term) (o : Obj) (rest : List (Term × Obj)) :
    denProps S π i ((p, o) :: rest) =
      (S, p, (denObj (i :: π) o).1) :: ((denObj (i :: π) o).2 ++ denProps S π (i + 1) rest) := by
  rw [denProps]

theorem denObj_t (π : List Nat) (x : Term) : denObj π (.t x) = (x, []) := by rw [denObj]

theorem denObj_anon (π : List Nat) (n : Nat) (ps : List (Term × Obj)) :
    denObj π (.anon n ps) = (.bn (.fresh π), denProps (.bn (.fresh π)) π 0 ps) := by rw [denObj]

theorem denItems_nil (π : List Nat) : denItems π [] = (rdfNil, []) := by rw [denItems]

theorem denItems_cons (π : List Nat) (o : Obj) (rest : List Obj) :
    denItems π (o :: rest) =
      ((.bn (.fresh π)),
       ((.bn (.fresh π)), rdfFirst, (denObj (0 :: π) o).1) :: ((denObj (0 :: π) o).2 ++
         (((.bn (.fresh π)), rdfRest, (denItems (1 :: π) rest).1) :: ((denItems (1 :: π) rest).2 ++ [])))) := by
  rw [denItems]

theorem denObj_coll (π : List Nat) (items : List Obj) : denObj π (.coll items) = denItems π items := by
  rw [denObj]

theorem renameTr_iri (σ : BId → BId) (s o : Term) (k : Nat) :
    renameTr σ (s, .iri k, o) = (renameT σ s, .iri k, renameT σ o) := rfl

/-- if the reader sees every object (spelt by `emit`) as its renamed term with the renamed triples `tr` below it, it
    sees the predicate-object list `all` of `s`, from any index on, as the renamed triples of `s` and below -/
theorem denProps_map (σ : BId → BId) (s : Term) (π : List Nat) (emit : Term → Obj) (tr : Term → List Triple)
    {all : List (Term × Term)} (hiri : ∀ p o, (p, o) ∈ all → ∃ k, p = .iri k)
    (hobj : ∀ i p o, all[i]? = some (p, o) →
      denObj (i :: π) (emit o) = (renameT σ o, (tr o).map (renameTr σ))) :
    ∀ (ps pre : List (Term × Term)), all = pre ++ ps →
      denProps (renameT σ s) π pre.length (ps.map fun po => (po.1, emit po.2)) =
        (ps.flatMap fun po => (s, po.1, po.2) :: tr po.2).map (renameTr σ) := by
  intro ps
  induction ps with
  | nil => intro _ _; exact denProps_nil _ _ _
  | cons po ps ih =>
    intro pre e
    obtain ⟨p, o⟩ := po
    have hi : all[pre.length]? = some (p, o) := e ▸ getElem?_append_cons pre _ ps
    obtain ⟨k, rfl⟩ := hiri p o (List.mem_of_getElem? hi)
    have ih' := ih (pre ++ [(.iri k, o)]) (by rw [e, List.append_assoc]; rfl)
    rw [List.length_append, List.length_singleton] at ih'
    rw [List.map_cons, denProps_cons, hobj _ _ _ hi, ih', List.flatMap_cons, List.map_append, List.map_cons,
      renameTr_iri]
    rfl

theorem denObj_plain {g : Graph} {I : List Nat} {o : Term} (ho : origOnly o) (h : inl I o = false) (π : List Nat)
    (f : Nat) : denObj π (emitObj g I f o) = (renameT (sigma g I) o, (under g I f o).map (renameTr (sigma g I))) := by
  rw [renameT_not_inl ho h]
  cases f <;> simp only [emitObj, under, h, Bool.false_eq_true, if_false, denObj_t, List.map_nil]

theorem denObj_emit {g : Graph} {I : List Nat} {F : Nat} {rank : Nat → Nat} (hp : Pre g I F rank) :
    ∀ (f : Nat) {s p o : Term} {π : List Nat} {i : Nat}, At g I (topSubjects g I) π s →
      (propsOf g s)[i]? = some (p, o) → (∀ n ∈ I, o = bnO n → F ≤ f + rank n) →
      denObj (i :: π) (emitObj g I f o) =
        (renameT (sigma g I) o, (under g I f o).map (renameTr (sigma g I))) := by
  intro f
  induction f using Nat.strongRecOn with | _ f ih => ?_
  intro s p o π i hAt hi hfuel
  have hmem := mem_propsOf.mp (List.mem_of_getElem? hi)
  cases hin : inl I o with
  | false => exact denObj_plain (hp.orig_only _ hmem).2 hin _ _
  | true =>
    obtain ⟨n, rfl, hn⟩ := bnO_of_inl hin
    have h1 := hfuel n hn rfl
    cases f with
    | zero => have := hp.bounded n hn; omega
    | succ f =>
      -- the bracket stands at position `i :: π`; its objects get fuel `f`, enough because their ranks are larger
      have hAt' : At g I (topSubjects g I) (i :: π) (bnO n) := At.step π s i _ _ hAt hi hin
      have hren : renameT (sigma g I) (bnO n) = .bn (.fresh (i :: π)) := congrArg Term.bn (sigma_at hp hn hAt')
      have hK := denProps_map (sigma g I) (bnO n) (i :: π) (emitObj g I f) (under g I f)
        (fun p' o' h' => hp.pred_iri _ (mem_propsOf.mp h'))
        (fun j p' o' hj => ih f (Nat.lt_succ_self f) hAt' hj fun n' hn' e => by
          have h2 := hp.ranked n' hn' n hn p' (e ▸ mem_propsOf.mp (List.mem_of_getElem? hj))
          omega)
        (propsOf g (bnO n)) [] rfl
      rw [hren] at hK
      simp only [emitObj, under, hin, if_true, denObj_anon, origId, bnO]
      exact Prod.ext hren.symm hK

theorem denStmts_layout {g : Graph} {I : List Nat} {F : Nat} {rank : Nat → Nat} (hp : Pre g I F rank) :
    ∀ (tops pre : List Term), topSubjects g I = pre ++ tops →
      denStmts pre.length (tops.map (fun s => (s, (propsOf g s).map (fun po => (po.1, emitObj g I F po.2))))) =
        (tops.flatMap (emitS g I F)).map (renameTr (sigma g I)) := by
  intro tops
  induction tops with
  | nil => intro _ _; rfl
  | cons s tops' ih =>
    intro pre e
    have hj : (topSubjects g I)[pre.length]? = some s := e ▸ getElem?_append_cons pre s tops'
    obtain ⟨⟨p, o, hmem⟩, hninl⟩ := mem_top.mp (List.mem_of_getElem? hj)
    have hK := denProps_map (sigma g I) s [pre.length] (emitObj g I F) (under g I F)
      (fun p' o' h' => hp.pred_iri _ (mem_propsOf.mp h'))
      (fun j p' o' hj' => denObj_emit hp F (At.top _ s hj) hj' fun _ _ _ => Nat.le_add_right _ _)
      (propsOf g s) [] rfl
    rw [renameT_not_inl (hp.orig_only _ hmem).1 hninl] at hK
    have ih' := ih (pre ++ [s]) (by rw [e, List.append_assoc]; rfl)
    rw [List.length_append, List.length_singleton] at ih'
    rw [List.map_cons, denStmts, List.flatMap_cons, List.map_append, ← ih']
    exact congrArg (· ++ _) hK

theorem emitS_self {g : Graph} {I : List Nat} (f : Nat) {s p o : Term} (h : (s, p, o) ∈ g) :
    (s, p, o) ∈ emitS g I f s :=
  List.mem_flatMap.mpr ⟨(p, o), mem_propsOf.mpr h, List.mem_cons_self⟩

theorem emitS_child {g : Graph} {I : List Nat} (f : Nat) {s p x : Term} (h : (s, p, x) ∈ g) (hin : inl I x = true)
    {t : Triple} (ht : t ∈ emitS g I f x) : t ∈ emitS g I (f + 1) s :=
  List.mem_flatMap.mpr ⟨(p, x), mem_propsOf.mpr h, List.mem_cons_of_mem _ (by rw [under, if_pos hin]; exact ht)⟩

theorem under_sub_mono {g : Graph} {I : List Nat} : ∀ (f : Nat) (x : Term) (t : Triple), t ∈ under g I f x →
    t ∈ g ∧ t ∈ under g I (f + 1) x := by
  intro f
  induction f with
  | zero => intro _ _ h; cases h
  | succ f ih =>
    intro x t h
    rw [under] at h ⊢
    split at h
    · next hin =>
      rw [if_pos hin]
      obtain ⟨po, hpo, h⟩ := List.mem_flatMap.mp h
      rcases List.mem_cons.mp h with rfl | h
      · exact ⟨mem_propsOf.mp hpo, List.mem_flatMap.mpr ⟨po, hpo, List.mem_cons_self⟩⟩
      · exact ⟨(ih _ _ h).1, List.mem_flatMap.mpr ⟨po, hpo, List.mem_cons_of_mem _ (ih _ _ h).2⟩⟩
    · cases h

theorem emitS_sub_mono {g : Graph} {I : List Nat} {f f' : Nat} (hle : f' ≤ f) {s : Term} {t : Triple}
    (h : t ∈ emitS g I f' s) : t ∈ g ∧ t ∈ emitS g I f s := by
  induction hle with
  | refl =>
    obtain ⟨po, hpo, h'⟩ := List.mem_flatMap.mp h
    exact ⟨(List.mem_cons.mp h').elim (fun e => e ▸ mem_propsOf.mp hpo) (fun h' => (under_sub_mono _ _ _ h').1), h⟩
  | step _ ih =>
    obtain ⟨po, hpo, h'⟩ := List.mem_flatMap.mp ih.2
    refine ⟨ih.1, List.mem_flatMap.mpr ⟨po, hpo, ?_⟩⟩
    exact (List.mem_cons.mp h').elim (fun e => e ▸ List.mem_cons_self)
      (fun h' => List.mem_cons_of_mem _ (under_sub_mono _ _ _ h').2)

/-- the bracket of every inlined node lies inside some top-level statement (a step up to the referrer costs one level
    of nesting and gains at least one rank: hence `f + rank n < F`) -/
theorem emitS_reach {g : Graph} {I : List Nat} {F : Nat} {rank : Nat → Nat} (hp : Pre g I F rank) :
    ∀ (r : Nat), ∀ n ∈ I, rank n < r → ∀ f, f + rank n < F →
      ∃ s0 ∈ topSubjects g I, ∀ t, t ∈ emitS g I f (bnO n) → t ∈ emitS g I F s0 := by
  intro r
  induction r with
  | zero => intro _ _ h; cases h
  | succ r ih =>
    intro n hn hr f hf
    obtain ⟨s, p, hmem, _⟩ := hp.ref_once n hn
    cases hin : inl I s with
    | false =>
      exact ⟨s, mem_top.mpr ⟨⟨p, _, hmem⟩, hin⟩, fun t ht =>
        (emitS_sub_mono (by omega) (emitS_child f hmem (inl_bnO hn) ht)).2⟩
    | true =>
      obtain ⟨m, rfl, hm⟩ := bnO_of_inl hin
      have := hp.ranked n hn m hm p hmem
      obtain ⟨s0, hs0, hsub⟩ := ih m hm (by omega) (f + 1) (by omega)
      exact ⟨s0, hs0, fun t ht => hsub t (emitS_child f hmem (inl_bnO hn) ht)⟩

theorem emit_all_iff {g : Graph} {I : List Nat} {F : Nat} {rank : Nat → Nat} (hp : Pre g I F rank) (t : Triple) :
    t ∈ (topSubjects g I).flatMap (emitS g I F) ↔ t ∈ g := by
  constructor
  · intro h
    obtain ⟨s, _, hs⟩ := List.mem_flatMap.mp h
    exact (emitS_sub_mono (Nat.le_refl _) hs).1
  · intro h
    obtain ⟨s, p, o⟩ := t
    cases hin : inl I s with
    | false => exact List.mem_flatMap.mpr ⟨s, mem_top.mpr ⟨⟨p, o, h⟩, hin⟩, emitS_self F h⟩
    | true =>
      obtain ⟨n, rfl, hn⟩ := bnO_of_inl hin
      obtain ⟨s0, hs0, hsub⟩ := emitS_reach hp _ n hn (Nat.lt_succ_self _) 0 (by have := hp.bounded n hn; omega)
      exact List.mem_flatMap.mpr ⟨s0, hs0, hsub _ (emitS_self 0 h)⟩

/-- what a graph handed to the serializer looks like -/
def GraphWf (g : Graph) : Prop :=
  g.Nodup ∧ (∀ t ∈ g, origOnly t.1 ∧ origOnly t.2.2) ∧ (∀ t ∈ g, ∃ k, t.2.1 = .iri k)

/-- number of hidden ancestors of `x` (mirrors `reachesRoot`) -/
def depthOf (g : Graph) (H : List Term) : Nat → Term → Nat
  | 0, _ => 0
  | f + 1, x =>
    match parentsOf g x with
    | [s] => if H.contains s then depthOf g H f s + 1 else 0
    | _ => 0

theorem depthOf_stable (g : Graph) (H : List Term) :
    ∀ (f : Nat) (x : Term), reachesRoot g H f x = true → depthOf g H (f + 1) x = depthOf g H f x := by
  intro f
  induction f with
  | zero => intro x h; cases h
  | succ f ih =>
    intro x h
    simp only [reachesRoot, depthOf] at h ⊢
    split
    · next s hs =>
      split
      · next hm => simp only [hs, hm, if_true] at h; exact congrArg (· + 1) (ih s h)
      · rfl
    · rfl

theorem depthOf_le (g : Graph) (H : List Term) : ∀ (f : Nat) (x : Term), depthOf g H f x ≤ f := by
  intro f
  induction f with
  | zero => intro x; exact Nat.le_refl 0
  | succ f ih =>
    intro x
    simp only [depthOf]
    split
    · split
      · exact Nat.succ_le_succ (ih _)
      · exact Nat.zero_le _
    · exact Nat.zero_le _

theorem pre_of_preCheck {g : Graph} {I : List Nat}
    (hw : GraphWf g) (hchk : preCheck g (I.map bnO) = true) (href : ∀ n ∈ I, parentsOf g (bnO n) ≠ []) :
    Pre g I ((I.map bnO).length + 2) (fun n => depthOf g (I.map bnO) ((I.map bnO).length + 1) (bnO n)) := by
  -- every hidden node has exactly one referrer, and the walk upwards from it leaves the hidden set
  have hone : ∀ n ∈ I, ∃ s, parentsOf g (bnO n) = [s] ∧
      reachesRoot g (I.map bnO) ((I.map bnO).length + 1) (bnO n) = true := by
    intro n hn
    simp only [preCheck, List.all_eq_true, Bool.and_eq_true, decide_eq_true_eq] at hchk
    obtain ⟨⟨_, h1⟩, h2⟩ := hchk (bnO n) (List.mem_map.mpr ⟨n, hn, rfl⟩)
    match hp : parentsOf g (bnO n), h1, href n hn with
    | [s], _, _ => exact ⟨s, rfl, h2⟩
  refine ⟨hw.1, hw.2.1, hw.2.2, fun n hn => ?_, fun n hn m hm p hmem => ?_, fun n _ => Nat.lt_succ_of_le (depthOf_le ..)⟩
  · obtain ⟨s, hs, _⟩ := hone n hn
    obtain ⟨p, hm⟩ := mem_parentsOf.mp (hs ▸ List.mem_singleton_self s)
    exact ⟨s, p, hm, fun s' p' hm' => referrer_unique (by rw [refCount_eq, hs]; exact Nat.le_refl 1) hm hm'⟩
  · obtain ⟨s, hs, hr⟩ := hone n hn
    obtain rfl : bnO m = s := List.mem_singleton.mp (hs ▸ mem_parentsOf.mpr ⟨p, hmem⟩)
    have hc : (I.map bnO).contains (bnO m) = true := List.contains_iff_mem.mpr (List.mem_map.mpr ⟨m, hm, rfl⟩)
    simp only [reachesRoot, hs, hc, if_true] at hr
    show depthOf _ _ _ (bnO m) < depthOf _ _ (_ + 1) (bnO n)
    rw [depthOf_stable _ _ _ _ hr, depthOf]
    simp only [hs, hc, if_true]
    exact Nat.lt_succ_self _

end RV.C03

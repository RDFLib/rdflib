import RV.C03.Tables
set_option linter.unusedVariables false
/-
  C03 — term codecs (executable; core-only imports, linked into drv_c03).

  Writers: per-character maps REGENERATED from rdflib's behaviour on every run (`Tables.lean`, produced by
  `harness/c03.py:TABLES` = harness/c03tables.py, which also checks that the writers are such maps):
    * `ntQuoteEncode`      = `rdflib/plugins/serializers/nt.py:_quote_encode`
    * `quoteEncode`        = `rdflib/term.py:Literal._quote_encode` (short form; long `"""` form = map + quote rules)
  Readers are the LANGUAGE (the W3C grammars), not rdflib's parsers:
    * `decodeShort q`      = STRING_LITERAL_QUOTE / STRING_LITERAL_SINGLE_QUOTE  (N-Triples §7, Turtle §6.5 [22],[23])
    * `decodeLong q`       = STRING_LITERAL_LONG_QUOTE / …_LONG_SINGLE_QUOTE      (Turtle [24],[25])
    * `ECHAR` [159s], `UCHAR` [26]
    * `relex`              = INTEGER [19], DECIMAL [20], DOUBLE [21], BooleanLiteral [133s]
-/
namespace RV.C03

abbrev Str := List Char

def bs : Char := '\\'
def dq : Char := '"'
def sq : Char := '\''
def lf : Char := '\n'
def cr : Char := '\r'

/-! ### Writers: per-character maps regenerated from rdflib's behaviour (Tables.lean)

  `harness/c03tables.py` probes the N-Triples and Turtle writers on every character of a probe alphabet and
  checks (behaviourally, on two-character contexts) that they ARE per-character maps — and that the Turtle long
  form is such a map plus the two context rules for quotes built into `encLong` below.  How the implementation
  computes the map (chained `str.replace`, `str.translate`, …) does not matter. -/

/-- first entry for `c` -/
def lookupEsc : List (Char × Str) → Char → Option Str
  | [], _ => none
  | (k, w) :: rest, c => if k = c then some w else lookupEsc rest c

/-- what the writer puts for character `c`: its table entry, or the character itself -/
def escOf (m : List (Char × Str)) (c : Char) : Str :=
  match lookupEsc m c with
  | some w => w
  | none => [c]

/-- `nt._quote_encode` -/
def ntQuoteEncode (s : Str) : Str :=
  dq :: s.flatMap (escOf Tables.ntMap) ++ [dq]

def esc3 : Str := [bs, dq, bs, dq, bs, dq]

/-- one source character of the long form: a quote stays raw unless it is the last character of the text
    (`"` -> `\"`); anything else goes through the map -/
def pieceL (m : List (Char × Str)) (x : Char) (last : Bool) : Str :=
  if x = dq then (if last then [bs, dq] else [dq]) else escOf m x

/-- the long form between the triple quotes, in one pass: `"""` -> `\"\"\"` (leftmost first), a final raw
    quote escaped, every other character through the map.  (`skip` = characters of a `"""` just written that
    are still to be stepped over; keeps the recursion structural.) -/
def encLongAux (m : List (Char × Str)) : Nat → Str → Str
  | _, [] => []
  | skip + 1, _ :: t => encLongAux m skip t
  | 0, x :: t =>
    match t with
    | y :: z :: _ =>
      if x = dq ∧ y = dq ∧ z = dq then esc3 ++ encLongAux m 2 t else pieceL m x false ++ encLongAux m 0 t
    | _ => pieceL m x t.isEmpty ++ encLongAux m 0 t

def encLong (m : List (Char × Str)) (s : Str) : Str := encLongAux m 0 s

/-- `Literal._quote_encode`: long form when the text contains a newline, else the short form -/
def quoteEncode (s : Str) : Str :=
  if lf ∈ s then [dq, dq, dq] ++ encLong Tables.longMap s ++ [dq, dq, dq]
  else dq :: s.flatMap (escOf Tables.shortMap) ++ [dq]

/-! ### Readers: the W3C string grammars -/

def hexVal (c : Char) : Option Nat :=
  if '0' ≤ c ∧ c ≤ '9' then some (c.toNat - 48)
  else if 'a' ≤ c ∧ c ≤ 'f' then some (c.toNat - 87)
  else if 'A' ≤ c ∧ c ≤ 'F' then some (c.toNat - 55)
  else none

def hexNum : List Char → Option Nat
  | [] => some 0
  | c :: t => do
    let v ← hexVal c
    let r ← hexNum t
    pure (v * 16 ^ t.length + r)

/-- a code point is a Unicode scalar value (lone surrogates are not characters) -/
def ucharOf (n : Nat) : Option Char :=
  if n < 0xD800 ∨ (0xDFFF < n ∧ n < 0x110000) then some (Char.ofNat n) else none

/-- ECHAR ::= '\' [tbnrf"'\] -/
def echar (c : Char) : Option Char :=
  if c = 't' then some '\t'
  else if c = 'b' then some (Char.ofNat 8)
  else if c = 'n' then some '\n'
  else if c = 'r' then some '\r'
  else if c = 'f' then some (Char.ofNat 12)
  else if c = '"' then some '"'
  else if c = '\'' then some '\''
  else if c = '\\' then some '\\'
  else none

def consOpt (c : Char) : Option Str → Option Str
  | some s => some (c :: s)
  | none => none

def appOpt (w : Str) : Option Str → Option Str
  | some s => some (w ++ s)
  | none => none

/-- what follows a backslash: ECHAR or UCHAR ([26] `\\u` HEX{4} | `\\U` HEX{8}); returns the character and the rest -/
def unescape : Str → Option (Char × Str)
  | [] => none
  | e :: r =>
    match echar e with
    | some d => some (d, r)
    | none =>
      if e = 'u' then
        match r with
        | h1 :: h2 :: h3 :: h4 :: r' =>
          match (hexNum [h1, h2, h3, h4]).bind ucharOf with
          | some d => some (d, r')
          | none => none
        | _ => none
      else if e = 'U' then
        match r with
        | h1 :: h2 :: h3 :: h4 :: h5 :: h6 :: h7 :: h8 :: r' =>
          match (hexNum [h1, h2, h3, h4, h5, h6, h7, h8]).bind ucharOf with
          | some d => some (d, r')
          | none => none
        | _ => none
      else none

theorem unescape_echar {e d : Char} (E : Str) (h : echar e = some d) : unescape (e :: E) = some (d, E) := by
  simp only [unescape, h]

/-- `unescape` reads a non-empty prefix `w` (one ECHAR letter, or `u` / `U` and the hex digits) and hands back
    what follows it, whatever that is -/
theorem unescape_prefix {r r' : Str} {c : Char} (h : unescape r = some (c, r')) :
    ∃ w, w ≠ [] ∧ r = w ++ r' ∧ ∀ E, unescape (w ++ E) = some (c, E) := by
  revert h
  fun_cases unescape r
  case case2 e r d he =>                                      -- ECHAR
    rintro ⟨⟩; exact ⟨[e], List.cons_ne_nil _ _, rfl, fun E => unescape_echar E he⟩
  case case3 h1 h2 h3 h4 r d hd he =>                         -- `u` and four hex digits of a scalar value
    rintro ⟨⟩
    exact ⟨['u', h1, h2, h3, h4], List.cons_ne_nil _ _, rfl, fun E => by
      simp only [List.cons_append, List.nil_append, unescape, he, if_true, hd]⟩
  case case6 h1 h2 h3 h4 h5 h6 h7 h8 r d hd he hu =>          -- `U` and eight
    rintro ⟨⟩
    exact ⟨['U', h1, h2, h3, h4, h5, h6, h7, h8], List.cons_ne_nil _ _, rfl, fun E => by
      simp only [List.cons_append, List.nil_append, unescape, he, hu, if_true, if_false, hd]⟩
  -- the other six arms (empty text, bad or missing hex digits, any other letter): the reader answers `none`
  all_goals nofun

theorem unescape_lt {r r' : Str} {d : Char} (h : unescape r = some (d, r')) : r'.length < r.length := by
  obtain ⟨w, hw, e, _⟩ := unescape_prefix h
  have := List.length_pos_iff.mpr hw
  rw [e, List.length_append]
  omega

/-- body of STRING_LITERAL_(SINGLE_)QUOTE after the opening quote, up to and including the closing
    quote, which must be the last character: `([^q\\\n\r] | ECHAR | UCHAR)* q` -/
def decShortBody (q : Char) : Str → Option Str
  | [] => none
  | c :: rest =>
    if c = q then (if rest = [] then some [] else none)
    else if c = bs then
      match h : unescape rest with
      | some (d, rest') => consOpt d (decShortBody q rest')
      | none => none
    else if c = lf ∨ c = cr then none
    else consOpt c (decShortBody q rest)
termination_by s => s.length
decreasing_by
  · have := unescape_lt h; simp; omega
  · simp

/-- body of STRING_LITERAL_LONG_(SINGLE_)QUOTE after the opening `qqq`, up to and including the closing
    `qqq`, which must end the text:  `((q | qq)? ([^q\\] | ECHAR | UCHAR))* qqq`.
    One or two quotes must be followed by a non-quote item; three quotes close the literal. -/
def decLongBody (q : Char) : Str → Option Str
  | [] => none
  | c :: rest =>
    if c = q then
      match rest with
      | [] => none
      | c2 :: rest2 =>
        if c2 = q then
          match rest2 with
          | [] => none
          | c3 :: rest3 =>
            if c3 = q then (if rest3 = [] then some [] else none)
            else appOpt [q, q] (decLongBody q (c3 :: rest3))
        else consOpt q (decLongBody q (c2 :: rest2))
    else if c = bs then
      match h : unescape rest with
      | some (d, rest') => consOpt d (decLongBody q rest')
      | none => none
    else consOpt c (decLongBody q rest)
termination_by s => s.length
decreasing_by
  · simp
  · simp
  · have := unescape_lt h; simp; omega
  · simp

/-- N-Triples STRING_LITERAL_QUOTE: the whole text is one double-quoted string -/
def decodeNT (t : Str) : Option Str :=
  match t with
  | c :: rest => if c = dq then decShortBody dq rest else none
  | [] => none

/-- Turtle `String` ([17]): any of the four quotings; the whole text is one string token -/
def decodeTurtle (t : Str) : Option Str :=
  match t with
  | a :: b :: c :: rest =>
    if a = dq ∧ b = dq ∧ c = dq then decLongBody dq rest
    else if a = sq ∧ b = sq ∧ c = sq then decLongBody sq rest
    else if a = dq then decShortBody dq (b :: c :: rest)
    else if a = sq then decShortBody sq (b :: c :: rest)
    else none
  | a :: rest =>
    if a = dq then decShortBody dq rest
    else if a = sq then decShortBody sq rest
    else none
  | [] => none

/-! ### Numeric / boolean shorthand tokens -/

inductive NumKind
  | integer | decimal | double | boolean
  deriving DecidableEq, Repr

def isDigit (c : Char) : Bool := '0' ≤ c && c ≤ '9'
def isSign (c : Char) : Bool := c == '+' || c == '-'

def allDigits : Str → Bool
  | [] => true
  | c :: t => isDigit c && allDigits t

/-- `[0-9]+` -/
def digits1 (s : Str) : Bool := !s.isEmpty && allDigits s

def dropSign : Str → Str
  | c :: t => if isSign c then t else c :: t
  | [] => []

/-- INTEGER ::= [+-]? [0-9]+ -/
def lexInteger (t : Str) : Bool := digits1 (dropSign t)

/-- split at the first occurrence of a character satisfying `p` -/
def splitAt1 (p : Char → Bool) : Str → Option (Str × Str)
  | [] => none
  | c :: t =>
    if p c then some ([], t)
    else match splitAt1 p t with
      | some (a, b) => some (c :: a, b)
      | none => none

/-- DECIMAL ::= [+-]? [0-9]* '.' [0-9]+ -/
def lexDecimal (t : Str) : Bool :=
  match splitAt1 (· == '.') (dropSign t) with
  | some (a, b) => allDigits a && digits1 b
  | none => false

/-- EXPONENT ::= [eE] [+-]? [0-9]+   (given the text after the `e`) -/
def lexExpTail (t : Str) : Bool := digits1 (dropSign t)

/-- mantissa: [0-9]+ '.' [0-9]* | '.' [0-9]+ | [0-9]+ -/
def lexMantissa (m : Str) : Bool :=
  match splitAt1 (· == '.') m with
  | some (a, b) => (digits1 a && allDigits b) || (a.isEmpty && digits1 b)
  | none => digits1 m

/-- DOUBLE ::= [+-]? ([0-9]+ '.' [0-9]* EXPONENT | '.' [0-9]+ EXPONENT | [0-9]+ EXPONENT) -/
def lexDouble (t : Str) : Bool :=
  match splitAt1 (fun c => c == 'e' || c == 'E') (dropSign t) with
  | some (m, e) => lexMantissa m && lexExpTail e
  | none => false

def lexBoolean (t : Str) : Bool := t == "true".toList || t == "false".toList

/-- the token grammar a Turtle reader applies to an unquoted literal token -/
def relex (t : Str) : Option NumKind :=
  if lexBoolean t then some .boolean
  else if lexInteger t then some .integer
  else if lexDecimal t then some .decimal
  else if lexDouble t then some .double
  else none

def tokenOk (k : NumKind) (t : Str) : Bool :=
  match k with
  | .integer => lexInteger t
  | .decimal => lexDecimal t
  | .double => lexDouble t
  | .boolean => lexBoolean t

def toLowerAscii (c : Char) : Char :=
  if 'A' ≤ c ∧ c ≤ 'Z' then Char.ofNat (c.toNat + 32) else c

/-- the unquoted text `Literal._literal_n3(use_plain=True)` produces for integer / decimal / boolean
    (doubles go through CPython's float formatting: an external, supplied by the caller) -/
def plainToken (k : NumKind) (lex : Str) : Option Str :=
  match k with
  | .integer => some lex
  | .decimal =>
    if lex.any (fun c => c == '.' || c == 'e' || c == 'E') then some lex else some (lex ++ ".0".toList)
  | .boolean => some (lex.map toLowerAscii)
  | .double => none

/-- `turtle._literal_label`: the first candidate that is a token of the grammar for the datatype and that a
    reader turns back into the same lexical form (`norm` = lexical form of `Literal(candidate, datatype=dt)`,
    an external supplied as data); `none` = fall back to the quoted typed form. -/
def plainChoice (k : NumKind) (lex : Str) : List (Str × Str) → Option Str
  | [] => none
  | (tok, norm) :: rest => if tokenOk k tok && norm == lex then some tok else plainChoice k lex rest

/-! ### A numeric / boolean literal as Turtle text, and what a reader makes of it -/

/-- the two spellings `turtle.label` can give a literal of a shorthand datatype -/
inductive LitText
  | shorthand (tok : Str)     -- bare token: 1, 1.5, 1e0, true
  | quoted (body : Str)       -- "…"^^xsd:<k>   (body = the string token)
  deriving DecidableEq, Repr

def hasExp (t : Str) : Bool := t.any (fun c => c == 'e' || c == 'E')

/-- the guarded choice of `turtle._literal_label`: a candidate token only if it is in the grammar of the datatype
    and reads back as the same lexical form; else the quoted typed form.  `toks` are the candidate tokens
    (CPython's formatting, an external), `norm k t` = lexical form of `Literal(t, datatype=k)` (external). -/
def guarded (norm : NumKind → Str → Str) (k : NumKind) (lex : Str) (toks : List Str) : LitText :=
  match plainChoice k lex (toks.map (fun t => (t, norm k t))) with
  | some tok => .shorthand tok
  | none => .quoted (quoteEncode lex)

/-- the one unguarded case left in `_literal_label`: a decimal whose `_literal_n3(use_plain=True)` text (the first
    candidate) contains an exponent is written as that bare text (pinned by rdflib's test_issue1043; C03-K5) -/
def pinnedExp (k : NumKind) (toks : List Str) : Option Str :=
  match k, toks with
  | .decimal, t0 :: _ => if hasExp t0 then some t0 else none
  | _, _ => none

/-- `turtle._literal_label` -/
def writeNum (norm : NumKind → Str → Str) (k : NumKind) (lex : Str) (toks : List Str) : LitText :=
  match pinnedExp k toks with
  | some t0 => .shorthand t0
  | none => guarded norm k lex toks

/-- a Turtle reader: a bare token gets the datatype its grammar names, a quoted one the datatype written
    after `^^`; either way the reader builds `Literal(text, datatype)` (normalising) -/
def readNum (norm : NumKind → Str → Str) (k : NumKind) : LitText → Option (Str × NumKind)
  | .shorthand tok => (relex tok).map (fun k' => (norm k' tok, k'))
  | .quoted body => (decodeTurtle body).map (fun lex => (norm k lex, k))

/-- the pre-fix writer: whatever `_literal_n3(use_plain=True)` printed was used unchecked -/
def writeNumUnguarded (tok : Str) : LitText := .shorthand tok

end RV.C03

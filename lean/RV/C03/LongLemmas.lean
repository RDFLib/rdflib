import RV.C03.MapLemmas
/-
  C03 — the long (`"""`) form of the Turtle writer: the one-pass writer `encLong m` (per-character map `m` plus
  the two context rules for quotes) is decoded back by the W3C STRING_LITERAL_LONG_QUOTE grammar, for every map
  satisfying the decidable `mapOK [bs] m`.
-/
namespace RV.C03

theorem encLong_nil (m : List (Char × Str)) : encLong m [] = [] := rfl

theorem encLong_triple (m : List (Char × Str)) (t : Str) :
    encLong m (dq :: dq :: dq :: t) = esc3 ++ encLong m t := by
  simp [encLong, encLongAux]

theorem encLong_step (m : List (Char × Str)) (x : Char) (t : Str) (h : ¬ (x = dq ∧ ∃ t', t = dq :: dq :: t')) :
    encLong m (x :: t) = pieceL m x t.isEmpty ++ encLong m t := by
  cases t with
  | nil => rfl
  | cons y t =>
    cases t with
    | nil => rfl
    | cons z t' =>
      have : ¬ (x = dq ∧ y = dq ∧ z = dq) := fun ⟨h1, h2, h3⟩ => h ⟨h1, t', by rw [h2, h3]⟩
      simp only [encLong, encLongAux, this, if_false, List.isEmpty_cons]

theorem pieceL_ne {m : List (Char × Str)} {x : Char} (hx : x ≠ dq) (l : Bool) : pieceL m x l = escOf m x := by
  rw [pieceL, if_neg hx]

theorem encLong_char (m : List (Char × Str)) {x : Char} (hx : x ≠ dq) (t : Str) :
    encLong m (x :: t) = escOf m x ++ encLong m t := by
  rw [encLong_step _ _ _ fun h => hx h.1, pieceL_ne hx]

theorem encLong_quote (m : List (Char × Str)) (t : Str) (h : ¬ ∃ t', t = dq :: dq :: t') :
    encLong m (dq :: t) = (if t.isEmpty then [bs, dq] else [dq]) ++ encLong m t := by
  rw [encLong_step _ _ _ fun h' => h h'.2, pieceL, if_pos rfl]

def tq : Str := [dq, dq, dq]

theorem decLong_close (q : Char) : decLongBody q [q, q, q] = some [] := by
  rw [decLongBody]; simp

theorem decLong_q1 (q c : Char) (E : Str) (h : c ≠ q) :
    decLongBody q (q :: c :: E) = consOpt q (decLongBody q (c :: E)) := by
  conv => lhs; rw [decLongBody.eq_def]
  simp [h]

theorem decLong_q2 (q c : Char) (E : Str) (h : c ≠ q) :
    decLongBody q (q :: q :: c :: E) = appOpt [q, q] (decLongBody q (c :: E)) := by
  conv => lhs; rw [decLongBody.eq_def]
  simp [h]

theorem decLong_bs (q c : Char) (rest E : Str) (hq : bs ≠ q) (h : unescape rest = some (c, E)) :
    decLongBody q (bs :: rest) = consOpt c (decLongBody q E) := by
  conv => lhs; rw [decLongBody.eq_def]
  simp only [hq, if_false, if_true]
  split
  · next h' => rw [h] at h'; cases h'; rfl
  · next h' => rw [h] at h'; cases h'

theorem decLong_plain (q c : Char) (E : Str) (h1 : c ≠ q) (h2 : c ≠ bs) :
    decLongBody q (c :: E) = consOpt c (decLongBody q E) := by
  conv => lhs; rw [decLongBody.eq_def]
  simp [h1, h2]

theorem decLong_spell {bad : List Char} {w : Str} {x : Char} (h : Spells bad w x) (hbs : bs ∈ bad) (hx : x ≠ dq)
    (E : Str) : decLongBody dq (w ++ E) = consOpt x (decLongBody dq E) := by
  rcases h with ⟨r, rfl, hun⟩ | ⟨rfl, hb⟩
  · exact decLong_bs dq x _ _ (by decide) (hun E)
  · exact decLong_plain dq x E hx (ne_of_mem_of_not_mem hbs hb).symm

theorem decLong_escq (E : Str) : decLongBody dq (bs :: dq :: E) = consOpt dq (decLongBody dq E) :=
  decLong_bs dq dq _ E (by decide) (unescape_echar E rfl)

/-- the text written for a string that does not begin with a quote does not begin with one: it is what may follow
    one or two raw quotes -/
theorem encLong_head_ne {m : List (Char × Str)} (hm : mapOK [bs] m = true) {x : Char} (hx : x ≠ dq) (t T : Str) :
    ∃ c E', encLong m (x :: t) ++ T = c :: E' ∧ c ≠ dq := by
  obtain ⟨y, r, e, hy⟩ := Spells_head_ne (escOf_spells hm x) fun _ => hx
  exact ⟨y, r ++ (encLong m t ++ T), by rw [encLong_char m hx, List.append_assoc, e]; rfl, hy⟩

/-- text before which the reader takes a raw quote for itself: it begins with a non-quote, or with one quote and then a
    non-quote (`(q | qq)? item` of the grammar) -/
def Safe (E : Str) : Prop := ∃ c E', c ≠ dq ∧ (E = c :: E' ∨ E = dq :: c :: E')

theorem decLong_rawq {E : Str} (h : Safe E) : decLongBody dq (dq :: E) = consOpt dq (decLongBody dq E) := by
  obtain ⟨c, E', hc, rfl | rfl⟩ := h
  · exact decLong_q1 dq c E' hc
  · rw [decLong_q2 dq c E' hc, decLong_q1 dq c E' hc]
    cases decLongBody dq (c :: E') <;> rfl

/-- what the writer puts after a raw quote is safe: it writes a quote raw only if the source goes on, and not with two more -/
theorem encLong_safe {m : List (Char × Str)} (hm : mapOK [bs] m = true) {t : Str} (hne : t ≠ [])
    (h2 : ¬ ∃ t', t = dq :: dq :: t') (T : Str) : Safe (encLong m t ++ T) := by
  match t, hne with
  | x :: t1, _ =>
    by_cases hx : x = dq
    · subst hx
      match t1 with
      | [] => exact ⟨bs, dq :: T, by decide, Or.inl rfl⟩
      | z :: t2 =>
        have hz : z ≠ dq := fun e => h2 ⟨t2, by rw [e]⟩
        obtain ⟨c, E', e, hc⟩ := encLong_head_ne hm hz t2 T
        refine ⟨c, E', hc, Or.inr ?_⟩
        rw [encLong_quote m _ (fun ⟨_, h'⟩ => hz (List.cons.inj h').1), ← e]
        rfl
    · obtain ⟨c, E', e, hc⟩ := encLong_head_ne hm hx t1 T
      exact ⟨c, E', hc, Or.inl e⟩

theorem long_skip {m : List (Char × Str)} (hm : mapOK [bs] m = true) : ∀ (s : Str) (skip : Nat),
    decLongBody dq (encLongAux m skip s ++ tq) = some (s.drop skip) := by
  intro s
  induction s with
  | nil => intro skip; cases skip <;> exact decLong_close dq
  | cons x t ih =>
    intro skip
    cases skip with
    | succ k => exact ih k
    | zero =>
      have iht : decLongBody dq (encLong m t ++ tq) = some t := ih 0
      show decLongBody dq (encLong m (x :: t) ++ tq) = some (x :: t)
      by_cases hx : x = dq
      · subst hx
        -- the arms of `encLongAux` at a quote: `"""` (then `ih 2` steps over the two quotes already escaped), the
        -- last character, a raw quote
        by_cases h3 : t.take 2 = [dq, dq]
        · obtain ⟨t', rfl⟩ : ∃ t', t = dq :: dq :: t' :=
            ⟨t.drop 2, (List.take_append_drop 2 t).symm.trans (by rw [h3]; rfl)⟩
          rw [encLong_triple, List.append_assoc]
          show decLongBody dq (bs :: dq :: bs :: dq :: bs :: dq :: (encLong m t' ++ tq)) = _
          rw [decLong_escq, decLong_escq, decLong_escq, show decLongBody dq (encLong m t' ++ tq) = some t' from ih 2]
          rfl
        · by_cases ht : t = []
          · subst ht; exact (decLong_escq tq).trans (by rw [tq, decLong_close]; rfl)
          · have h3 : ¬ ∃ t', t = dq :: dq :: t' := fun ⟨_, e⟩ => h3 (by rw [e]; rfl)
            rw [encLong_quote m t h3, if_neg (by simpa using ht)]
            exact (decLong_rawq (encLong_safe hm ht h3 tq)).trans (by rw [iht]; rfl)
      · rw [encLong_char m hx, List.append_assoc, decLong_spell (escOf_spells hm x) (by simp) hx, iht, consOpt_some]

theorem long_decode {m : List (Char × Str)} (hm : mapOK [bs] m = true) (s : Str) :
    decLongBody dq (encLong m s ++ tq) = some s :=
  long_skip hm s 0

theorem turtle_long_roundtrip (s : Str) (hlf : lf ∈ s) : decodeTurtle (quoteEncode s) = some s := by
  unfold quoteEncode
  simp only [hlf, if_true]
  unfold decodeTurtle
  simp only [List.cons_append, List.nil_append, and_self, if_true]
  exact long_decode longMap_ok s

end RV.C03

import RV.C03.Notions
/-
  C03 — writers given by a per-character map.

  `mapOK req m` is a DECIDABLE condition on a regenerated table `m` (character ↦ written text): every character of
  `req` (the characters the grammar does not allow raw) has an entry, and every entry is a backslash escape —
  ECHAR or UCHAR — that the W3C grammar decodes back to its character.  It is re-checked by `decide` against the
  table regenerated from rdflib's behaviour on every run.  Under it, the mapped text between quotes is one string
  token that decodes to the original text — whatever the implementation does to compute the map, and also if it
  escapes more characters than it has to (TAB as `\t`, a control character as `\u0001`, …).
-/
namespace RV.C03

theorem consOpt_some (c : Char) (s : Str) : consOpt c (some s) = some (c :: s) := rfl

theorem appOpt_some (w s : Str) : appOpt w (some s) = some (w ++ s) := rfl

theorem decShort_close (q : Char) : decShortBody q [q] = some [] := by
  rw [decShortBody]; simp

theorem decShort_plain (q c : Char) (E : Str) (h1 : c ≠ q) (h2 : c ≠ bs) (h3 : c ≠ lf) (h4 : c ≠ cr) :
    decShortBody q (c :: E) = consOpt c (decShortBody q E) := by
  rw [decShortBody]
  simp [h1, h2, h3, h4]

theorem decShortRest_close (q : Char) (E : Str) : decShortRest q (q :: E) = some ([], E) := by
  rw [decShortRest.eq_def]; simp

theorem decShortRest_bs (q c : Char) (rest E : Str) (hq : bs ≠ q) (h : unescape rest = some (c, E)) :
    decShortRest q (bs :: rest) =
      (match decShortRest q E with | some (a, b) => some (c :: a, b) | none => none) := by
  conv => lhs; rw [decShortRest.eq_def]
  simp only [hq, if_false, if_true]
  split
  · next h' => rw [h] at h'; cases h'; rfl
  · next h' => rw [h] at h'; cases h'

theorem decShortRest_plain (q c : Char) (E : Str) (h1 : c ≠ q) (h2 : c ≠ bs) (h3 : c ≠ lf) (h4 : c ≠ cr) :
    decShortRest q (c :: E) = (match decShortRest q E with | some (a, b) => some (c :: a, b) | none => none) := by
  conv => lhs; rw [decShortRest.eq_def]
  simp only [h1, h2, h3, h4, if_false, false_or]
  rfl

/-- the whole-token reader's view of the prefix reader's answer: nothing may follow the closing quote -/
def endOnly : Option (Str × Str) → Option Str
  | some (a, []) => some a
  | _ => none

theorem endOnly_cons (c : Char) (r : Option (Str × Str)) :
    endOnly (match r with | some (a, b) => some (c :: a, b) | none => none) = consOpt c (endOnly r) := by
  rcases r with _ | ⟨a, _ | _⟩ <;> rfl

theorem decShortBody_eq_rest (q : Char) (t : Str) : decShortBody q t = endOnly (decShortRest q t) := by
  fun_induction decShortBody q t with
  | case1 => rw [decShortRest]; rfl                 -- the text is over before a closing quote
  | case2 => rw [decShortRest_close]; rfl           -- the closing quote, and nothing after it
  | case3 r hr =>                                   -- the closing quote, followed by `r ≠ []`
    rw [decShortRest_close]
    cases r with
    | nil => exact absurd rfl hr
    | cons _ _ => rfl
  | case4 r d rest' h hq ih =>                      -- a backslash and an escape that decodes to `d`
    rw [decShortRest_bs q d r rest' hq h, ih, endOnly_cons]
  | case5 r h hq =>                                 -- a backslash and no escape
    rw [decShortRest.eq_def]
    simp only [hq, if_false, if_true]
    split <;> simp_all [endOnly]
  | case6 e r hq hb hl =>                           -- a raw newline or carriage return
    rw [decShortRest.eq_def]
    simp only [hq, hb, hl, if_false, if_true]
    rfl
  | case7 e r hq hb hl ih =>                        -- any other character
    rw [decShortRest_plain q e r hq hb (fun h => hl (Or.inl h)) (fun h => hl (Or.inr h)), ih, endOnly_cons]

theorem decShort_bs (q c : Char) (rest E : Str) (hq : bs ≠ q) (h : unescape rest = some (c, E)) :
    decShortBody q (bs :: rest) = consOpt c (decShortBody q E) := by
  rw [decShortBody_eq_rest, decShortRest_bs q c rest E hq h, decShortBody_eq_rest, endOnly_cons]

theorem decShort_echar (q e d : Char) (E : Str) (h : echar e = some d) (hq : bs ≠ q) :
    decShortBody q (bs :: e :: E) = consOpt d (decShortBody q E) :=
  decShort_bs q d _ E hq (unescape_echar E h)

theorem lookupEsc_mem {m : List (Char × Str)} {c : Char} {w : Str} (h : lookupEsc m c = some w) : (c, w) ∈ m := by
  induction m with
  | nil => cases h
  | cons kw rest ih =>
    obtain ⟨k, v⟩ := kw
    simp only [lookupEsc] at h
    split at h
    · next hk => cases h; exact hk ▸ List.mem_cons_self
    · exact List.mem_cons_of_mem _ (ih h)

/-- `w` is a spelling of `x` that every string grammar reads back as `x`: a backslash escape that `unescape` turns into
    `x` whatever follows, or `x` itself where the grammar allows it raw (`bad` = the characters it does not).  It is
    all the readers need to know of a writer's table. -/
def Spells (bad : List Char) (w : Str) (x : Char) : Prop :=
  (∃ r, w = bs :: r ∧ ∀ E, unescape (r ++ E) = some (x, E)) ∨ (w = [x] ∧ x ∉ bad)

theorem escOf_spells {req : List Char} {m : List (Char × Str)} (h : mapOK req m = true) (x : Char) :
    Spells req (escOf m x) x := by
  simp only [mapOK, Bool.and_eq_true] at h
  unfold escOf
  cases hl : lookupEsc m x with
  | some w =>
    have hg := List.all_eq_true.mp h.2 (x, w) (lookupEsc_mem hl)
    match w, hg with
    | b :: r, hg =>
      simp only [escGood, Bool.and_eq_true, beq_iff_eq] at hg
      obtain ⟨w', _, e, hw⟩ := unescape_prefix hg.2
      rw [List.append_nil] at e
      exact Or.inl ⟨r, by rw [hg.1], e ▸ hw⟩
  | none =>
    refine Or.inr ⟨rfl, fun hm => ?_⟩
    have := List.all_eq_true.mp h.1 x hm
    rw [hl] at this
    cases this

theorem Spells_head_ne {bad : List Char} {w : Str} {x : Char} (h : Spells bad w x) (hc : x ∉ bad → x ≠ dq) :
    ∃ y r, w = y :: r ∧ y ≠ dq := by
  rcases h with ⟨r, rfl, _⟩ | ⟨rfl, hx⟩
  · exact ⟨bs, r, rfl, by decide⟩
  · exact ⟨x, [], rfl, hc hx⟩

/-- (a newline needs no entry in a text that has none) -/
theorem decShortRest_spell {bad : List Char} {w : Str} {x : Char} (h : Spells bad w x)
    (hdq : dq ∈ bad) (hbs : bs ∈ bad) (hcr : cr ∈ bad) (hlf : lf ∈ bad ∨ x ≠ lf) (E : Str) :
    decShortRest dq (w ++ E) = (match decShortRest dq E with | some (a, b) => some (x :: a, b) | none => none) := by
  rcases h with ⟨r, rfl, hun⟩ | ⟨rfl, hx⟩
  · exact decShortRest_bs dq x _ _ (by decide) (hun E)
  · exact decShortRest_plain dq x E (ne_of_mem_of_not_mem hdq hx).symm (ne_of_mem_of_not_mem hbs hx).symm
      (hlf.elim (fun h => (ne_of_mem_of_not_mem h hx).symm) id) (ne_of_mem_of_not_mem hcr hx).symm

theorem map_rest_roundtrip {req : List Char} {m : List (Char × Str)} (h : mapOK req m = true)
    (hdq : dq ∈ req) (hbs : bs ∈ req) (hcr : cr ∈ req) (rest : Str) :
    ∀ s : Str, (lf ∈ req ∨ lf ∉ s) → decShortRest dq (s.flatMap (escOf m) ++ dq :: rest) = some (s, rest) := by
  intro s
  induction s with
  | nil => intro _; exact decShortRest_close dq rest
  | cons x t ih =>
    intro hlf
    rw [List.flatMap_cons, List.append_assoc,
      decShortRest_spell (escOf_spells h x) hdq hbs hcr (hlf.imp id fun hn e => hn (e ▸ List.mem_cons_self)),
      ih (hlf.imp id fun hn hm => hn (List.mem_cons_of_mem _ hm))]

theorem map_body_roundtrip {req : List Char} {m : List (Char × Str)} (h : mapOK req m = true)
    (hdq : dq ∈ req) (hbs : bs ∈ req) (hcr : cr ∈ req) :
    ∀ s : Str, (lf ∈ req ∨ lf ∉ s) → decShortBody dq (s.flatMap (escOf m) ++ [dq]) = some s := by
  intro s hlf
  rw [decShortBody_eq_rest, map_rest_roundtrip h hdq hbs hcr [] s hlf]
  rfl

theorem decodeTurtle_short (B : Str) (h : ¬ ∃ r, B = dq :: dq :: r) :
    decodeTurtle (dq :: B) = decShortBody dq B := by
  match B with
  | [] => simp [decodeTurtle]
  | [b] => simp [decodeTurtle]
  | b :: c :: r =>
    have this' : ¬ (b = dq ∧ c = dq) := by
      rintro ⟨rfl, rfl⟩; exact h ⟨r, rfl⟩
    simp [decodeTurtle, this', show ¬ (dq = sq) from by decide]

theorem ntMap_ok : mapOK [dq, bs, lf, cr] Tables.ntMap = true := by decide
theorem shortMap_ok : mapOK [dq, bs, cr] Tables.shortMap = true := by decide
theorem longMap_ok : mapOK [bs] Tables.longMap = true := by decide

theorem turtle_short_roundtrip (s : Str) (hlf : lf ∉ s) : decodeTurtle (quoteEncode s) = some s := by
  unfold quoteEncode
  simp only [hlf, if_false]
  rw [List.cons_append, decodeTurtle_short]
  · exact map_body_roundtrip shortMap_ok (by decide) (by decide) (by decide) s (Or.inr hlf)
  · rintro ⟨r, hr⟩
    match s with
    | [] => simp at hr
    | x :: t =>
      obtain ⟨y, r', hy, hne⟩ := Spells_head_ne (escOf_spells shortMap_ok x)
        fun hx => (ne_of_mem_of_not_mem (by decide) hx).symm
      rw [List.flatMap_cons, hy] at hr
      simp at hr
      exact hne hr.1

end RV.C03

import RV.C03.Codec
/-
  C03 — numeric / boolean shorthand: the token grammars are pairwise disjoint, so a token that the
  writer checked against the grammar of its datatype is re-lexed to that datatype.
-/
namespace RV.C03

theorem allDigits_mem {s : Str} (h : allDigits s = true) : ∀ c ∈ s, isDigit c = true := by
  induction s with
  | nil => intro c hc; cases hc
  | cons a t ih =>
    simp only [allDigits, Bool.and_eq_true] at h
    intro c hc
    rcases List.mem_cons.mp hc with rfl | hc
    · exact h.1
    · exact ih h.2 c hc

theorem digits1_all {s : Str} (h : digits1 s = true) : allDigits s = true := by
  simp only [digits1, Bool.and_eq_true] at h; exact h.2

theorem splitAt1_spec {p : Char → Bool} {s a b : Str} (h : splitAt1 p s = some (a, b)) :
    ∃ c, p c = true ∧ s = a ++ c :: b := by
  induction s generalizing a with
  | nil => cases h
  | cons x t ih =>
    unfold splitAt1 at h
    split at h
    · next hx => cases h; exact ⟨x, hx, rfl⟩
    · split at h
      · next h' => cases h; obtain ⟨c, hc, e⟩ := ih h'; exact ⟨c, hc, congrArg (x :: ·) e⟩
      · cases h

theorem mem_of_mem_dropSign {t : Str} {c : Char} (h : c ∈ dropSign t) : c ∈ t := by
  cases t with
  | nil => exact h
  | cons x r =>
    simp only [dropSign] at h
    split at h
    · exact List.mem_cons_of_mem _ h
    · exact h

theorem mem_dropSign_or_sign {t : Str} {c : Char} (h : c ∈ t) : c ∈ dropSign t ∨ isSign c = true := by
  cases t with
  | nil => exact Or.inl h
  | cons x r =>
    simp only [dropSign]
    split
    · next hs => exact (List.mem_cons.mp h).elim (fun e => Or.inr (e ▸ hs)) Or.inl
    · exact Or.inl h

theorem lexInteger_chars {t : Str} (h : lexInteger t = true) : ∀ c ∈ dropSign t, isDigit c = true :=
  allDigits_mem (digits1_all h)

theorem lexDecimal_chars {t : Str} (h : lexDecimal t = true) :
    '.' ∈ dropSign t ∧ ∀ c ∈ dropSign t, isDigit c = true ∨ c = '.' := by
  unfold lexDecimal at h
  split at h
  · next a b hs =>
    obtain ⟨c, hc, e⟩ := splitAt1_spec hs
    obtain rfl : c = '.' := by simpa using hc
    simp only [Bool.and_eq_true] at h
    rw [e]
    refine ⟨by simp, fun x hx => ?_⟩
    rcases List.mem_append.mp hx with h1 | h1
    · exact Or.inl (allDigits_mem h.1 x h1)
    · rcases List.mem_cons.mp h1 with rfl | h2
      · exact Or.inr rfl
      · exact Or.inl (allDigits_mem (digits1_all h.2) x h2)
  · cases h

theorem lexDouble_exp {t : Str} (h : lexDouble t = true) : ∃ c ∈ dropSign t, (c == 'e' || c == 'E') = true := by
  unfold lexDouble at h
  split at h
  · next hs => obtain ⟨c, hc, e⟩ := splitAt1_spec hs; exact ⟨c, by rw [e]; simp, hc⟩
  · cases h

theorem exp_char {c : Char} (h : (c == 'e' || c == 'E') = true) :
    ¬ (isDigit c = true ∨ c = '.') ∧ isSign c = false := by
  obtain rfl | rfl : c = 'e' ∨ c = 'E' := by simpa using h
  all_goals decide

theorem lexDecimal_has_dot {t : Str} (h : lexDecimal t = true) :
    t.any (fun c => c == '.' || c == 'e' || c == 'E') = true :=
  List.any_eq_true.mpr ⟨'.', mem_of_mem_dropSign (lexDecimal_chars h).1, rfl⟩

theorem lexDecimal_no_exp {t : Str} (h : lexDecimal t = true) : hasExp t = false := by
  refine Bool.eq_false_iff.mpr fun he => ?_
  obtain ⟨c, hc, hce⟩ := List.any_eq_true.mp he
  rcases mem_dropSign_or_sign hc with hd | hs
  · exact (exp_char hce).1 ((lexDecimal_chars h).2 c hd)
  · rw [(exp_char hce).2] at hs; cases hs

theorem lexBoolean_cases {t : Str} (h : lexBoolean t = true) : t = "true".toList ∨ t = "false".toList := by
  simpa only [lexBoolean, Bool.or_eq_true, beq_iff_eq] using h

theorem lexBoolean_not_num {t : Str} (h : lexBoolean t = true) :
    lexInteger t = false ∧ lexDecimal t = false ∧ lexDouble t = false := by
  -- a literal is `String.ofList` of its characters by the kernel's own conversion, so `String.toList_ofList`
  -- turns `"…".toList` into the character list before anything is evaluated
  rcases lexBoolean_cases h with rfl | rfl <;> rw [String.toList_ofList] <;> decide +kernel

theorem lexBoolean_lower {t : Str} (h : lexBoolean t = true) : t.map toLowerAscii = t := by
  rcases lexBoolean_cases h with rfl | rfl <;> rw [String.toList_ofList] <;> decide +kernel

theorem not_int_of_dec {t : Str} (h : lexDecimal t = true) : lexInteger t = false :=
  Bool.eq_false_iff.mpr fun hi => absurd (lexInteger_chars hi '.' (lexDecimal_chars h).1) (by decide)

theorem not_int_of_dbl {t : Str} (h : lexDouble t = true) : lexInteger t = false :=
  Bool.eq_false_iff.mpr fun hi => by
    obtain ⟨c, hc, he⟩ := lexDouble_exp h
    exact (exp_char he).1 (Or.inl (lexInteger_chars hi c hc))

theorem not_dec_of_dbl {t : Str} (h : lexDouble t = true) : lexDecimal t = false :=
  Bool.eq_false_iff.mpr fun hd => by
    obtain ⟨c, hc, he⟩ := lexDouble_exp h
    exact (exp_char he).1 ((lexDecimal_chars hd).2 c hc)

theorem tokenOk_relex {k : NumKind} {t : Str} (h : tokenOk k t = true) : relex t = some k := by
  unfold relex
  cases hb : lexBoolean t with
  | true =>
    obtain ⟨h1, h2, h3⟩ := lexBoolean_not_num hb
    cases k with
    | boolean => rfl
    | integer => rw [show lexInteger t = true from h] at h1; cases h1
    | decimal => rw [show lexDecimal t = true from h] at h2; cases h2
    | double => rw [show lexDouble t = true from h] at h3; cases h3
  | false =>
    cases k with
    | boolean => rw [show lexBoolean t = true from h] at hb; cases hb
    | integer => simp only [show lexInteger t = true from h, if_true, Bool.false_eq_true, if_false]
    | decimal =>
      simp only [not_int_of_dec h, show lexDecimal t = true from h, if_true, Bool.false_eq_true, if_false]
    | double =>
      simp only [not_int_of_dbl h, not_dec_of_dbl h, show lexDouble t = true from h, if_true, Bool.false_eq_true,
        if_false]

theorem plainChoice_sound {k : NumKind} {lex tok : Str} {cands : List (Str × Str)}
    (h : plainChoice k lex cands = some tok) : tokenOk k tok = true ∧ (tok, lex) ∈ cands := by
  induction cands with
  | nil => cases h
  | cons c rest ih =>
    obtain ⟨t, n⟩ := c
    unfold plainChoice at h
    split at h
    · next hc =>
      simp only [Bool.and_eq_true, beq_iff_eq] at hc
      cases h
      exact ⟨hc.1, hc.2 ▸ List.mem_cons_self⟩
    · exact (ih h).imp id (List.mem_cons_of_mem _)

theorem plainChoice_first {k : NumKind} {lex tok norm : Str} (rest : List (Str × Str))
    (h1 : tokenOk k tok = true) (h2 : norm = lex) : plainChoice k lex ((tok, norm) :: rest) = some tok := by
  simp [plainChoice, h1, h2]

theorem plainChoice_none_of_bad {k : NumKind} {lex : Str} {cands : List (Str × Str)}
    (h : ∀ p ∈ cands, tokenOk k p.1 = false ∨ p.2 ≠ lex) : plainChoice k lex cands = none := by
  induction cands with
  | nil => rfl
  | cons c rest ih =>
    have : (tokenOk k c.1 && c.2 == lex) = false := by
      rcases h c List.mem_cons_self with hc | hc <;> simp [hc]
    rw [plainChoice, this]
    exact ih fun p hp => h p (List.mem_cons_of_mem _ hp)

end RV.C03

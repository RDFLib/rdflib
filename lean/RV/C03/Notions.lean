import RV.C03.Choice
import RV.C03.NTDoc
import RV.C03.RefSplit
/-
  C03 — the vocabulary of the property statements in `Props.lean` that is not part of the models: what a table must
  satisfy (`mapOK`), well-formed N-Triples terms, renaming and isomorphism of graphs, the hypothesis `Pre` of the layout
  theorem, what `isValidList` establishes (`ProperChain`), the writer's statement subjects, a well-formed base.
  The lemma files are about these; the statements can be read from the model files and this one (`resRFC`, `HextOk` and the
  test graphs stand with their statements in `Props.lean`).
-/
namespace RV.C03

/-- the entry `w` for `c` is a backslash followed by exactly one ECHAR / UCHAR that decodes to `c` -/
def escGood (w : Str) (c : Char) : Bool :=
  match w with
  | b :: r => b == bs && unescape r == some (c, [])
  | [] => false

def mapOK (req : List Char) (m : List (Char × Str)) : Bool :=
  req.all (fun c => (lookupEsc m c).isSome) && m.all (fun kw => escGood kw.2 kw.1)

def IriWf (s : Str) : Prop := s.all iriChar = true
def LabelWf (l : Str) : Prop := ∃ c r, l = c :: r ∧ labelStart c = true ∧ r.all labelChar = true
def LangWf (l : Str) : Prop := langOk l = true

/-- subjects (and predicates): IRIs without characters that `URIRef.n3` refuses, plain blank-node labels -/
def NodeWf : NTerm → Prop
  | .iri s => IriWf s
  | .bnode l => LabelWf l
  | .lit _ _ _ => False

/-- objects: additionally literals with any lexical form, a well-formed datatype IRI or language tag, not both -/
def ObjWf : NTerm → Prop
  | .iri s => IriWf s
  | .bnode l => LabelWf l
  | .lit _ (some d) none => IriWf d
  | .lit _ none (some l) => LangWf l
  | .lit _ none none => True
  | .lit _ (some _) (some _) => False

/-- what a subject / predicate / object of an rdflib graph looks like on an N-Triples line -/
def TripleWf (t : NTerm × NTerm × NTerm) : Prop :=
  NodeWf t.1 ∧ (∃ p, t.2.1 = .iri p ∧ IriWf p) ∧ ObjWf t.2.2

/-- the blank node label of a term, if it is one -/
def labelsOf : NTerm → List Str
  | .bnode l => [l]
  | _ => []

def docLabels (ts : List (NTerm × NTerm × NTerm)) : List Str := ts.flatMap (fun t => labelsOf t.1 ++ labelsOf t.2.2)

def renameT (σ : BId → BId) : Term → Term
  | .bn b => .bn (σ b)
  | x => x

def renameTr (σ : BId → BId) (t : Triple) : Triple := (renameT σ t.1, renameT σ t.2.1, renameT σ t.2.2)

/-- no reader-made (`fresh`) blank node occurs: the graph is one a user hands to the serializer -/
def origOnlyB : Term → Bool
  | .bn (.fresh _) => false
  | _ => true

def origOnly (x : Term) : Prop := origOnlyB x = true

instance (x : Term) : Decidable (origOnly x) := by unfold origOnly; exact inferInstance

/-- `h` is `g` with its blank nodes renamed, the renaming injective on the graph's own (`orig`) nodes
    (graphs are lists read as sets; IRIs and literals are fixed).  For a graph of `orig` nodes only, as handed to a
    serializer, that is isomorphism of RDF graphs. -/
def Iso (g h : Graph) : Prop :=
  ∃ σ : BId → BId, (∀ n m, σ (.orig n) = σ (.orig m) → n = m) ∧
    ∀ t, t ∈ h ↔ ∃ t' ∈ g, t = renameTr σ t'

abbrev bnO (n : Nat) : Term := .bn (.orig n)

/-- The hypothesis of `layout_roundtrip` (inline part): the graph is a set of triples over IRIs, literals and
    its own blank nodes with IRI predicates; every node chosen for inlining is referenced exactly once, and no
    cycle consists of inlined nodes only (`rank` strictly grows from an inlined referrer to the inlined node it
    refers to); the nesting bound `F` exceeds every rank. -/
structure Pre (g : Graph) (I : List Nat) (F : Nat) (rank : Nat → Nat) : Prop where
  nodup : g.Nodup
  orig_only : ∀ t ∈ g, origOnly t.1 ∧ origOnly t.2.2
  pred_iri : ∀ t ∈ g, ∃ k, t.2.1 = .iri k
  ref_once : ∀ n ∈ I, ∃ s p, (s, p, bnO n) ∈ g ∧ ∀ s' p', (s', p', bnO n) ∈ g → s' = s ∧ p' = p
  ranked : ∀ n ∈ I, ∀ m ∈ I, ∀ p, (bnO m, p, bnO n) ∈ g → rank m < rank n
  bounded : ∀ n ∈ I, rank n < F

/-- `ProperChain g ser isHead l cells`: following rdf:rest from `l` visits exactly `cells` (pairwise distinct
    blank nodes, none written yet) and ends in rdf:nil; every cell has exactly one rdf:first, exactly one
    rdf:rest and no other property; every cell except the head is referenced exactly once. -/
inductive ProperChain (g : Graph) (ser : List Term) : Bool → Term → List Term → Prop
  | nil (b : Bool) : ProperChain g ser b rdfNil []
  | cons (isHead : Bool) (c m r : Term) (cs : List Term) :
      isBn c = true → c ∉ ser →
      firstsOf (propsOf g c) = [m] → restsOf (propsOf g c) = [r] → othersOf (propsOf g c) = [] →
      (isHead = false → refCount g c = 1) →
      c ∉ cs →
      ProperChain g ser false r cs → ProperChain g ser isHead c (c :: cs)

/-- the subjects of the top-level statements written so far, in order -/
def topsOf (st : TS) : List Term := st.2.map (·.1)

/-- a segment-level base is well-formed: at least one segment, no "/" inside a segment -/
def WfBase (b : BaseIri) : Prop := b.segs ≠ [] ∧ ∀ seg ∈ b.segs, '/' ∉ seg

end RV.C03

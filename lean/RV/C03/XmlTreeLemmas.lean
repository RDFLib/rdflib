import RV.C03.XmlTree
/-
  C03 — the RDF/XML element tree, piece by piece: the reader undoes `subjAttrs` and `propEl` for any resolver `res`
  that undoes the cutting of references against the base; so the whole tree reads back as the triples written
  (`readTree_xmlTree`).
-/
namespace RV.C03

theorem mem_firstOcc {l : List NTerm} {x : NTerm} : x ∈ firstOcc l ↔ x ∈ l := by
  induction l with
  | nil => simp [firstOcc]
  | cons a t ih =>
    simp only [firstOcc, List.mem_cons, List.mem_filter, ih, Bool.not_eq_true', beq_eq_false_iff_ne, ne_eq]
    constructor
    · rintro (h | ⟨h, _⟩)
      · exact Or.inl h
      · exact Or.inr h
    · intro h
      by_cases e : x = a
      · exact Or.inl e
      · rcases h with h | h
        · exact absurd h e
        · exact Or.inr ⟨h, e⟩

theorem readSubj_subjAttrs (base : Option Str) (res : Str → Str) (hres : ∀ u, res (cutRef base u) = u)
    (s : NTerm) (hs : isNode s = true) : readSubj res (subjAttrs base s) = some s := by
  cases s with
  | iri u => simp [subjAttrs, readSubj, xlookup, hres]
  | bnode l => simp [subjAttrs, readSubj, xlookup]
  | lit a b c => simp [isNode] at hs

theorem readObj_propEl (base : Option Str) (res : Str → Str) (hres : ∀ u, res (cutRef base u) = u)
    (p : Str) (o : NTerm) : readObj res (propEl base p o) = o := by
  cases o with
  | iri u => simp [propEl, readObj, xlookup, hres]
  | bnode l => simp [propEl, readObj, xlookup]
  | lit lex dt lang =>
    cases dt <;> cases lang <;> simp [propEl, readObj, xlookup, optAttr]

theorem propEl_tag (base : Option Str) (p : Str) (o : NTerm) : (propEl base p o).tag = p := by
  cases o <;> rfl

theorem readTree_xmlTree (base : Option Str) (res : Str → Str) (g : List XTriple) (hres : ∀ u, res (cutRef base u) = u) :
    readTree res (xmlTree base g) =
      ((firstOcc (g.map (·.1))).filter isNode).flatMap fun s => g.filter (fun t => t.1 == s) := by
  simp only [readTree, xmlTree, List.flatMap_def, List.map_map]
  refine congrArg List.flatten (List.map_congr_left fun s hs => ?_)
  simp only [Function.comp, readSubj_subjAttrs base res hres s (List.mem_filter.mp hs).2, List.map_map]
  refine (List.map_congr_left fun t ht => ?_).trans (List.map_id _)
  simp only [Function.comp, propEl_tag, readObj_propEl base res hres, ← beq_iff_eq.mp (List.mem_filter.mp ht).2]
  rfl

theorem cutRef_none (u : Str) : cutRef none u = u := rfl

end RV.C03

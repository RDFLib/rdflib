import RV.C03.MapLemmas
import RV.C03.ListFacts
/-
  C03 — N-Triples.  A whole line written by `_nt_row` parses back to the same triple (`parseLine_ntRow`, the statement of
  `nt_line_roundtrip`); reading the document the writer produces gives the triples written, with every blank node label
  replaced by the reader's node for it: the position of the label's first occurrence in the reader's table
  (`readDoc_ntDoc`, any initial table; `nt_doc_roundtrip` starts from the empty one).
-/
namespace RV.C03

theorem scanIriBody_ok : ∀ (s rest : Str), s.all iriChar = true → scanIriBody (s ++ '>' :: rest) = some (s, rest) := by
  intro s
  induction s with
  | nil => intro rest _; simp [scanIriBody]
  | cons c t ih =>
    intro rest h
    simp only [List.all_cons, Bool.and_eq_true] at h
    have hc : c ≠ '>' := by
      intro e; subst e; exact absurd h.1 (by decide)
    simp only [List.cons_append, scanIriBody, hc, if_false, h.1, if_true, ih rest h.2]

theorem spanP_ok (p : Char → Bool) : ∀ (l : Str) (c : Char) (rest : Str), l.all p = true → p c = false →
    spanP p (l ++ c :: rest) = (l, c :: rest) := by
  intro l
  induction l with
  | nil => intro c rest _ hc; simp [spanP, hc]
  | cons a t ih =>
    intro c rest h hc
    simp only [List.all_cons, Bool.and_eq_true] at h
    simp only [List.cons_append, spanP, h.1, if_true, ih c rest h.2 hc]

theorem scanNode_ok (n : NTerm) (rest : Str) (h : NodeWf n) :
    scanNode (ntTerm n ++ ' ' :: rest) = some (n, ' ' :: rest) := by
  cases n with
  | iri s =>
    simp only [ntTerm, List.cons_append, List.append_assoc, List.nil_append, scanNode, scanIriBody_ok s _ h]
  | bnode l =>
    obtain ⟨c, r, rfl, hc, hr⟩ := h
    have hall : (c :: r).all labelChar = true := by
      rw [List.all_cons, hr, Bool.and_true, labelChar, show (isAlnum c || c == '_') = true from hc]; rfl
    have hsp : spanP labelChar (c :: (r ++ ' ' :: rest)) = _ := spanP_ok labelChar (c :: r) ' ' rest hall (by decide)
    simp only [ntTerm, List.cons_append, scanNode, hc, if_true, hsp]
  | lit _ _ _ => cases h

theorem ntQuoteEncode_append (lex suffix : Str) :
    ntQuoteEncode lex ++ suffix = '"' :: (lex.flatMap (escOf Tables.ntMap) ++ dq :: suffix) := by
  unfold ntQuoteEncode
  simp only [List.cons_append, List.append_assoc, List.nil_append]
  rfl

theorem scanObj_lit (lex rest : Str) :
    scanObj ('"' :: (lex.flatMap (escOf Tables.ntMap) ++ dq :: rest)) =
      (match rest with
       | '^' :: '^' :: '<' :: r2 =>
         match scanIriBody r2 with
         | some (dt, rest2) => some (.lit lex (some dt) none, rest2)
         | none => none
       | '@' :: r2 =>
         if langOk (spanP langChar r2).1 then some (.lit lex none (some (spanP langChar r2).1), (spanP langChar r2).2)
         else none
       | _ => some (.lit lex none none, rest)) := by
  simp only [scanObj, map_rest_roundtrip ntMap_ok (by decide) (by decide) (by decide) rest lex (Or.inl (by decide))]
  rfl

theorem scanObj_ok (o : NTerm) (rest : Str) (h : ObjWf o) :
    scanObj (ntTerm o ++ ' ' :: rest) = some (o, ' ' :: rest) := by
  match o, h with
  | .iri s, h => exact scanNode_ok (.iri s) rest h
  | .bnode l, h => exact scanNode_ok (.bnode l) rest h
  | .lit lex none none, _ => rw [ntTerm, ntQuoteEncode_append, scanObj_lit]; rfl
  | .lit lex (some d) none, h =>
    rw [ntTerm, List.append_assoc, ntQuoteEncode_append, scanObj_lit]
    simp only [List.cons_append, List.append_assoc, List.nil_append, scanIriBody_ok d _ h]
  | .lit lex none (some l), h =>
    have h : langOk l = true := h
    have hall : l.all langChar = true := by
      unfold langOk at h
      split at h
      · cases h
      · rw [Bool.and_eq_true, Bool.and_eq_true] at h; exact h.1.2
    rw [ntTerm, List.append_assoc, ntQuoteEncode_append, scanObj_lit]
    simp only [List.cons_append, spanP_ok langChar l ' ' rest hall (by decide), h, if_true]

theorem skipWs_space (x : Str) : skipWs (' ' :: x) = skipWs x := by simp [skipWs]

theorem skipWs_nonws (c : Char) (x : Str) (h1 : c ≠ ' ') (h2 : c ≠ '\t') : skipWs (c :: x) = c :: x := by
  simp [skipWs, h1, h2]

theorem ntTerm_head (n : NTerm) (tail : Str) : ∃ c x, ntTerm n ++ tail = c :: x ∧ c ≠ ' ' ∧ c ≠ '\t' := by
  match n with
  | .iri s => exact ⟨'<', _, rfl, by decide, by decide⟩
  | .bnode l => exact ⟨'_', _, rfl, by decide, by decide⟩
  | .lit lex none none | .lit lex (some d) none | .lit lex _ (some l) => exact ⟨'"', _, rfl, by decide, by decide⟩

theorem skipWs_term (n : NTerm) (tail : Str) : skipWs (ntTerm n ++ tail) = ntTerm n ++ tail := by
  obtain ⟨c, x, e, h1, h2⟩ := ntTerm_head n tail
  rw [e]; exact skipWs_nonws c x h1 h2

theorem parseLine_ntRow (s : NTerm) (p : Str) (o : NTerm) (hs : NodeWf s) (hp : IriWf p) (ho : ObjWf o) :
    parseLine (ntRow s (.iri p) o) = some (s, .iri p, o) := by
  unfold parseLine ntRow
  rw [skipWs_term, scanNode_ok s _ hs]
  simp only [skipWs_space]
  rw [skipWs_term, scanNode_ok (.iri p) _ hp]
  simp only [skipWs_space]
  rw [skipWs_term, scanObj_ok o _ ho]
  simp [skipWs]

theorem posOf_eq_idxOf (l : List Str) (x : Str) : posOf l x = l.idxOf x := by
  induction l with
  | nil => rfl
  | cons a t ih => simp only [posOf, List.idxOf_cons, ih, Bool.cond_eq_ite, beq_iff_eq]

theorem posOf_inj (l : List Str) (a b : Str) (ha : a ∈ l) (hb : b ∈ l) (h : posOf l a = posOf l b) : a = b :=
  idxOf_inj ha hb (by rwa [posOf_eq_idxOf, posOf_eq_idxOf] at h)

/-- the node handed out for a label is the label's position in EVERY later table (tables grow by suffixes): hence a
    document can be relabelled with its final table -/
theorem readTerm_spec (tbl : List Str) (t : NTerm) :
    tbl <+: (readTerm tbl t).1 ∧ (∀ l ∈ labelsOf t, l ∈ (readTerm tbl t).1) ∧
    ∀ {fin : List Str}, (readTerm tbl t).1 <+: fin → (readTerm tbl t).2 = relabel (posOf fin) t := by
  cases t with
  | iri s => exact ⟨List.prefix_refl _, fun _ h => (nomatch h), fun _ => rfl⟩
  | lit a b c => exact ⟨List.prefix_refl _, fun _ h => (nomatch h), fun _ => rfl⟩
  | bnode l =>
    by_cases hc : tbl.contains l = true
    · have hm : l ∈ tbl := List.contains_iff_mem.mp hc
      rw [readTerm, if_pos hc]
      exact ⟨List.prefix_refl _, fun l' hl' => List.mem_singleton.mp hl' ▸ hm, fun ⟨ext, e⟩ =>
        congrArg RTerm.bnode (by rw [← e, posOf_eq_idxOf, posOf_eq_idxOf, idxOf_append_of_mem ext hm])⟩
    · have hm : l ∉ tbl := fun h => hc (List.contains_iff_mem.mpr h)
      rw [readTerm, if_neg hc]
      have hl : l ∈ tbl ++ [l] := List.mem_concat_self
      exact ⟨List.prefix_append _ _, fun l' hl' => List.mem_singleton.mp hl' ▸ hl, fun ⟨ext, e⟩ =>
        congrArg RTerm.bnode (by rw [← e, posOf_eq_idxOf, idxOf_append_of_mem ext hl, idxOf_concat_self hm])⟩

theorem readDoc_ntDoc : ∀ (ts : List (NTerm × NTerm × NTerm)), (∀ t ∈ ts, TripleWf t) → ∀ tbl : List Str,
    ∃ fin, tbl <+: fin ∧ readDoc tbl (ntDoc ts) = some (fin, ts.map (relabelTr (posOf fin))) ∧
      ∀ l ∈ docLabels ts, l ∈ fin := by
  intro ts
  induction ts with
  | nil => intro _ tbl; exact ⟨tbl, List.prefix_refl _, rfl, fun _ h => nomatch h⟩
  | cons t ts ih =>
    intro hwf tbl
    obtain ⟨s, p, o⟩ := t
    obtain ⟨hs, ⟨pp, rfl, hpp⟩, ho⟩ := hwf (s, p, o) List.mem_cons_self
    obtain ⟨p1, l1, v1⟩ := readTerm_spec tbl s
    obtain ⟨p3, l3, v3⟩ := readTerm_spec (readTerm (readTerm tbl s).1 (.iri pp)).1 o
    obtain ⟨fin, hpre, hdoc, hlab⟩ := ih (fun t ht => hwf t (List.mem_cons_of_mem _ ht))
      (readTerm (readTerm (readTerm tbl s).1 (.iri pp)).1 o).1
    refine ⟨fin, p1.trans (p3.trans hpre), ?_, fun l hl => ?_⟩
    · rw [show ntDoc ((s, .iri pp, o) :: ts) = ntRow s (.iri pp) o :: ntDoc ts from rfl, readDoc,
        parseLine_ntRow s pp o hs hpp ho]
      simp only [hdoc, v1 (p3.trans hpre), v3 hpre]
      rfl
    · rw [docLabels, List.flatMap_cons, List.mem_append, List.mem_append] at hl
      rcases hl with (hl | hl) | hl
      · exact (p3.trans hpre).subset (l1 l hl)
      · exact hpre.subset (l3 l hl)
      · exact hlab l hl

end RV.C03

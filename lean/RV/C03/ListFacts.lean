/-
  C03 — facts about lists that several layers share: the index of a first occurrence (`List.idxOf`: the rank of a
  hidden node, the reader's node for a label) and the element that follows a prefix.
-/
namespace RV.C03

theorem idxOf_append_of_mem {α} [BEq α] [LawfulBEq α] {l : List α} {x : α} (m : List α) (h : x ∈ l) :
    (l ++ m).idxOf x = l.idxOf x := by
  induction l with
  | nil => cases h
  | cons a t ih =>
    rw [List.cons_append, List.idxOf_cons, List.idxOf_cons]
    cases e : a == x with
    | true => rfl
    | false => rw [ih ((List.mem_cons.mp h).resolve_left fun e' => (beq_eq_false_iff_ne.mp e) e'.symm)]

theorem idxOf_concat_self {α} [BEq α] [LawfulBEq α] {l : List α} {x : α} (h : x ∉ l) :
    (l ++ [x]).idxOf x = l.length := by
  induction l with
  | nil => exact List.idxOf_cons_self
  | cons a t ih =>
    rw [List.mem_cons, not_or] at h
    rw [List.cons_append, List.idxOf_cons, beq_eq_false_iff_ne.mpr (Ne.symm h.1), ih h.2]
    rfl

theorem idxOf_inj {α} [BEq α] [LawfulBEq α] {l : List α} {a b : α} (ha : a ∈ l) (hb : b ∈ l)
    (h : l.idxOf a = l.idxOf b) : a = b := by
  have e := List.getElem_idxOf (List.idxOf_lt_length_of_mem ha)
  simp only [h] at e
  exact e.symm.trans (List.getElem_idxOf (List.idxOf_lt_length_of_mem hb))

theorem mem_concat {α} {x a : α} {l : List α} : x ∈ l ++ [a] ↔ x ∈ l ∨ x = a := by
  rw [List.mem_append, List.mem_singleton]

theorem forall_mem_concat {α} {l : List α} {a : α} {P : α → Prop} : (∀ x ∈ l ++ [a], P x) ↔ (∀ x ∈ l, P x) ∧ P a := by
  rw [List.forall_mem_append, List.forall_mem_singleton]

theorem getElem?_append_cons {α} (pre : List α) (a : α) (t : List α) : (pre ++ a :: t)[pre.length]? = some a := by
  rw [List.getElem?_append_right (Nat.le_refl _), Nat.sub_self, List.getElem?_cons_zero]

theorem getElem?_unique {α} {l : List α} (h : l.Nodup) {i j : Nat} {a : α} (hi : l[i]? = some a)
    (hj : l[j]? = some a) : i = j :=
  (List.getElem?_inj (List.getElem?_eq_some_iff.mp hi).1 h).mp (hi.trans hj.symm)

end RV.C03

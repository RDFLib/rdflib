import RV.C03.LongLemmas
import RV.C03.NumLemmas
import RV.C03.ChoiceLemmas
import RV.C03.NTLemmas
import RV.C03.XmlTreeLemmas
import RV.C03.RefSplitLemmas
/-
  C03 — property theorems: "serialise then parse gives back the same RDF graph".

  A general property is a `Statement_…` definition and a theorem of that type (the statements of a region first, then
  the theorems; most are a lemma of the region's lemma file under the property's name); witnesses are stated directly.
  For the term codecs the writers are per-character maps regenerated from rdflib's BEHAVIOUR into Tables.lean (plus the
  long form's two context rules for quotes) and the readers are the W3C grammars.
-/
namespace RV.C03

/-- N-Triples: for EVERY string (any Unicode scalar values, including quotes, backslashes, newlines,
    carriage returns, control characters) the text `nt._quote_encode` writes is one
    STRING_LITERAL_QUOTE token whose value is the string. -/
def Statement_nt_lit_roundtrip : Prop :=
  ∀ s : Str, decodeNT (ntQuoteEncode s) = some s

/-- Turtle / N3 / TriG / longturtle: for EVERY string the text `Literal._quote_encode` writes (short form,
    or long `"""` form when the string contains a newline) is one Turtle `String` token whose value is the
    string — including strings ending in `"` or `\`, containing `"""`, `\r`, and mixes of these. -/
def Statement_turtle_str_roundtrip : Prop :=
  ∀ s : Str, decodeTurtle (quoteEncode s) = some s

/-- A whole N-Triples line: for every subject (IRI / plain blank-node label), predicate IRI and object (IRI, blank
    node, or literal with ANY lexical form and a well-formed datatype IRI or language tag) the line `_nt_row`
    writes is a `triple` of the W3C N-Triples grammar that reads back as the same three terms. -/
def Statement_nt_line_roundtrip : Prop :=
  ∀ (s : NTerm) (p : Str) (o : NTerm), NodeWf s → IriWf p → ObjWf o →
    parseLine (ntRow s (.iri p) o) = some (s, .iri p, o)

/-- ANY writer given by a per-character map: if the regenerated table passes the decidable `mapOK` (the
    characters the grammar forbids raw — `req`, containing `"`, `\`, CR, and LF unless the text has none — have
    entries, and every entry is a backslash escape, ECHAR or UCHAR, of its own character), the mapped text
    between quotes is one STRING_LITERAL_QUOTE that decodes to the text.  `nt_lit_roundtrip` and the short branch
    of `turtle_str_roundtrip` are the instances for the tables of the current implementation (`ntMap_ok`,
    `shortMap_ok`, re-decided on every run). -/
def Statement_map_writer_roundtrip : Prop :=
  ∀ (req : List Char) (m : List (Char × Str)), mapOK req m = true → dq ∈ req → bs ∈ req → cr ∈ req →
    ∀ s : Str, (lf ∈ req ∨ lf ∉ s) → decShortBody dq (s.flatMap (escOf m) ++ [dq]) = some s

/-- … and the long form: the per-character map (backslash must have an entry) plus the two built-in context
    rules for quotes, closed by `"""`, is one STRING_LITERAL_LONG_QUOTE that decodes to the text. -/
def Statement_long_writer_roundtrip : Prop :=
  ∀ (m : List (Char × Str)), mapOK [bs] m = true →
    ∀ s : Str, decLongBody dq (encLong m s ++ [dq, dq, dq]) = some s

/-- `nt_doc_roundtrip`: a whole N-Triples document.  For every list of triples (subjects: IRIs / plain blank-node
    labels, IRI predicates, any object incl. literals with ANY lexical form) the reader — every line through the W3C
    line grammar, blank-node labels through the per-document table that gives a label met for the first time a FRESH
    node and later occurrences the same node — returns exactly the triples written with every label `l` replaced by
    the reader's node `posOf fin l`; all labels of the document are in the final table `fin`, and the replacement is
    injective on it: the parsed graph equals the written one up to a renaming of blank nodes. -/
def Statement_nt_doc_roundtrip : Prop :=
  ∀ ts : List (NTerm × NTerm × NTerm), (∀ t ∈ ts, TripleWf t) →
    ∃ fin, readDoc [] (ntDoc ts) = some (fin, ts.map (relabelTr (posOf fin))) ∧
      (∀ l ∈ docLabels ts, l ∈ fin) ∧
      (∀ a ∈ fin, ∀ b ∈ fin, posOf fin a = posOf fin b → a = b)

/-- A bare token the writer may use re-lexes to the literal's datatype (the four token grammars are disjoint). -/
def Statement_shorthand_relex : Prop :=
  ∀ (k : NumKind) (t : Str), tokenOk k t = true → relex t = some k

/-- Whatever CPython's formatting proposes (`toks`, arbitrary) and however the reader normalises (`norm`,
    arbitrary): the text written for a (normalised) literal of a shorthand datatype reads back as the same
    lexical form and datatype.  FALSE for the code as it is in one shape (see `num_text_roundtrip_witness`):
    a decimal whose plain text carries an exponent. -/
def Statement_num_text_roundtrip : Prop :=
  ∀ (norm : NumKind → Str → Str) (k : NumKind) (lex : Str) (toks : List Str),
    norm k lex = lex → readNum norm k (writeNum norm k lex toks) = some (lex, k)

/-- the same for doubles only — DESIGN's `plain_double_relex` at full strength; holds for the repaired writer -/
def Statement_plain_double_relex : Prop :=
  ∀ (norm : NumKind → Str → Str) (lex : Str) (toks : List Str),
    norm .double lex = lex → readNum norm .double (writeNum norm .double lex toks) = some (lex, .double)

/-- integer: the shorthand is the lexical form itself exactly when it is an INTEGER token; otherwise quoted. -/
def Statement_plain_int_relex : Prop :=
  ∀ (norm : NumKind → Str → Str) (lex : Str), norm .integer lex = lex →
    (lexInteger lex = true →
      writeNum norm .integer lex ((plainToken .integer lex).toList) = .shorthand lex) ∧
    (lexInteger lex = false →
      writeNum norm .integer lex ((plainToken .integer lex).toList) = .quoted (quoteEncode lex))

/-- decimal: a DECIMAL token is written as is; a lexical form outside the grammar (e.g. `1`, to which
    `_literal_n3` appends `.0`) is written in the quoted form unless the appended form reads back identically. -/
def Statement_plain_decimal_relex : Prop :=
  ∀ (norm : NumKind → Str → Str) (lex : Str), norm .decimal lex = lex →
    (lexDecimal lex = true →
      writeNum norm .decimal lex ((plainToken .decimal lex).toList) = .shorthand lex) ∧
    (∀ t, plainToken .decimal lex = some t → hasExp t = false → norm .decimal t ≠ lex →
      writeNum norm .decimal lex [t] = .quoted (quoteEncode lex))

/-- boolean: `true` / `false` are written bare; any other lexical form whose lower-cased text does not
    read back identically is quoted. -/
def Statement_plain_bool_relex : Prop :=
  ∀ (norm : NumKind → Str → Str) (lex : Str), norm .boolean lex = lex →
    (lexBoolean lex = true →
      writeNum norm .boolean lex ((plainToken .boolean lex).toList) = .shorthand lex) ∧
    (∀ t, plainToken .boolean lex = some t → (lexBoolean t = false ∨ norm .boolean t ≠ lex) →
      writeNum norm .boolean lex [t] = .quoted (quoteEncode lex))

theorem nt_lit_roundtrip : Statement_nt_lit_roundtrip := by
  intro s
  unfold ntQuoteEncode decodeNT
  simp only [List.cons_append, if_true]
  exact map_body_roundtrip ntMap_ok (by decide) (by decide) (by decide) s (Or.inl (by decide))

theorem turtle_str_roundtrip : Statement_turtle_str_roundtrip := by
  intro s
  by_cases h : lf ∈ s
  · exact turtle_long_roundtrip s h
  · exact turtle_short_roundtrip s h

theorem map_writer_roundtrip : Statement_map_writer_roundtrip :=
  fun _ _ h hdq hbs hcr s hlf => map_body_roundtrip h hdq hbs hcr s hlf

theorem long_writer_roundtrip : Statement_long_writer_roundtrip := fun _ h s => long_decode h s

/-- non-vacuity: a table that also escapes TAB as `\t` and U+0001 as `\u0001` passes `mapOK`; one that writes a
    newline as `\\n` (escaping the escape) or forgets the quote does not -/
example : mapOK [dq, bs, lf, cr]
    (('\t', ['\\', 't']) :: (Char.ofNat 1, ['\\', 'u', '0', '0', '0', '1']) :: Tables.ntMap) = true := by decide +kernel
example : mapOK [dq, bs, lf, cr] [('\\', ['\\', '\\']), ('\n', ['\\', '\\', 'n']), ('"', ['\\', '"']), ('\r', ['\\', 'r'])]
    = false := by decide +kernel
example : mapOK [dq, bs, lf, cr] [('\\', ['\\', '\\']), ('\n', ['\\', 'n']), ('\r', ['\\', 'r'])] = false := by decide +kernel

theorem nt_line_roundtrip : Statement_nt_line_roundtrip := fun s p o hs hp ho => parseLine_ntRow s p o hs hp ho

theorem nt_doc_roundtrip : Statement_nt_doc_roundtrip := by
  intro ts hwf
  obtain ⟨fin, _, hdoc, hlab⟩ := readDoc_ntDoc ts hwf []
  exact ⟨fin, hdoc, hlab, fun a ha b hb h => posOf_inj fin a b ha hb h⟩

/-- non-vacuity: `_:b <p> _:a . _:a <p> _:b . _:c <p> "x" .` — labels get nodes 0, 1, 2 in order of first occurrence -/
example : readDoc [] (ntDoc [(.bnode ['b'], .iri ['p'], .bnode ['a']), (.bnode ['a'], .iri ['p'], .bnode ['b']),
      (.bnode ['c'], .iri ['p'], .lit ['x'] none none)]) =
    some ([['b'], ['a'], ['c']], [(.bnode 0, .iri ['p'], .bnode 1), (.bnode 1, .iri ['p'], .bnode 0),
      (.bnode 2, .iri ['p'], .lit ['x'] none none)]) := by decide +kernel

theorem shorthand_relex : Statement_shorthand_relex := fun _ _ h => tokenOk_relex h

theorem guarded_roundtrip (norm : NumKind → Str → Str) (k : NumKind) (lex : Str) (toks : List Str)
    (hn : norm k lex = lex) : readNum norm k (guarded norm k lex toks) = some (lex, k) := by
  unfold guarded
  split
  · next tok h =>
    obtain ⟨hok, hmem⟩ := plainChoice_sound h
    simp only [readNum, tokenOk_relex hok, Option.map_some]
    obtain ⟨t, _, ht⟩ := List.mem_map.mp hmem
    simp only [Prod.mk.injEq] at ht
    obtain ⟨rfl, hnorm⟩ := ht
    rw [hnorm]
  · simp only [readNum, turtle_str_roundtrip lex, Option.map_some, hn]

/-- everything except the pinned shape (decidable hypothesis) -/
theorem num_text_roundtrip_partial (norm : NumKind → Str → Str) (k : NumKind) (lex : Str) (toks : List Str)
    (hshape : pinnedExp k toks = none) (hn : norm k lex = lex) :
    readNum norm k (writeNum norm k lex toks) = some (lex, k) := by
  unfold writeNum
  rw [hshape]
  exact guarded_roundtrip norm k lex toks hn

/-- finding C03-K5: `Literal(4e-08, datatype=XSD.decimal)` (lexical form `4e-08`) is written as the bare token
    `4e-08`, which a Turtle reader types as xsd:double -/
theorem num_text_roundtrip_witness : ¬ Statement_num_text_roundtrip :=
  fun h => absurd (h (fun _ t => t) .decimal ['4', 'e', '-', '0', '8'] [['4', 'e', '-', '0', '8']] rfl)
    (by decide +kernel)

theorem plain_double_relex : Statement_plain_double_relex :=
  fun norm lex toks h => num_text_roundtrip_partial norm .double lex toks rfl h

/-- `writeNum` on a single candidate where `pinnedExp` does not apply: the guard of `_literal_label`, spelt out -/
theorem writeNum_one (norm : NumKind → Str → Str) (k : NumKind) (lex t : Str) (hp : pinnedExp k [t] = none) :
    writeNum norm k lex [t] =
      if tokenOk k t = true ∧ norm k t = lex then .shorthand t else .quoted (quoteEncode lex) := by
  simp only [writeNum, hp, guarded, List.map, plainChoice, Bool.and_eq_true, beq_iff_eq]
  by_cases hc : tokenOk k t = true ∧ norm k t = lex
  · rw [if_pos hc, if_pos hc]
  · rw [if_neg hc, if_neg hc]

theorem plain_int_relex : Statement_plain_int_relex := by
  intro norm lex hn
  have e : writeNum norm .integer lex [lex] = _ := writeNum_one norm .integer lex lex rfl
  exact ⟨fun h => e.trans (if_pos ⟨h, hn⟩),
    fun h => e.trans (if_neg fun c => by rw [show lexInteger lex = true from c.1] at h; cases h)⟩

theorem plain_decimal_relex : Statement_plain_decimal_relex := by
  intro norm lex hn
  constructor
  · intro h
    have ht : (plainToken .decimal lex).toList = [lex] := by
      simp only [plainToken, lexDecimal_has_dot h, if_true, Option.toList]
    have hp : pinnedExp .decimal [lex] = none := by
      simp only [pinnedExp, lexDecimal_no_exp h, Bool.false_eq_true, if_false]
    rw [ht, writeNum_one norm _ lex lex hp]
    exact if_pos ⟨h, hn⟩
  · intro t _ hexp hne
    have hp : pinnedExp .decimal [t] = none := by simp only [pinnedExp, hexp, Bool.false_eq_true, if_false]
    rw [writeNum_one norm _ lex t hp]
    exact if_neg fun c => hne c.2

theorem plain_bool_relex : Statement_plain_bool_relex := by
  intro norm lex hn
  constructor
  · intro h
    show writeNum norm .boolean lex [lex.map toLowerAscii] = _
    rw [lexBoolean_lower h, writeNum_one norm _ lex lex rfl]
    exact if_pos ⟨h, hn⟩
  · intro t _ hbad
    rw [writeNum_one norm _ lex t rfl]
    exact if_neg fun c => hbad.elim (fun hb => by rw [show lexBoolean t = true from c.1] at hb; cases hb)
      (fun hb => hb c.2)

/-- Regression witness for finding C03-F1 (the pre-fix writer used `"%e"` output unchecked): with the token
    CPython prints for 1.23456789 and the lexical form a reader builds from it, the literal does not read back. -/
theorem unguarded_double_loses :
    readNum (fun _ t => if t = "1.234568e+00".toList then "1.234568".toList else t) .double
      (writeNumUnguarded "1.234568e+00".toList) ≠ some ("1.23456789".toList, .double) := by
  repeat rw [String.toList_ofList]
  decide +kernel

/-- … and the same inputs through the guarded writer do. -/
example :
    readNum (fun _ t => if t = "1.234568e+00".toList then "1.234568".toList else t) .double
      (writeNum (fun _ t => if t = "1.234568e+00".toList then "1.234568".toList else t) .double
        "1.23456789".toList ["1.234568e+00".toList, "1.23456789e0".toList])
      = some ("1.23456789".toList, .double) := by
  repeat rw [String.toList_ofList]
  decide +kernel

example : quoteEncode "x\n\\\"".toList = "\"\"\"x\n\\\\\\\"\"\"\"".toList := by
  repeat rw [String.toList_ofList]
  decide +kernel
example : quoteEncode "a\"\"\"\"\nb\"".toList = "\"\"\"a\\\"\\\"\\\"\"\nb\\\"\"\"\"".toList := by
  repeat rw [String.toList_ofList]
  decide +kernel
example : ntQuoteEncode "a\n\"\\\r".toList = "\"a\\n\\\"\\\\\\r\"".toList := by
  repeat rw [String.toList_ofList]
  decide +kernel
example : relex "1e+00".toList = some .double ∧ relex "1.".toList = none ∧ relex "+1".toList = some .integer
    ∧ relex ".5".toList = some .decimal := by
  repeat rw [String.toList_ofList]
  decide +kernel

/-- What acceptance by `isValidList` establishes (the list part of `Pre`): the head starts a chain of pairwise
    distinct blank nodes, none written yet, each with exactly one rdf:first, exactly one rdf:rest and no other
    property, every cell after the head referenced exactly once, ending in rdf:nil. -/
def Statement_isValidList_proper : Prop :=
  ∀ (g : Graph) (ser : List Term) (h : Term), isValidList g ser h = some true →
    ∃ cells, cells ≠ [] ∧ ProperChain g ser true h cells

/-- `isValidList` terminates on every finite graph, cyclic or malformed rdf:rest chains included:
    fuel `|g| + 2` is never exhausted (the visited set grows by a distinct subject of the graph per step). -/
def Statement_isValidList_terminates : Prop :=
  ∀ (g : Graph) (ser : List Term) (h : Term), isValidList g ser h ≠ none

theorem isValidList_proper : Statement_isValidList_proper := fun _ _ _ hv => isValidList_chain hv

theorem isValidList_terminates : Statement_isValidList_terminates := by
  intro g ser h
  exact isValidListAux_fuel g ser _ [] h List.nodup_nil (List.nil_subset _) (Nat.le_refl _)

/-- the shared-tail graph of finding C03-F2:  `s p (a b c)`, and `t q` pointing at the second cell -/
def sharedTail : Graph :=
  [(.iri 10, .iri 11, .bn (.orig 1)),
   (.bn (.orig 1), rdfFirst, .lit 1), (.bn (.orig 1), rdfRest, .bn (.orig 2)),
   (.bn (.orig 2), rdfFirst, .lit 2), (.bn (.orig 2), rdfRest, .bn (.orig 3)),
   (.bn (.orig 3), rdfFirst, .lit 3), (.bn (.orig 3), rdfRest, rdfNil),
   (.iri 12, .iri 13, .bn (.orig 2))]

/-- a cell with two rdf:first and no rdf:rest (finding C03-F2c) -/
def twoFirsts : Graph :=
  [(.iri 10, .iri 11, .bn (.orig 1)), (.bn (.orig 1), rdfFirst, .lit 1), (.bn (.orig 1), rdfFirst, .lit 2)]

/-- rdf:rest of the second cell points at itself (finding C03-F2b) -/
def cyclicRest : Graph :=
  [(.iri 10, .iri 11, .bn (.orig 1)),
   (.bn (.orig 1), rdfFirst, .lit 1), (.bn (.orig 1), rdfRest, .bn (.orig 2)),
   (.bn (.orig 2), rdfFirst, .lit 2), (.bn (.orig 2), rdfRest, .bn (.orig 2))]

/-- Regression witnesses for DESIGN §7.2 #19: the pre-fix test accepted the shared tail and the two-firsts
    cell; the repaired one rejects both. -/
theorem old_isValidList_accepts_malformed :
    isValidListOld sharedTail 10 (.bn (.orig 1)) = some true ∧ isValidList sharedTail [] (.bn (.orig 1)) = some false ∧
    isValidListOld twoFirsts 10 (.bn (.orig 1)) = some true ∧ isValidList twoFirsts [] (.bn (.orig 1)) = some false := by
  decide +kernel

/-- … and never finished on a cyclic rdf:rest that does not pass through the entry cell: whatever the fuel,
    the walk is still going; the repaired one answers `false`. -/
theorem old_isValidList_diverges_on_cycle :
    (∀ fuel, isValidListOldAux cyclicRest fuel (.bn (.orig 2)) = none) ∧
    isValidList cyclicRest [] (.bn (.orig 1)) = some false := by
  constructor
  · intro fuel
    induction fuel with
    | zero => rfl
    -- one step of the walk from cell 2 computes to the walk from cell 2 again
    | succ f ih => exact (rfl : _ = isValidListOldAux cyclicRest f (.bn (.orig 2))).trans ih
  · decide +kernel

/-- non-vacuity: a proper three-element list is accepted -/
example : isValidList (sharedTail.take 7) [] (.bn (.orig 1)) = some true := by decide +kernel

/-- `layout_roundtrip` for the family of serializers parameterised by the set `I` of blank nodes written inline
    as `[ … ]` (list cells included: they may be nested like any other node): whenever `Pre` holds — each node of
    `I` referenced exactly once, no cycle of inlined nodes, nesting bound above every rank — the document denotes
    a graph isomorphic to the one written.  Any inlining policy meeting `Pre` is thereby correct. -/
def Statement_layout_roundtrip : Prop :=
  ∀ (g : Graph) (I : List Nat) (F : Nat) (rank : Nat → Nat), Pre g I F rank → Iso g (denote (layout g I F))

/-- A collection `( o₁ … oₙ )` denotes exactly what `[ rdf:first o₁ ; rdf:rest [ … rdf:nil ] ]` denotes (same
    fresh nodes, same triples): a writer may use it wherever the nested spelling has that shape, i.e. for the
    chains `isValidList` accepts (`isValidList_proper`). -/
def Statement_coll_is_sugar : Prop :=
  ∀ (items : List Obj) (π : List Nat), denObj π (.coll items) = denObj π (desugar items)

theorem layout_roundtrip : Statement_layout_roundtrip := by
  intro g I F rank hp
  refine ⟨sigma g I, sigma_inj g I, fun t => ?_⟩
  have hden : denote (layout g I F) = ((topSubjects g I).flatMap (emitS g I F)).map (renameTr (sigma g I)) :=
    denStmts_layout hp (topSubjects g I) [] rfl
  rw [hden, List.mem_map]
  constructor
  · rintro ⟨t', ht', rfl⟩; exact ⟨t', (emit_all_iff hp t').mp ht', rfl⟩
  · rintro ⟨t', ht', rfl⟩; exact ⟨t', (emit_all_iff hp t').mpr ht', rfl⟩

theorem coll_is_sugar : Statement_coll_is_sugar := by
  intro items
  induction items with
  | nil => intro π; rw [denObj_coll, denItems_nil, desugar, denObj_t]
  | cons o rest ih =>
    intro π
    have ih' := ih (1 :: π)
    rw [denObj_coll] at ih'
    -- `denItems` is written with a trailing `++ []`: term for term the `denProps` of the two pairs
    rw [denObj_coll, denItems_cons, desugar, denObj_anon, denProps_cons, denProps_cons, denProps_nil, ih']

/-- The decidable test the correspondence harness runs on the blank nodes rdflib's Turtle writers actually
    left unlabelled (`pre` probe: blank nodes, each referenced at most once, none inside a cycle of unlabelled
    nodes) establishes `Pre` for those of them that are referenced — so the observed inlining choice of the
    implementation is an instance of `layout_roundtrip`. -/
def Statement_preCheck_pre : Prop :=
  ∀ (g : Graph) (I : List Nat), g.Nodup → (∀ t ∈ g, origOnly t.1 ∧ origOnly t.2.2) → (∀ t ∈ g, ∃ k, t.2.1 = .iri k) →
    preCheck g (I.map bnO) = true → (∀ n ∈ I, parentsOf g (bnO n) ≠ []) →
    ∃ F rank, Pre g I F rank ∧ Iso g (denote (layout g I F))

theorem preCheck_pre : Statement_preCheck_pre := by
  intro g I hnd ho hpi hchk href
  have hp := pre_of_preCheck ⟨hnd, ho, hpi⟩ hchk href
  exact ⟨_, _, hp, layout_roundtrip _ _ _ _ hp⟩

/-- non-vacuity: `<10> <11> [ <12> "5" ; <13> [ <12> "6" ] ]` — two nested inlined nodes satisfy `Pre` -/
def nested : Graph :=
  [(.iri 10, .iri 11, bnO 1), (bnO 1, .iri 12, .lit 5), (bnO 1, .iri 13, bnO 2), (bnO 2, .iri 12, .lit 6)]

example : Pre nested [1, 2] 3 id := by
  refine ⟨by decide, by decide, fun t ht => ?_, fun n hn => ?_, ?_, by decide⟩
  · simp only [nested, List.mem_cons, List.not_mem_nil, or_false] at ht
    rcases ht with rfl | rfl | rfl | rfl <;> exact ⟨_, rfl⟩
  · simp only [List.mem_cons, List.not_mem_nil, or_false] at hn
    rcases hn with rfl | rfl
    · exact ⟨.iri 10, .iri 11, by decide, fun _ _ h' => referrer_unique (by decide) (by decide) h'⟩
    · exact ⟨bnO 1, .iri 13, by decide, fun _ _ h' => referrer_unique (by decide) (by decide) h'⟩
  · have : ∀ n ∈ [1, 2], ∀ m ∈ [1, 2], bnO m ∈ parentsOf nested (bnO n) → id m < id n := by decide
    exact fun n hn m hm p h => this n hn m hm (mem_parentsOf.mpr ⟨p, h⟩)

example : denote (layout nested [1, 2] 3) =
    [(.iri 10, .iri 11, .bn (.fresh [0, 0])), (.bn (.fresh [0, 0]), .iri 12, .lit 5),
     (.bn (.fresh [0, 0]), .iri 13, .bn (.fresh [1, 0, 0])), (.bn (.fresh [1, 0, 0]), .iri 12, .lit 6)] := by
  decide

/-- `rdflib_choice_pre`: for EVERY graph (a duplicate-free list of triples over IRIs, literals and its own blank
    nodes, IRI predicates) and EVERY order in which the loop of `serialize` visits subjects, the blank nodes that the
    model of rdflib's recursive Turtle / longturtle / N3 writer (`choiceOn`: `statement`, `s_squared`, `path`,
    `p_squared` with its `_serialized` / `_references` tests, `isValidList` + `doList`, the `_serialized` state
    threaded through the recursion) leaves unlabelled in object position satisfy `Pre`: each is referenced exactly
    once and no cycle consists of such nodes only.  Holds for every order of predicates and objects inside a
    statement (the order of the list `g`). -/
def Statement_rdflib_choice_pre : Prop :=
  ∀ (g : Graph) (order : List Term), g.Nodup → (∀ t ∈ g, origOnly t.1 ∧ origOnly t.2.2) →
    (∀ t ∈ g, ∃ k, t.2.1 = .iri k) →
    ∃ rank, Pre g (hiddenIds (choiceOn g order)) ((choiceOn g order).1.2.length + 1) rank

/-- … hence `layout_roundtrip` applies to what rdflib chooses: the document with exactly those nodes inlined
    (`rdflibLayout`, subjects visited in `orderSubjects` order) denotes a graph isomorphic to the one written. -/
def Statement_rdflib_layout_roundtrip : Prop :=
  ∀ (g : Graph) (ord : List Nat), g.Nodup → (∀ t ∈ g, origOnly t.1 ∧ origOnly t.2.2) →
    (∀ t ∈ g, ∃ k, t.2.1 = .iri k) → Iso g (denote (rdflibLayout g ord))

/-- `orderSubjects` lists every subject of the graph exactly once (whatever the term order `ord`): the loop of
    `serialize` visits each subject, none twice. -/
def Statement_orderSubjects_complete : Prop :=
  ∀ (g : Graph) (ord : List Nat), (orderSubjects g ord).Nodup ∧
    ∀ s, s ∈ orderSubjects g ord ↔ ∃ p o, (s, p, o) ∈ g

theorem rdflib_choice_pre : Statement_rdflib_choice_pre := by
  intro g order hnd ho hpi
  exact ⟨_, pre_of_CInv ⟨hnd, ho, hpi⟩ (choiceOn_ok g order).1⟩

theorem rdflib_layout_roundtrip : Statement_rdflib_layout_roundtrip := by
  intro g ord hnd ho hpi
  exact layout_roundtrip _ _ _ _ (pre_of_CInv ⟨hnd, ho, hpi⟩ (choiceOn_ok g (orderSubjects g ord)).1)

theorem orderSubjects_complete : Statement_orderSubjects_complete :=
  fun g ord => ⟨nodup_orderSubjects g ord, mem_orderSubjects g ord⟩

/-- `choice_tops`: the top-level statements the writer model writes (`statement` calls that were not skipped by
    `isDone`) have pairwise distinct subjects, and these are exactly the subjects of the graph that were not hidden —
    the very statement subjects of `layout g (hiddenIds …)`; a statement starts with `[]` (`s_squared`) exactly when its
    subject is an unreferenced blank node.  So nothing is written twice and no subject is left out. -/
def Statement_choice_tops : Prop :=
  ∀ (g : Graph) (ord : List Nat), g.Nodup → (∀ t ∈ g, origOnly t.1 ∧ origOnly t.2.2) →
    (topsOf (choice g ord)).Nodup ∧
    (∀ s, s ∈ topsOf (choice g ord) ↔ s ∈ topSubjects g (hiddenIds (choice g ord))) ∧
    (∀ e ∈ (choice g ord).2, e.2 = topAnon g e.1)

theorem choice_tops : Statement_choice_tops := by
  intro g ord _ ho
  obtain ⟨hC, hO⟩ := choiceOn_ok g (orderSubjects g ord)
  refine ⟨hO.nodup, fun s => ?_, hO.flags⟩
  show s ∈ topsOf (choiceOn g (orderSubjects g ord)) ↔ _
  rw [mem_tops_choiceOn, mem_orderSubjects, mem_top]
  refine and_congr_right fun ⟨p, o, hm⟩ => ?_
  rw [← inl_hidden ho hC (ho _ hm).1, Bool.not_eq_true]
  rfl

/-- non-vacuity.  `nested` (above): both nested nodes are hidden.  `twoCycle`: `_:1 p _:2 . _:2 p _:1` with no
    other entry point — the writer labels the one it starts with and hides the other (no cycle of hidden nodes).
    `sharedTail`: the chain is malformed for `( … )` (second cell referenced twice): cell 1 is hidden as a bracket,
    the shared cell 2 keeps its label — and so does cell 3, although referenced once: its referrer `_:2` is visited
    after it (subjects with fewer references come first), so it was written at top level already.  The proper list
    `( 1 2 3 )`: all three cells hidden.  An unreferenced blank node is written `[] …`. -/
def twoCycle : Graph := [(bnO 1, .iri 11, bnO 2), (bnO 2, .iri 11, bnO 1)]

example : hiddenIds (choice nested []) = [1, 2] := by decide +kernel
example : hiddenIds (choice twoCycle []) = [2] ∧ (choice twoCycle []).2 = [(bnO 1, false)] := by decide +kernel
example : hiddenIds (choice sharedTail []) = [1] := by decide +kernel
example : hiddenIds (choice (sharedTail.take 7) []) = [1, 2, 3] := by decide +kernel
example : (choice [(bnO 1, .iri 11, .lit 1), (bnO 2, .iri 11, bnO 2)] []).2 = [(bnO 1, true), (bnO 2, false)] := by decide +kernel
example : wDeep nested [] = false ∧ wDeep sharedTail [] = false := by decide +kernel

/-- `rdfxml_tree_roundtrip`: for every list of triples with IRI / blank-node subjects, every base (or none) and every
    resolver `res` that undoes `Serializer.relativize` on that base, the element tree the model of `XMLSerializer`
    builds (one rdf:Description per distinct subject with rdf:about / rdf:nodeID; per (predicate, object) one property
    element with rdf:resource / rdf:nodeID, or xml:lang / rdf:datatype and the lexical form as character data), read by
    the RDF/XML node-element / property-element rules, gives back exactly the triples written — same IRIs, same
    literals (lexical form, datatype, language), same blank-node labels; nothing lost, nothing added. -/
def Statement_rdfxml_tree_roundtrip : Prop :=
  ∀ (base : Option Str) (res : Str → Str) (g : List XTriple),
    (∀ u, res (cutRef base u) = u) → (∀ t ∈ g, isNode t.1 = true) →
    ∀ t, t ∈ readTree res (xmlTree base g) ↔ t ∈ g

theorem rdfxml_tree_roundtrip : Statement_rdfxml_tree_roundtrip := by
  intro base res g hres hwf t
  simp only [readTree_xmlTree base res g hres, List.mem_flatMap, List.mem_filter, mem_firstOcc, List.mem_map, beq_iff_eq]
  exact ⟨fun ⟨_, _, ht, _⟩ => ht, fun ht => ⟨t.1, ⟨⟨t, ht, rfl⟩, hwf t ht⟩, ht, rfl⟩⟩

/-- RFC 3986 reference resolution against the declared xml:base: a reference with a scheme stands for itself, any
    other is merged with the base (§5.2.2) -/
def resRFC (b : BaseIri) (v : Str) : Str :=
  if (splitRef v).scheme.isSome then v else resolveRel b (relOf v)

/-- … and that resolver satisfies the hypothesis of `rdfxml_tree_roundtrip` on absolute IRIs: for every reading `b` of
    the base string, `resRFC b` undoes the cut on every IRI that has a scheme (`restShape_of_strippable`,
    `resolveRel_of_strippable`).  Without a base nothing is cut and the identity does. -/
def Statement_rdfxml_resolver_rfc : Prop :=
  ∀ (base : Str) (b : BaseIri), WfBase b → renderBase b = base →
    ∀ u, (splitRef u).scheme.isSome = true → resRFC b (cutRef (some base) u) = u

theorem rdfxml_resolver_rfc : Statement_rdfxml_resolver_rfc := by
  intro base b hw hb u hu
  simp only [cutRef]
  split
  · next hs =>
    have hnone : (splitRef (u.drop base.length)).scheme = none := by
      by_cases he : u.drop base.length = []
      · rw [he]; decide
      · exact (restShape_of_strippable hs he).1
    simp only [resRFC, hnone, Option.isSome_none, Bool.false_eq_true, if_false]
    exact resolveRel_of_strippable hs b hw hb
  · simp [resRFC, hu]

/-- `rdfxml_declared_base`: whatever `base=`, the graph's own base and the `xml_base` option are — whenever the writer
    cuts references against a (non-empty) base `b`, the document declares `xml:base = b`: a reader resolves the cut
    references against the very base they were cut against (findings C03-F41 / F42 were violations of exactly this). -/
def Statement_rdfxml_declared_base : Prop :=
  ∀ (baseArg storeBase xmlBaseOpt : Option Str) (b : Str),
    (xmlBases baseArg storeBase xmlBaseOpt).2 = some b → b ≠ [] → (xmlBases baseArg storeBase xmlBaseOpt).1 = some b

theorem rdfxml_declared_base : Statement_rdfxml_declared_base := by
  intro baseArg storeBase xmlBaseOpt b h hne
  -- in both cases `bb` stands for `self.base`
  cases xmlBaseOpt with
  | none =>
    have key : ∀ bb : Option Str, bb = some b →
        (match bb with | some c => if c.isEmpty then none else some c | none => none) = some b := by
      rintro _ rfl
      cases b with
      | nil => exact absurd rfl hne
      | cons _ _ => rfl
    exact key _ h
  | some x =>
    have key : ∀ bb : Option Str, (if some x = bb then bb else none) = some b → some x = some b := fun bb hh => by
      by_cases e : some x = bb
      · rw [if_pos e] at hh; exact e.trans hh
      · rw [if_neg e] at hh; cases hh
    exact key _ h

/-- regression witness for C03-F42: the pre-fix head declared the option's xml:base and cut against the other base -/
theorem old_xml_base_mismatch :
    xmlBasesOld (some "http://ex/a/".toList) none (some "http://ex/q".toList) =
      (some "http://ex/q".toList, some "http://ex/a/".toList) ∧
    xmlBases (some "http://ex/a/".toList) none (some "http://ex/q".toList) = (some "http://ex/q".toList, none) := by
  repeat rw [String.toList_ofList]
  decide +kernel

/-- non-vacuity: two subjects, a language literal, a typed literal, a blank node object, a reference cut against the base -/
example : xmlTree (some "http://ex/d/".toList)
    [(.iri "http://ex/d/s".toList, "http://ex/p".toList, .lit "v".toList none (some "en".toList)),
     (.bnode "b".toList, "http://ex/p".toList, .iri "http://ex/d/s".toList),
     (.iri "http://ex/d/s".toList, "http://ex/q".toList, .bnode "b".toList)] =
    [⟨[(.about, "s".toList)], [⟨"http://ex/p".toList, [(.lang, "en".toList)], "v".toList⟩,
                               ⟨"http://ex/q".toList, [(.nodeID, "b".toList)], []⟩]⟩,
     ⟨[(.nodeID, "b".toList)], [⟨"http://ex/p".toList, [(.resource, "s".toList)], []⟩]⟩] := by
  repeat rw [String.toList_ofList]
  decide +kernel

/-- a term as it can occur as an object in an rdflib graph: a literal has a datatype or a language, not both;
    a datatype is not one of the two marker words; a language tag is not empty -/
def HextOk : HTerm → Prop
  | .lit _ (some dt) lang => lang = none ∧ dt ≠ globalId ∧ dt ≠ localId
  | .lit _ none (some l) => l ≠ []
  | _ => True

/-- the row written for an object term reads back as the same term, up to the RDF 1.1 identification of
    simple literals with xsd:string (the only change the property allows for HexTuples) -/
def Statement_hext_row_roundtrip : Prop :=
  ∀ t : HTerm, HextOk t → norm11 (hextParseObj (hextObj t)) = norm11 t

theorem markers_ne : localId ≠ globalId ∧ (xsdString ≠ globalId ∧ xsdString ≠ localId) ∧
    rdfLangString ≠ globalId ∧ rdfLangString ≠ localId := by
  unfold localId globalId xsdString rdfLangString
  repeat rw [String.toList_ofList]
  decide

theorem hextParseObj_lit (v d l : S) (h : d ≠ globalId ∧ d ≠ localId) :
    hextParseObj (v, d, l) = if l = [] then .lit v (some d) none else .lit v none (some l) := by
  simp only [hextParseObj, h.1, h.2, if_false]

theorem hext_row_roundtrip : Statement_hext_row_roundtrip := by
  intro t ht
  match t, ht with
  | .iri i, _ => simp only [hextObj, hextParseObj, if_true]
  | .bnode b, _ => simp only [hextObj, hextParseObj, markers_ne.1, if_false, if_true, stripBn]
  | .lit lex (some dt) lang, ⟨h1, h2⟩ =>
    subst h1; simp only [hextObj, Option.getD, hextParseObj_lit _ _ _ h2, if_true]
  | .lit lex none (some l), h => simp only [hextObj, hextParseObj_lit _ _ _ markers_ne.2.2, if_neg h]
  | .lit lex none none, _ => simp only [hextObj, hextParseObj_lit _ _ _ markers_ne.2.1, if_true]; rfl

/-- Where the decision of `_strippable_base` holds (base ending in "/", no dot segment in the base path nor in the
    rest) the rest, resolved against the base by RFC 3986 §5.2.2, is the IRI again: `base ++ rest`.
    (That the rest parses as a scheme-less, authority-less relative-path reference is `strippable_rest_shape`.) -/
def Statement_strip_resolves : Prop :=
  ∀ (b : BaseIri) (r : RelRef), strippableSeg b r = true → resolveRel b r = renderBase b ++ renderRel r

theorem strip_resolves : Statement_strip_resolves := resolveRel_of_strippableSeg

/-- Both dot-segment conditions are needed (the one on the base path was missing before fix "…below a base with dot
    segments"): `x` against `http://ex/a/./` resolves to `http://ex/a/x`, and `../x` against `http://ex/a/` to
    `http://ex/x` — neither is base ++ rest. -/
theorem strip_needs_nodot :
    resolveRel ⟨"http://ex".toList, ["a".toList, ".".toList, []]⟩ ⟨["x".toList], []⟩
      ≠ renderBase ⟨"http://ex".toList, ["a".toList, ".".toList, []]⟩ ++ renderRel ⟨["x".toList], []⟩ ∧
    resolveRel ⟨"http://ex".toList, ["a".toList, []]⟩ ⟨["..".toList, "x".toList], []⟩
      ≠ renderBase ⟨"http://ex".toList, ["a".toList, []]⟩ ++ renderRel ⟨["..".toList, "x".toList], []⟩ := by
  repeat rw [String.toList_ofList]
  decide +kernel

/-- Whenever the writer's predicate accepts a non-empty rest, every reader splits that rest (RFC 3986 §3, with the
    most liberal scheme detection: the text before the first of `: / ? #` if that delimiter is `:`) into NO scheme,
    NO authority and a RELATIVE path (no leading "/") without dot segments; and the rest is that path followed by
    its `?…#…` tail. -/
def Statement_strippable_rest_shape : Prop :=
  ∀ (base uri : Str), strippable base uri = true → uri.drop base.length ≠ [] →
    (splitRef (uri.drop base.length)).scheme = none ∧ (splitRef (uri.drop base.length)).authority = none ∧
    (splitRef (uri.drop base.length)).path = restPath (uri.drop base.length) ∧
    startsWith ['/'] (restPath (uri.drop base.length)) = false ∧
    (splitOn '/' (restPath (uri.drop base.length))).any isDotSeg = false ∧
    renderRel (relOf (uri.drop base.length)) = uri.drop base.length

/-- … hence (with `strip_resolves`) the reader's resolution of the rest against the base is the IRI itself, for
    every reading of the base string as scheme://authority + "/"-separated segments. -/
def Statement_strippable_resolves : Prop :=
  ∀ (base uri : Str), strippable base uri = true → ∀ b : BaseIri, WfBase b → renderBase b = base →
    resolveRel b (relOf (uri.drop base.length)) = uri

theorem strippable_rest_shape : Statement_strippable_rest_shape := fun _ _ h hne => restShape_of_strippable h hne

theorem strippable_resolves : Statement_strippable_resolves := fun _ _ h b hw hb => resolveRel_of_strippable h b hw hb

/-- What the colon and leading-slash tests on the rest are for, on test vectors: a colon in the first segment makes a
    scheme (`a:b`, and for rdflib's N3 reader even `:y`), a leading "//" an authority, a leading "/" an absolute path — and
    the predicate rejects all of them; so does a base without the
    trailing "/".  The colon test is coarser than RFC 3986 needs (`q?x=a:b` has no scheme) — deliberately: rdflib's N3
    `join` looks for a colon anywhere before a slash.  (The `"//" in path` and dot-segment tests have no vector here.) -/
theorem strippable_needs :
    (splitRef "a:b".toList).scheme = some "a".toList ∧ (splitRef ":y".toList).scheme = some [] ∧
    (splitRef "isbn:0451450523".toList).scheme = some "isbn".toList ∧
    (splitRef "//h/x".toList).authority = some "h".toList ∧ (splitRef "//h/x".toList).path = "/x".toList ∧
    (splitRef "/x".toList).authority = none ∧ (splitRef "/x".toList).path = "/x".toList ∧
    (splitRef "q?x=a:b".toList).scheme = none ∧
    strippable "http://ex/d/".toList "http://ex/d/a:b".toList = false ∧
    strippable "http://ex/d/".toList "http://ex/d/:y".toList = false ∧
    strippable "http://ex/d/".toList "http://ex/d/isbn:0451450523".toList = false ∧
    strippable "http://ex/d/".toList "http://ex/d///h/x".toList = false ∧
    strippable "http://ex/d/".toList "http://ex/d//x".toList = false ∧
    strippable "http://ex/d/".toList "http://ex/d/q?x=a:b".toList = false ∧
    strippable "http://ex/d/".toList "http://ex/d/q?x=1#f".toList = true ∧
    strippable "http://ex/d/".toList "http://ex/d/".toList = true ∧
    strippable "http://ex/d".toList "http://ex/dX".toList = false := by
  repeat rw [String.toList_ofList]
  decide +kernel

/-- non-vacuity of `strippable_resolves`: a concrete base reading and an accepted IRI -/
example : WfBase ⟨"http://ex".toList, ["d".toList, []]⟩ ∧ renderBase ⟨"http://ex".toList, ["d".toList, []]⟩ = "http://ex/d/".toList
    ∧ resolveRel ⟨"http://ex".toList, ["d".toList, []]⟩ (relOf ("http://ex/d/q/r?x=1#f".toList.drop 12)) = "http://ex/d/q/r?x=1#f".toList := by
  repeat rw [String.toList_ofList]
  exact ⟨⟨by decide, by decide⟩, by decide +kernel, by decide +kernel⟩

end RV.C03

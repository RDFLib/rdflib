import RV.C03.Notions
/-
  C03 — base relativisation.  On path segments: where the decision of `_strippable_base` holds, RFC 3986 resolution of
  the rest gives back base ++ rest (`resolveRel_of_strippableSeg` = `strip_resolves`).  At the character level: what
  acceptance by `_strippable_base` means — the rest is a scheme-less, authority-less reference with a relative path without
  dot segments (`restShape_of_strippable` = `strippable_rest_shape`), so it resolves to the IRI (`resolveRel_of_strippable`).
-/
namespace RV.C03

theorem joinSegs_cons_ne {s : Str} {t : List Str} (h : t ≠ []) : joinSegs (s :: t) = s ++ '/' :: joinSegs t := by
  match t, h with
  | x :: xs, _ => rfl

theorem joinSegs_append : ∀ (init r : List Str), r ≠ [] → joinSegs (init ++ [[]]) ++ joinSegs r = joinSegs (init ++ r) := by
  intro init
  induction init with
  | nil => intro r _; rfl
  | cons s t ih =>
    intro r hr
    rw [List.cons_append, List.cons_append, joinSegs_cons_ne (List.append_ne_nil_of_right_ne_nil _ hr),
      joinSegs_cons_ne (List.append_ne_nil_of_right_ne_nil _ (List.cons_ne_nil _ _)), List.append_assoc,
      List.cons_append, ih r hr]

theorem removeDots_nodot : ∀ (inp out : List Str), inp.any isDotSeg = false →
    removeDots out inp = out.reverse ++ inp := by
  intro inp
  induction inp with
  | nil => intro out _; simp [removeDots]
  | cons s rest ih =>
    intro out h
    simp only [List.any_cons, Bool.or_eq_false_iff] at h
    have hs := h.1
    simp only [isDotSeg, Bool.or_eq_false_iff] at hs
    match rest, ih, h.2 with
    | [], _, _ => simp [removeDots, hs.1, hs.2]
    | r :: rs, ih, h2 =>
      simp only [removeDots, hs.1, hs.2]
      rw [ih (s :: out) h2]
      simp

theorem resolveRel_of_strippableSeg (b : BaseIri) (r : RelRef) (h : strippableSeg b r = true) :
    resolveRel b r = renderBase b ++ renderRel r := by
  simp only [strippableSeg, Bool.and_eq_true, Bool.not_eq_true', beq_iff_eq] at h
  obtain ⟨⟨hlast, hb⟩, hr⟩ := h
  obtain ⟨ys, hys⟩ := List.getLast?_eq_some_iff.mp hlast
  rw [hys, List.any_append, Bool.or_eq_false_iff] at hb
  unfold resolveRel renderRel renderBase
  split
  · next he => rcases he with he | he <;> simp [he, joinSegs]
  · next he =>
    have hnd : (ys ++ r.segs).any isDotSeg = false := by rw [List.any_append, hb.1, hr]; rfl
    rw [hys, List.dropLast_concat, removeDots_nodot _ [] hnd, List.reverse_nil, List.nil_append,
      ← joinSegs_append _ _ (fun e => he (Or.inl e)), List.append_assoc, List.append_assoc]
    rfl

theorem breakAt_append (p : Char → Bool) : ∀ s : Str, (breakAt p s).1 ++ (breakAt p s).2 = s := by
  intro s
  induction s with
  | nil => rfl
  | cons c t ih =>
    simp only [breakAt]
    split
    · rfl
    · exact congrArg (c :: ·) ih

theorem breakAt_prefix (p : Char → Bool) (s : Str) : (breakAt p s).1 <+: s := ⟨_, breakAt_append p s⟩

theorem breakAt_snd (p : Char → Bool) : ∀ s : Str, (breakAt p s).2 = [] ∨ ∃ d r, (breakAt p s).2 = d :: r ∧ p d = true := by
  intro s
  induction s with
  | nil => exact Or.inl rfl
  | cons c t ih =>
    simp only [breakAt]
    split
    · next h => exact Or.inr ⟨c, t, rfl, h⟩
    · exact ih

theorem breakAt_snd_mem (p : Char → Bool) (s : Str) (d : Char) (r : Str) (h : (breakAt p s).2 = d :: r) : d ∈ s := by
  rw [← breakAt_append p s, h]
  exact List.mem_append_right _ List.mem_cons_self

theorem splitOn_ne_nil (c : Char) (s : Str) : splitOn c s ≠ [] := by
  match s with
  | [] => exact List.cons_ne_nil _ _
  | x :: t =>
    simp only [splitOn]
    split
    · exact List.cons_ne_nil _ _
    · split <;> exact List.cons_ne_nil _ _

theorem joinSegs_splitOn : ∀ p : Str, joinSegs (splitOn '/' p) = p := by
  intro p
  induction p with
  | nil => rfl
  | cons x t ih =>
    simp only [splitOn]
    split
    · next h => subst h; rw [joinSegs_cons_ne (splitOn_ne_nil _ _), ih]; rfl
    · split
      · next seg segs hs =>
        rw [hs] at ih
        match segs with
        | [] => exact congrArg (x :: ·) ih
        | y :: ys =>
          rw [joinSegs_cons_ne (List.cons_ne_nil _ _)] at ih ⊢
          exact congrArg (x :: ·) ih
      · next hs => exact absurd hs (splitOn_ne_nil _ _)

theorem splitOn_append_sep (c : Char) : ∀ a b : Str, splitOn c (a ++ c :: b) = splitOn c a ++ splitOn c b := by
  intro a
  induction a with
  | nil => intro b; simp [splitOn]
  | cons x t ih =>
    intro b
    simp only [List.cons_append, splitOn]
    split
    · rw [ih]; rfl
    · rw [ih]
      cases hs : splitOn c t with
      | nil => exact absurd hs (splitOn_ne_nil _ _)
      | cons seg segs => rfl

theorem splitOn_nosep (c : Char) : ∀ s : Str, c ∉ s → splitOn c s = [s] := by
  intro s
  induction s with
  | nil => intro _; rfl
  | cons x t ih =>
    intro h
    rw [List.mem_cons, not_or] at h
    simp only [splitOn, if_neg (Ne.symm h.1), ih h.2]

theorem splitOn_joinSegs : ∀ segs : List Str, segs ≠ [] → (∀ seg ∈ segs, '/' ∉ seg) →
    splitOn '/' (joinSegs segs) = segs := by
  intro segs
  induction segs with
  | nil => intro h; exact absurd rfl h
  | cons s t ih =>
    intro _ hall
    match t, ih with
    | [], _ => exact splitOn_nosep _ _ (hall s List.mem_cons_self)
    | y :: ys, ih =>
      rw [joinSegs_cons_ne (List.cons_ne_nil _ _), splitOn_append_sep, splitOn_nosep _ _ (hall s List.mem_cons_self),
        ih (List.cons_ne_nil _ _) (fun seg hm => hall seg (List.mem_cons_of_mem _ hm))]
      rfl

theorem startsWith_iff : ∀ {p s : Str}, startsWith p s = true ↔ p <+: s := by
  intro p
  induction p with
  | nil => intro s; exact ⟨fun _ => List.nil_prefix, fun _ => rfl⟩
  | cons a t ih =>
    intro s
    cases s with
    | nil => exact ⟨fun h => (nomatch h), fun h => (nomatch List.prefix_nil.mp h)⟩
    | cons b s' => simp only [startsWith, Bool.and_eq_true, beq_iff_eq, ih, List.cons_prefix_cons]

theorem startsWith_of_prefix {p a b : Str} (h : startsWith p a = true) (hab : a <+: b) : startsWith p b = true :=
  startsWith_iff.mpr ((startsWith_iff.mp h).trans hab)

theorem contains_false_not_mem {s : Str} {c : Char} (h : s.contains c = false) : c ∉ s := by
  intro hm
  have : s.contains c = true := by simpa using hm
  rw [h] at this; exact absurd this (by simp)

/-- one `if … : return False` of the code -/
theorem ite_false_eq_true {c e : Bool} : (if c = true then false else e) = true ↔ c = false ∧ e = true := by
  cases c <;> simp

/-- what the tests of `_strippable_base` establish of a non-empty rest (those of them that the theorems need) -/
structure RestOK (base rest : Str) : Prop where
  base_nodot : (splitOn '/' base).any isDotSeg = false
  base_slash : base.getLast? = some '/'
  no_colon : ':' ∉ rest
  no_slash : startsWith ['/'] rest = false
  path_nodot : (splitOn '/' (restPath rest)).any isDotSeg = false

theorem strippable_unpack {base uri : Str} (h : strippable base uri = true) :
    startsWith base uri = true ∧ (uri.drop base.length ≠ [] → RestOK base (uri.drop base.length)) := by
  -- every `if … : return False` passed, in the code's order and grouping: ((startswith ∧ no "#") ∧ no "?") ∧ rest
  simp only [strippable, ite_false_eq_true, Bool.or_eq_false_iff, Bool.not_eq_false'] at h
  obtain ⟨⟨⟨hsw, _⟩, _⟩, h2⟩ := h
  refine ⟨hsw, fun hne => ?_⟩
  -- base dots ∧ (((hierarchical ∧ trailing "/") ∧ no ":") ∧ no leading "/") ∧ no "//" ∧ path dots
  simp only [List.isEmpty_iff, hne, if_false, ite_false_eq_true, Bool.or_eq_false_iff, Bool.not_eq_false',
    Bool.not_eq_true', bne_eq_false_iff_eq] at h2
  obtain ⟨hbase, ⟨⟨⟨_, hlast⟩, hcolon⟩, hslash⟩, _, hrest⟩ := h2
  exact ⟨hbase, hlast, contains_false_not_mem hcolon, hslash, hrest⟩

theorem restShape_of_strippable {base uri : Str} (h : strippable base uri = true)
    (hne : uri.drop base.length ≠ []) :
    let rest := uri.drop base.length
    (splitRef rest).scheme = none ∧ (splitRef rest).authority = none ∧ (splitRef rest).path = restPath rest ∧
    startsWith ['/'] (restPath rest) = false ∧ (splitOn '/' (restPath rest)).any isDotSeg = false ∧
    renderRel (relOf rest) = rest := by
  intro rest
  have hr := (strippable_unpack h).2 hne
  -- no scheme: the first delimiter, if any, is not a colon
  have hsch : splitScheme rest = (none, rest) := by
    unfold splitScheme
    split
    · next pre r heq => exact absurd (breakAt_snd_mem isDelim rest ':' r (by rw [heq])) hr.no_colon
    · rfl
  -- the path is a prefix of the rest: it does not begin with "/" because the rest does not
  have hpre : restPath rest <+: rest := (breakAt_prefix _ _).trans (breakAt_prefix _ _)
  have hps : startsWith ['/'] (restPath rest) = false :=
    Bool.eq_false_iff.mpr fun hp => absurd (startsWith_of_prefix hp hpre) (by rw [hr.no_slash]; decide)
  obtain ⟨q, f, hsplit⟩ : ∃ q f, splitRef rest = ⟨none, none, restPath rest, q, f⟩ := by
    unfold splitRef
    rw [hsch]
    simp only
    split
    · next r4 heq => rw [show restPath rest = _ from heq] at hps; cases hps
    · exact ⟨_, _, rfl⟩
  refine ⟨by rw [hsplit], by rw [hsplit], by rw [hsplit], hps, hr.path_nodot, ?_⟩
  rw [renderRel, relOf, joinSegs_splitOn]
  exact List.prefix_iff_eq_append.mp hpre

theorem base_segs_of_string {b : BaseIri} {base : Str} (hw : WfBase b) (hb : renderBase b = base)
    (hlast : base.getLast? = some '/') (hdots : (splitOn '/' base).any isDotSeg = false) :
    b.segs.getLast? = some [] ∧ b.segs.any isDotSeg = false := by
  have hsplit : splitOn '/' base = splitOn '/' b.pre ++ b.segs := by
    rw [← hb, renderBase, splitOn_append_sep, splitOn_joinSegs _ hw.1 hw.2]
  obtain ⟨ys, hys⟩ := List.getLast?_eq_some_iff.mp hlast
  have h1 : (splitOn '/' base).getLast? = some [] := by rw [hys, splitOn_append_sep]; exact List.getLast?_concat
  rw [hsplit] at h1 hdots
  rw [List.any_append, Bool.or_eq_false_iff] at hdots
  rw [List.getLast?_append] at h1
  cases hl : b.segs.getLast? with
  | none => exact absurd (List.getLast?_eq_none_iff.mp hl) hw.1
  | some x => rw [hl] at h1; exact ⟨h1, hdots.2⟩

theorem resolveRel_of_strippable {base uri : Str} (h : strippable base uri = true) (b : BaseIri) (hw : WfBase b)
    (hb : renderBase b = base) : resolveRel b (relOf (uri.drop base.length)) = uri := by
  have hu := List.prefix_iff_eq_append.mp (startsWith_iff.mp (strippable_unpack h).1)
  by_cases hne : uri.drop base.length = []
  · -- the base itself: the empty reference
    rw [hne, List.append_nil] at hu
    rw [hne, ← hu]
    show resolveRel b ⟨[[]], []⟩ = base
    rw [resolveRel, if_pos (Or.inr rfl), List.append_nil, hb]
  · have hr := (strippable_unpack h).2 hne
    obtain ⟨_, _, _, _, hdots, hrec⟩ := restShape_of_strippable h hne
    obtain ⟨hl, hd⟩ := base_segs_of_string hw hb hr.base_slash hr.base_nodot
    have hseg : strippableSeg b (relOf (uri.drop base.length)) = true := by
      simp only [strippableSeg, hl, hd, relOf, hdots, Bool.not_false, Bool.and_true, beq_self_eq_true]
    rw [resolveRel_of_strippableSeg b _ hseg, hb, hrec]
    exact hu

end RV.C03

import RV.C03.Notions
import RV.C03.ListFacts
/-
  C03 — graphs as lists of triples (`propsOf`, `refCount` / `parentsOf`, `sdedup`), and `isValidList`: what
  acceptance establishes (a proper, unshared, acyclic collection) and termination.
-/
namespace RV.C03

theorem mem_propsOf {g : Graph} {s p o : Term} : (p, o) ∈ propsOf g s ↔ (s, p, o) ∈ g := by
  induction g with
  | nil => simp [propsOf]
  | cons t r ih =>
    obtain ⟨s', p', o'⟩ := t
    simp only [propsOf]
    split
    · next h => subst h; simp [ih]
    · next h =>
      simp only [ih, List.mem_cons, Prod.mk.injEq]
      exact ⟨Or.inr, fun hm => hm.resolve_left fun e => h e.1.symm⟩

theorem nodup_propsOf {g : Graph} (h : g.Nodup) (s : Term) : (propsOf g s).Nodup := by
  induction g with
  | nil => exact List.nodup_nil
  | cons t r ih =>
    obtain ⟨s', p, o⟩ := t
    have hnd := List.nodup_cons.mp h
    simp only [propsOf]
    split
    · next e => exact List.nodup_cons.mpr ⟨fun hm => hnd.1 (e ▸ mem_propsOf.mp hm), ih hnd.2⟩
    · exact ih hnd.2

theorem mem_subjects {g : Graph} {s : Term} : s ∈ g.map (·.1) ↔ ∃ p o, (s, p, o) ∈ g := by
  simp only [List.mem_map, Prod.exists]
  exact ⟨fun ⟨a, b, c, h, e⟩ => ⟨b, c, e ▸ h⟩, fun ⟨p, o, h⟩ => ⟨s, p, o, h, rfl⟩⟩

/-- `firstsOf` / `restsOf` with a single value: that value is a property of the node -/
theorem mem_of_objs_eq {g : Graph} {c P m : Term}
    (h : ((propsOf g c).filter (fun po => po.1 == P)).map (·.2) = [m]) : (c, P, m) ∈ g := by
  have : m ∈ ((propsOf g c).filter (fun po => po.1 == P)).map (·.2) := h ▸ List.mem_singleton_self m
  obtain ⟨⟨p, o⟩, hm, rfl⟩ := List.mem_map.mp this
  obtain ⟨hm, hp⟩ := List.mem_filter.mp hm
  exact mem_propsOf.mp (beq_iff_eq.mp hp ▸ hm)

theorem mem_parentsOf {g : Graph} {x s : Term} : s ∈ parentsOf g x ↔ ∃ p, (s, p, x) ∈ g := by
  induction g with
  | nil => simp [parentsOf]
  | cons t r ih =>
    obtain ⟨a, b, c⟩ := t
    simp only [parentsOf, List.mem_cons, Prod.mk.injEq, exists_or]
    split
    · next h => subst h; simp [ih]
    · next h => rw [ih]; exact ⟨Or.inr, fun hm => hm.resolve_left fun ⟨_, e⟩ => h e.2.2.symm⟩

theorem refCount_eq (g : Graph) (x : Term) : refCount g x = (parentsOf g x).length := by
  induction g with
  | nil => rfl
  | cons t r ih => simp only [refCount, parentsOf]; split <;> simp [ih]

theorem referrer_unique {g : Graph} {x : Term} (h1 : refCount g x ≤ 1) {s p s' p' : Term}
    (hm : (s, p, x) ∈ g) (hm' : (s', p', x) ∈ g) : s' = s ∧ p' = p := by
  induction g with
  | nil => cases hm
  | cons t r ih =>
    obtain ⟨a, b, c⟩ := t
    simp only [refCount] at h1
    split at h1
    · -- the head refers to `x`: nothing in the tail does
      have hno : ∀ s p, (s, p, x) ∉ r := fun s p hr => by
        have := List.length_pos_of_mem (mem_parentsOf.mpr ⟨p, hr⟩)
        rw [← refCount_eq] at this; omega
      have e := (List.mem_cons.mp hm).resolve_right (hno _ _)
      have e' := (List.mem_cons.mp hm').resolve_right (hno _ _)
      rw [Prod.mk.injEq, Prod.mk.injEq] at e e'
      exact ⟨e'.1.trans e.1.symm, e'.2.1.trans e.2.1.symm⟩
    · next hc =>
      have hne : ∀ {s p}, (s, p, x) ≠ (a, b, c) := fun e => hc (Prod.mk.inj (Prod.mk.inj e).2).2.symm
      exact ih h1 ((List.mem_cons.mp hm).resolve_left hne) ((List.mem_cons.mp hm').resolve_left hne)

theorem mem_sdedup {l : List Term} {a : Term} : a ∈ sdedup l ↔ a ∈ l := by
  induction l with
  | nil => simp [sdedup]
  | cons x t ih =>
    simp only [sdedup]
    split
    · next h =>
      rw [List.contains_eq_mem, decide_eq_true_eq] at h
      rw [ih, List.mem_cons]
      exact ⟨Or.inr, fun h' => h'.elim (fun e => e ▸ h) id⟩
    · simp [ih]

theorem nodup_sdedup (l : List Term) : (sdedup l).Nodup := by
  induction l with
  | nil => exact List.nodup_nil
  | cons x t ih =>
    simp only [sdedup]
    split
    · exact ih
    · next h =>
      rw [List.contains_eq_mem, decide_eq_true_eq] at h
      exact List.nodup_cons.mpr ⟨fun hm => h (mem_sdedup.mp hm), ih⟩

theorem cellStep_some {g : Graph} {ser seen : List Term} {l r : Term} (h : cellStep g ser seen l = some r) :
    isBn l = true ∧ l ∉ seen ∧ l ∉ ser ∧ (seen.isEmpty = false → refCount g l = 1) ∧
    ∃ m, firstsOf (propsOf g l) = [m] ∧ restsOf (propsOf g l) = [r] ∧ othersOf (propsOf g l) = [] := by
  unfold cellStep at h
  split at h
  · cases h
  · next h1 =>
    split at h
    · cases h
    · next h2 =>
      simp only [Bool.or_eq_true, Bool.not_eq_true', List.contains_eq_mem, decide_eq_true_eq, not_or,
        Bool.not_eq_false] at h1
      split at h
      · next m r' hf hr ho =>
        cases h
        refine ⟨h1.1.1, h1.1.2, h1.2, fun hs => ?_, m, hf, hr, ho⟩
        simpa only [hs, Bool.not_false, Bool.true_and, bne_iff_ne, ne_eq, Decidable.not_not] using h2
      · cases h

theorem isValidList_sound (g : Graph) (ser : List Term) :
    ∀ (f : Nat) (seen : List Term) (l : Term), isValidListAux g ser f seen l = some true →
      ∃ cells, ProperChain g ser seen.isEmpty l cells ∧ (∀ c ∈ cells, c ∉ seen) ∧
        (seen.isEmpty = true → cells ≠ []) := by
  -- the two extra conjuncts are what the step needs of the hypothesis at `l :: seen`: `l` is none of the later cells
  -- (the premise `c ∉ cs` of `ProperChain.cons`), and the chain from the head is not empty
  intro f
  induction f with
  | zero => intro seen l h; cases h
  | succ f ih =>
    intro seen l h
    simp only [isValidListAux] at h
    split at h
    · next hl =>
      subst hl
      refine ⟨[], ProperChain.nil _, fun _ hc => absurd hc List.not_mem_nil, fun hs _ => ?_⟩
      rw [hs] at h; cases h
    · split at h
      · cases h
      · next r hc =>
        obtain ⟨hb, hns, hnser, href, m, hf, hr, ho⟩ := cellStep_some hc
        obtain ⟨cells, hch, hdis, _⟩ := ih (l :: seen) r h
        refine ⟨l :: cells, ProperChain.cons _ l m r cells hb hnser hf hr ho href
          (fun hmem => hdis l hmem List.mem_cons_self) hch, fun c hcm => ?_, fun _ => List.cons_ne_nil _ _⟩
        rcases List.mem_cons.mp hcm with rfl | hcm
        · exact hns
        · exact fun hs => hdis c hcm (List.mem_cons_of_mem _ hs)

theorem isValidList_chain {g : Graph} {ser : List Term} {x : Term} (h : isValidList g ser x = some true) :
    ∃ cells, cells ≠ [] ∧ ProperChain g ser true x cells :=
  let ⟨cells, hc, _, hne⟩ := isValidList_sound g ser _ [] x h
  ⟨cells, hne rfl, hc⟩

/-- the visited set grows by a distinct subject of the graph per step, so fuel `|g| + 2` is never used up -/
theorem isValidListAux_fuel (g : Graph) (ser : List Term) :
    ∀ (f : Nat) (seen : List Term) (l : Term), seen.Nodup → seen ⊆ g.map (·.1) → g.length + 2 ≤ f + seen.length →
      isValidListAux g ser f seen l ≠ none := by
  intro f
  induction f with
  | zero =>
    intro seen l hnd hsub hf
    have := hnd.length_le_of_subset hsub
    rw [List.length_map] at this
    omega
  | succ f ih =>
    intro seen l hnd hsub hf
    simp only [isValidListAux]
    split
    · exact Option.some_ne_none _
    · split
      · exact Option.some_ne_none _
      · next r hc =>
        obtain ⟨_, hns, _, _, m, _, hr, _⟩ := cellStep_some hc
        exact ih _ _ (List.nodup_cons.mpr ⟨hns, hnd⟩)
          (List.cons_subset.mpr ⟨mem_subjects.mpr ⟨_, _, mem_of_objs_eq hr⟩, hsub⟩)
          (by rw [List.length_cons]; omega)

end RV.C03

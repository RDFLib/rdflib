import RV.C03.LayoutLemmas
/-
  C03 — the recursive writer (`choice`): the blank nodes it leaves unlabelled in object position satisfy the
  hypothesis `Pre` of `layout_roundtrip` (`rdflib_choice_pre`), and the top-level statements it writes are exactly
  the subjects it did not hide, each once (`choice_tops`).

  Invariant of the traversal (`CInv`), relative to a snapshot `T ⊆ _serialized` (the nodes that were done when the
  current top-level statement began, its subject included — none of them can be hidden later):
    * every hidden node is a blank node referenced at most once, and it is referenced;
    * every referrer `s` of a hidden node `x` is either hidden itself and was hidden BEFORE `x` (rank = position of
      the first insertion into the hidden list), or is in `T` and not hidden.
  A node is hidden only while its (unique) referrer is the subject being written, and that subject is hidden already
  or is the top-level subject; so ranks strictly grow along references between hidden nodes: no cycle.
  Beside it the bookkeeping `Post`; `PathOK` says both of any `path` function; the loop of `serialize` keeps the
  set-level `OInv`.  Last: `orderSubjects`.
-/
namespace RV.C03

structure CInv (g : Graph) (T : List Term) (σ : WS) : Prop where
  sub : T ⊆ σ.1
  loc : ∀ x ∈ σ.2, isBn x = true ∧ refCount g x ≤ 1 ∧ ∃ s p, (s, p, x) ∈ g
  ord : ∀ x ∈ σ.2, ∀ s p, (s, p, x) ∈ g →
    (s ∈ σ.2 ∧ σ.2.idxOf s < σ.2.idxOf x) ∨ (s ∉ σ.2 ∧ s ∈ T)

theorem CInv_mono {g : Graph} {T T' ser' : List Term} {σ : WS} (h : CInv g T σ) (hT : T ⊆ T') (hs : T' ⊆ ser') :
    CInv g T' (ser', σ.2) :=
  ⟨hs, h.loc, fun x hx s p hm => (h.ord x hx s p hm).imp id fun h2 => ⟨h2.1, hT h2.2⟩⟩

/-- hiding `y` while its referrer `s` is the subject being written -/
theorem CInv_insert {g : Graph} {T ser' : List Term} {σ : WS} (h : CInv g T σ)
    (hsub : σ.1 ⊆ ser') {y s p : Term} (hb : isBn y = true) (hr : refCount g y ≤ 1) (hm : (s, p, y) ∈ g)
    (hctx : s ∈ σ.2 ∨ s ∈ T) (hyT : y ∉ T) : CInv g T (ser', σ.2 ++ [y]) := by
  refine ⟨fun _ hx => hsub (h.sub hx), fun x hx => ?_, fun x hx s' p' hm' => ?_⟩
  · obtain hx | rfl := mem_concat.mp hx
    · exact h.loc x hx
    · exact ⟨hb, hr, s, p, hm⟩
  · -- a referrer in `T` is not `y`, so it stays outside the hidden list
    have inT : ∀ {a}, a ∉ σ.2 → a ∈ T → a ∉ σ.2 ++ [y] := fun ha haT hc =>
      (mem_concat.mp hc).elim ha fun e => hyT (e ▸ haT)
    by_cases hxh : x ∈ σ.2
    · -- `x` was hidden before (`y` may be hidden a second time: ranks are first insertions, nothing changes)
      rcases h.ord x hxh s' p' hm' with ⟨h1, h2⟩ | ⟨h1, h2⟩
      · exact Or.inl ⟨List.mem_append_left _ h1, by rwa [idxOf_append_of_mem _ h1, idxOf_append_of_mem _ hxh]⟩
      · exact Or.inr ⟨inT h1 h2, h2⟩
    · obtain rfl : x = y := (mem_concat.mp hx).resolve_left hxh
      obtain ⟨rfl, _⟩ := referrer_unique hr hm hm'
      by_cases hsh : s' ∈ σ.2
      · refine Or.inl ⟨List.mem_append_left _ hsh, ?_⟩
        rw [idxOf_append_of_mem _ hsh, idxOf_concat_self hxh]
        exact List.idxOf_lt_length_of_mem hsh
      · exact Or.inr ⟨inT hsh (hctx.resolve_left hsh), hctx.resolve_left hsh⟩

/-- between the states before and after a piece of the traversal, relative to the snapshot `T`: both lists only grow;
    what enters `_serialized` is hidden during the piece; what is hidden then is serialized after it and was not in `T` -/
structure Post (T : List Term) (σ σ' : WS) : Prop where
  ser_sub : σ.1 ⊆ σ'.1
  hid_sub : σ.2 ⊆ σ'.2
  ser_new : ∀ x ∈ σ'.1, x ∈ σ.1 ∨ x ∈ σ'.2
  hid_new : ∀ x ∈ σ'.2, x ∈ σ.2 ∨ (x ∈ σ'.1 ∧ x ∉ T)

theorem Post.refl {T : List Term} {σ : WS} : Post T σ σ :=
  ⟨fun _ h => h, fun _ h => h, fun _ h => Or.inl h, fun _ h => Or.inl h⟩

theorem Post.trans {T : List Term} {a b c : WS} (h1 : Post T a b) (h2 : Post T b c) : Post T a c :=
  ⟨fun _ h => h2.ser_sub (h1.ser_sub h), fun _ h => h2.hid_sub (h1.hid_sub h),
    fun x hx => (h2.ser_new x hx).elim (fun h => (h1.ser_new x h).imp id fun h' => h2.hid_sub h') Or.inr,
    fun x hx => (h2.hid_new x hx).elim (fun h => (h1.hid_new x h).imp id fun h' => ⟨h2.ser_sub h'.1, h'.2⟩) Or.inr⟩

/-- `y` is hidden, something is written, `y` is done (brackets: nothing in between; list cells: the item) -/
theorem Post.hide {T : List Term} {σ σ' : WS} {y : Term} (hy : y ∉ T) (h : Post T (σ.1, σ.2 ++ [y]) σ') :
    Post T σ (y :: σ'.1, σ'.2) :=
  ⟨fun _ hx => List.mem_cons_of_mem _ (h.ser_sub hx), fun _ hx => h.hid_sub (List.mem_append_left _ hx),
    fun x hx => (List.mem_cons.mp hx).elim (fun e => Or.inr (h.hid_sub (mem_concat.mpr (Or.inr e)))) (h.ser_new x),
    fun x hx => (h.hid_new x hx).elim
      (fun h' => (mem_concat.mp h').imp id fun e => by subst e; exact ⟨List.mem_cons_self, hy⟩)
      (fun h' => Or.inr ⟨List.mem_cons_of_mem _ h'.1, h'.2⟩)⟩

theorem properChain_nodup {g : Graph} {ser : List Term} {b : Bool} {l : Term} {cells : List Term}
    (h : ProperChain g ser b l cells) : cells.Nodup := by
  induction h with
  | nil _ => exact List.nodup_nil
  | cons _ c m r cs _ _ _ _ _ _ hnot _ ih => exact List.nodup_cons.mpr ⟨hnot, ih⟩

theorem properChain_subjects {g : Graph} {ser : List Term} {b : Bool} {l : Term} {cells : List Term}
    (h : ProperChain g ser b l cells) : cells ⊆ g.map (·.1) := by
  induction h with
  | nil _ => exact List.nil_subset _
  | cons _ c m r cs _ _ hf _ _ _ _ _ ih =>
    exact List.cons_subset.mpr ⟨mem_subjects.mpr ⟨_, _, mem_of_objs_eq hf⟩, ih⟩

theorem listCells_chain {g : Graph} {ser : List Term} {b : Bool} {l : Term} {cells : List Term}
    (h : ProperChain g ser b l cells) : ∀ n, cells.length ≤ n → listCells g n l = cells := by
  induction h with
  | nil _ => intro n _; cases n <;> rfl
  | cons _ c m r cs hb _ _ hr _ _ _ _ ih =>
    intro n hn
    cases n with
    | zero => cases hn
    | succ n =>
      have hne : c ≠ rdfNil := fun e => by rw [e] at hb; cases hb
      simp only [listCells, if_neg hne, hr]
      rw [ih n (Nat.le_of_succ_le_succ hn)]

theorem listCells_valid {g : Graph} {ser : List Term} {x : Term} {cells : List Term}
    (h : ProperChain g ser true x cells) : listCells g (g.length + 1) x = cells := by
  apply listCells_chain h
  have := (properChain_nodup h).length_le_of_subset (properChain_subjects h)
  rw [List.length_map] at this
  omega

/-- what `path(x, OBJECT)` keeps, called on an object `x` of a subject `s` that is hidden or in the snapshot -/
def PathOK (g : Graph) (T : List Term) (path : WS → Term → WS) : Prop :=
  ∀ (σ : WS) (x s p : Term), CInv g T σ → (s, p, x) ∈ g → (s ∈ σ.2 ∨ s ∈ T) →
    CInv g T (path σ x) ∧ Post T σ (path σ x)

theorem props_fold_ok {g : Graph} {T : List Term} {path : WS → Term → WS} (hp : PathOK g T path) (s : Term) :
    ∀ (ps : List (Term × Term)), (∀ po ∈ ps, (s, po.1, po.2) ∈ g) → ∀ σ : WS, CInv g T σ → (s ∈ σ.2 ∨ s ∈ T) →
      CInv g T (ps.foldl (fun σ po => path σ po.2) σ) ∧ Post T σ (ps.foldl (fun σ po => path σ po.2) σ) := by
  intro ps
  induction ps with
  | nil => intro _ σ h _; exact ⟨h, Post.refl⟩
  | cons po ps ih =>
    intro hmem σ h hctx
    obtain ⟨h1, g1⟩ := hp σ po.2 s po.1 h (hmem po List.mem_cons_self) hctx
    obtain ⟨h2, g2⟩ := ih (fun q hq => hmem q (List.mem_cons_of_mem _ hq)) _ h1 (hctx.imp (fun a => g1.hid_sub a) id)
    exact ⟨h2, g1.trans g2⟩

theorem properChain_head_ref {g : Graph} {ser : List Term} {r : Term} {cs : List Term}
    (h : ProperChain g ser false r cs) (hne : cs ≠ []) : refCount g r = 1 := by
  cases h with
  | nil _ => exact absurd rfl hne
  | cons _ _ _ _ _ _ _ _ _ _ href _ _ => exact href rfl

theorem cells_fold_ok {g : Graph} {T ser0 : List Term} {path : WS → Term → WS}
    (hp : PathOK g T path) (hT : T ⊆ ser0) {b : Bool} {c : Term} {cells : List Term}
    (hch : ProperChain g ser0 b c cells) :
    ∀ σ : WS, CInv g T σ → (cells ≠ [] → ∃ s p, (s, p, c) ∈ g ∧ (s ∈ σ.2 ∨ s ∈ T)) → (cells ≠ [] → refCount g c ≤ 1) →
      CInv g T (cells.foldl (fun σ c => wCell g path σ c) σ) ∧ Post T σ (cells.foldl (fun σ c => wCell g path σ c) σ) := by
  induction hch with
  | nil _ => intro σ h _ _; exact ⟨h, Post.refl⟩
  | cons _ c m r cs hb hnser hf hr _ _ _ hrest ih =>
    intro σ h hctx href
    obtain ⟨s, p, hm, hs⟩ := hctx (List.cons_ne_nil _ _)
    have hcT : c ∉ T := fun hc => hnser (hT hc)
    have h1 : CInv g T (σ.1, σ.2 ++ [c]) :=
      CInv_insert h (fun _ hx => hx) hb (href (List.cons_ne_nil _ _)) hm hs hcT
    obtain ⟨h2, g2⟩ := hp (σ.1, σ.2 ++ [c]) m c rdfFirst h1 (mem_of_objs_eq hf) (Or.inl (by simp))
    have hcin : c ∈ (path (σ.1, σ.2 ++ [c]) m).2 := g2.hid_sub (by simp)
    obtain ⟨h4, g4⟩ := ih _ (CInv_mono h2 (fun _ hx => hx) fun _ hx => List.mem_cons_of_mem _ (h2.sub hx))
      -- the guards `cells ≠ [] →`: the chain ends in rdf:nil, of which nothing is asked
      (fun _ => ⟨c, rdfRest, mem_of_objs_eq hr, Or.inl hcin⟩)
      (fun hne => Nat.le_of_eq (properChain_head_ref hrest hne))
    simp only [List.foldl_cons, wCell, hf]
    exact ⟨h4, (g2.hide hcT).trans g4⟩

theorem inlinable_spec {g : Graph} {ser : List Term} {x : Term} (h : inlinable g ser x = true) :
    isBn x = true ∧ x ∉ ser ∧ refCount g x ≤ 1 := by
  simp only [inlinable, Bool.and_eq_true, Bool.not_eq_true', decide_eq_true_eq] at h
  refine ⟨h.1.1, fun hc => ?_, h.2⟩
  rw [List.contains_iff_mem.mpr hc] at h
  cases h.1.2

theorem wPath_ok {g : Graph} {T : List Term} : ∀ f : Nat, PathOK g T (wPath g f) := by
  intro f
  induction f with
  | zero => intro σ x s p h _ _; exact ⟨h, Post.refl⟩
  | succ f ih =>
    intro σ x s p h hm hctx
    simp only [wPath]
    split
    · next hin =>
      obtain ⟨hb, hns, hrc⟩ := inlinable_spec hin
      split
      · next hvl =>
        obtain ⟨cells, _, hch⟩ := isValidList_chain hvl
        rw [listCells_valid hch]
        exact cells_fold_ok ih h.sub hch σ h (fun _ => ⟨s, p, hm, hctx⟩) (fun _ => hrc)
      · have hxT : x ∉ T := fun hc => hns (h.sub hc)
        have h0 : CInv g T (x :: σ.1, σ.2 ++ [x]) :=
          CInv_insert h (fun _ hx => List.mem_cons_of_mem _ hx) hb hrc hm hctx hxT
        obtain ⟨h1, g1⟩ := props_fold_ok ih x (propsOf g x) (fun po hpo => mem_propsOf.mp hpo)
          (x :: σ.1, σ.2 ++ [x]) h0 (Or.inl (by simp))
        exact ⟨h1, (Post.refl.hide hxT).trans g1⟩
    · exact ⟨h, Post.refl⟩

/-- the loop of `serialize` after visiting `done`: `_serialized` = statement subjects ⊎ hidden nodes ⊇ `done` -/
structure OInv (g : Graph) (done : List Term) (st : TS) : Prop where
  hid_ser : st.1.2 ⊆ st.1.1
  tops_ser : topsOf st ⊆ st.1.1
  ser_split : ∀ x ∈ st.1.1, x ∈ topsOf st ∨ x ∈ st.1.2
  disjoint : ∀ x ∈ topsOf st, x ∉ st.1.2
  tops_done : topsOf st ⊆ done
  done_ser : done ⊆ st.1.1
  nodup : (topsOf st).Nodup
  flags : ∀ e ∈ st.2, e.2 = topAnon g e.1

theorem OInv_subject {g : Graph} {done : List Term} {st : TS} (h : OInv g done st) {s : Term} (hs : s ∉ st.1.1) :
    OInv g (done ++ [s]) ((s :: st.1.1, st.1.2), st.2 ++ [(s, topAnon g s)]) := by
  have htops : topsOf ((s :: st.1.1, st.1.2), st.2 ++ [(s, topAnon g s)]) = topsOf st ++ [s] := by simp [topsOf]
  constructor
  case hid_ser => exact fun x hx => List.mem_cons_of_mem _ (h.hid_ser hx)
  case tops_ser =>
    rw [htops]
    exact forall_mem_concat.mpr ⟨fun x hx => List.mem_cons_of_mem _ (h.tops_ser hx), List.mem_cons_self⟩
  case ser_split =>
    rw [htops]
    exact fun x hx => (List.mem_cons.mp hx).elim (fun e => Or.inl (mem_concat.mpr (Or.inr e)))
      fun hx => (h.ser_split x hx).imp (List.mem_append_left _) id
  case disjoint => rw [htops]; exact forall_mem_concat.mpr ⟨h.disjoint, fun hh => hs (h.hid_ser hh)⟩
  case tops_done =>
    rw [htops]
    exact forall_mem_concat.mpr ⟨fun x hx => List.mem_append_left _ (h.tops_done hx), List.mem_concat_self⟩
  case done_ser => exact forall_mem_concat.mpr ⟨fun x hx => List.mem_cons_of_mem _ (h.done_ser hx), List.mem_cons_self⟩
  case nodup =>
    rw [htops]
    refine List.nodup_append.mpr ⟨h.nodup, List.nodup_cons.mpr ⟨List.not_mem_nil, List.nodup_nil⟩, fun a ha b hb e => ?_⟩
    cases List.mem_singleton.mp hb
    exact hs (h.tops_ser (e ▸ ha))
  case flags => exact forall_mem_concat.mpr ⟨h.flags, rfl⟩

/-- what is written below the subject keeps the invariant: a node hidden now was not serialized when the statement
    began, so it is no statement subject -/
theorem OInv_post {g : Graph} {done : List Term} {σ σ' : WS} {tops : List (Term × Bool)} (h : OInv g done (σ, tops))
    (hp : Post σ.1 σ σ') : OInv g done (σ', tops) :=
  { hid_ser := fun x hx => (hp.hid_new x hx).elim (fun h1 => hp.ser_sub (h.hid_ser h1)) (fun h1 => h1.1)
    tops_ser := fun _ hx => hp.ser_sub (h.tops_ser hx)
    ser_split := fun x hx => (hp.ser_new x hx).elim (fun h1 => (h.ser_split x h1).imp id (hp.hid_sub ·)) Or.inr
    disjoint := fun x hx hxh => (hp.hid_new x hxh).elim (h.disjoint x hx) fun h1 => h1.2 (h.tops_ser hx)
    tops_done := h.tops_done
    done_ser := fun _ hx => hp.ser_sub (h.done_ser hx)
    nodup := h.nodup
    flags := h.flags }

theorem wStatement_ok {g : Graph} (F : Nat) {done : List Term} {st : TS} (s : Term)
    (hc : CInv g st.1.1 st.1) (h : OInv g done st) :
    CInv g (wStatement g F st s).1.1 (wStatement g F st s).1 ∧ OInv g (done ++ [s]) (wStatement g F st s) := by
  simp only [wStatement]
  split
  · next hs =>
    exact ⟨hc, { h with
      tops_done := fun _ hx => List.mem_append_left _ (h.tops_done hx)
      done_ser := forall_mem_concat.mpr ⟨h.done_ser, List.contains_iff_mem.mp hs⟩ }⟩
  · next hs =>
    rw [List.contains_iff_mem] at hs
    -- the snapshot is reset to all of `_serialized` here and widened again at the end: `CInv.ord` only gets weaker
    have h0 : CInv g (s :: st.1.1) (s :: st.1.1, st.1.2) :=
      CInv_mono hc (fun _ hx => List.mem_cons_of_mem _ hx) (fun _ hx => hx)
    obtain ⟨h1, hp⟩ := props_fold_ok (wPath_ok F) s (propsOf g s) (fun po hpo => mem_propsOf.mp hpo)
      (s :: st.1.1, st.1.2) h0 (Or.inr List.mem_cons_self)
    exact ⟨CInv_mono h1 hp.ser_sub (fun _ hx => hx), OInv_post (OInv_subject h hs) hp⟩

theorem choiceOn_ok (g : Graph) (order : List Term) :
    CInv g (choiceOn g order).1.1 (choiceOn g order).1 ∧ OInv g order (choiceOn g order) := by
  have gen : ∀ (l done : List Term) (st : TS), CInv g st.1.1 st.1 → OInv g done st →
      CInv g (l.foldl (wStatement g (choiceFuel g)) st).1.1 (l.foldl (wStatement g (choiceFuel g)) st).1 ∧
      OInv g (done ++ l) (l.foldl (wStatement g (choiceFuel g)) st) := by
    intro l
    induction l with
    | nil => intro done st hc h; exact ⟨hc, by rwa [List.append_nil]⟩
    | cons s l ih =>
      intro done st hc h
      obtain ⟨hc', h'⟩ := wStatement_ok (choiceFuel g) s hc h
      have := ih (done ++ [s]) _ hc' h'
      rwa [List.append_assoc] at this
  have := gen order [] (([], []), [])
    { sub := fun _ hx => hx, loc := fun _ hx => (nomatch hx), ord := fun _ hx => (nomatch hx) }
    { hid_ser := fun _ hx => hx, tops_ser := fun _ hx => hx, ser_split := fun _ hx => (nomatch hx),
      disjoint := fun _ hx => (nomatch hx), tops_done := fun _ hx => hx, done_ser := fun _ hx => hx,
      nodup := List.nodup_nil, flags := fun _ hx => (nomatch hx) }
  rwa [List.nil_append] at this

theorem mem_tops_choiceOn (g : Graph) (order : List Term) (s : Term) :
    s ∈ topsOf (choiceOn g order) ↔ s ∈ order ∧ s ∉ (choiceOn g order).1.2 := by
  have h := (choiceOn_ok g order).2
  exact ⟨fun hs => ⟨h.tops_done hs, h.disjoint s hs⟩,
    fun ⟨ho, hn⟩ => (h.ser_split s (h.done_ser ho)).resolve_right hn⟩

theorem bn_orig_eq {x : Term} (hb : isBn x = true) (ho : origOnly x) : x = bnO (origId x) := by
  match x, hb, ho with
  | .bn (.orig n), _, _ => rfl
  | .bn (.fresh _), _, ho => cases ho

/-- `hiddenIds` loses nothing: `origId` is 0 off the graph's blank nodes, but a hidden term is one -/
theorem inl_hidden {g : Graph} {T : List Term} {σ : WS} (ho : ∀ t ∈ g, origOnly t.1 ∧ origOnly t.2.2)
    (h : CInv g T σ) {s : Term} (hs : origOnly s) : inl (σ.2.map origId) s = true ↔ s ∈ σ.2 := by
  constructor
  · intro hi
    obtain ⟨n, rfl, hn⟩ := bnO_of_inl hi
    obtain ⟨x, hx, e⟩ := List.mem_map.mp hn
    obtain ⟨hb, _, s', p', hm⟩ := h.loc x hx
    exact e ▸ bn_orig_eq hb (ho _ hm).2 ▸ hx
  · intro hm
    rw [bn_orig_eq (h.loc s hm).1 hs]
    exact inl_bnO (List.mem_map.mpr ⟨s, hm, rfl⟩)

theorem pre_of_CInv {g : Graph} {T : List Term} {σ : WS} (hw : GraphWf g) (h : CInv g T σ) :
    Pre g (σ.2.map origId) (σ.2.length + 1) (fun n => σ.2.idxOf (bnO n)) := by
  have hmem : ∀ n ∈ σ.2.map origId, bnO n ∈ σ.2 := fun n hn => (inl_hidden hw.2.1 h (s := bnO n) rfl).mp (inl_bnO hn)
  refine ⟨hw.1, hw.2.1, hw.2.2, fun n hn => ?_, fun n hn m hm p hmm => ?_,
    fun n _ => Nat.lt_succ_of_le List.idxOf_le_length⟩
  · obtain ⟨_, hrc, s, p, hm⟩ := h.loc _ (hmem n hn)
    exact ⟨s, p, hm, fun s' p' hm' => referrer_unique hrc hm hm'⟩
  · exact (h.ord _ (hmem n hn) _ _ hmm).elim (fun h2 => h2.2) (fun h1 => absurd (hmem m hm) h1.1)

theorem perm_insertBy {α} (lt : α → α → Bool) (a : α) (l : List α) : (insertBy lt a l).Perm (a :: l) := by
  induction l with
  | nil => exact .refl _
  | cons b t ih =>
    simp only [insertBy]
    split
    · exact (ih.cons b).trans (.swap a b t)
    · exact .refl _

theorem perm_isort {α} (lt : α → α → Bool) (l : List α) : (isort lt l).Perm l := by
  induction l with
  | nil => exact .refl _
  | cons a t ih => exact (perm_insertBy lt a _).trans (ih.cons a)

theorem mem_subjectsOf {g : Graph} {s : Term} : s ∈ subjectsOf g ↔ ∃ p o, (s, p, o) ∈ g := by
  rw [subjectsOf, mem_sdedup, mem_subjects]

theorem classMembers_sub (g : Graph) : ∀ x ∈ classMembers g, x ∈ subjectsOf g := by
  intro x hx
  obtain ⟨t, ht, rfl⟩ := List.mem_map.mp (mem_sdedup.mp hx)
  exact mem_sdedup.mpr (List.mem_map.mpr ⟨t, (List.mem_filter.mp ht).1, rfl⟩)

theorem mem_orderSubjects (g : Graph) (ord : List Nat) (s : Term) :
    s ∈ orderSubjects g ord ↔ ∃ p o, (s, p, o) ∈ g := by
  rw [← mem_subjectsOf]
  simp only [orderSubjects, List.mem_append, (perm_isort _ _).mem_iff, List.mem_filter, Bool.not_eq_true',
    List.contains_eq_mem, decide_eq_false_iff_not]
  exact ⟨fun h => h.elim (classMembers_sub g s) (fun h => h.1),
    fun h => (Decidable.em (s ∈ classMembers g)).imp id fun hc => ⟨h, hc⟩⟩

theorem nodup_orderSubjects (g : Graph) (ord : List Nat) : (orderSubjects g ord).Nodup := by
  refine List.nodup_append.mpr ⟨(perm_isort _ _).nodup_iff.mpr (nodup_sdedup _),
    (perm_isort _ _).nodup_iff.mpr ((nodup_sdedup _).filter _), fun a ha b hb e => ?_⟩
  rw [(perm_isort _ _).mem_iff] at ha hb
  simp only [List.mem_filter, Bool.not_eq_true', List.contains_eq_mem, decide_eq_false_iff_not] at hb
  exact hb.2 (e ▸ ha)

end RV.C03

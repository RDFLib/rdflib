import RV.C01.Ops
/-
  C01 — `SimpleMemory`: three index sets, no contexts.
-/
namespace RV.C01
open RV

structure SInv (m : SMem) : Prop where
  err : m.err = false
  idx : IdxOk m.spo m.pos m.osp

theorem sinv_init : SInv SMem.init :=
  ⟨rfl, List.nodup_nil, List.nodup_nil, List.nodup_nil, fun _ => Iff.rfl, fun _ => Iff.rfl⟩

/-- the three indexes of a `SimpleMemory` seen as the indexes of a `Memory` (same dispatch) -/
def SMem.idx (m : SMem) : Mem := { spo := m.spo, pos := m.pos, osp := m.osp }

theorem striples_eq (m : SMem) (pat : Pat) : m.triples pat = cands m.idx pat := by
  obtain ⟨ps, pp, po⟩ := pat
  cases ps <;> cases pp <;> cases po <;> rfl

theorem mem_striples {m : SMem} (hI : SInv m) (pat : Pat) (t : Triple) :
    t ∈ m.triples pat ↔ (t ∈ m.spo ∧ pat.matches t = true) := by
  rw [striples_eq]
  exact mem_cands (m := m.idx) hI.idx pat t

theorem nodup_striples {m : SMem} (hI : SInv m) (pat : Pat) : (m.triples pat).Nodup := by
  rw [striples_eq]
  exact nodup_cands (m := m.idx) hI.idx pat

theorem mem_striples_all {m : SMem} (hI : SInv m) (t : Triple) : t ∈ m.triples allPat ↔ t ∈ m.spo :=
  (mem_striples hI allPat t).trans (and_iff_left (matches_allPat t))

theorem scontains_iff {m : SMem} (hI : SInv m) (t : Triple) : m.contains t = true ↔ t ∈ m.spo :=
  not_isEmpty_exact (mem_striples hI _)

theorem simple_add_spec {m : SMem} (hI : SInv m) (t : Triple) :
    SInv (m.add t) ∧ ∀ x, x ∈ (m.add t).spo ↔ (x ∈ m.spo ∨ x = t) :=
  ⟨⟨hI.err, hI.idx.sinsert t⟩, fun _ => mem_sinsert.trans or_comm⟩

theorem simple_del_spec {m : SMem} (hI : SInv m) {t : Triple} (ht : t ∈ m.spo) :
    SInv (m.del t) ∧ ∀ x, x ∈ (m.del t).spo ↔ (x ∈ m.spo ∧ x ≠ t) := by
  refine ⟨⟨?_, hI.idx.sremove t⟩, fun _ => mem_sremove.trans and_comm⟩
  simp [SMem.del, hI.err, ht, (hI.idx.b_iff t).2 ht, (hI.idx.c_iff t).2 ht]

/-- the eager copy `list(self.triples(pattern))` is deleted element by element: distinct stored triples -/
theorem simple_del_fold : ∀ (l : List Triple) (m : SMem), SInv m → l.Nodup → (∀ t ∈ l, t ∈ m.spo) →
    SInv (l.foldl SMem.del m) ∧ ∀ x, x ∈ (l.foldl SMem.del m).spo ↔ (x ∈ m.spo ∧ x ∉ l) := by
  intro l
  induction l with
  | nil => intro m hI _ _; simp [hI]
  | cons t r ih =>
    intro m hI hnd hall
    rw [List.nodup_cons] at hnd
    obtain ⟨hI1, h1⟩ := simple_del_spec hI (hall t (by simp))
    obtain ⟨hI2, h2⟩ := ih _ hI1 hnd.2
      (fun t' ht' => (h1 t').2 ⟨hall t' (by simp [ht']), fun e => hnd.1 (e ▸ ht')⟩)
    refine ⟨hI2, fun x => ?_⟩
    rw [List.foldl_cons, h2, h1, List.mem_cons, not_or, and_assoc]

theorem simple_remove_spec {m : SMem} (hI : SInv m) (pat : Pat) :
    SInv (m.remove pat) ∧ ∀ x, x ∈ (m.remove pat).spo ↔ (x ∈ m.spo ∧ ¬ pat.matches x = true) := by
  obtain ⟨hI1, h1⟩ := simple_del_fold (m.triples pat) m hI (nodup_striples hI pat)
    (fun t ht => ((mem_striples hI pat t).1 ht).1)
  refine ⟨hI1, fun x => ?_⟩
  rw [SMem.remove, h1, mem_striples hI]
  exact and_congr_right fun h2 => not_congr (and_iff_right h2)

theorem smemFolds : SFolds SMem.step :=
  { addN_nil := fun _ _ => rfl, addN_cons := fun _ _ _ _ _ _ => rfl, set := fun _ _ => rfl, iadd := fun _ _ => rfl,
    isub_nil := fun _ => rfl, isub_cons := fun _ _ _ => rfl }

theorem simple_refine_step {m : SMem} {S : TSet} (h : SInv m ∧ ∀ t, t ∈ m.spo ↔ S t) (op : SOp) :
    SInv (m.step op) ∧ ∀ t, t ∈ (m.step op).spo ↔ SSpec.step S op t := by
  refine smemFolds.lift (fun m S => SInv m ∧ ∀ t, t ∈ m.spo ↔ S t) ?_ ?_ h op
  · intro m S t ⟨hI, hS⟩
    exact ⟨(simple_add_spec hI t).1, fun x => ((simple_add_spec hI t).2 x).trans (or_congr_left (hS x))⟩
  · intro m S pat ⟨hI, hS⟩
    exact ⟨(simple_remove_spec hI pat).1,
      fun x => ((simple_remove_spec hI pat).2 x).trans (and_congr_left fun _ => hS x)⟩

theorem coherent_ofSimple {m : SMem} (hI : SInv m) : (View.ofSimple m).Coherent := fun x =>
  (scontains_iff hI x).trans (mem_striples_all hI x).symm

end RV.C01

import RV.C01.Ops
/-
  C01 — an open `triples()` generator interleaved with mutations (the over-approximating machine `Iter`):
  soundness of every yield, no raise, and the all-unbound shape as a start snapshot.
-/
namespace RV.C01
open RV

@[simp] theorem load_pat (it : Iter) (m : Mem) (ts : List Triple) : (it.load m ts).pat = it.pat := by
  unfold Iter.load; split <;> rfl
@[simp] theorem load_g (it : Iter) (m : Mem) (ts : List Triple) : (it.load m ts).g = it.g := by
  unfold Iter.load; split <;> rfl
@[simp] theorem load_fast (it : Iter) (m : Mem) (ts : List Triple) : (it.load m ts).fast = it.fast := by
  unfold Iter.load; split <;> rfl
theorem next_fst (it : Iter) (m : Mem) : (it.next m).1 = { it with pending := it.pending.tail } := by
  obtain ⟨p, g, f, pend⟩ := it
  cases pend with
  | nil => rfl
  | cons t r => simp only [Iter.next]; split <;> rfl

theorem next_snd (it : Iter) (m : Mem) :
    (it.next m).2 = it.pending.head?.filter (fun t => it.fast || hasCtx m t (some it.g)) := by
  obtain ⟨p, g, f, pend⟩ := it
  cases pend with
  | nil => rfl
  | cons t r => simp only [Iter.next, List.head?_cons, Option.filter]; split <;> rfl

@[simp] theorem next_pat (it : Iter) (m : Mem) : (it.next m).1.pat = it.pat := by rw [next_fst]
@[simp] theorem next_g (it : Iter) (m : Mem) : (it.next m).1.g = it.g := by rw [next_fst]
@[simp] theorem next_fast (it : Iter) (m : Mem) : (it.next m).1.fast = it.fast := by rw [next_fst]

/-- a fast-path candidate (start copy) is yielded untested, so it carries its witness state; a loaded one is only known
    to match: its witness is the state that passes the test in `next` -/
def PendingOk (hist : List Mem) (it : Iter) : Prop :=
  ∀ t ∈ it.pending, it.pat.matches t = true ∧ (it.fast = true → ∃ m' ∈ hist, InG m' t it.g)

theorem pendingOk_mono {hist : List Mem} {it : Iter} (m' : Mem) (h : PendingOk hist it) :
    PendingOk (m' :: hist) it := by
  intro t ht
  obtain ⟨h1, h2⟩ := h t ht
  refine ⟨h1, fun hf => ?_⟩
  obtain ⟨m'', hm, hin⟩ := h2 hf
  exact ⟨m'', List.mem_cons_of_mem _ hm, hin⟩

theorem pendingOk_load {hist : List Mem} {it : Iter} {m : Mem} (hI : Inv m) (ts : List Triple)
    (h : PendingOk hist it) : PendingOk hist (it.load m ts) := by
  unfold Iter.load
  by_cases hf : it.fast = true
  · simp only [hf, if_true]; exact h
  · have hf' : it.fast = false := by simpa using hf
    simp only [hf', Bool.false_eq_true, if_false]
    intro t ht
    have ht' : t ∈ it.pending ++ ts.filter (fun t => decide (t ∈ cands m it.pat)) := ht
    simp only [List.mem_append, List.mem_filter, decide_eq_true_eq] at ht'
    refine ⟨?_, fun hf'' => by cases hf''⟩
    show it.pat.matches t = true
    rcases ht' with ht' | ⟨_, ht'⟩
    · exact (h t ht').1
    · exact ((mem_cands hI.idx _ _).1 ht').2

theorem pendingOk_next {hist : List Mem} {it : Iter} (m : Mem) (h : PendingOk hist it) :
    PendingOk hist (it.next m).1 := by
  rw [next_fst]; exact fun t ht => h t (List.mem_of_mem_tail ht)

theorem next_yield {hist : List Mem} {it : Iter} {m : Mem} (hm : m ∈ hist) (h : PendingOk hist it)
    {t : Triple} (hy : (it.next m).2 = some t) :
    it.pat.matches t = true ∧ ∃ m' ∈ hist, InG m' t it.g := by
  rw [next_snd] at hy
  obtain ⟨ht, hc⟩ := Option.filter_eq_some_iff.1 hy
  obtain ⟨h1, h2⟩ := h t (List.mem_of_mem_head? ht)
  refine ⟨h1, ?_⟩
  by_cases hf : it.fast = true
  · exact h2 hf
  · simp only [hf, Bool.false_or] at hc
    exact ⟨m, hm, (hasCtx_iff m t it.g).1 hc⟩

theorem yields_sound : ∀ (evs : List Ev) (hist : List Mem) (m : Mem) (it : Iter),
    Inv m → m ∈ hist → PendingOk hist it →
    ∀ y ∈ yields hist m it evs, it.pat.matches y.1 = true ∧ ∃ m' ∈ y.2, InG m' y.1 it.g := by
  intro evs
  induction evs with
  | nil => intro hist m it _ _ _ y hy; cases hy
  | cons e es ih =>
    intro hist m it hI hm hok y hy
    cases e with
    | mutate op =>
      exact ih _ _ it (stStep_inv hI op) List.mem_cons_self (pendingOk_mono _ hok) y hy
    | load ts =>
      have := ih hist m _ hI hm (pendingOk_load hI ts hok) y hy
      rwa [load_pat, load_g] at this
    | next =>
      have hrec := ih hist m _ hI hm (pendingOk_next m hok) y
      rw [next_pat, next_g] at hrec
      simp only [yields] at hy
      cases hn : (it.next m).2 with
      | none => rw [hn] at hy; exact hrec hy
      | some t =>
        rw [hn] at hy
        rcases List.mem_cons.1 hy with rfl | hy
        · exact next_yield hm hok hn
        · exact hrec hy

theorem start_of_ne {pat : Pat} (h : pat ≠ allPat) (m : Mem) (g : Nat) : Iter.start m pat g = ⟨pat, g, false, []⟩ :=
  pat_ne_cases (fun _ _ => rfl) (fun _ _ => rfl) (fun _ => rfl) h

theorem pendingOk_start {m : Mem} (hI : Inv m) (pat : Pat) (g : Nat) : PendingOk [m] (Iter.start m pat g) := by
  by_cases hp : pat = allPat
  · subst hp
    intro t ht
    exact ⟨matches_allPat t, fun _ => ⟨m, by simp, (hI.ctxT_iff _ _).1 ht⟩⟩
  · rw [start_of_ne hp]
    intro t ht
    cases ht

theorem start_pat (m : Mem) (pat : Pat) (g : Nat) : (Iter.start m pat g).pat = pat := by
  by_cases hp : pat = allPat
  · subst hp; rfl
  · rw [start_of_ne hp]

theorem start_g (m : Mem) (pat : Pat) (g : Nat) : (Iter.start m pat g).g = g := by
  by_cases hp : pat = allPat
  · subst hp; rfl
  · rw [start_of_ne hp]

theorem sched_no_raise : ∀ (evs : List Ev) (m : Mem) (it : Iter), Inv m → schedRaises m it evs = false := by
  intro evs
  induction evs with
  | nil => intro m it _; rfl
  | cons e es ih =>
    intro m it hI
    cases e with
    | mutate op =>
      simp only [schedRaises, Bool.or_eq_false_iff]
      exact ⟨(stStep_inv hI op).err, ih _ it (stStep_inv hI op)⟩
    | load ts => exact ih m _ hI
    | next =>
      simp only [schedRaises, Bool.or_eq_false_iff]
      refine ⟨?_, ih m _ hI⟩
      unfold Iter.nextRaises
      split
      · rfl
      · simp [hasCtxRaises_false hI]

/-! ### `Graph.__iter__` (all-unbound shape) under mutation -/

theorem yields_snapshot : ∀ (evs : List Ev) (hist : List Mem) (m : Mem) (it : Iter), it.fast = true →
    (yields hist m it evs).map (fun y => y.1) = it.pending.take (countNext evs) := by
  intro evs
  induction evs with
  | nil => intro hist m it _; simp [yields, countNext]
  | cons e es ih =>
    intro hist m it hf
    cases e with
    | mutate op => simp only [yields, countNext]; exact ih _ _ it hf
    | load ts =>
      have : it.load m ts = it := by simp [Iter.load, hf]
      simp only [yields, countNext, this]; exact ih _ _ it hf
    | next =>
      simp only [yields, countNext]
      have h2 : (it.next m).2 = it.pending.head? := by
        rw [next_snd]; cases it.pending.head? <;> simp [Option.filter, hf]
      have ih' := ih hist m (it.next m).1 ((next_fast it m).trans hf)
      rw [next_fst] at ih'
      rw [h2, next_fst]
      cases hp : it.pending with
      | nil => simpa [hp] using ih'
      | cons t r => simpa [hp] using ih'

end RV.C01

import RV.C01.Nest
/-
  C01 — the concrete generator machine `NGen` (level-by-level key copies).
  * second-level dictionary keys (and with them the first-level key above) are never deleted (`KeysLe`), so the live
    lookups `d[k]` of copied keys cannot raise;
  * every yield passed the has-context test on the live store just before (or comes from the start copy);
  * run to exhaustion with nothing interleaved, the generator yields exactly `NMem.triples`.
-/
namespace RV.C01
open RV

/-- along any operation the second-level keys only grow (the `NSim` half is there to read `g += h` / `g -= h`) -/
theorem keysLe_stStep {n : NMem} {S : QK} (h : NSim n S) (op : StOp) : KeysLe n (n.stStep op) :=
  (nmemFolds.lift (fun n' S => KeysLe n n' ∧ NSim n' S)
    (fun _ _ t c h => ⟨h.1.trans (keysLe_add _ t c), nsim_add h.2 t c⟩)
    (fun _ _ pat ctx h => ⟨h.1.trans (remove_toMem h.2.wf pat ctx).keys, nsim_remove h.2 pat ctx⟩)
    (fun _ _ k h => ⟨h.1.trans (keysLe_cx _ _), nsim_step h.2 (.addGraph k)⟩)
    (fun _ _ k h => ⟨h.1.trans ((remove_toMem h.2.wf _ _).keys.trans (keysLe_cx _ _)), nsim_step h.2 (.removeGraph k)⟩)
    (fun _ _ g h => h.2.sim.mem_graph g) ⟨KeysLe.refl n, h⟩ op).1

theorem nhasCtx_InG {n : NMem} (hw : NWF n) (t : Triple) (g : Nat) : n.hasCtx t (some g) = true ↔ InG n.toMem t g := by
  rw [hasCtx_eq hw]; exact hasCtx_iff _ _ _

theorem nhasCtxRaises_false {n : NMem} (hw : NWF n) (hI : Inv n.toMem) (t : Triple) : n.hasCtxRaises t = false := by
  rw [hasCtxRaises_eq hw]; exact hasCtxRaises_false hI t

/-- What is known of a work item (`hist` = the store states since the generator began, `n` = the live store): an element
    of the start copy is yielded untested, so it carries its witness state; the other kinds are tested on the live store
    at their turn and need only match — and have their copied key still there for the live lookup `d[k]`. -/
def WorkOk (g : Nat) (pat : Pat) (hist : List NMem) (n : NMem) : Work → Prop
  | .snap t => pat.matches t = true ∧ ∃ n' ∈ hist, InG n'.toMem t g
  | .leaf t => pat.matches t = true
  | .probe t => pat.matches t = true ∧ n.probeRaises t = false
  | .expand k => n.expandRaises pat k = false

theorem workOk_mono {g : Nat} {pat : Pat} {hist hist' : List NMem} {n n' : NMem} (hh : ∀ x ∈ hist, x ∈ hist')
    (hk : KeysLe n n') {w : Work} (h : WorkOk g pat hist n w) : WorkOk g pat hist' n' w := by
  cases w with
  | snap t =>
    obtain ⟨h1, x, hx, h2⟩ := h
    exact ⟨h1, x, hh x hx, h2⟩
  | leaf t => exact h
  | probe t =>
    refine ⟨h.1, ?_⟩
    have := h.2
    simp only [NMem.probeRaises, Bool.not_eq_false', decide_eq_true_eq] at this ⊢
    exact hk.spo _ _ this
  | expand k =>
    simp only [WorkOk] at h ⊢
    obtain ⟨ps, pp, po⟩ := pat
    cases ps <;> cases pp <;> cases po <;>
      simp only [NMem.expandRaises, Bool.not_eq_false', decide_eq_true_eq] at h ⊢
    · exact hk.osp _ _ h
    · exact hk.pos _ _ h
    · exact hk.spo _ _ h

theorem matches_expandKey (n : NMem) (pat : Pat) (k : Nat) : ∀ t ∈ n.expandKey pat k, pat.matches t = true := by
  obtain ⟨ps, pp, po⟩ := pat
  intro t ht
  cases ps <;> cases pp <;> cases po <;> simp only [NMem.expandKey, List.mem_map, List.not_mem_nil] at ht
  all_goals
    obtain ⟨x, _, rfl⟩ := ht
    simp [Pat.matches, matchPos]

theorem scan_spec (n : NMem) (req : Ctx) : ∀ (l : List Triple),
    (∀ t rest, n.scan req l = some (t, rest) →
        t ∈ l ∧ n.hasCtx t req = true ∧ (∀ x ∈ rest, x ∈ l) ∧
        l.filter (fun x => n.hasCtx x req) = t :: rest.filter (fun x => n.hasCtx x req)) ∧
    (n.scan req l = none → l.filter (fun x => n.hasCtx x req) = []) := by
  intro l
  induction l with
  | nil => simp [NMem.scan]
  | cons a r ih =>
    by_cases h : n.hasCtx a req = true
    · simp only [NMem.scan, h, if_true, Option.some.injEq, Prod.mk.injEq, reduceCtorEq, false_imp_iff, and_true]
      rintro t rest ⟨rfl, rfl⟩
      refine ⟨by simp, h, fun x hx => List.mem_cons_of_mem _ hx, ?_⟩
      simp [h]
    · have h' : n.hasCtx a req = false := by simpa using h
      simp only [NMem.scan, h', Bool.false_eq_true, if_false]
      constructor
      · intro t rest hs
        obtain ⟨h1, h2, h3, h4⟩ := ih.1 t rest hs
        refine ⟨List.mem_cons_of_mem _ h1, h2, fun x hx => List.mem_cons_of_mem _ (h3 x hx), ?_⟩
        simp [h', h4]
      · intro hs
        simp [h', ih.2 hs]

theorem scanRaises_false {n : NMem} (hw : NWF n) (hI : Inv n.toMem) (req : Ctx) : ∀ (l : List Triple), n.scanRaises req l = false := by
  intro l
  induction l with
  | nil => rfl
  | cons a r ih =>
    simp only [NMem.scanRaises, nhasCtxRaises_false hw hI, Bool.false_or, ih]
    split <;> rfl

theorem runGen_ok {n : NMem} (hw : NWF n) (hI : Inv n.toMem) (g : Nat) (pat : Pat) (hist : List NMem) (hn : n ∈ hist) :
    ∀ (work : List Work), (∀ w ∈ work, WorkOk g pat hist n w) →
      (∀ w ∈ (n.runGen pat (some g) work).1, WorkOk g pat hist n w) ∧
      (∀ t, (n.runGen pat (some g) work).2 = some t → pat.matches t = true ∧ ∃ n' ∈ hist, InG n'.toMem t g) ∧
      n.runGenRaises pat (some g) work = false := by
  intro work
  induction work with
  | nil => intro _; simp [NMem.runGen, NMem.runGenRaises]
  | cons w r ih =>
    intro hall
    have hr : ∀ w ∈ r, WorkOk g pat hist n w := fun w hw => hall w (List.mem_cons_of_mem _ hw)
    have hw0 := hall w (by simp)
    obtain ⟨i1, i2, i3⟩ := ih hr
    cases w with
    | snap t =>
      simp only [NMem.runGen, NMem.runGenRaises, and_true]
      refine ⟨hr, ?_⟩
      intro t' e; injection e with e; subst e; exact hw0
    | leaf t =>
      simp only [NMem.runGen, NMem.runGenRaises, nhasCtxRaises_false hw hI, Bool.false_or]
      by_cases h : n.hasCtx t (some g) = true
      · simp only [h, if_true, and_true]
        refine ⟨hr, ?_⟩
        intro t' e; injection e with e; subst e
        exact ⟨hw0, n, hn, (nhasCtx_InG hw _ g).1 h⟩
      · simp only [h]
        exact ⟨i1, i2, i3⟩
    | probe t =>
      simp only [NMem.runGen, NMem.runGenRaises, nhasCtxRaises_false hw hI, Bool.and_false, Bool.or_false, hw0.2,
        Bool.false_or]
      by_cases h : (n.probeOk t && n.hasCtx t (some g)) = true
      · simp only [h, if_true, and_true]
        refine ⟨hr, ?_⟩
        intro t' e; injection e with e; subst e
        simp only [Bool.and_eq_true] at h
        exact ⟨hw0.1, n, hn, (nhasCtx_InG hw _ g).1 h.2⟩
      · simp only [h]
        exact ⟨i1, i2, i3⟩
    | expand k =>
      have hx : n.expandRaises pat k = false := hw0
      simp only [NMem.runGen, NMem.runGenRaises, hx, scanRaises_false hw hI, Bool.false_or]
      cases hs : n.scan (some g) (n.expandKey pat k) with
      | none => simp only; exact ⟨i1, i2, i3⟩
      | some tr =>
        obtain ⟨t, rest⟩ := tr
        obtain ⟨h1, h2, h3, _⟩ := (scan_spec n (some g) _).1 t rest hs
        simp only [and_true]
        refine ⟨?_, ?_⟩
        · intro w hw
          rcases List.mem_append.1 hw with hw | hw
          · simp only [List.mem_map] at hw
            obtain ⟨x, hx', rfl⟩ := hw
            exact matches_expandKey n pat k x (h3 x hx')
          · exact hr w hw
        · intro t' e; injection e with e; subst e
          exact ⟨matches_expandKey n pat k _ h1, n, hn, (nhasCtx_InG hw _ g).1 h2⟩

theorem startWork_ok {n : NMem} (hI : Inv n.toMem) (g : Nat) (pat : Pat) :
    ∀ w ∈ n.startWork pat (some g), WorkOk g pat [n] n w := by
  obtain ⟨ps, pp, po⟩ := pat
  intro w hw
  cases ps <;> cases pp <;> cases po <;> simp only [NMem.startWork, List.mem_map, List.mem_singleton] at hw
  · -- all unbound: the copy of `__contextTriples[g]`
    obtain ⟨t, ht, rfl⟩ := hw
    refine ⟨by simp [Pat.matches, matchPos], n, by simp, ?_⟩
    exact (hI.ctxT_iff (some g) t).1 ht
  · -- (?, ?, o)
    obtain ⟨k, hk, rfl⟩ := hw
    simp only [WorkOk, NMem.expandRaises, Bool.not_eq_false', decide_eq_true_eq]; exact hk
  · -- (?, p, ?)
    obtain ⟨k, hk, rfl⟩ := hw
    simp only [WorkOk, NMem.expandRaises, Bool.not_eq_false', decide_eq_true_eq]; exact hk
  · -- (?, p, o)
    obtain ⟨x, _, rfl⟩ := hw
    simp [WorkOk, Pat.matches, matchPos]
  · -- (s, ?, ?)
    obtain ⟨k, hk, rfl⟩ := hw
    simp only [WorkOk, NMem.expandRaises, Bool.not_eq_false', decide_eq_true_eq]; exact hk
  · -- (s, ?, o)
    obtain ⟨k, hk, rfl⟩ := hw
    refine ⟨by simp [Pat.matches, matchPos], ?_⟩
    simp only [NMem.probeRaises, Bool.not_eq_false', decide_eq_true_eq]; exact hk
  · -- (s, p, ?)
    obtain ⟨x, _, rfl⟩ := hw
    simp [WorkOk, Pat.matches, matchPos]
  · -- (s, p, o)
    subst hw
    simp [WorkOk, Pat.matches, matchPos]

/-- Before the first `next()` (`started = false`) nothing is known of the generator and `gyields` ignores `hist`; from
    then on the live store is in `hist` and the work satisfies `WorkOk`, kept by mutations (`workOk_mono`) and by `next()`
    (`runGen_ok`). -/
theorem gyields_sound (g : Nat) (pat : Pat) : ∀ (evs : List GEv) (hist : List NMem) (n : NMem) (started : Bool)
    (work : List Work) (S : QK), NSim n S →
    (started = true → n ∈ hist ∧ ∀ w ∈ work, WorkOk g pat hist n w) →
    gschedRaises n ⟨pat, some g, started, work⟩ evs = false ∧
      ∀ y ∈ gyields hist n ⟨pat, some g, started, work⟩ evs,
        pat.matches y.1 = true ∧ ∃ n' ∈ y.2, InG n'.toMem y.1 g := by
  intro evs
  induction evs with
  | nil => intro hist n _ _ _ _ _; simp [gschedRaises, gyields]
  | cons ev es ih =>
    intro hist n started work S hg hw
    cases ev with
    | mutate op =>
      have hg' := nsim_step hg op
      have herr : (n.stStep op).cx.err = false := hg'.sim.inv.err
      simp only [gschedRaises, gyields, herr, Bool.false_or]
      by_cases hs : started = true
      · rw [if_pos hs]
        obtain ⟨h1, h2⟩ := hw hs
        refine ih _ _ _ _ _ hg' (fun _ => ⟨by simp, fun w hw' => ?_⟩)
        exact workOk_mono (fun x hx => List.mem_cons_of_mem _ hx) (keysLe_stStep hg op) (h2 w hw')
      · rw [if_neg hs]
        exact ih _ _ _ _ _ hg' (fun h => (hs h).elim)
    | next =>
      have hwork : n ∈ (if started = true then hist else [n]) ∧
          ∀ w ∈ (if started = true then work else n.startWork pat (some g)),
            WorkOk g pat (if started = true then hist else [n]) n w := by
        by_cases hs : started = true
        · simp only [if_pos hs]; exact hw hs
        · simp only [if_neg hs]; exact ⟨by simp, startWork_ok hg.sim.inv g pat⟩
      obtain ⟨k1, k2, k3⟩ := runGen_ok hg.wf hg.sim.inv g pat _ hwork.1 _ hwork.2
      have hnext := ih (if started = true then hist else [n]) n true _ S hg (fun _ => ⟨hwork.1, k1⟩)
      simp only [gschedRaises, gyields]
      refine ⟨Bool.or_eq_false_iff.2 ⟨k3, hnext.1⟩, ?_⟩
      cases hy : (NGen.next ⟨pat, some g, started, work⟩ n).2 with
      | none => exact hnext.2
      | some t =>
        rintro y (_ | ⟨_, hy'⟩)
        · exact k2 t hy
        · exact hnext.2 y hy'

/-! ### nothing interleaved: the generator yields `NMem.triples` -/

theorem runAll_append (n : NMem) (pat : Pat) (req : Ctx) : ∀ (a b : List Work),
    n.runAll pat req (a ++ b) = n.runAll pat req a ++ n.runAll pat req b := by
  intro a
  induction a with
  | nil => intro b; rfl
  | cons w r ih =>
    intro b
    cases w with
    | snap t => simp [NMem.runAll, ih]
    | leaf t => simp only [List.cons_append, NMem.runAll, ih]; split <;> simp
    | probe t => simp only [List.cons_append, NMem.runAll, ih]; split <;> simp
    | expand k => simp [NMem.runAll, ih]

theorem runAll_snap (n : NMem) (pat : Pat) (req : Ctx) (l : List Triple) : n.runAll pat req (l.map Work.snap) = l := by
  induction l with
  | nil => rfl
  | cons a r ih => simp [NMem.runAll, ih]

theorem runAll_leaf (n : NMem) (pat : Pat) (req : Ctx) {α : Type} (f : α → Triple) (l : List α) :
    n.runAll pat req (l.map (fun x => Work.leaf (f x))) = (l.map f).filter (fun t => n.hasCtx t req) := by
  induction l with
  | nil => rfl
  | cons a r ih =>
    simp only [List.map_cons, NMem.runAll, ih, List.filter_cons]

theorem runAll_expand (n : NMem) (pat : Pat) (req : Ctx) (ks : List Nat) :
    n.runAll pat req (ks.map Work.expand)
      = (ks.flatMap (fun k => n.expandKey pat k)).filter (fun t => n.hasCtx t req) := by
  induction ks with
  | nil => rfl
  | cons k r ih => simp only [List.map_cons, NMem.runAll, ih, List.flatMap_cons, List.filter_append]

theorem runAll_probe (n : NMem) (pat : Pat) (req : Ctx) (s o : Nat) (ks : List Nat) :
    n.runAll pat req (ks.map (fun p => Work.probe (s, p, o)))
      = ((ks.filter (fun p => decide (o ∈ lvl3 n.ispo s p))).map (fun p => (s, p, o))).filter (fun t => n.hasCtx t req) := by
  induction ks with
  | nil => rfl
  | cons k r ih =>
    simp only [List.map_cons, NMem.runAll, ih, NMem.probeOk, List.filter_cons]
    by_cases h1 : o ∈ lvl3 n.ispo s k
    · by_cases h2 : n.hasCtx (s, k, o) req = true
      · simp [h1, h2]
      · simp [h1, h2]
    · simp [h1]

theorem drain_eq_triples (n : NMem) (pat : Pat) (req : Ctx) : n.drain pat req = n.triples pat req := by
  obtain ⟨_ | s, _ | p, _ | o⟩ := pat
  case none.none.none => exact runAll_snap n _ req _
  case some.some.some =>
    -- the fully bound shape: the `spo` probe is the first half of the has-context test
    simp only [NMem.drain, NMem.startWork, NMem.triples, NMem.cands, idxCands, NMem.runAll]
    by_cases h : idxHas n.ispo s p o = true
    · simp only [h, if_true, List.filter_cons, List.filter_nil]
    · have h' : n.hasCtx (s, p, o) req = false := by simp [NMem.hasCtx, NMem.has, h]
      simp [h, h']
  all_goals
    simp only [NMem.drain, NMem.startWork, NMem.triples, NMem.cands, idxCands, runAll_expand, runAll_leaf, runAll_probe,
      NMem.expandKey]

theorem runGen_runAll (n : NMem) (pat : Pat) (req : Ctx) : ∀ (work : List Work),
    (∀ t, (n.runGen pat req work).2 = some t →
        n.runAll pat req work = t :: n.runAll pat req (n.runGen pat req work).1) ∧
    ((n.runGen pat req work).2 = none → n.runAll pat req work = []) := by
  intro work
  induction work with
  | nil => simp [NMem.runGen, NMem.runAll]
  | cons w r ih =>
    cases w with
    | snap t =>
      simp only [NMem.runGen, NMem.runAll, Option.some.injEq, reduceCtorEq, false_imp_iff, and_true]
      rintro t' rfl; rfl
    | leaf t =>
      simp only [NMem.runGen, NMem.runAll]
      by_cases h : n.hasCtx t req = true
      · simp only [h, if_true, Option.some.injEq, reduceCtorEq, false_imp_iff, and_true]
        rintro t' rfl; rfl
      · simp only [h]; exact ih
    | probe t =>
      simp only [NMem.runGen, NMem.runAll]
      by_cases h : (n.probeOk t && n.hasCtx t req) = true
      · simp only [h, if_true, Option.some.injEq, reduceCtorEq, false_imp_iff, and_true]
        rintro t' rfl; rfl
      · simp only [h]; exact ih
    | expand k =>
      simp only [NMem.runGen, NMem.runAll]
      cases hs : n.scan req (n.expandKey pat k) with
      | none =>
        simp only [(scan_spec n req _).2 hs, List.nil_append]
        exact ih
      | some tr =>
        obtain ⟨t, rest⟩ := tr
        obtain ⟨_, _, _, h4⟩ := (scan_spec n req _).1 t rest hs
        simp only [Option.some.injEq, reduceCtorEq, false_imp_iff, and_true]
        rintro t' rfl
        rw [h4, runAll_append, show rest.map Work.leaf = rest.map (fun x => Work.leaf (id x)) from rfl, runAll_leaf,
          List.map_id]
        rfl

/-! ### the all-unbound shape: the yields are the start copy, whatever is interleaved -/

theorem gyields_snapshot_started (pat : Pat) (req : Ctx) : ∀ (evs : List GEv) (hist : List NMem) (n : NMem) (l : List Triple),
    (gyields hist n { pat := pat, req := req, started := true, work := l.map Work.snap } evs).map (fun y => y.1)
      = l.take (gcountNext evs) := by
  intro evs
  induction evs with
  | nil => intro hist n l; simp [gyields, gcountNext]
  | cons ev es ih =>
    intro hist n l
    cases ev with
    | mutate op => simp only [gyields, gcountNext]; exact ih _ _ l
    | next =>
      cases l with
      | nil =>
        simp only [gyields, gcountNext, NGen.next, NGen.workAt, List.map_nil, NMem.runGen, if_true, List.take_nil]
        simpa using ih hist n ([] : List Triple)
      | cons t r =>
        simp only [gyields, gcountNext, NGen.next, NGen.workAt, List.map_cons, NMem.runGen, if_true, List.take_succ_cons]
        rw [ih _ _ r]

end RV.C01

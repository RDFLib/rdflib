import RV.C01.Iter
import RV.C01.Nest
import RV.C01.Gen
/-
  C01 — property theorems.

  "A Graph is exactly the set of triples its history implies, under every pattern."

  Specifications: `Spec.lean`; models: `Model.lean` (index sets) and `NModel.lean` (nested dictionaries, the generator).
  In this order: `Graph`-level histories on the default store, the store API, `SimpleMemory`, the operators over any
  store, iteration under mutation; then the same on the nested models, `triples_choices`; examples; finding C01-F1.
  Each statement is a `def Statement_… : Prop`; its theorem follows in the same part of the file.
-/
namespace RV.C01
open RV

/-- every observation the property names agrees with the set `S`, with no duplicates and no exception -/
structure ObsAgree (m : Mem) (S : QSet) : Prop where
  no_raise : m.err = false ∧ ∀ pat, triplesRaises m pat = false
  /-- `len(g)` is the number of elements of the set, however it is enumerated -/
  len : ∀ g (l : List Triple), l.Nodup → (∀ t, t ∈ l ↔ S t g) → m.len (some g) = l.length
  /-- `t in g` -/
  contains : ∀ t g, m.contains t g = true ↔ S t g
  /-- `list(g)` -/
  iter : ∀ g, (m.graph g).Nodup ∧ ∀ t, t ∈ m.graph g ↔ S t g
  /-- `g.triples(pattern)` for every pattern (all eight bound/unbound shapes) -/
  triples : ∀ (pat : Pat) g,
    (RV.C01.triples m pat (some g)).Nodup ∧
      ∀ t, t ∈ RV.C01.triples m pat (some g) ↔ (S t g ∧ pat.matches t = true)
  /-- the store's union view (`store.triples(pattern, None)`, `len(store)`): the triples that are in some graph -/
  union : ∀ (pat : Pat),
    (RV.C01.triples m pat none).Nodup ∧
      ∀ t, t ∈ RV.C01.triples m pat none ↔ ((∃ g, S t g) ∧ pat.matches t = true)
  ulen : ∀ (l : List Triple), l.Nodup → (∀ t, t ∈ l ↔ ∃ g, S t g) → m.len none = l.length

/-! ### Statements: the default store `Memory` -/

/-- one operation: the invariant is kept and the abstraction commutes with the set semantics -/
def Statement_refine_step : Prop :=
  ∀ (m : Mem) (S : QSet) (op : Op), Inv m → (∀ t g, abs m t g ↔ S t g) →
    Inv (m.step op) ∧ ∀ t g, abs (m.step op) t g ↔ Spec.step S op t g

/-- every finite history of add / addN / remove (wildcards) / set / += / -= on graphs sharing one store:
    the store holds exactly the set the history implies, and len, membership, iteration and
    `triples` for every pattern agree with that set, without duplicates and without raising -/
def Statement_refine_history : Prop :=
  ∀ (ops : List Op),
    (∀ t g, abs (Mem.init.run ops) t g ↔ Spec.run QSet.empty ops t g) ∧
      ObsAgree (Mem.init.run ops) (Spec.run QSet.empty ops)

/-- each of the eight pattern shapes returns exactly the graph's triples matching the pattern -/
def Statement_triples_shape_complete : Prop :=
  ∀ (ops : List Op) (s p o : Option Nat) (g : Nat) (t : Triple),
    t ∈ triples (Mem.init.run ops) (s, p, o) (some g) ↔
      (abs (Mem.init.run ops) t g ∧ Pat.matches (s, p, o) t = true)

/-- `a + b`, `a - b`, `a * b`, `a ^ b` (operands after arbitrary histories, on the same or on different
    stores) build a new graph holding the union / difference / intersection / symmetric difference.
    (The operands are immutable values here; that reading them leaves the real stores unchanged is
    checked by the correspondence run after every operation.) -/
def Statement_binop_spec : Prop :=
  ∀ (opsA opsB : List Op) (a b r : Nat),
    let ma := Mem.init.run opsA
    let mb := Mem.init.run opsB
    let A := abs ma
    let B := abs mb
    let xs := ma.graph a
    let ys := mb.graph b
    let inA := fun x => ma.contains x a
    let inB := fun x => mb.contains x b
    (∀ t c, abs (gUnion xs ys r) t c ↔ ((A t a ∨ B t b) ∧ c = r)) ∧
    (∀ t c, abs (gDiff xs inB r) t c ↔ ((A t a ∧ ¬ B t b) ∧ c = r)) ∧
    (∀ t c, abs (gInter inA ys r) t c ↔ ((A t a ∧ B t b) ∧ c = r)) ∧
    (∀ t c, abs (gXor xs inA ys inB r) t c ↔ (((A t a ∧ ¬ B t b) ∨ (B t b ∧ ¬ A t a)) ∧ c = r)) ∧
    Inv (gUnion xs ys r) ∧ Inv (gDiff xs inB r) ∧ Inv (gInter inA ys r) ∧ Inv (gXor xs inA ys inB r)

/-- iteration under mutation (default store): for every history (store-level and `Graph`-level calls) before
    the generator starts and every schedule of such mutations, candidate loads and `next` steps, nothing raises and every yielded triple
    matched the pattern and was in the graph in one of the states since the generator began -/
def Statement_iter_sound : Prop :=
  ∀ (pre : List StOp) (pat : Pat) (g : Nat) (evs : List Ev),
    schedRaises (Mem.init.stRun pre) (Iter.start (Mem.init.stRun pre) pat g) evs = false ∧
    ∀ y ∈ yields [Mem.init.stRun pre] (Mem.init.stRun pre) (Iter.start (Mem.init.stRun pre) pat g) evs,
      pat.matches y.1 = true ∧ ∃ m' ∈ y.2, abs m' y.1 g

/-! ### Statements: the `Memory` store API itself (specification `QK`, `Spec.lean`) -/

/-- every answer of the store API agrees with `(Q, K)`; no duplicates, no exception -/
structure StoreObsAgree (m : Mem) (S : QK) : Prop where
  no_raise : m.err = false ∧ ∀ pat, triplesRaises m pat = false
  /-- `store.triples(pattern, context)`, all eight shapes, `context` a graph or `None`: the distinct matching
      triples visible through the context … -/
  triples : ∀ (pat : Pat) (ctx : Option Nat),
    (RV.C01.triples m pat ctx).Nodup ∧
      ∀ t, t ∈ RV.C01.triples m pat ctx ↔ (S.sees ctx t ∧ pat.matches t = true)
  /-- … each yielded with exactly the graphs it is asserted in (`__contexts(triple)`) -/
  triple_ctxs : ∀ (pat : Pat) (ctx : Option Nat) (e : Triple × List Nat), e ∈ m.triplesC pat ctx →
    e.1 ∈ RV.C01.triples m pat ctx ∧ e.2.Nodup ∧ ∀ k, k ∈ e.2 ↔ S.Q e.1 k
  /-- `store.__len__(context)` = number of triples visible through the context -/
  len : ∀ (ctx : Option Nat) (l : List Triple), l.Nodup → (∀ t, t ∈ l ↔ S.sees ctx t) → m.len ctx = l.length
  /-- `store.contexts()` = the registered graphs -/
  contexts_all : (m.contexts (none, none, none)).Nodup ∧ ∀ k, k ∈ m.contexts (none, none, none) ↔ S.K k
  /-- `store.contexts(t)` = the graphs `t` is asserted in -/
  contexts_of : ∀ (s p o : Nat),
    (m.contexts (some s, some p, some o)).Nodup ∧ ∀ k, k ∈ m.contexts (some s, some p, some o) ↔ S.Q (s, p, o) k
  /-- `store.contexts(pattern)` with an unbound position (but not all): nothing (`KeyError` caught) -/
  contexts_partial : ∀ (s p o : Option Nat), ¬ (s = none ∧ p = none ∧ o = none) →
    ¬ (s.isSome = true ∧ p.isSome = true ∧ o.isSome = true) → m.contexts (s, p, o) = []

/-- `memory_refines_quadset`: for every finite history of store-level calls (`add`, `remove` with a graph or
    `None`, `add_graph`, `remove_graph`) freely mixed with `Graph`-level operations, the `Memory` model
    (indexes, context compression, `__contextTriples`, `__all_contexts`) represents exactly the pair
    `(Q, K)` the history implies, and every observable answer equals the set-theoretic one -/
def Statement_memory_refines_quadset : Prop :=
  ∀ (ops : List StOp),
    (∀ t g, abs (Mem.init.stRun ops) t g ↔ (QK.run QK.empty ops).Q t g) ∧
    (∀ k, k ∈ (Mem.init.stRun ops).allc ↔ (QK.run QK.empty ops).K k) ∧
    StoreObsAgree (Mem.init.stRun ops) (QK.run QK.empty ops)

/-! ### Statements: `SimpleMemory` -/

def Statement_simple_refine_history : Prop :=
  ∀ (ops : List SOp),
    let m := SMem.init.run ops
    let S := SSpec.run (fun _ => False) ops
    m.err = false ∧ (∀ t, t ∈ m.spo ↔ S t) ∧
    (∀ (l : List Triple), l.Nodup → (∀ t, t ∈ l ↔ S t) → m.len = l.length) ∧
    (∀ t, m.contains t = true ↔ S t) ∧
    (∀ (s p o : Option Nat), (m.triples (s, p, o)).Nodup ∧
        ∀ t, t ∈ m.triples (s, p, o) ↔ (S t ∧ Pat.matches (s, p, o) t = true))

/-! ### Statements: binary operators over operands of ANY store; `Graph.__iter__` under mutation -/

/-- an operand of `+ - * ^` (`| &` are aliases; `|= &= ^=` rebind to the new graph): a graph of a default
    store after any store-level / Graph-level history, or the graph of a `SimpleMemory` after any history -/
inductive Operand
  | mem (ops : List StOp) (g : Nat)
  | simple (ops : List SOp)

def Operand.view : Operand → View
  | .mem ops g => View.ofMem (Mem.init.stRun ops) g
  | .simple ops => View.ofSimple (SMem.init.run ops)

/-- the set of triples the operand denotes, by the *specifications* of the two stores -/
def Operand.set : Operand → Triple → Prop
  | .mem ops g => fun t => (QK.run QK.empty ops).Q t g
  | .simple ops => SSpec.run (fun _ => False) ops

/-- whatever stores the two operands live on (same `Memory`, two `Memory`s, `SimpleMemory`, mixed), the new
    graph holds exactly the union / difference / intersection / symmetric difference of the two sets -/
def Statement_binop_any_store : Prop :=
  ∀ (a b : Operand) (r : Nat),
    (∀ t c, abs (a.view.union b.view r) t c ↔ ((a.set t ∨ b.set t) ∧ c = r)) ∧
    (∀ t c, abs (a.view.diff b.view r) t c ↔ ((a.set t ∧ ¬ b.set t) ∧ c = r)) ∧
    (∀ t c, abs (a.view.inter b.view r) t c ↔ ((a.set t ∧ b.set t) ∧ c = r)) ∧
    (∀ t c, abs (a.view.xor b.view r) t c ↔ (((a.set t ∧ ¬ b.set t) ∨ (b.set t ∧ ¬ a.set t)) ∧ c = r)) ∧
    Inv (a.view.union b.view r) ∧ Inv (a.view.diff b.view r) ∧ Inv (a.view.inter b.view r) ∧
    Inv (a.view.xor b.view r)

/-- `for t in g` / `g.triples((None, None, None))` overlapped with ANY mutations of the store: the k-th `next()`
    yields the k-th element of the copy taken when the generator began — i.e. the iteration is exactly the
    graph's content at its start (each triple once, see `refine_history`/`memory_refines_quadset` for the
    copy being duplicate-free and equal to the set), untouched by what happens meanwhile.  This is what makes
    the idiom `for t in g: g.remove(t)` safe on the default store. -/
def Statement_iter_all_is_snapshot : Prop :=
  ∀ (pre : List StOp) (g : Nat) (evs : List Ev),
    (yields [Mem.init.stRun pre] (Mem.init.stRun pre) (Iter.start (Mem.init.stRun pre) allPat g) evs).map (fun y => y.1)
      = ((Mem.init.stRun pre).graph g).take (countNext evs)

/-! ### The default store and `SimpleMemory`: proofs -/

theorem refine_step : Statement_refine_step := fun _ S op hI hS =>
  have h := stSim0_step (S := ⟨S, fun _ => True⟩) ⟨hI, hS⟩ (.graph op)
  ⟨h.inv, h.q⟩

theorem refine_run (ops : List Op) :
    Inv (Mem.init.run ops) ∧ ∀ t g, abs (Mem.init.run ops) t g ↔ Spec.run QSet.empty ops t g :=
  foldl_rel (fun m (S : QSet) => Inv m ∧ ∀ t g, abs m t g ↔ S t g) Mem.step Spec.step
    (fun m S op h => refine_step m S op h.1 h.2) ops _ _ ⟨inv_init, stSim_init.q⟩

theorem obsAgree_of {m : Mem} {S : QSet} (hI : Inv m) (hS : ∀ t g, abs m t g ↔ S t g) : ObsAgree m S := by
  rw [abs_eq_InG] at hS
  have hU : ∀ pat t, t ∈ RV.C01.triples m pat none ↔ ((∃ g, S t g) ∧ pat.matches t = true) := fun pat t => by
    rw [mem_triples_ctx hI, inUnion_iff hI]; simp only [hS]
  refine { no_raise := ⟨hI.err, triplesRaises_false hI⟩, len := ?_, contains := ?_, iter := ?_, triples := ?_,
           union := ?_, ulen := ?_ }
  · intro g l hnd hl
    exact len_eq hI (some g) hnd fun t => (hl t).trans (hS t g).symm
  · intro t g; rw [contains_iff hI, hS]
  · intro g; exact ⟨nodup_graph hI g, fun t => by rw [mem_graph hI, hS]⟩
  · intro pat g
    exact ⟨nodup_triples hI pat _, fun t => by rw [mem_triples hI, hS]⟩
  · intro pat; exact ⟨nodup_triples hI pat _, hU pat⟩
  · intro l hnd hl
    exact len_eq hI none hnd fun t => (hl t).trans ((inUnion_iff hI t).trans (exists_congr (hS t))).symm

theorem refine_history : Statement_refine_history := by
  intro ops
  obtain ⟨hI, h⟩ := refine_run ops
  exact ⟨h, obsAgree_of hI h⟩

theorem triples_shape_complete : Statement_triples_shape_complete := by
  intro ops s p o g t
  exact mem_triples (refine_run ops).1 (s, p, o) g t

theorem binop_spec : Statement_binop_spec := by
  intro opsA opsB a b r
  have hIa := (refine_run opsA).1
  have hIb := (refine_run opsB).1
  have h := view_ops_spec (View.ofMem (Mem.init.run opsA) a) (View.ofMem (Mem.init.run opsB) b)
    (coherent_ofMem hIa a) (coherent_ofMem hIb b) r
  simp only [View.ofMem, mem_graph hIa, mem_graph hIb] at h
  exact h

theorem iter_sound : Statement_iter_sound := by
  intro pre pat g evs
  have hI := (stSim_run pre).inv
  refine ⟨sched_no_raise evs _ _ hI, ?_⟩
  have h := yields_sound evs [Mem.init.stRun pre] (Mem.init.stRun pre) _ hI List.mem_cons_self (pendingOk_start hI pat g)
  rwa [start_pat, start_g] at h

theorem iter_all_is_snapshot : Statement_iter_all_is_snapshot := by
  intro pre g evs
  exact yields_snapshot evs _ _ (Iter.start (Mem.init.stRun pre) allPat g) rfl

theorem storeObsAgree_of {m : Mem} {S : QK} (h : StSim m S) : StoreObsAgree m S := by
  have hI := h.inv
  have hq := h.q
  rw [abs_eq_InG] at hq
  have hsees : ∀ (ctx : Option Nat) t, (t ∈ m.spo ∧ ctx ∈ getCtxs m t) ↔ S.sees ctx t := by
    intro ctx t
    cases ctx with
    | none => rw [inUnion_iff hI]; simp only [QK.sees, true_or, and_true, hq]
    | some g =>
      simp only [QK.sees, reduceCtorEq, false_or, Option.some.injEq, exists_eq_right']
      exact hq t g
  have htri : ∀ pat ctx t, t ∈ RV.C01.triples m pat ctx ↔ (S.sees ctx t ∧ pat.matches t = true) := fun pat ctx t => by
    rw [mem_triples_ctx hI, hsees]
  have hkeys : ∀ t, t ∈ m.spo → (ctxKeys m t).Nodup ∧ ∀ k, k ∈ ctxKeys m t ↔ S.Q t k := fun t ht =>
    ⟨nodup_keysOf (hI.ctxs_nd t), fun k => (mem_keysOf _ k).trans ((and_iff_right ht).symm.trans (hq t k))⟩
  refine { no_raise := ⟨hI.err, triplesRaises_false hI⟩
           triples := fun pat ctx => ⟨nodup_triples hI pat ctx, htri pat ctx⟩
           triple_ctxs := ?_, len := ?_, contexts_all := ⟨h.nd, h.k⟩, contexts_of := ?_
           contexts_partial := fun s p o h1 h2 => contexts_partial m h1 h2 }
  · intro pat ctx e he
    obtain ⟨t, ht, rfl⟩ := List.mem_map.1 he
    exact ⟨ht, hkeys t ((mem_triples_ctx hI pat ctx t).1 ht).1.1⟩
  · intro ctx l hnd hl
    exact len_eq hI ctx hnd fun t => (hl t).trans (hsees ctx t).symm
  · intro s p o
    rw [Mem.contexts]
    split
    · next hin => exact hkeys _ hin
    · next hin => exact ⟨List.nodup_nil, fun k => iff_of_false List.not_mem_nil fun hk => hin ((hq _ _).2 hk).1⟩

theorem memory_refines_quadset : Statement_memory_refines_quadset := by
  intro ops
  have h := stSim_run ops
  exact ⟨h.q, h.k, storeObsAgree_of h⟩

theorem simple_refine_run (ops : List SOp) :
    SInv (SMem.init.run ops) ∧ ∀ t, t ∈ (SMem.init.run ops).spo ↔ SSpec.run (fun _ => False) ops t :=
  foldl_rel (fun m (S : TSet) => SInv m ∧ ∀ t, t ∈ m.spo ↔ S t) SMem.step SSpec.step
    (fun _ _ op h => simple_refine_step h op) ops _ _ ⟨sinv_init, fun t => by simp [SMem.init]⟩

theorem operand_ok (a : Operand) : a.view.Coherent ∧ ∀ t, t ∈ a.view.xs ↔ a.set t := by
  cases a with
  | mem ops g =>
    have h := stSim_run ops
    exact ⟨coherent_ofMem h.inv g, h.mem_graph g⟩
  | simple ops =>
    obtain ⟨hI, h⟩ := simple_refine_run ops
    refine ⟨coherent_ofSimple hI, fun t => ?_⟩
    exact (mem_striples_all hI t).trans (h t)

theorem binop_any_store : Statement_binop_any_store := by
  intro a b r
  obtain ⟨ha, hsa⟩ := operand_ok a
  obtain ⟨hb, hsb⟩ := operand_ok b
  have h := view_ops_spec a.view b.view ha hb r
  simp only [abs_eq_InG]
  simp only [hsa, hsb] at h
  exact h

theorem sobs_of {m : SMem} {S : TSet} (hI : SInv m) (h : ∀ t, t ∈ m.spo ↔ S t) :
    (∀ (l : List Triple), l.Nodup → (∀ t, t ∈ l ↔ S t) → m.len = l.length) ∧
    (∀ t, m.contains t = true ↔ S t) ∧
    (∀ (s p o : Option Nat), (m.triples (s, p, o)).Nodup ∧
        ∀ t, t ∈ m.triples (s, p, o) ↔ (S t ∧ Pat.matches (s, p, o) t = true)) :=
  ⟨fun l hnd hl => length_eq_of_mem_iff (nodup_striples hI _) hnd (fun t => by rw [mem_striples_all hI, hl, h]),
    fun t => (scontains_iff hI t).trans (h t),
    fun s p o => ⟨nodup_striples hI _, fun t => by rw [mem_striples hI, h]⟩⟩

theorem simple_refine_history : Statement_simple_refine_history := by
  intro ops
  obtain ⟨hI, h⟩ := simple_refine_run ops
  exact ⟨hI.err, h, sobs_of hI h⟩

/-! ### The nested dictionaries themselves (`NModel.lean`)

  `NMem` / `NSMem` keep the three indexes as the code has them — three-level insertion-ordered dictionaries with the
  `try/except` insertion ladder, leaf-only `del`, and the level-by-level walks of `triples()` — and reuse the context
  bookkeeping of `Mem`.  The statements below are about the observations computed ON THE NESTED MODEL (which is what
  the driver runs and the correspondence compares with the real store on every line). -/

/-- every answer of the store API, computed on the nested-dictionary model, agrees with `(Q, K)` -/
structure NStoreObsAgree (n : NMem) (S : QK) : Prop where
  no_raise : n.cx.err = false ∧ ∀ pat, n.triplesRaises pat = false
  /-- `store.triples(pattern, context)`: the walk of the nested index chosen by the shape, filtered by the has-context test -/
  triples : ∀ (pat : Pat) (ctx : Option Nat),
    (n.triples pat ctx).Nodup ∧ ∀ t, t ∈ n.triples pat ctx ↔ (S.sees ctx t ∧ pat.matches t = true)
  triple_ctxs : ∀ (pat : Pat) (ctx : Option Nat) (e : Triple × List Nat), e ∈ n.triplesC pat ctx →
    e.1 ∈ n.triples pat ctx ∧ e.2.Nodup ∧ ∀ k, k ∈ e.2 ↔ S.Q e.1 k
  len : ∀ (ctx : Option Nat) (l : List Triple), l.Nodup → (∀ t, t ∈ l ↔ S.sees ctx t) → n.len ctx = l.length
  /-- `t in g` (the fully bound walk: three dictionary probes, then the has-context test) -/
  contains : ∀ t g, n.contains t g = true ↔ S.Q t g
  contexts_all : (n.contexts (none, none, none)).Nodup ∧ ∀ k, k ∈ n.contexts (none, none, none) ↔ S.K k
  contexts_of : ∀ (s p o : Nat),
    (n.contexts (some s, some p, some o)).Nodup ∧ ∀ k, k ∈ n.contexts (some s, some p, some o) ↔ S.Q (s, p, o) k
  contexts_partial : ∀ (s p o : Option Nat), ¬ (s = none ∧ p = none ∧ o = none) →
    ¬ (s.isSome = true ∧ p.isSome = true ∧ o.isSome = true) → n.contexts (s, p, o) = []
  /-- the three nested indexes are coherent: `spo[s][p][o]`, `pos[p][o][s]`, `osp[o][s][p]` exist together, exactly
      for the triples that are in some graph (emptied inner dictionaries may remain, stale leaf keys may not) -/
  index : ∀ (s p o : Nat), (idxHas n.ispo s p o = true ↔ ∃ g, S.Q (s, p, o) g) ∧
    idxHas n.ipos p o s = idxHas n.ispo s p o ∧ idxHas n.iosp o s p = idxHas n.ispo s p o

/-- `nested_refines_quadset`: for every finite history of store-level and `Graph`-level calls, the `Memory` model over
    NESTED dictionaries (insertion ladders, leaf-only deletion, level-by-level walks, context compression, …) keeps
    unique keys at every dictionary level and answers every observation exactly as the pair `(Q, K)` the history implies -/
def Statement_nested_refines_quadset : Prop :=
  ∀ (ops : List StOp),
    NWF (NMem.init.stRun ops) ∧ NStoreObsAgree (NMem.init.stRun ops) (QK.run QK.empty ops)

/-- the same for `SimpleMemory` over nested dictionaries -/
def Statement_nested_simple_refines : Prop :=
  ∀ (ops : List SOp),
    let n := NSMem.init.run ops
    let S := SSpec.run (fun _ => False) ops
    NSWF n ∧ n.err = false ∧
    (∀ (s p o : Nat), (idxHas n.ispo s p o = true ↔ S (s, p, o)) ∧
        idxHas n.ipos p o s = idxHas n.ispo s p o ∧ idxHas n.iosp o s p = idxHas n.ispo s p o) ∧
    (∀ (l : List Triple), l.Nodup → (∀ t, t ∈ l ↔ S t) → n.len = l.length) ∧
    (∀ t, n.contains t = true ↔ S t) ∧
    (∀ (s p o : Option Nat), (n.triples (s, p, o)).Nodup ∧
        ∀ t, t ∈ n.triples (s, p, o) ↔ (S t ∧ Pat.matches (s, p, o) t = true))

/-- an operand of `+ - * ^` given by a NESTED model -/
inductive NOperand
  | mem (ops : List StOp) (g : Nat)
  | simple (ops : List SOp)

def NOperand.view : NOperand → View
  | .mem ops g => View.ofNMem (NMem.init.stRun ops) g
  | .simple ops => View.ofNSimple (NSMem.init.run ops)

def NOperand.set : NOperand → Triple → Prop
  | .mem ops g => fun t => (QK.run QK.empty ops).Q t g
  | .simple ops => SSpec.run (fun _ => False) ops

/-- the binary operators reading their operands through the nested models (iteration = the walks, `in` = the probes) -/
def Statement_binop_nested_flat : Prop :=
  ∀ (a b : NOperand) (r : Nat),
    (∀ t c, abs (a.view.union b.view r) t c ↔ ((a.set t ∨ b.set t) ∧ c = r)) ∧
    (∀ t c, abs (a.view.diff b.view r) t c ↔ ((a.set t ∧ ¬ b.set t) ∧ c = r)) ∧
    (∀ t c, abs (a.view.inter b.view r) t c ↔ ((a.set t ∧ b.set t) ∧ c = r)) ∧
    (∀ t c, abs (a.view.xor b.view r) t c ↔ (((a.set t ∧ ¬ b.set t) ∨ (b.set t ∧ ¬ a.set t)) ∧ c = r))

/-- what is demanded of the NEW graph `n` (identifier `r`) an operator returns, `R` = the set-theoretic result -/
structure ResultOk (n : NMem) (r : Nat) (R : Triple → Prop) : Prop where
  /-- its nested dictionaries have unique keys at every level -/
  wf : NWF n
  no_raise : n.cx.err = false ∧ n.triplesRaises allPat = false
  /-- it holds exactly `R`, under its own identifier, and nothing else -/
  holds : ∀ t c, abs n.toMem t c ↔ (R t ∧ c = r)
  /-- `list(result)` -/
  iter : (n.graph r).Nodup ∧ ∀ t, t ∈ n.graph r ↔ R t
  /-- `t in result` -/
  contains : ∀ t, n.contains t r = true ↔ R t

/-- the binary operators with operands read through the nested models AND the result built as a nested
    model: `retval = Graph()` is a fresh `Memory` over nested dictionaries filled by `retval.add(x)` (`NMem.ofList`);
    `a ^ b` builds the two differences as graphs of their own and adds their iterations -/
def Statement_binop_nested : Prop :=
  ∀ (a b : NOperand) (r : Nat),
    ResultOk (a.view.nunion b.view r) r (fun t => a.set t ∨ b.set t) ∧
    ResultOk (a.view.ndiff b.view r) r (fun t => a.set t ∧ ¬ b.set t) ∧
    ResultOk (a.view.ninter b.view r) r (fun t => a.set t ∧ b.set t) ∧
    ResultOk (a.view.nxor b.view r) r (fun t => (a.set t ∧ ¬ b.set t) ∨ (b.set t ∧ ¬ a.set t))

theorem nstoreObsAgree_of {n : NMem} {S : QK} (h : NSim n S) : NStoreObsAgree n S := by
  have hw := h.wf
  have hO := storeObsAgree_of h.sim
  have hI := h.sim.inv
  have hq := h.sim.q
  refine { no_raise := ⟨hO.no_raise.1, fun pat => by rw [ntriplesRaises_eq hw]; exact hO.no_raise.2 pat⟩
           triples := ?_, triple_ctxs := ?_, len := hO.len, contains := ?_, contexts_all := hO.contexts_all
           contexts_of := ?_, contexts_partial := ?_, index := ?_ }
  · intro pat ctx; rw [ntriples_eq hw]; exact hO.triples pat ctx
  · intro pat ctx e he
    have : n.triplesC pat ctx = n.toMem.triplesC pat ctx := by
      simp only [NMem.triplesC, Mem.triplesC, ntriples_eq hw]; rfl
    rw [ntriples_eq hw]
    exact hO.triple_ctxs pat ctx e (this ▸ he)
  · intro t g
    rw [ncontains_eq hw, contains_iff hI]
    exact hq t g
  · intro s p o; rw [ncontexts_eq hw]; exact hO.contexts_of s p o
  · intro s p o; rw [ncontexts_eq hw]; exact hO.contexts_partial s p o
  · intro s p o
    have h1 : idxHas n.ispo s p o = true ↔ (s, p, o) ∈ n.toMem.spo := (mem_flat_iff hw.spo s p o).symm
    refine ⟨h1.trans ⟨fun hin => ?_, fun ⟨g, hg⟩ => ((hq _ g).2 hg).1⟩,
      probes_agree hw.spo hw.pos hw.osp hI.pos_iff hI.osp_iff s p o⟩
    obtain ⟨g, hg⟩ := (hI.ctx_ok _ hin).2
    exact ⟨g, (hq _ g).1 ⟨hin, hg⟩⟩

theorem nested_refines_quadset : Statement_nested_refines_quadset := by
  intro ops
  have h := nsim_run ops
  exact ⟨h.wf, nstoreObsAgree_of h⟩

theorem nssim_run (ops : List SOp) : NSSim (NSMem.init.run ops) (SSpec.run (fun _ => False) ops) :=
  foldl_rel NSSim NSMem.step SSpec.step (fun _ _ op h => nssim_step h op) ops _ _
    ⟨nswf_init, sinv_init, fun t => by simp [NSMem.toSMem, NSMem.init, flat]⟩

theorem nested_simple_refines : Statement_nested_simple_refines := by
  intro ops
  obtain ⟨hw, hI, h⟩ := nssim_run ops
  have htri : ∀ pat, (NSMem.init.run ops).triples pat = (NSMem.init.run ops).toSMem.triples pat := striples_toSMem hw
  refine ⟨hw, hI.err, ?_, ?_, ?_, ?_⟩
  · intro s p o
    exact ⟨(mem_flat_iff hw.spo s p o).symm.trans (h _), probes_agree hw.spo hw.pos hw.osp hI.idx.b_iff hI.idx.c_iff s p o⟩
  all_goals obtain ⟨h1, h2, h3⟩ := sobs_of hI h
  · intro l hnd hl; rw [NSMem.len, htri]; exact h1 l hnd hl
  · intro t; rw [scontains_toSMem hw]; exact h2 t
  · intro s p o; rw [htri]; exact h3 s p o

theorem noperand_ok (a : NOperand) : a.view.Coherent ∧ ∀ t, t ∈ a.view.xs ↔ a.set t := by
  cases a with
  | mem ops g =>
    have h := nsim_run ops
    have hv : View.ofNMem (NMem.init.stRun ops) g = View.ofMem (NMem.init.stRun ops).toMem g :=
      congrArg (View.mk _) (funext fun x => ncontains_eq h.wf x g)
    show (View.ofNMem (NMem.init.stRun ops) g).Coherent ∧ ∀ t, t ∈ (View.ofNMem (NMem.init.stRun ops) g).xs ↔ _
    rw [hv]
    exact ⟨coherent_ofMem h.sim.inv g, h.sim.mem_graph g⟩
  | simple ops =>
    obtain ⟨hw, hI, h⟩ := nssim_run ops
    have hv : View.ofNSimple (NSMem.init.run ops) = View.ofSimple (NSMem.init.run ops).toSMem := by
      simp only [View.ofNSimple, View.ofSimple, striples_toSMem hw]
      exact congrArg (View.mk _) (funext fun x => scontains_toSMem hw x)
    show (View.ofNSimple (NSMem.init.run ops)).Coherent ∧ ∀ t, t ∈ (View.ofNSimple (NSMem.init.run ops)).xs ↔ _
    rw [hv]
    exact ⟨coherent_ofSimple hI, fun t => (mem_striples_all hI t).trans (h t)⟩

theorem binop_nested_flat : Statement_binop_nested_flat := by
  intro a b r
  obtain ⟨ha, hsa⟩ := noperand_ok a
  obtain ⟨hb, hsb⟩ := noperand_ok b
  have h := view_ops_spec a.view b.view ha hb r
  simp only [hsa, hsb] at h
  obtain ⟨h1, h2, h3, h4, -⟩ := h
  exact ⟨h1, h2, h3, h4⟩

/-- the new graph of an operator, filled from the list `L`, is one `+=` step from the empty store: `nsim_step` applies -/
theorem resultOk_ofList (r : Nat) {L : List Triple} {R : Triple → Prop} (hL : ∀ t, t ∈ L ↔ R t) :
    ResultOk (NMem.ofList r L) r R := by
  have h : NSim (NMem.ofList r L) (QK.empty.step (.graph (.iadd r L))) := by
    have := nsim_step nsim_init (.graph (.iadd r L))
    rw [nmemFolds.iadd_fold] at this
    exact this
  have hS : ∀ t c, (QK.empty.step (.graph (.iadd r L))).Q t c ↔ (R t ∧ c = r) := fun t c =>
    (or_iff_right id).trans (and_congr_left fun _ => hL t)
  refine ⟨h.wf, ⟨h.sim.inv.err, rfl⟩, fun t c => (h.sim.q t c).trans (hS t c),
    ⟨nodup_graph h.sim.inv r, fun t => ?_⟩, fun t => ?_⟩
  · exact (h.sim.mem_graph r t).trans ((hS t r).trans (and_iff_left rfl))
  · exact ((nstoreObsAgree_of h).contains t r).trans ((hS t r).trans (and_iff_left rfl))

theorem binop_nested : Statement_binop_nested := by
  intro a b r
  obtain ⟨ha, hsa⟩ := noperand_ok a
  obtain ⟨hb, hsb⟩ := noperand_ok b
  have hna : ∀ x, a.view.has x = false ↔ ¬ a.set x := fun x => by rw [← hsa, ← ha x]; simp
  have hnb : ∀ x, b.view.has x = false ↔ ¬ b.set x := fun x => by rw [← hsb, ← hb x]; simp
  have hD : ∀ (u v : NOperand), (∀ x, v.view.has x = false ↔ ¬ v.set x) → (∀ t, t ∈ u.view.xs ↔ u.set t) →
      ResultOk (u.view.ndiff v.view r) r (fun t => u.set t ∧ ¬ v.set t) := fun u v hv hu =>
    resultOk_ofList r fun t => by simp only [List.mem_filter, Bool.not_eq_true', hv, hu]
  refine ⟨resultOk_ofList r fun t => by simp only [List.mem_append, hsa, hsb], hD a b hnb hsa,
    resultOk_ofList r fun t => by simp only [List.mem_filter, ha t, hsa, hsb, and_comm], ?_⟩
  -- `a ^ b`: the two differences are graphs of their own, read back through their iteration
  exact resultOk_ofList r fun t =>
    List.mem_append.trans (or_congr ((hD a b hnb hsa).iter.2 t) ((hD b a hna hsb).iter.2 t))

/-! ### The generator as it is — level-by-level key copies (`NGen`, `NModel.lean`)

  `iter_sound` above is about an over-approximating machine (the environment may load any candidate that is in the
  selected index at that moment).  `NGen` is the real discipline: `list(d.keys())` one level at a time, live lookup
  `d[k]` of each copied key when the loop reaches it, has-context test on the live store before each `yield`, start copy
  of `__contextTriples[ctx]` for the all-unbound shape; the generator body begins at the first `next()`. -/

/-- for every history before, every pattern shape, every schedule of store-level / Graph-level mutations and `next()`
    calls: no step raises (in particular no `KeyError` from `d[k]` on a copied key, no `None.keys()`), and every yielded
    triple matches the pattern and was in the iterated graph in one of the states since the generator began -/
def Statement_gen_sound : Prop :=
  ∀ (pre : List StOp) (pat : Pat) (g : Nat) (evs : List GEv),
    gschedRaises (NMem.init.stRun pre) (NGen.new pat (some g)) evs = false ∧
    ∀ y ∈ gyields [] (NMem.init.stRun pre) (NGen.new pat (some g)) evs,
      pat.matches y.1 = true ∧ ∃ n' ∈ y.2, abs n'.toMem y.1 g

/-- with nothing interleaved the generator, `next()` after `next()`, produces exactly `store.triples(pattern, context)`
    (`NMem.triples`, which `nested_refines_quadset` proves duplicate-free and equal to the set): the full run `drain`
    is that list, every `next()` yields the head of what remains and leaves the rest, and exhaustion means nothing remains -/
def Statement_gen_quiescent : Prop :=
  ∀ (n : NMem) (pat : Pat) (req : Ctx),
    n.drain pat req = n.triples pat req ∧
    ∀ (work : List Work),
      (∀ t, (n.runGen pat req work).2 = some t →
          n.runAll pat req work = t :: n.runAll pat req (n.runGen pat req work).1) ∧
      ((n.runGen pat req work).2 = none → n.runAll pat req work = [])

/-- `for t in g` on the concrete machine: if the generator begins (first `next()`) on the state `n`, then whatever
    mutations are interleaved afterwards, the k-th `next()` yields the k-th element of `list(g)` as it was at that
    moment — the concrete counterpart of `iter_all_is_snapshot` -/
def Statement_gen_snapshot : Prop :=
  ∀ (n : NMem) (g : Nat) (evs : List GEv) (hist : List NMem),
    (gyields hist n (NGen.new allPat (some g)) (.next :: evs)).map (fun y => y.1)
      = (n.graph g).take (gcountNext evs + 1)

theorem gen_sound : Statement_gen_sound := by
  intro pre pat g evs
  exact gyields_sound g pat evs [] (NMem.init.stRun pre) false [] _ (nsim_run pre) (fun h => nomatch h)

theorem gen_quiescent : Statement_gen_quiescent :=
  fun n pat req => ⟨drain_eq_triples n pat req, runGen_runAll n pat req⟩

theorem gen_snapshot : Statement_gen_snapshot := by
  intro n g evs hist
  have hw : (NGen.new allPat (some g)).workAt n = (n.graph g).map Work.snap := rfl
  cases hl : n.graph g with
  | nil =>
    simp only [gyields, NGen.next, hw, hl, List.map_nil, NMem.runGen, List.take_nil]
    simpa [NGen.new] using gyields_snapshot_started allPat (some g) evs [n] n ([] : List Triple)
  | cons t r =>
    simp only [gyields, NGen.next, hw, hl, List.map_cons, NMem.runGen, List.take_succ_cons]
    have := gyields_snapshot_started allPat (some g) evs [n] n r
    simpa [NGen.new] using this

/-- `Graph.triples_choices` / `Store.triples_choices` (a list of terms in ONE position of the pattern; the empty list
    is the wildcard): exactly the visible triples that match the two other positions and whose term in the list's
    position is one of the choices — each once when the choices are distinct (a repeated choice repeats its triples) -/
def Statement_triples_choices : Prop :=
  ∀ (ops : List StOp) (sl : Slot) (choices : List Nat) (a b : Option Nat) (ctx : Option Nat),
    (∀ t, t ∈ (NMem.init.stRun ops).triplesChoices sl choices a b ctx ↔
        ((QK.run QK.empty ops).sees ctx t ∧ (sl.pat a b none).matches t = true ∧
          (choices = [] ∨ sl.get t ∈ choices))) ∧
    (choices.Nodup → ((NMem.init.stRun ops).triplesChoices sl choices a b ctx).Nodup)

theorem matchPos_none (x : Nat) : matchPos none x = true := rfl
theorem matchPos_some (y x : Nat) : matchPos (some y) x = (x == y) := rfl

theorem slot_matches (sl : Slot) (a b : Option Nat) (x : Nat) (t : Triple) :
    (sl.pat a b (some x)).matches t = true ↔ ((sl.pat a b none).matches t = true ∧ sl.get t = x) := by
  cases sl <;> simp only [Slot.pat, Slot.get, Pat.matches, matchPos_some, matchPos_none, Bool.and_eq_true, beq_iff_eq,
    Bool.and_true, Bool.true_and]
  · exact and_assoc.trans and_comm
  · exact and_right_comm

theorem triples_choices : Statement_triples_choices := by
  intro ops sl choices a b ctx
  have hO := nstoreObsAgree_of (nsim_run ops)
  unfold NMem.triplesChoices
  cases choices with
  | nil =>
    simp only [List.isEmpty_nil, if_true, true_or, and_true]
    exact ⟨(hO.triples _ ctx).2, fun _ => (hO.triples _ ctx).1⟩
  | cons c r =>
    simp only [List.isEmpty_cons, Bool.false_eq_true, if_false, reduceCtorEq, false_or]
    constructor
    · intro t
      simp only [List.mem_flatMap, (hO.triples _ ctx).2, slot_matches]
      constructor
      · rintro ⟨x, hx, h1, h2, h3⟩; exact ⟨h1, h2, h3 ▸ hx⟩
      · rintro ⟨h1, h2, h3⟩; exact ⟨_, h3, h1, h2, rfl⟩
    · intro hnd
      refine List.pairwise_flatMap.2 ⟨fun x _ => (hO.triples _ ctx).1, hnd.imp fun {x y} hxy t hx t' hy e => ?_⟩
      have e1 := ((slot_matches sl a b x t).1 (((hO.triples _ ctx).2 t).1 hx).2).2
      have e2 := ((slot_matches sl a b y t).1 (((hO.triples _ ctx).2 t).1 (e ▸ hy)).2).2
      exact hxy (e1.symm.trans e2)

/-- the whole dispatch of `Store.triples_choices`: `ValueError` exactly when two or more positions hold a
    list (nothing is read then); with exactly one list it is `triplesChoices` for that position (theorem
    `triples_choices` gives its meaning); with no list at all it yields NOTHING (none of the `isinstance` branches is
    taken — the code as it is, not `triples(pattern)`) -/
def Statement_triples_choices_dispatch : Prop :=
  ∀ (n : NMem) (s p o : Arg) (req : Ctx),
    (n.triplesChoicesG s p o req = none ↔ 2 ≤ s.nLists + p.nLists + o.nLists) ∧
    (∀ a b l, s = .term a → p = .term b → o = .list l →
        n.triplesChoicesG s p o req = some (n.triplesChoices .o l a b req)) ∧
    (∀ l b c, s = .list l → p = .term b → o = .term c →
        n.triplesChoicesG s p o req = some (n.triplesChoices .s l b c req)) ∧
    (∀ a l c, s = .term a → p = .list l → o = .term c →
        n.triplesChoicesG s p o req = some (n.triplesChoices .p l a c req)) ∧
    (∀ a b c, s = .term a → p = .term b → o = .term c → n.triplesChoicesG s p o req = some [])

theorem triples_choices_dispatch : Statement_triples_choices_dispatch := by
  intro n s p o req
  refine ⟨?_, ?_, ?_, ?_, ?_⟩
  · cases s <;> cases p <;> cases o <;> simp [NMem.triplesChoicesG, Arg.nLists]
  · rintro a b l rfl rfl rfl; rfl
  · rintro l b c rfl rfl rfl; rfl
  · rintro a l c rfl rfl rfl; rfl
  · rintro a b c rfl rfl rfl; rfl

/-- a schedule on which the concrete generator really walks two levels between mutations: `(1,?,?)` on graph 0;
    `(1,2,4)` is removed before the inner copy `[3,4]` reaches it, `(1,5,6)` is added under a NEW second-level key after
    the outer copy `[2]` was taken (not seen), `(1,2,7)` under the already expanded key (not seen either) -/
example : (gyields [] (NMem.init.stRun [.add (1, 2, 3) 0, .add (1, 2, 4) 0]) (NGen.new (some 1, none, none) (some 0))
    [.next, .mutate (.remove (some 1, some 2, some 4) (some 0)), .mutate (.add (1, 5, 6) 0), .mutate (.add (1, 2, 7) 0),
     .next, .next]).map (·.1) = [(1, 2, 3)] := by decide +kernel

/-! ### Non-vacuity: a reachable state with one context set compressed to the default and one explicit -/

def exOps : List Op :=
  [.add (1, 2, 3) 0, .add (1, 2, 3) 1, .add (4, 2, 0) 0, .addN 1 [((4, 2, 0), 1, true), ((7, 7, 7), 2, true)],
   .remove (some 1, none, none) 0, .set (4, 2, 9) 1, .isubG 0 1]

example : (Mem.init.run exOps).dflt = some [some 0, none] ∧ (Mem.init.run exOps).tctx.length = 2 ∧
    (Mem.init.run exOps).graph 0 = [(4, 2, 0)] ∧ (Mem.init.run exOps).graph 1 = [(1, 2, 3), (4, 2, 9)] ∧
    triples (Mem.init.run exOps) (none, some 2, none) (some 1) = [(1, 2, 3), (4, 2, 9)] := by decide +kernel

/-- a store-level history: shared triple, `remove(…, None)`, an emptied graph that stays registered,
    `remove_graph`, a graph registered by `add_graph` only -/
def exStOps : List StOp :=
  [.add (1, 2, 3) 0, .add (1, 2, 3) 1, .add (4, 2, 3) 1, .graph (.add (5, 2, 3) 2), .addGraph 7,
   .remove (some 4, none, none) none, .remove (none, none, none) (some 2), .removeGraph 0]

example : (Mem.init.stRun exStOps).contexts (none, none, none) = [1, 2, 7] ∧
    (Mem.init.stRun exStOps).triplesC (none, some 2, none) none = [((1, 2, 3), [1])] ∧
    (Mem.init.stRun exStOps).contexts (some 1, some 2, some 3) = [1] ∧
    (Mem.init.stRun exStOps).len none = 1 ∧ (Mem.init.stRun exStOps).err = false := by decide +kernel

/-- the nested indexes after the store-level history `exStOps`: only LEAF keys were deleted — the emptied inner
    dictionaries `spo[4][2]`, `spo[5][2]`, `osp[3][4]`, `osp[3][5]` are still there — and the walks ignore them -/
example : (NMem.init.stRun exStOps).ispo = [(1, [(2, [3])]), (4, [(2, [])]), (5, [(2, [])])] ∧
    (NMem.init.stRun exStOps).ipos = [(2, [(3, [1])])] ∧
    (NMem.init.stRun exStOps).iosp = [(3, [(1, [2]), (4, []), (5, [])])] ∧
    (NMem.init.stRun exStOps).drain (none, none, some 3) none = [(1, 2, 3)] ∧
    (NMem.init.stRun exStOps).triplesChoices .s [5, 1, 1] (some 2) none (some 1) = [(1, 2, 3), (1, 2, 3)] := by decide +kernel

/-- the new graph of an operator is a nested-dictionary store of its own; two list positions raise -/
example : ((NOperand.mem exStOps 1).view.nxor (NOperand.simple [.add (1, 2, 3), .add (0, 0, 0)]).view 5).graph 5 = [(0, 0, 0)] ∧
    ((NOperand.mem exStOps 1).view.nunion (NOperand.simple [.add (1, 2, 3), .add (0, 0, 0)]).view 5).ispo
      = [(1, [(2, [3])]), (0, [(0, [0])])] ∧
    (NMem.init.stRun exStOps).triplesChoicesG (.list [1]) (.list []) (.term none) (some 1) = none ∧
    (NMem.init.stRun exStOps).triplesChoicesG (.term none) (.term (some 2)) (.list [3, 3]) (some 1)
      = some [(1, 2, 3), (1, 2, 3)] ∧
    (NMem.init.stRun exStOps).triplesChoicesG (.term none) (.term (some 2)) (.term (some 3)) (some 1) = some [] := by
  decide +kernel

/-- operands on different kinds of store: a graph of a `Memory` after a store-level history and a `SimpleMemory` graph -/
example : ((Operand.mem exStOps 1).view.xor (Operand.simple [.add (1, 2, 3), .add (9, 9, 9), .remove (none, some 9, none),
      .add (0, 0, 0)]).view 5).graph 5 = [(0, 0, 0)] ∧
    ((Operand.mem exStOps 1).view.union (Operand.simple [.add (0, 0, 0)]).view 5).graph 5 = [(1, 2, 3), (0, 0, 0)] := by
  decide +kernel

/-- `for t in g: g.remove(t)`-like schedule: the yields are the start content although the graph is emptied meanwhile -/
example : (yields [Mem.init.stRun exStOps] (Mem.init.stRun exStOps) (Iter.start (Mem.init.stRun exStOps) allPat 1)
    [.next, .mutate (.remove (none, none, none) none), .mutate (.add (7, 7, 7) 1), .next, .next]).map (·.1) = [(1, 2, 3)] := by
  decide +kernel

/-- a schedule on which the generator really yields between mutations -/
def exEvs : List Ev :=
  [.load [(1, 2, 3), (1, 2, 4)], .next, .mutate (.remove (some 1, some 2, some 4) none), .next]

example : (yields [Mem.init.run [.add (1, 2, 3) 0, .add (1, 2, 4) 1]] (Mem.init.run [.add (1, 2, 3) 0, .add (1, 2, 4) 1])
    (Iter.start (Mem.init.run [.add (1, 2, 3) 0, .add (1, 2, 4) 1]) (some 1, some 2, none) 0) exEvs).map (·.1)
      = [(1, 2, 3)] := by decide +kernel

/-! ### Finding C01-F1 (fixed): the has-context test of the pinned code.
    With `__triple_has_context` answering from the default context set for a triple that is no longer
    in the store, the same schedule yields `(1,2,4)`, which was never in graph 0. -/

theorem pinned_has_context_yields_ghost :
    ¬ (∀ y ∈ yieldsPinned [Mem.init.run [.add (1, 2, 3) 0, .add (1, 2, 4) 1]]
          (Mem.init.run [.add (1, 2, 3) 0, .add (1, 2, 4) 1])
          (Iter.start (Mem.init.run [.add (1, 2, 3) 0, .add (1, 2, 4) 1]) (some 1, some 2, none) 0) exEvs,
        ∃ m' ∈ y.2, InG m' y.1 0) := by decide +kernel

end RV.C01

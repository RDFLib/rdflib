import RV.C01.Remove
import RV.C01.Spec
/-
  C01 — the observations `len`, `in`, iteration; the store-level API (`__all_contexts`, `contexts`, `add_graph`,
  `remove_graph`); the refinement step, proved for the four primitives and lifted (`memFolds.lift`); the operators.
-/
namespace RV.C01
open RV

/-- the fully bound lookup behind `t in g`, for a `triples` that returns the matching elements of `P` -/
theorem not_isEmpty_exact {l : List Triple} {P : Triple → Prop} {t : Triple}
    (h : ∀ x, x ∈ l ↔ (P x ∧ (exactPat t).matches x = true)) :
    (!l.isEmpty) = true ↔ P t := by
  rw [Bool.not_eq_true', List.isEmpty_eq_false_iff_exists_mem]
  simp only [h, matches_exact]
  exact ⟨fun ⟨_, hx, e⟩ => e ▸ hx, fun hx => ⟨t, hx, rfl⟩⟩

theorem mem_graph {m : Mem} (hI : Inv m) (g : Nat) (t : Triple) : t ∈ m.graph g ↔ InG m t g :=
  (mem_triples hI allPat g t).trans (and_iff_left (matches_allPat t))

theorem nodup_graph {m : Mem} (hI : Inv m) (g : Nat) : (m.graph g).Nodup := nodup_triples hI _ _

theorem len_eq {m : Mem} (hI : Inv m) (ctx : Ctx) {l : List Triple} (hnd : l.Nodup)
    (hl : ∀ t, t ∈ l ↔ (t ∈ m.spo ∧ ctx ∈ getCtxs m t)) : m.len ctx = l.length :=
  length_eq_of_mem_iff (hI.ctxT_nd ctx) hnd fun t => (hI.ctxT_iff ctx t).trans (hl t).symm

theorem contains_iff {m : Mem} (hI : Inv m) (t : Triple) (g : Nat) : m.contains t g = true ↔ InG m t g :=
  not_isEmpty_exact (mem_triples hI _ g)

theorem memFolds : Folds Mem.stStep Mem.graph :=
  { add := fun _ _ _ => rfl, addN_nil := fun _ _ => rfl, addN_cons := fun _ _ _ _ _ _ => rfl,
    remove := fun _ _ _ => rfl, set := fun _ _ _ => rfl, iadd := fun _ _ _ => rfl, iaddG := fun _ _ _ => rfl,
    isub_nil := fun _ _ => rfl, isub_cons := fun _ _ _ _ => rfl, isubG := fun _ _ _ => rfl }

theorem mem_keysOf (l : List Ctx) (k : Nat) : k ∈ keysOf l ↔ some k ∈ l := by
  induction l with
  | nil => simp [keysOf]
  | cons x r ih =>
    cases x with
    | none => simp [keysOf, ih]
    | some k' => simp [keysOf, ih]

theorem nodup_keysOf {l : List Ctx} (h : l.Nodup) : (keysOf l).Nodup := by
  induction l with
  | nil => simp [keysOf]
  | cons x r ih =>
    rw [List.nodup_cons] at h
    cases x with
    | none => simpa [keysOf] using ih h.2
    | some k' =>
      simp only [keysOf, List.nodup_cons]
      exact ⟨fun hk => h.1 ((mem_keysOf r k').1 hk), ih h.2⟩

theorem contexts_partial (m : Mem) {s p o : Option Nat} (h1 : ¬ (s = none ∧ p = none ∧ o = none))
    (h2 : ¬ (s.isSome = true ∧ p.isSome = true ∧ o.isSome = true)) : m.contexts (s, p, o) = [] := by
  cases s with
  | none =>
    cases p with
    | some _ => rfl
    | none =>
      cases o with
      | some _ => rfl
      | none => exact absurd ⟨rfl, rfl, rfl⟩ h1
  | some _ =>
    cases p with
    | none => rfl
    | some _ =>
      cases o with
      | none => rfl
      | some _ => exact absurd ⟨rfl, rfl, rfl⟩ h2

/-! ### `__all_contexts` is touched only by `add`, `add_graph`, `remove_graph` -/

@[simp] theorem allc_flag (m : Mem) (b : Bool) : (m.flag b).allc = m.allc := rfl
@[simp] theorem allc_rtc (m : Mem) (t : Triple) (c : Ctx) : (removeTripleContext m t c).allc = m.allc := rfl
@[simp] theorem allc_atc (m : Mem) (t : Triple) (b : Bool) (c : Nat) : (addTripleContext m t b c).allc = m.allc := rfl

@[simp] theorem allc_removeCtxLoop (t : Triple) (req : Ctx) : ∀ (cs : List Ctx) (m : Mem),
    (removeCtxLoop m t req cs).allc = m.allc := by
  intro cs
  induction cs with
  | nil => intro m; rfl
  | cons c r ih =>
    intro m
    simp only [removeCtxLoop]
    split
    · exact ih m
    · rw [ih]; rfl

@[simp] theorem allc_dropUnion (m : Mem) (t : Triple) (req : Ctx) : (dropUnion m t req).allc = m.allc := by
  unfold dropUnion; split <;> rfl

@[simp] theorem allc_dropTriple (m : Mem) (t : Triple) : (dropTriple m t).allc = m.allc := by
  unfold dropTriple; split <;> rfl

@[simp] theorem allc_removeOne (m : Mem) (t : Triple) (req : Ctx) : (removeOne m t req).allc = m.allc := by
  simp [removeOne]

@[simp] theorem allc_removeLoop (req : Ctx) (test : Bool) : ∀ (l : List Triple) (m : Mem),
    (removeLoop m req test l).allc = m.allc := by
  intro l
  induction l with
  | nil => intro m; rfl
  | cons t r ih =>
    intro m
    simp only [removeLoop]
    split <;> (rw [ih]; simp)

@[simp] theorem allc_dropEmptyCtx (m : Mem) (req : Ctx) : (dropEmptyCtx m req).allc = m.allc := by
  unfold dropEmptyCtx
  cases req with
  | none => rfl
  | some c => simp only; split <;> rfl

@[simp] theorem allc_remove (m : Mem) (pat : Pat) (req : Ctx) : (m.remove pat req).allc = m.allc := by
  by_cases hp : pat = allPat
  · subst hp; simp [Mem.remove, allPat]
  · simp [remove_of_ne hp]

@[simp] theorem allc_addCore (m : Mem) (t : Triple) (c : Nat) : (m.addCore t c).allc = m.allc := by
  unfold Mem.addCore; split <;> rfl

@[simp] theorem allc_add (m : Mem) (t : Triple) (c : Nat) : (m.add t c).allc = sinsert m.allc c := by
  simp [Mem.add, Mem.register]

theorem removeGraph_spec {m : Mem} (hI : Inv m) (k : Nat) :
    Inv (m.removeGraph k) ∧
      (∀ t' c', InG (m.removeGraph k) t' c' ↔ (InG m t' c' ∧ c' ≠ k)) ∧
      (m.removeGraph k).allc = sremove m.allc k := by
  obtain ⟨hI1, h1⟩ := remove_spec hI (none, none, none) k
  have ha := allc_remove m (none, none, none) (some k)
  rw [Mem.removeGraph]
  generalize m.remove (none, none, none) (some k) = m' at *
  exact ⟨inv_allc hI1 _,
    fun t' c' => (h1 t' c').trans (and_congr_right fun _ => not_congr (and_iff_right (matches_allPat t'))),
    congrArg (fun l => sremove l k) ha⟩

theorem abs_eq_InG (m : Mem) : abs m = InG m := rfl

/-- the store holds the pairs `S.Q` (nothing is said of the registered graphs): the half of `StSim` that the
    `Graph`-level statements need -/
structure StSim0 (m : Mem) (S : QK) : Prop where
  inv : Inv m
  q : ∀ t g, abs m t g ↔ S.Q t g

theorem StSim0.mem_graph {m : Mem} {S : QK} (h : StSim0 m S) (g : Nat) (t : Triple) : t ∈ m.graph g ↔ S.Q t g :=
  (RV.C01.mem_graph h.inv g t).trans (h.q t g)

theorem stSim0_step {m : Mem} {S : QK} (h : StSim0 m S) (op : StOp) : StSim0 (m.stStep op) (S.step op) := by
  refine memFolds.lift StSim0 ?_ ?_ ?_ ?_ ?_ h op
  · intro m S t c ⟨hI, hq⟩
    exact ⟨(add_spec hI t c).1, fun t' c' => ((add_spec hI t c).2 t' c').trans (or_congr_left (hq t' c'))⟩
  · intro m S pat ctx ⟨hI, hq⟩
    exact ⟨(remove_ctx_spec hI pat ctx).1,
      fun t' c' => ((remove_ctx_spec hI pat ctx).2 t' c').trans (and_congr_left fun _ => hq t' c')⟩
  · intro m S k ⟨hI, hq⟩; exact ⟨inv_register hI k, hq⟩
  · intro m S k ⟨hI, hq⟩
    obtain ⟨hI', hq', _⟩ := removeGraph_spec hI k
    exact ⟨hI', fun t' c' => (hq' t' c').trans (and_congr_left fun _ => hq t' c')⟩
  · intro m S g h; exact h.mem_graph g

theorem stStep_inv {m : Mem} (hI : Inv m) (op : StOp) : Inv (m.stStep op) :=
  (stSim0_step (S := ⟨abs m, fun _ => True⟩) ⟨hI, fun _ _ => Iff.rfl⟩ op).inv

/-- simulation relation between the store model and `(Q, K)`: `StSim0` and the registered graphs; `nd` is there because
    `contexts()` is compared as a duplicate-free list -/
structure StSim (m : Mem) (S : QK) : Prop where
  inv : Inv m
  nd : m.allc.Nodup
  q : ∀ t g, abs m t g ↔ S.Q t g
  k : ∀ k, k ∈ m.allc ↔ S.K k

theorem StSim.sim0 {m : Mem} {S : QK} (h : StSim m S) : StSim0 m S := ⟨h.inv, h.q⟩

theorem StSim.mem_graph {m : Mem} {S : QK} (h : StSim m S) (g : Nat) (t : Triple) : t ∈ m.graph g ↔ S.Q t g :=
  h.sim0.mem_graph g t

theorem stSim_step {m : Mem} {S : QK} (h : StSim m S) (op : StOp) : StSim (m.stStep op) (S.step op) := by
  refine memFolds.lift StSim ?_ ?_ ?_ ?_ ?_ h op
  · intro m S t c h
    obtain ⟨hI, hq⟩ := stSim0_step h.sim0 (.add t c)
    exact ⟨hI, allc_add m t c ▸ nodup_sinsert h.nd, hq,
      fun k => (allc_add m t c ▸ mem_sinsert).trans (or_comm.trans (or_congr_left (h.k k)))⟩
  · intro m S pat ctx h
    obtain ⟨hI, hq⟩ := stSim0_step h.sim0 (.remove pat ctx)
    exact ⟨hI, (allc_remove m pat ctx).symm ▸ h.nd, hq, fun k => (allc_remove m pat ctx).symm ▸ h.k k⟩
  · intro m S k0 h
    exact ⟨inv_register h.inv k0, nodup_sinsert h.nd, h.q,
      fun k => mem_sinsert.trans (or_comm.trans (or_congr_left (h.k k)))⟩
  · intro m S k0 h
    obtain ⟨hI, hq⟩ := stSim0_step h.sim0 (.removeGraph k0)
    obtain ⟨_, _, ha⟩ := removeGraph_spec h.inv k0
    exact ⟨hI, ha ▸ nodup_sremove h.nd, hq,
      fun k => (ha ▸ mem_sremove).trans (and_comm.trans (and_congr_left fun _ => h.k k))⟩
  · intro m S g h; exact h.mem_graph g

theorem stSim_init : StSim Mem.init QK.empty :=
  ⟨inv_init, List.nodup_nil, fun t g => iff_of_false (by simp [abs, Mem.init]) id,
    fun _ => iff_of_false List.not_mem_nil id⟩

theorem stSim_run (ops : List StOp) : StSim (Mem.init.stRun ops) (QK.run QK.empty ops) :=
  foldl_rel StSim Mem.stStep QK.step (fun _ _ op h => stSim_step h op) ops _ _ stSim_init

theorem ofList_spec (r : Nat) (ts : List Triple) :
    Inv (Mem.ofList r ts) ∧ ∀ t c, InG (Mem.ofList r ts) t c ↔ (t ∈ ts ∧ c = r) := by
  -- a fresh graph filled by `add`s is one `+=` step from the empty store
  obtain ⟨hI, h⟩ := stSim0_step stSim_init.sim0 (.graph (.iadd r ts))
  rw [memFolds.iadd_fold] at hI h
  exact ⟨hI, fun t c => (h t c).trans (or_iff_right id)⟩

/-! ### the binary operators over operands of any store (a `View`) -/

def View.Coherent (v : View) : Prop := ∀ x, v.has x = true ↔ x ∈ v.xs

theorem coherent_ofMem {m : Mem} (hI : Inv m) (g : Nat) : (View.ofMem m g).Coherent := fun x =>
  (contains_iff hI x g).trans (mem_graph hI g x).symm

theorem view_ops_spec (a b : View) (ha : a.Coherent) (hb : b.Coherent) (r : Nat) :
    (∀ t c, InG (a.union b r) t c ↔ ((t ∈ a.xs ∨ t ∈ b.xs) ∧ c = r)) ∧
    (∀ t c, InG (a.diff b r) t c ↔ ((t ∈ a.xs ∧ t ∉ b.xs) ∧ c = r)) ∧
    (∀ t c, InG (a.inter b r) t c ↔ ((t ∈ a.xs ∧ t ∈ b.xs) ∧ c = r)) ∧
    (∀ t c, InG (a.xor b r) t c ↔ (((t ∈ a.xs ∧ t ∉ b.xs) ∨ (t ∈ b.xs ∧ t ∉ a.xs)) ∧ c = r)) ∧
    Inv (a.union b r) ∧ Inv (a.diff b r) ∧ Inv (a.inter b r) ∧ Inv (a.xor b r) := by
  have hU := ofList_spec r (a.xs ++ b.xs)
  have hD := ofList_spec r (a.xs.filter (fun x => !b.has x))
  have hD' := ofList_spec r (b.xs.filter (fun x => !a.has x))
  have hN := ofList_spec r (b.xs.filter a.has)
  have hX := ofList_spec r
    ((Mem.ofList r (a.xs.filter (fun x => !b.has x))).graph r ++ (Mem.ofList r (b.xs.filter (fun x => !a.has x))).graph r)
  have hna : ∀ x, a.has x = false ↔ x ∉ a.xs := by
    intro x; rw [← ha x]; simp
  have hnb : ∀ x, b.has x = false ↔ x ∉ b.xs := by
    intro x; rw [← hb x]; simp
  refine ⟨?_, ?_, ?_, ?_, hU.1, hD.1, hN.1, hX.1⟩
  · intro t c
    simp only [View.union, gUnion, hU.2, List.mem_append]
  · intro t c
    simp only [View.diff, gDiff, hD.2, List.mem_filter, Bool.not_eq_true', hnb]
  · intro t c
    simp only [View.inter, gInter, hN.2, List.mem_filter, ha t]
    exact and_congr_left fun _ => and_comm
  · intro t c
    simp only [View.xor, gXor, gUnion, gDiff, hX.2, List.mem_append, mem_graph hD.1, mem_graph hD'.1]
    simp only [hD.2, hD'.2, List.mem_filter, Bool.not_eq_true', hna, hnb, and_true]

end RV.C01

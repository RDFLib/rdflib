import RV.C01.Idx
import RV.C01.Simple
/-
  C01 — `NMem` / `NSMem` (nested dictionaries) against `Mem` / `SMem` (flat index sets).
  `NMem.toMem` commutes EXACTLY with `remove` and all it is made of (the walks are the same lists, `del` is `sremove`);
  `add` is the flat model's bookkeeping step beside the flattened new indexes, about which `atc_spec` only asks for
  membership.  With these two primitives the nested model refines the specification (`nmemFolds.lift`).
-/
namespace RV.C01
open RV

structure NWF (n : NMem) : Prop where
  spo : WFI n.ispo
  pos : WFI n.ipos
  osp : WFI n.iosp

theorem nwf_init : NWF NMem.init := ⟨wfi_nil, wfi_nil, wfi_nil⟩

theorem nwf_cx {n : NMem} (h : NWF n) (c : Mem) : NWF { n with cx := c } := ⟨h.spo, h.pos, h.osp⟩

/-! ### the context bookkeeping does not look at the index lists -/

section Ctx
variable (m : Mem) (a b c : List Triple)

theorem withIdx_atc (t : Triple) (ex : Bool) (k : Nat) :
    addTripleContext (m.withIdx a b c) t ex k = (addTripleContext m t ex k).withIdx a b c := rfl

theorem withIdx_rtc (t : Triple) (ctx : Ctx) :
    removeTripleContext (m.withIdx a b c) t ctx = (removeTripleContext m t ctx).withIdx a b c := rfl

theorem withIdx_register (k : Nat) : (m.withIdx a b c).register k = (m.register k).withIdx a b c := rfl

theorem withIdx_getCtxs (t : Triple) : getCtxs (m.withIdx a b c) t = getCtxs m t := rfl

end Ctx

/-- `f` reads and writes the context bookkeeping only: it commutes with any change of the index lists -/
def CxOnly (f : Mem → Mem) : Prop := ∀ m a b c, f (m.withIdx a b c) = (f m).withIdx a b c

theorem toMem_cx {f : Mem → Mem} (hf : CxOnly f) (n : NMem) : ({ n with cx := f n.cx } : NMem).toMem = f n.toMem :=
  (hf n.cx _ _ _).symm

theorem cxOnly_flag (f : Bool) : CxOnly (fun m => m.flag f) := fun _ _ _ _ => rfl

theorem cxOnly_removeCtxLoop (t : Triple) (req : Ctx) : ∀ cs, CxOnly (fun m => removeCtxLoop m t req cs) := by
  intro cs
  induction cs with
  | nil => intro m a b c; rfl
  | cons ctx r ih =>
    intro m a b c
    simp only [removeCtxLoop]
    split
    · exact ih m a b c
    · exact ih (removeTripleContext m t ctx) a b c

theorem cxOnly_dropUnion (t : Triple) (req : Ctx) : CxOnly (fun m => dropUnion m t req) := by
  intro m a b c
  show dropUnion (m.withIdx a b c) t req = (dropUnion m t req).withIdx a b c
  unfold dropUnion
  simp only [withIdx_getCtxs, withIdx_rtc]
  exact (apply_ite (fun x : Mem => x.withIdx a b c) _ _ _).symm

theorem cxOnly_dropEmptyCtx (req : Ctx) : CxOnly (fun m => dropEmptyCtx m req) := by
  intro m a b c
  show dropEmptyCtx (m.withIdx a b c) req = (dropEmptyCtx m req).withIdx a b c
  unfold dropEmptyCtx
  cases req with
  | none => rfl
  | some k =>
    have : (m.withIdx a b c).ctxT = m.ctxT := rfl
    simp only [this]
    split <;> rfl

/-- the context part of `removeOne` (everything before the index deletion) -/
theorem cxOnly_removeOneCx (t : Triple) (req : Ctx) :
    CxOnly (fun m => dropUnion (removeCtxLoop (m.flag (getCtxsRaises m t)) t req (getCtxs m t)) t req) := by
  intro m a b c
  have h1 : removeCtxLoop ((m.flag (getCtxsRaises m t)).withIdx a b c) t req (getCtxs m t)
      = (removeCtxLoop (m.flag (getCtxsRaises m t)) t req (getCtxs m t)).withIdx a b c :=
    cxOnly_removeCtxLoop t req _ _ a b c
  show dropUnion (removeCtxLoop ((m.flag (getCtxsRaises m t)).withIdx a b c) t req (getCtxs m t)) t req = _
  rw [h1]
  exact cxOnly_dropUnion t req _ a b c

/-! ### reads: the probes and walks of the nested model are the flat model's -/

theorem has_eq {n : NMem} (h : NWF n) (t : Triple) : n.has t = decide (t ∈ n.toMem.spo) :=
  idxHas_eq_decide h.spo t.1 t.2.1 t.2.2

theorem hasCtx_eq {n : NMem} (h : NWF n) (t : Triple) (c : Ctx) : n.hasCtx t c = hasCtx n.toMem t c := by
  simp only [NMem.hasCtx, hasCtx, has_eq h]; rfl

theorem hasCtxRaises_eq {n : NMem} (h : NWF n) (t : Triple) : n.hasCtxRaises t = hasCtxRaises n.toMem t := by
  simp only [NMem.hasCtxRaises, hasCtxRaises, has_eq h]; rfl

theorem cands_eq {n : NMem} (h : NWF n) (pat : Pat) : n.cands pat = cands n.toMem pat :=
  idxCands_eq h.spo h.pos h.osp n.toMem rfl rfl rfl pat

theorem nremove_of_ne {pat : Pat} (hp : pat ≠ allPat) (n : NMem) (req : Ctx) :
    n.remove pat req =
      { n.removeLoop req true (n.cands pat) with cx := dropEmptyCtx (n.removeLoop req true (n.cands pat)).cx req } :=
  pat_ne_cases (fun _ _ => rfl) (fun _ _ => rfl) (fun _ => rfl) hp

theorem ntriples_of_ne {pat : Pat} (hp : pat ≠ allPat) (n : NMem) (c : Ctx) :
    n.triples pat c = (n.cands pat).filter (fun t => n.hasCtx t c) :=
  pat_ne_cases (fun _ _ => rfl) (fun _ _ => rfl) (fun _ => rfl) hp

theorem ntriplesRaises_of_ne {pat : Pat} (hp : pat ≠ allPat) (n : NMem) :
    n.triplesRaises pat = (n.cands pat).any (fun t => n.hasCtxRaises t) :=
  pat_ne_cases (fun _ _ => rfl) (fun _ _ => rfl) (fun _ => rfl) hp

theorem ntriples_eq {n : NMem} (h : NWF n) (pat : Pat) (c : Ctx) : n.triples pat c = triples n.toMem pat c := by
  by_cases hp : pat = allPat
  · subst hp; rfl
  · rw [triples_of_ne hp, ntriples_of_ne hp, cands_eq h]
    exact List.filter_congr fun t _ => hasCtx_eq h t c

theorem ntriplesRaises_eq {n : NMem} (h : NWF n) (pat : Pat) : n.triplesRaises pat = triplesRaises n.toMem pat := by
  by_cases hp : pat = allPat
  · subst hp; rfl
  · rw [triplesRaises_of_ne hp, ntriplesRaises_of_ne hp, cands_eq h, funext (hasCtxRaises_eq h)]

theorem ncontains_eq {n : NMem} (h : NWF n) (t : Triple) (g : Nat) : n.contains t g = n.toMem.contains t g := by
  simp only [NMem.contains, Mem.contains, ntriples_eq h]

theorem graph_toMem (n : NMem) (g : Nat) : n.graph g = n.toMem.graph g := rfl

theorem ncontexts_eq {n : NMem} (h : NWF n) (pat : Pat) : n.contexts pat = n.toMem.contexts pat := by
  obtain ⟨_ | s, _ | p, _ | o⟩ := pat <;> first
    | rfl
    | (have hb : idxHas n.ispo s p o = decide ((s, p, o) ∈ n.toMem.spo) := has_eq h (s, p, o)
       simp only [NMem.contexts, Mem.contexts, hb, decide_eq_true_eq]; rfl)

/-! ### the second-level dictionary keys only grow -/

def KeysSub (i i' : Idx) : Prop := ∀ a k, k ∈ akeys (lvl2 i a) → k ∈ akeys (lvl2 i' a)

theorem keysSub_aset (i : Idx) (a b : Nat) (l : List Nat) : KeysSub i (aset i a (aset (lvl2 i a) b l)) := by
  intro a' k h
  rw [lvl2_aset]
  split
  · next e =>
    subst e
    rw [akeys_aset]
    exact mem_sinsert.2 (Or.inr h)
  · exact h

theorem keysSub_idxDel (i : Idx) (a b c : Nat) : KeysSub i (idxDel i a b c) := by
  unfold idxDel
  split
  · exact keysSub_aset i a b _
  · exact fun _ _ h => h

/-- `KeysSub` in each of the three indexes: what the copied keys of an open generator rely on -/
structure KeysLe (n n' : NMem) : Prop where
  spo : KeysSub n.ispo n'.ispo
  pos : KeysSub n.ipos n'.ipos
  osp : KeysSub n.iosp n'.iosp

theorem KeysLe.refl (n : NMem) : KeysLe n n := ⟨fun _ _ h => h, fun _ _ h => h, fun _ _ h => h⟩

theorem KeysLe.trans {a b c : NMem} (h1 : KeysLe a b) (h2 : KeysLe b c) : KeysLe a c :=
  ⟨fun x k h => h2.spo x k (h1.spo x k h), fun x k h => h2.pos x k (h1.pos x k h), fun x k h => h2.osp x k (h1.osp x k h)⟩

theorem keysLe_cx (n : NMem) (c : Mem) : KeysLe n { n with cx := c } := ⟨fun _ _ h => h, fun _ _ h => h, fun _ _ h => h⟩

theorem keysLe_add (n : NMem) (t : Triple) (c : Nat) : KeysLe n (n.add t c) := by
  unfold NMem.add NMem.addCore
  split
  · exact keysLe_cx n _
  · exact ⟨keysSub_aset _ _ _ _, keysSub_aset _ _ _ _, keysSub_aset _ _ _ _⟩

/-- `n'` comes from `n` by a part of the nested `remove` whose flat counterpart gives `m'`: the flattening commutes, the
    dictionaries stay well formed and keep their second-level keys -/
structure NStep (n n' : NMem) (m' : Mem) : Prop where
  toMem : n'.toMem = m'
  wf : NWF n'
  keys : KeysLe n n'

theorem flat3_idxDel {i1 i2 i3 : Idx} (h1 : WFI i1) (h2 : WFI i2) (h3 : WFI i3) (t : Triple) :
    flat (idxDel i1 t.1 t.2.1 t.2.2) = sremove (flat i1) t ∧
    (flat (idxDel i2 t.2.1 t.2.2 t.1)).map rotPOS = sremove ((flat i2).map rotPOS) t ∧
    (flat (idxDel i3 t.2.2 t.1 t.2.1)).map rotOSP = sremove ((flat i3).map rotOSP) t ∧
    idxHas i1 t.1 t.2.1 t.2.2 = decide (t ∈ flat i1) ∧
    idxHas i2 t.2.1 t.2.2 t.1 = decide (t ∈ (flat i2).map rotPOS) ∧
    idxHas i3 t.2.2 t.1 t.2.1 = decide (t ∈ (flat i3).map rotOSP) :=
  ⟨flat_idxDel h1 _ _ _, map_flat_idxDel rotPOS_inj h2 _ _ _, map_flat_idxDel rotOSP_inj h3 _ _ _,
    idxHas_eq_decide h1 _ _ _, idxHas_eq_decide_map rotPOS_inj h2 _ _ _, idxHas_eq_decide_map rotOSP_inj h3 _ _ _⟩

theorem mem_flat3_idxAdd {i1 i2 i3 : Idx} (h1 : WFI i1) (h2 : WFI i2) (h3 : WFI i3) (t x : Triple) :
    (x ∈ flat (idxAdd i1 t.1 t.2.1 t.2.2) ↔ (x ∈ flat i1 ∨ x = t)) ∧
    (x ∈ (flat (idxAdd i2 t.2.1 t.2.2 t.1)).map rotPOS ↔ (x ∈ (flat i2).map rotPOS ∨ x = t)) ∧
    (x ∈ (flat (idxAdd i3 t.2.2 t.1 t.2.1)).map rotOSP ↔ (x ∈ (flat i3).map rotOSP ∨ x = t)) :=
  ⟨mem_flat_idxAdd h1 _ _ _ x, mem_map_flat_idxAdd (ρ := rotPOS) h2 _ _ _ x, mem_map_flat_idxAdd (ρ := rotOSP) h3 _ _ _ x⟩

theorem idxOk_add3 {i1 i2 i3 : Idx} (h1 : WFI i1) (h2 : WFI i2) (h3 : WFI i3) (t : Triple)
    (h : IdxOk (flat i1) ((flat i2).map rotPOS) ((flat i3).map rotOSP)) :
    IdxOk (flat (idxAdd i1 t.1 t.2.1 t.2.2)) ((flat (idxAdd i2 t.2.1 t.2.2 t.1)).map rotPOS)
      ((flat (idxAdd i3 t.2.2 t.1 t.2.1)).map rotOSP) :=
  have hm := mem_flat3_idxAdd h1 h2 h3 t
  ⟨nodup_flat (wfi_idxAdd h1 _ _ _), nodup_map_flat rotPOS_inj (wfi_idxAdd h2 _ _ _),
    nodup_map_flat rotOSP_inj (wfi_idxAdd h3 _ _ _),
    fun x => ((hm x).2.1.trans (or_congr_left (h.b_iff x))).trans (hm x).1.symm,
    fun x => ((hm x).2.2.trans (or_congr_left (h.c_iff x))).trans (hm x).1.symm⟩

theorem dropTriple_toMem {n : NMem} (h : NWF n) (t : Triple) :
    NStep n (n.dropTriple t) (dropTriple n.toMem t) := by
  unfold NMem.dropTriple dropTriple
  have hg : getCtxs n.toMem t = getCtxs n.cx t := rfl
  rw [hg]
  split
  · refine ⟨?_, ⟨wfi_idxDel h.spo _ _ _, wfi_idxDel h.pos _ _ _, wfi_idxDel h.osp _ _ _⟩,
      ⟨keysSub_idxDel n.ispo _ _ _, keysSub_idxDel n.ipos _ _ _, keysSub_idxDel n.iosp _ _ _⟩⟩
    obtain ⟨e1, e2, e3, b1, b2, b3⟩ := flat3_idxDel h.spo h.pos h.osp t
    simp only [NMem.toMem, e1, e2, e3, b1, b2, b3]; rfl
  · exact ⟨rfl, h, KeysLe.refl n⟩

theorem removeOne_toMem {n : NMem} (h : NWF n) (t : Triple) (req : Ctx) :
    NStep n (n.removeOne t req) (removeOne n.toMem t req) := by
  obtain ⟨e, hw, hk⟩ := dropTriple_toMem (nwf_cx h _) t
  exact ⟨e.trans (congrArg (fun m => dropTriple m t) (toMem_cx (cxOnly_removeOneCx t req) n)), hw,
    (keysLe_cx n _).trans hk⟩

theorem removeLoop_toMem (req : Ctx) (test : Bool) : ∀ (l : List Triple) (n : NMem), NWF n →
    NStep n (n.removeLoop req test l) (removeLoop n.toMem req test l) := by
  intro l
  induction l with
  | nil => intro n h; exact ⟨rfl, h, KeysLe.refl n⟩
  | cons t r ih =>
    intro n h
    simp only [NMem.removeLoop, removeLoop, hasCtx_eq h, hasCtxRaises_eq h]
    have hf := nwf_cx h (n.cx.flag (test && hasCtxRaises n.toMem t))
    have ef := toMem_cx (cxOnly_flag (test && hasCtxRaises n.toMem t)) n
    split
    · obtain ⟨e1, h1, k1⟩ := removeOne_toMem hf t req
      obtain ⟨e2, h2, k2⟩ := ih _ h1
      exact ⟨by rw [e2, e1, ef], h2, ((keysLe_cx n _).trans k1).trans k2⟩
    · obtain ⟨e2, h2, k2⟩ := ih _ hf
      exact ⟨by rw [e2, ef], h2, (keysLe_cx n _).trans k2⟩

theorem remove_toMem {n : NMem} (h : NWF n) (pat : Pat) (req : Ctx) :
    NStep n (n.remove pat req) (n.toMem.remove pat req) := by
  have key : ∀ (test : Bool) (l : List Triple),
      NStep n { n.removeLoop req test l with cx := dropEmptyCtx (n.removeLoop req test l).cx req }
        (dropEmptyCtx (removeLoop n.toMem req test l) req) := by
    intro test l
    obtain ⟨e, hw, hk⟩ := removeLoop_toMem req test l n h
    exact ⟨e ▸ toMem_cx (cxOnly_dropEmptyCtx req) _, nwf_cx hw _, hk.trans (keysLe_cx _ _)⟩
  by_cases hp : pat = allPat
  · subst hp; exact key false _
  · rw [nremove_of_ne hp, remove_of_ne hp, ← cands_eq h]; exact key true _

/-- the index lists that go with `atc_spec`'s result are the flattenings after the three insertion ladders (or the old
    ones, when the triple was there) -/
theorem nadd_spec {n : NMem} (hw : NWF n) (hI : Inv n.toMem) (t : Triple) (c : Nat) :
    NWF (n.add t c) ∧ Inv (n.add t c).toMem ∧
      (∀ t' c', InG (n.add t c).toMem t' c' ↔ (InG n.toMem t' c' ∨ (t' = t ∧ c' = c))) ∧
      (n.add t c).cx.allc = sinsert n.cx.allc c := by
  have hI' : Inv (n.toMem.register c) := inv_register hI c
  have hb : n.has t = true ↔ t ∈ (n.toMem.register c).spo := (mem_flat_iff hw.spo _ _ _).symm
  unfold NMem.add NMem.addCore
  split
  · next h =>
    obtain ⟨h1, h2⟩ := atc_spec hI' t c (ex := true) (iff_of_true rfl (hb.1 h)) hI'.idx
      (fun x => ⟨Or.inl, fun h' => h'.elim id fun e => e ▸ hb.1 h⟩)
    exact ⟨nwf_cx (nwf_cx hw _) _, h1, h2, rfl⟩
  · next h =>
    obtain ⟨h1, h2⟩ := atc_spec hI' t c (ex := false) (iff_of_false (fun e => nomatch e) (fun h' => h (hb.2 h')))
      (idxOk_add3 hw.spo hw.pos hw.osp t hI.idx) (fun x => (mem_flat3_idxAdd hw.spo hw.pos hw.osp t x).1)
    exact ⟨⟨wfi_idxAdd hw.spo _ _ _, wfi_idxAdd hw.pos _ _ _, wfi_idxAdd hw.osp _ _ _⟩, h1, h2, rfl⟩

theorem nmemFolds : Folds NMem.stStep NMem.graph :=
  { add := fun _ _ _ => rfl, addN_nil := fun _ _ => rfl, addN_cons := fun _ _ _ _ _ _ => rfl,
    remove := fun _ _ _ => rfl, set := fun _ _ _ => rfl, iadd := fun _ _ _ => rfl, iaddG := fun _ _ _ => rfl,
    isub_nil := fun _ _ => rfl, isub_cons := fun _ _ _ _ => rfl, isubG := fun _ _ _ => rfl }

structure NSim (n : NMem) (S : QK) : Prop where
  wf : NWF n
  sim : StSim n.toMem S

theorem nsim_init : NSim NMem.init QK.empty := ⟨nwf_init, stSim_init⟩

theorem nsim_add {n : NMem} {S : QK} (h : NSim n S) (t : Triple) (c : Nat) : NSim (n.add t c) (S.step (.add t c)) := by
  obtain ⟨h1, h2, h3, h4⟩ := nadd_spec h.wf h.sim.inv t c
  have h4' : (n.add t c).toMem.allc = sinsert n.toMem.allc c := h4
  exact ⟨h1, h2, h4' ▸ nodup_sinsert h.sim.nd, fun t' c' => (h3 t' c').trans (or_congr_left (h.sim.q t' c')),
    fun k => (h4' ▸ mem_sinsert).trans (or_comm.trans (or_congr_left (h.sim.k k)))⟩

theorem nsim_remove {n : NMem} {S : QK} (h : NSim n S) (pat : Pat) (ctx : Ctx) :
    NSim (n.remove pat ctx) (S.step (.remove pat ctx)) := by
  obtain ⟨e, hw, _⟩ := remove_toMem h.wf pat ctx
  exact ⟨hw, e ▸ stSim_step h.sim (.remove pat ctx)⟩

theorem nsim_step {n : NMem} {S : QK} (h : NSim n S) (op : StOp) : NSim (n.stStep op) (S.step op) := by
  refine nmemFolds.lift NSim (fun _ _ t c h => nsim_add h t c) (fun _ _ pat ctx h => nsim_remove h pat ctx) ?_ ?_ ?_ h op
  · intro n S k h; exact ⟨nwf_cx h.wf _, stSim_step h.sim (.addGraph k)⟩
  · intro n S k h
    obtain ⟨e, hw, _⟩ := remove_toMem h.wf (none, none, none) (some k)
    have e' : (n.removeGraph k).toMem = n.toMem.removeGraph k := by rw [Mem.removeGraph, ← e]; rfl
    exact ⟨nwf_cx hw _, e' ▸ stSim_step h.sim (.removeGraph k)⟩
  · intro n S g h; exact h.sim.mem_graph g

theorem nsim_run (ops : List StOp) : NSim (NMem.init.stRun ops) (QK.run QK.empty ops) :=
  foldl_rel NSim NMem.stStep QK.step (fun _ _ op h => nsim_step h op) ops _ _ nsim_init

structure NSWF (n : NSMem) : Prop where
  spo : WFI n.ispo
  pos : WFI n.ipos
  osp : WFI n.iosp

theorem nswf_init : NSWF NSMem.init := ⟨wfi_nil, wfi_nil, wfi_nil⟩

theorem striples_toSMem {n : NSMem} (h : NSWF n) (pat : Pat) : n.triples pat = n.toSMem.triples pat := by
  rw [striples_eq]
  exact idxCands_eq h.spo h.pos h.osp n.toSMem.idx rfl rfl rfl pat

theorem scontains_toSMem {n : NSMem} (h : NSWF n) (t : Triple) : n.contains t = n.toSMem.contains t := by
  simp only [NSMem.contains, SMem.contains, striples_toSMem h]

theorem del_toSMem {n : NSMem} (h : NSWF n) (t : Triple) : (n.del t).toSMem = n.toSMem.del t ∧ NSWF (n.del t) := by
  refine ⟨?_, ⟨wfi_idxDel h.spo _ _ _, wfi_idxDel h.pos _ _ _, wfi_idxDel h.osp _ _ _⟩⟩
  obtain ⟨e1, e2, e3, b1, b2, b3⟩ := flat3_idxDel h.spo h.pos h.osp t
  simp only [NSMem.del, SMem.del, NSMem.toSMem, e1, e2, e3, b1, b2, b3]; rfl

theorem remove_toSMem {n : NSMem} (h : NSWF n) (pat : Pat) :
    (n.remove pat).toSMem = n.toSMem.remove pat ∧ NSWF (n.remove pat) := by
  rw [NSMem.remove, SMem.remove, striples_toSMem h]
  exact foldl_rel (fun (n : NSMem) (m : SMem) => n.toSMem = m ∧ NSWF n) _ _
    (fun n m t h => ⟨h.1 ▸ (del_toSMem h.2 t).1, (del_toSMem h.2 t).2⟩) _ n _ ⟨rfl, h⟩

theorem nsmemFolds : SFolds NSMem.step :=
  { addN_nil := fun _ _ => rfl, addN_cons := fun _ _ _ _ _ _ => rfl, set := fun _ _ => rfl, iadd := fun _ _ => rfl,
    isub_nil := fun _ => rfl, isub_cons := fun _ _ _ => rfl }

structure NSSim (n : NSMem) (S : TSet) : Prop where
  wf : NSWF n
  inv : SInv n.toSMem
  holds : ∀ t, t ∈ n.toSMem.spo ↔ S t

theorem nssim_step {n : NSMem} {S : TSet} (h : NSSim n S) (op : SOp) : NSSim (n.step op) (SSpec.step S op) := by
  refine nsmemFolds.lift NSSim ?_ ?_ h op
  · intro n S t ⟨hw, hI, hS⟩
    exact ⟨⟨wfi_idxAdd hw.spo _ _ _, wfi_idxAdd hw.pos _ _ _, wfi_idxAdd hw.osp _ _ _⟩,
      ⟨hI.err, idxOk_add3 hw.spo hw.pos hw.osp t hI.idx⟩,
      fun x => (mem_flat3_idxAdd hw.spo hw.pos hw.osp t x).1.trans (or_congr_left (hS x))⟩
  · intro n S pat ⟨hw, hI, hS⟩
    obtain ⟨e, hw'⟩ := remove_toSMem hw pat
    obtain ⟨hI', h'⟩ := simple_remove_spec hI pat
    exact ⟨hw', e ▸ hI', fun x => e ▸ (h' x).trans (and_congr_left fun _ => hS x)⟩

end RV.C01

import RV.C01.Basic
/-
  C01 — the specifications, and what every store model has in common with them: `add`, `remove`, `add_graph`,
  `remove_graph` are primitive, every other operation is a fold of `add` / `remove` in the store and in the specification
  alike; a relation between the two is therefore proved for the primitives only (`Folds.lift`, `SFolds.lift`).
-/
namespace RV.C01
open RV

abbrev QSet := Triple → Nat → Prop

def QSet.empty : QSet := fun _ _ => False

/-- what each operation of the property does to a mathematical set of (triple, graph) pairs -/
def Spec.step (S : QSet) : Op → QSet
  | .add t0 g => fun t c => S t c ∨ (t = t0 ∧ c = g)
  | .addN g qs => fun t c => S t c ∨ (c = g ∧ (t, g, true) ∈ qs)
  | .remove pat g => fun t c => S t c ∧ ¬ (pat.matches t = true ∧ c = g)
  | .set t0 g => fun t c => (S t c ∧ ¬ ((t.1 = t0.1 ∧ t.2.1 = t0.2.1) ∧ c = g)) ∨ (t = t0 ∧ c = g)
  | .iadd g ts => fun t c => S t c ∨ (t ∈ ts ∧ c = g)
  | .iaddG g h => fun t c => S t c ∨ (S t h ∧ c = g)
  | .isub g ts => fun t c => S t c ∧ ¬ (t ∈ ts ∧ c = g)
  | .isubG g h => fun t c => S t c ∧ ¬ (S t h ∧ c = g)

def Spec.run (S : QSet) (ops : List Op) : QSet := ops.foldl Spec.step S

/-- abstraction of a `Memory` state: the pairs (triple, graph) it holds
    (`t` is in the `spo` index and `g` is among the contexts recorded for `t`) -/
def abs (m : Mem) : QSet := fun t g => t ∈ m.spo ∧ some g ∈ getCtxs m t

/-! ### The `Memory` store API itself (what C02, C10, C13, C18, C20 assume of the store)

  Specification = a pair `(Q, K)`: `Q` the set of (triple, graph) pairs, `K` the set of registered
  graphs.  It is the abstraction C02 uses for `Memory` (`RV.C02.Mem`: `qs` read as a set = `Q`, `allc` read
  as a set = `K`), restated here with sets instead of duplicate-free lists. -/

structure QK where
  Q : QSet
  K : Nat → Prop

def QK.empty : QK := ⟨QSet.empty, fun _ => False⟩

/-- the graphs registered by a `Graph`-level operation (every `Memory.add` it performs registers its context) -/
def KSpec.step (Q : QSet) (K : Nat → Prop) : Op → (Nat → Prop)
  | .add _ g => fun k => K k ∨ k = g
  | .addN g qs => fun k => K k ∨ (k = g ∧ ∃ t, (t, g, true) ∈ qs)
  | .remove _ _ => K
  | .set _ g => fun k => K k ∨ k = g
  | .iadd g ts => fun k => K k ∨ (k = g ∧ ∃ t, t ∈ ts)
  | .iaddG g h => fun k => K k ∨ (k = g ∧ ∃ t, Q t h)
  | .isub _ _ => K
  | .isubG _ _ => K

/-- `add(t, c)`: `Q ∪ {(t,c)}`, `K ∪ {c}`;  `remove(pat, ctx|None)`: the matching pairs of graph `ctx` (of every
    graph for `None`) leave `Q`, `K` unchanged (an emptied graph stays registered);  `add_graph(k)`: `K ∪ {k}`;
    `remove_graph(k)`: all pairs of `k` leave `Q`, `K \ {k}` -/
def QK.step (S : QK) : StOp → QK
  | .add t0 c => ⟨fun t g => S.Q t g ∨ (t = t0 ∧ g = c), fun k => S.K k ∨ k = c⟩
  | .remove pat ctx => ⟨fun t g => S.Q t g ∧ ¬ (pat.matches t = true ∧ (ctx = none ∨ ctx = some g)), S.K⟩
  | .addGraph k0 => ⟨S.Q, fun k => S.K k ∨ k = k0⟩
  | .removeGraph k0 => ⟨fun t g => S.Q t g ∧ g ≠ k0, fun k => S.K k ∧ k ≠ k0⟩
  | .graph op => ⟨Spec.step S.Q op, KSpec.step S.Q S.K op⟩

def QK.run (S : QK) (ops : List StOp) : QK := ops.foldl QK.step S

/-- the triples visible through `context` (`none` = `None` = every graph) -/
def QK.sees (S : QK) (ctx : Option Nat) (t : Triple) : Prop := ∃ g, S.Q t g ∧ (ctx = none ∨ ctx = some g)

abbrev TSet := Triple → Prop

def SSpec.step (S : TSet) : SOp → TSet
  | .add t0 => fun t => S t ∨ t = t0
  | .addN g qs => fun t => S t ∨ (t, g, true) ∈ qs
  | .remove pat => fun t => S t ∧ ¬ pat.matches t = true
  | .set t0 => fun t => (S t ∧ ¬ (t.1 = t0.1 ∧ t.2.1 = t0.2.1)) ∨ t = t0
  | .iadd ts => fun t => S t ∨ t ∈ ts
  | .isub ts => fun t => S t ∧ t ∉ ts

def SSpec.run (S : TSet) (ops : List SOp) : TSet := ops.foldl SSpec.step S

/-! ### The composite steps of the specifications are folds of their primitive steps -/

/-- the pattern of `t in g` and of one step of `g -= ts` -/
abbrev exactPat (t : Triple) : Pat := (some t.1, some t.2.1, some t.2.2)

theorem matches_exact (t x : Triple) : (exactPat t).matches x = true ↔ x = t := by
  obtain ⟨a, b, c⟩ := x
  obtain ⟨a', b', c'⟩ := t
  simp [Pat.matches, matchPos, and_assoc]

theorem QK.ext {S S' : QK} (hq : ∀ t g, S.Q t g ↔ S'.Q t g) (hk : ∀ k, S.K k ↔ S'.K k) : S = S' := by
  obtain ⟨Q, K⟩ := S
  obtain ⟨Q', K'⟩ := S'
  have e1 : Q = Q' := funext fun t => funext fun g => propext (hq t g)
  have e2 : K = K' := funext fun k => propext (hk k)
  rw [e1, e2]

theorem qk_remove (S : QK) (pat : Pat) (g : Nat) : S.step (.graph (.remove pat g)) = S.step (.remove pat (some g)) :=
  QK.ext (fun t c => by simp only [QK.step, Spec.step, reduceCtorEq, false_or, Option.some.injEq, @eq_comm _ g c])
    (fun _ => Iff.rfl)

theorem qk_iadd (g : Nat) : ∀ (ts : List Triple) (S : QK),
    S.step (.graph (.iadd g ts)) = ts.foldl (fun S t => S.step (.add t g)) S := by
  intro ts
  induction ts with
  | nil =>
    intro S
    exact QK.ext (fun t c => by simp only [QK.step, Spec.step, List.not_mem_nil, false_and, or_false, List.foldl_nil])
      (fun k => by simp only [QK.step, KSpec.step, List.not_mem_nil, exists_const, and_false, or_false, List.foldl_nil])
  | cons a r ih =>
    intro S
    rw [List.foldl_cons, ← ih]
    refine QK.ext (fun t c => by simp only [QK.step, Spec.step, List.mem_cons, or_and_right, or_assoc]) (fun k => ?_)
    simp only [QK.step, KSpec.step, List.mem_cons, exists_or, exists_eq, true_or, and_true, or_assoc]
    exact or_congr_right ⟨Or.inl, fun h => h.elim id And.left⟩

theorem qk_isub (g : Nat) : ∀ (ts : List Triple) (S : QK),
    S.step (.graph (.isub g ts)) = ts.foldl (fun S t => S.step (.remove (exactPat t) (some g))) S := by
  intro ts
  induction ts with
  | nil =>
    intro S
    refine QK.ext (fun t c => ?_) (fun _ => Iff.rfl)
    simp only [QK.step, Spec.step, List.not_mem_nil, false_and, not_false_eq_true, and_true, List.foldl_nil]
  | cons a r ih =>
    intro S
    rw [List.foldl_cons, ← ih]
    refine QK.ext (fun t c => ?_) (fun _ => Iff.rfl)
    simp only [QK.step, Spec.step, List.mem_cons, or_and_right, not_or, matches_exact, reduceCtorEq,
      Option.some.injEq, false_or, and_assoc, @eq_comm _ g c]

theorem qk_addN (S : QK) (g : Nat) (qs : List Quad) :
    S.step (.graph (.addN g qs)) = S.step (.graph (.iadd g (accepted g qs))) :=
  QK.ext (fun t c => by simp only [QK.step, Spec.step, mem_accepted, and_comm])
    (fun k => by simp only [QK.step, KSpec.step, mem_accepted])

theorem qk_set (S : QK) (t0 : Triple) (g : Nat) :
    S.step (.graph (.set t0 g)) = (S.step (.remove (some t0.1, some t0.2.1, none) (some g))).step (.add t0 g) :=
  QK.ext (fun _ => Iff.rfl) (hq := fun t c => by
    simp only [QK.step, Spec.step, Pat.matches, matchPos, Bool.and_true, Bool.and_eq_true, beq_iff_eq, reduceCtorEq,
      Option.some.injEq, false_or, @eq_comm _ g c])

theorem qk_iaddG (S : QK) (g h : Nat) {l : List Triple} (hl : ∀ t, t ∈ l ↔ S.Q t h) :
    S.step (.graph (.iaddG g h)) = S.step (.graph (.iadd g l)) :=
  QK.ext (fun t c => by simp only [QK.step, Spec.step, hl]) (fun k => by simp only [QK.step, KSpec.step, hl])

theorem qk_isubG (S : QK) (g h : Nat) {l : List Triple} (hl : ∀ t, t ∈ l ↔ S.Q t h) :
    S.step (.graph (.isubG g h)) = S.step (.graph (.isub g l)) :=
  QK.ext (fun t c => by simp only [QK.step, Spec.step, hl]) (fun _ => Iff.rfl)

/-- What is asked of a `Memory`-like store besides its primitive steps (on `add`, `remove`, `addGraph`, `removeGraph`) and
    its iteration `graph`: the `Graph`-level operations are the loops of `rdflib/graph.py` over the primitives (`rfl` in
    the models). -/
structure Folds {σ : Type} (step : σ → StOp → σ) (graph : σ → Nat → List Triple) : Prop where
  add : ∀ s t g, step s (.graph (.add t g)) = step s (.add t g)
  addN_nil : ∀ s g, step s (.graph (.addN g [])) = s
  addN_cons : ∀ s g t c b r, step s (.graph (.addN g ((t, c, b) :: r))) =
    if b && c == g then step (step s (.add t c)) (.graph (.addN g r)) else step s (.graph (.addN g r))
  remove : ∀ s pat g, step s (.graph (.remove pat g)) = step s (.remove pat (some g))
  set : ∀ s t g, step s (.graph (.set t g)) = step (step s (.remove (some t.1, some t.2.1, none) (some g))) (.add t g)
  iadd : ∀ s g ts, step s (.graph (.iadd g ts)) = step s (.graph (.addN g (ts.map fun t => (t, g, true))))
  iaddG : ∀ s g h, step s (.graph (.iaddG g h)) = step s (.graph (.iadd g (graph s h)))
  isub_nil : ∀ s g, step s (.graph (.isub g [])) = s
  isub_cons : ∀ s g t r, step s (.graph (.isub g (t :: r))) =
    step (step s (.remove (exactPat t) (some g))) (.graph (.isub g r))
  isubG : ∀ s g h, step s (.graph (.isubG g h)) = step s (.graph (.isub g (graph s h)))

section
variable {σ : Type} {step : σ → StOp → σ} {graph : σ → Nat → List Triple} (F : Folds step graph)
include F

theorem Folds.addN_fold (s : σ) (g : Nat) (qs : List Quad) :
    step s (.graph (.addN g qs)) = (accepted g qs).foldl (fun s t => step s (.add t g)) s :=
  RV.C01.addN_fold (fun s qs => step s (.graph (.addN g qs))) (fun s t c => step s (.add t c)) g (F.addN_nil · g)
    (F.addN_cons · g) qs s

theorem Folds.iadd_fold (s : σ) (g : Nat) (ts : List Triple) :
    step s (.graph (.iadd g ts)) = ts.foldl (fun s t => step s (.add t g)) s := by
  rw [F.iadd, F.addN_fold, accepted_map]

theorem Folds.isub_fold (s : σ) (g : Nat) (ts : List Triple) :
    step s (.graph (.isub g ts)) = ts.foldl (fun s t => step s (.remove (exactPat t) (some g))) s :=
  rec_eq_foldl (fun s ts => step s (.graph (.isub g ts))) _ (F.isub_nil · g) (F.isub_cons · g) ts s

end

/-- a relation between store and specification that the four primitives keep, and under which iteration lists the
    graph, is kept by every operation -/
theorem Folds.lift {σ : Type} {step : σ → StOp → σ} {graph : σ → Nat → List Triple} (F : Folds step graph)
    (R : σ → QK → Prop)
    (hadd : ∀ s S t c, R s S → R (step s (.add t c)) (S.step (.add t c)))
    (hrem : ∀ s S pat ctx, R s S → R (step s (.remove pat ctx)) (S.step (.remove pat ctx)))
    (haddG : ∀ s S k, R s S → R (step s (.addGraph k)) (S.step (.addGraph k)))
    (hrmG : ∀ s S k, R s S → R (step s (.removeGraph k)) (S.step (.removeGraph k)))
    (hg : ∀ s S h, R s S → ∀ t, t ∈ graph s h ↔ S.Q t h)
    {s : σ} {S : QK} (h : R s S) (op : StOp) : R (step s op) (S.step op) := by
  have hiadd : ∀ g ts, R (step s (.graph (.iadd g ts))) (S.step (.graph (.iadd g ts))) := fun g ts => by
    rw [F.iadd_fold, qk_iadd]; exact foldl_rel R _ _ (fun _ _ t h => hadd _ _ t g h) ts s S h
  have hisub : ∀ g ts, R (step s (.graph (.isub g ts))) (S.step (.graph (.isub g ts))) := fun g ts => by
    rw [F.isub_fold, qk_isub]; exact foldl_rel R _ _ (fun _ _ t h => hrem _ _ (exactPat t) (some g) h) ts s S h
  cases op with
  | add t c => exact hadd _ _ t c h
  | remove pat ctx => exact hrem _ _ pat ctx h
  | addGraph k => exact haddG _ _ k h
  | removeGraph k => exact hrmG _ _ k h
  | graph op =>
    cases op with
    | add t g => rw [F.add]; exact hadd _ _ t g h
    | addN g qs => rw [F.addN_fold, ← F.iadd_fold, qk_addN]; exact hiadd g _
    | remove pat g => rw [F.remove, qk_remove]; exact hrem _ _ _ _ h
    | set t g => rw [F.set, qk_set]; exact hadd _ _ _ _ (hrem _ _ _ _ h)
    | iadd g ts => exact hiadd g ts
    | iaddG g k => rw [F.iaddG, qk_iaddG S g k (hg s S k h)]; exact hiadd g _
    | isub g ts => exact hisub g ts
    | isubG g k => rw [F.isubG, qk_isubG S g k (hg s S k h)]; exact hisub g _

theorem ss_iadd : ∀ (ts : List Triple) (S : TSet),
    SSpec.step S (.iadd ts) = ts.foldl (fun S t => SSpec.step S (.add t)) S := by
  intro ts
  induction ts with
  | nil =>
    intro S
    exact funext fun t => propext (by simp only [SSpec.step, List.not_mem_nil, or_false, List.foldl_nil])
  | cons a r ih =>
    intro S
    rw [List.foldl_cons, ← ih]
    exact funext fun t => propext (by simp only [SSpec.step, List.mem_cons, or_assoc])

theorem ss_isub : ∀ (ts : List Triple) (S : TSet),
    SSpec.step S (.isub ts) = ts.foldl (fun S t => SSpec.step S (.remove (exactPat t))) S := by
  intro ts
  induction ts with
  | nil =>
    intro S
    exact funext fun t => propext (by
      simp only [SSpec.step, List.not_mem_nil, not_false_eq_true, and_true, List.foldl_nil])
  | cons a r ih =>
    intro S
    rw [List.foldl_cons, ← ih]
    exact funext fun t => propext (by simp only [SSpec.step, List.mem_cons, not_or, matches_exact, and_assoc])

theorem ss_addN (S : TSet) (g : Nat) (qs : List Quad) :
    SSpec.step S (.addN g qs) = SSpec.step S (.iadd (accepted g qs)) :=
  funext fun t => propext (by simp only [SSpec.step, mem_accepted])

theorem ss_set (S : TSet) (t0 : Triple) :
    SSpec.step S (.set t0) = SSpec.step (SSpec.step S (.remove (some t0.1, some t0.2.1, none))) (.add t0) :=
  funext fun t => propext (by
    simp only [SSpec.step, Pat.matches, matchPos, Bool.and_true, Bool.and_eq_true, beq_iff_eq])

/-- The same for a `SimpleMemory`-like store: `add` and `remove` are primitive. -/
structure SFolds {σ : Type} (step : σ → SOp → σ) : Prop where
  addN_nil : ∀ s g, step s (.addN g []) = s
  addN_cons : ∀ s g t c b r, step s (.addN g ((t, c, b) :: r)) =
    if b && c == g then step (step s (.add t)) (.addN g r) else step s (.addN g r)
  set : ∀ s t, step s (.set t) = step (step s (.remove (some t.1, some t.2.1, none))) (.add t)
  iadd : ∀ s ts, step s (.iadd ts) = ts.foldl (fun s t => step s (.add t)) s
  isub_nil : ∀ s, step s (.isub []) = s
  isub_cons : ∀ s t r, step s (.isub (t :: r)) = step (step s (.remove (exactPat t))) (.isub r)

theorem SFolds.lift {σ : Type} {step : σ → SOp → σ} (F : SFolds step) (R : σ → TSet → Prop)
    (hadd : ∀ s S t, R s S → R (step s (.add t)) (SSpec.step S (.add t)))
    (hrem : ∀ s S pat, R s S → R (step s (.remove pat)) (SSpec.step S (.remove pat)))
    {s : σ} {S : TSet} (h : R s S) (op : SOp) : R (step s op) (SSpec.step S op) := by
  have hiadd : ∀ ts, R (step s (.iadd ts)) (SSpec.step S (.iadd ts)) := fun ts => by
    rw [F.iadd, ss_iadd]; exact foldl_rel R _ _ (fun _ _ t h => hadd _ _ t h) ts s S h
  cases op with
  | add t => exact hadd _ _ t h
  | addN g qs =>
    rw [RV.C01.addN_fold (fun s qs => step s (.addN g qs)) (fun s t _ => step s (.add t)) g (F.addN_nil · g)
      (F.addN_cons · g), ← F.iadd, ss_addN]
    exact hiadd _
  | remove pat => exact hrem _ _ pat h
  | set t => rw [F.set, ss_set]; exact hadd _ _ _ (hrem _ _ _ h)
  | iadd ts => exact hiadd ts
  | isub ts =>
    rw [rec_eq_foldl (fun s ts => step s (.isub ts)) _ F.isub_nil F.isub_cons, ss_isub]
    exact foldl_rel R _ _ (fun _ _ t h => hrem _ _ (exactPat t) h) ts s S h

end RV.C01

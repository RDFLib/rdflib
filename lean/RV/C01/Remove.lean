import RV.C01.Inv
/-
  C01 — pattern dispatch (`cands`, `triples`) and `Memory.remove(pattern, context)`, for a graph and for
  `context=None` alike: the walk over one triple's contexts, the per-triple step, the loop over the lazy
  generator, the final clean-up of an emptied context entry.
-/
namespace RV.C01
open RV

theorem flag_false (m : Mem) : m.flag false = m := by
  cases m; simp [Mem.flag]

theorem mem_cands {m : Mem} (hi : IdxOk m.spo m.pos m.osp) (pat : Pat) (t : Triple) :
    t ∈ cands m pat ↔ (t ∈ m.spo ∧ pat.matches t = true) := by
  obtain ⟨ps, pp, po⟩ := pat
  obtain ⟨s, p, o⟩ := t
  cases ps <;> cases pp <;> cases po <;>
    simp only [cands, List.mem_filter, hi.b_iff, hi.c_iff, Pat.matches, matchPos, Bool.and_eq_true,
      beq_iff_eq, Bool.true_and, Bool.and_true, and_true]
  case some.some.some s' p' o' =>
    by_cases h : (s', p', o') ∈ m.spo
    · simp only [h, if_true, List.mem_singleton, Prod.mk.injEq]
      constructor
      · rintro ⟨rfl, rfl, rfl⟩; exact ⟨h, ⟨rfl, rfl⟩, rfl⟩
      · rintro ⟨_, ⟨rfl, rfl⟩, rfl⟩; exact ⟨rfl, rfl, rfl⟩
    · simp only [h, if_false, List.not_mem_nil, false_iff, not_and]
      rintro h1 ⟨rfl, rfl⟩ rfl; exact h h1

theorem nodup_cands {m : Mem} (hi : IdxOk m.spo m.pos m.osp) (pat : Pat) : (cands m pat).Nodup := by
  obtain ⟨ps, pp, po⟩ := pat
  cases ps <;> cases pp <;> cases po <;> simp only [cands]
  case some.some.some s' p' o' => split <;> simp
  all_goals
    first
    | exact hi.nd_a
    | exact hi.nd_a.filter _
    | exact hi.nd_b.filter _
    | exact hi.nd_c.filter _

theorem matches_allPat (t : Triple) : allPat.matches t = true := rfl

/-- a pattern with a bound position: the first bound position decides the `is None` dispatch, so a fact about such a
    pattern is checked on the three forms the dispatch distinguishes -/
@[elab_as_elim]
theorem pat_ne_cases {P : Pat → Prop} (h1 : ∀ s q, P (some s, q)) (h2 : ∀ p o, P (none, some p, o))
    (h3 : ∀ o, P (none, none, some o)) {pat : Pat} (h : pat ≠ allPat) : P pat := by
  obtain ⟨_ | s, _ | p, _ | o⟩ := pat
  · exact absurd rfl h
  · exact h3 o
  all_goals first | exact h1 _ _ | exact h2 _ _

theorem triples_of_ne {pat : Pat} (h : pat ≠ allPat) (m : Mem) (c : Ctx) :
    triples m pat c = (cands m pat).filter (fun t => hasCtx m t c) :=
  pat_ne_cases (fun _ _ => rfl) (fun _ _ => rfl) (fun _ => rfl) h

theorem triplesRaises_of_ne {pat : Pat} (h : pat ≠ allPat) (m : Mem) :
    triplesRaises m pat = (cands m pat).any (fun t => hasCtxRaises m t) :=
  pat_ne_cases (fun _ _ => rfl) (fun _ _ => rfl) (fun _ => rfl) h

theorem remove_of_ne {pat : Pat} (h : pat ≠ allPat) (m : Mem) (req : Ctx) :
    m.remove pat req = dropEmptyCtx (removeLoop m req true (cands m pat)) req :=
  pat_ne_cases (fun _ _ => rfl) (fun _ _ => rfl) (fun _ => rfl) h

theorem hasCtxRaises_false {m : Mem} (hI : Inv m) (t : Triple) : hasCtxRaises m t = false := by
  unfold hasCtxRaises
  by_cases h : t ∈ m.spo
  · simp [getCtxsRaises_false hI.toInv0 h]
  · simp [h]

theorem mem_triples_ctx {m : Mem} (hI : Inv m) (pat : Pat) (c : Ctx) (t : Triple) :
    t ∈ triples m pat c ↔ ((t ∈ m.spo ∧ c ∈ getCtxs m t) ∧ pat.matches t = true) := by
  by_cases hp : pat = allPat
  · subst hp
    exact ((hI.ctxT_iff c t).trans (and_iff_left (matches_allPat t)).symm)
  · rw [triples_of_ne hp, List.mem_filter, mem_cands hI.idx, hasCtx_ctx_iff]
    exact ⟨fun h => ⟨h.2, h.1.2⟩, fun h => ⟨⟨h.1.1, h.2⟩, h.1⟩⟩

theorem mem_triples {m : Mem} (hI : Inv m) (pat : Pat) (g : Nat) (t : Triple) :
    t ∈ triples m pat (some g) ↔ (InG m t g ∧ pat.matches t = true) := mem_triples_ctx hI pat (some g) t

theorem inUnion_iff {m : Mem} (hI : Inv m) (t : Triple) :
    (t ∈ m.spo ∧ none ∈ getCtxs m t) ↔ ∃ g, InG m t g := by
  constructor
  · rintro ⟨h, _⟩
    obtain ⟨c, hc⟩ := (hI.ctx_ok t h).2
    exact ⟨c, h, hc⟩
  · rintro ⟨g, h, _⟩
    exact ⟨h, (hI.ctx_ok t h).1⟩

theorem nodup_triples {m : Mem} (hI : Inv m) (pat : Pat) (c : Ctx) : (triples m pat c).Nodup := by
  by_cases hp : pat = allPat
  · subst hp; exact hI.ctxT_nd c
  · rw [triples_of_ne hp]; exact (nodup_cands hI.idx pat).filter _

theorem triplesRaises_false {m : Mem} (hI : Inv m) (pat : Pat) : triplesRaises m pat = false := by
  by_cases hp : pat = allPat
  · subst hp; rfl
  · rw [triplesRaises_of_ne hp, List.any_eq_false]
    intro t _; simp [hasCtxRaises_false hI]

theorem hasCtx_of_InG {m : Mem} (hI : Inv m) {t : Triple} {c : Nat} (h : InG m t c) {req : Ctx}
    (hs : req = none ∨ req = some c) : hasCtx m t req = true := by
  rw [hasCtx_ctx_iff]
  rcases hs with rfl | rfl
  · exact ⟨h.1, (hI.ctx_ok t h.1).1⟩
  · exact h

/-- What removing (some of) the contexts of the stored triple `t` leaves: the invariant without `ctx_ok` (the triple may
    be left without an asserted context, or without any), the index lists and the other triples' contexts untouched,
    and for `t` the contexts satisfying `keep`. -/
structure CtxStep (m m' : Mem) (t : Triple) (keep : Ctx → Prop) : Prop where
  inv : Inv0 m'
  spo : m'.spo = m.spo
  other : ∀ t', t' ≠ t → getCtxs m' t' = getCtxs m t'
  self : ∀ x, x ∈ getCtxs m' t ↔ (x ∈ getCtxs m t ∧ keep x)

/-- `__remove_triple_context` for a context the stored triple has -/
theorem rtc_spec {m : Mem} (hI : Inv0 m) {t : Triple} {ctx : Ctx} (ht : t ∈ m.spo)
    (hc : ctx ∈ getCtxs m t) : CtxStep m (removeTripleContext m t ctx) t (· ≠ ctx) := by
  have htc : (removeTripleContext m t ctx).tctx = compress m.tctx m.dflt t (sremove (getCtxs m t) ctx) := rfl
  have hoth : ∀ t', t' ≠ t → getCtxs (removeTripleContext m t ctx) t' = getCtxs m t' := fun t' e =>
    getC_compress_other e
  have hself : ∀ x, x ∈ getCtxs (removeTripleContext m t ctx) t ↔ (x ∈ getCtxs m t ∧ x ≠ ctx) := fun x =>
    mem_getC_compress_self.trans (mem_sremove.trans and_comm)
  obtain ⟨d0, hd0⟩ := Option.isSome_iff_exists.mp (hI.dflt_some t ht)
  have hTin : t ∈ getT m.ctxT ctx := (hI.ctxT_iff ctx t).2 ⟨ht, hc⟩
  -- `del self.__tripleContexts[t]` finds its entry: an unlisted triple has the default set, which then loses `ctx`
  have hne : (eqDflt (sremove (getCtxs m t) ctx) m.dflt && (alookup m.tctx t).isNone) = false := by
    cases hl : alookup m.tctx t with
    | some cs => simp
    | none =>
      have hg : getCtxs m t = d0 := getCtxs_of_unlisted hl hd0
      have : ¬ ctxEq (sremove d0 ctx) d0 = true := fun h =>
        (mem_sremove.1 (((ctxEq_iff _ _).1 h ctx).2 (hg ▸ hc))).1 rfl
      simp [hd0, hg, eqDflt, this]
  refine ⟨?_, rfl, hoth, hself⟩
  refine
    { err := ?_, nd_spo := hI.nd_spo, nd_pos := hI.nd_pos, nd_osp := hI.nd_osp, pos_iff := hI.pos_iff,
      osp_iff := hI.osp_iff, dflt_some := hI.dflt_some, dflt_ok := hI.dflt_ok, tctx_in := ?_,
      ctxs_nd := ?_, ctxT_nd := ?_, ctxT_none := ?_, ctxT_iff := ?_ }
  · simp only [removeTripleContext, hI.err, getCtxsRaises_false hI ht, hne,
      ctxTdelRaises_eq_false _ _ _ hTin, hc, decide_true, Bool.not_true, Bool.or_self]
  · intro t' h
    have e : t' ≠ t := fun e => h (e ▸ ht)
    rw [htc, alookup_compress_other e]
    exact hI.tctx_in t' h
  · exact nodup_getC_compress hI.entry_nd (fun d h => (hI.dflt_ok d h).2) (nodup_sremove (hI.ctxs_nd t)) t
  · intro k
    exact nodup_getT_ctxTdel _ _ _ _ (hI.ctxT_nd k)
  · show (alookup (ctxTdel m.ctxT ctx t) none).isSome = true
    rw [isSome_alookup_ctxTdel]; exact hI.ctxT_none
  · intro k x
    show x ∈ getT (ctxTdel m.ctxT ctx t) k ↔ (x ∈ m.spo ∧ _)
    rw [mem_getT_ctxTdel, show x ∈ getT m.ctxT k ↔ _ from hI.ctxT_iff k x]
    by_cases e : x = t
    · subst e; rw [hself]; simp only [and_true, ne_eq, and_assoc]
    · rw [hoth x e]; simp only [e, and_false, not_false_eq_true, and_true]

theorem removeCtxLoop_spec (t : Triple) (req : Ctx) : ∀ (cs : List Ctx) (m : Mem), Inv0 m → t ∈ m.spo → cs.Nodup →
    (∀ x ∈ cs, x ∈ getCtxs m t) →
    CtxStep m (removeCtxLoop m t req cs) t (fun x => ¬ (x ∈ cs ∧ (req = none ∨ req = x))) := by
  intro cs
  induction cs with
  | nil => intro m hI _ _ _; exact ⟨hI, rfl, fun _ _ => rfl, fun x => by simp [removeCtxLoop]⟩
  | cons ctx r ih =>
    intro m hI ht hnd hall
    rw [List.nodup_cons] at hnd
    have hr : ∀ x ∈ r, x ∈ getCtxs m t := fun x hx => hall x (List.mem_cons_of_mem _ hx)
    by_cases hsel : req = none ∨ req = ctx
    · have hstep : removeCtxLoop m t req (ctx :: r) = removeCtxLoop (removeTripleContext m t ctx) t req r := by
        rcases hsel with rfl | rfl <;> simp [removeCtxLoop]
      rw [hstep]
      obtain ⟨hI1, hspo1, hoth1, hself1⟩ := rtc_spec hI ht (hall ctx (by simp))
      -- the rest of the walk is still among `t`'s contexts: it does not hold `ctx` again (`Nodup`)
      obtain ⟨hI2, hspo2, hoth2, hself2⟩ := ih _ hI1 (hspo1 ▸ ht) hnd.2
        (fun x hx => (hself1 x).2 ⟨hr x hx, fun e => hnd.1 (e ▸ hx)⟩)
      refine ⟨hI2, hspo2.trans hspo1, fun t' e => (hoth2 t' e).trans (hoth1 t' e), fun x => ?_⟩
      rw [hself2, hself1, and_assoc]
      refine and_congr_right fun _ => ?_
      simp only [List.mem_cons, or_and_right, not_or]
      exact and_congr_left fun _ => ⟨fun h1 h2 => h1 h2.1, fun h1 e => h1 ⟨e, e ▸ hsel⟩⟩
    · have hstep : removeCtxLoop m t req (ctx :: r) = removeCtxLoop m t req r := by
        cases req with
        | none => exact absurd (Or.inl rfl) hsel
        | some g =>
          have : ((some g : Ctx) != ctx) = true := by simpa [bne_iff_ne] using fun e => hsel (Or.inr e)
          simp [removeCtxLoop, this]
      rw [hstep]
      obtain ⟨hI2, hspo2, hoth2, hself2⟩ := ih m hI ht hnd.2 hr
      refine ⟨hI2, hspo2, hoth2, fun x => ?_⟩
      rw [hself2]
      refine and_congr_right fun _ => ?_
      simp only [List.mem_cons, or_and_right, not_or]
      exact (and_iff_right (show ¬ (x = ctx ∧ _) from fun h => hsel (h.1 ▸ h.2))).symm

theorem dropUnion_spec {m : Mem} (hI : Inv0 m) {t : Triple} (ht : t ∈ m.spo) (req : Ctx)
    (h : ∀ c, some c ∉ getCtxs m t) : CtxStep m (dropUnion m t req) t (fun _ => False) := by
  by_cases hn : none ∈ getCtxs m t
  · have hlen : (getCtxs m t).length = 1 :=
      (length_eq_one_iff_of_mem (hI.ctxs_nd t) hn).2 (fun x hx => by
        cases x with
        | none => rfl
        | some c => exact absurd hx (h c))
    have hdu : dropUnion m t req = removeTripleContext m t none := by simp [dropUnion, hn, hlen]
    rw [hdu]
    obtain ⟨hI1, hspo1, hoth1, hself1⟩ := rtc_spec hI ht hn
    refine ⟨hI1, hspo1, hoth1, fun x => ?_⟩
    rw [hself1, and_false, iff_false]
    rintro ⟨hx, hne⟩
    cases x with
    | none => exact hne rfl
    | some c => exact h c hx
  · have hdu : dropUnion m t req = m := by simp [dropUnion, hn]
    rw [hdu]
    refine ⟨hI, rfl, fun _ _ => rfl, fun x => ?_⟩
    rw [and_false, iff_false]
    cases x with
    | none => exact hn
    | some c => exact h c

theorem dropTriple_spec {m : Mem} (hI : Inv0 m) {t : Triple} (ht : t ∈ m.spo) (hnil : getCtxs m t = [])
    (hok : ∀ t', t' ∈ m.spo → t' ≠ t → none ∈ getCtxs m t' ∧ ∃ c, some c ∈ getCtxs m t') :
    Inv (dropTriple m t) ∧ (∀ x, x ∈ (dropTriple m t).spo ↔ (x ≠ t ∧ x ∈ m.spo)) ∧
      ∀ t', t' ≠ t → getCtxs (dropTriple m t) t' = getCtxs m t' := by
  -- the empty set is an explicit entry: the default dictionary holds `None`
  have hentry : (alookup m.tctx t).isNone = false := by
    cases hl : alookup m.tctx t with
    | some cs => rfl
    | none =>
      obtain ⟨d0, hd0⟩ := Option.isSome_iff_exists.mp (hI.dflt_some t ht)
      have : getCtxs m t = d0 := getCtxs_of_unlisted hl hd0
      rw [hnil] at this
      exact nomatch this ▸ (hI.dflt_ok d0 hd0).1
  have hi := hI.idx.sremove t
  have hget : ∀ t', t' ≠ t → getC (aerase m.tctx t) m.dflt t' = getCtxs m t' := fun t' e => by
    simp [getCtxs, getC, alookup_aerase, Ne.symm e]
  have hT := hI.ctxT_iff
  rw [dropTriple, if_pos (by rw [hnil]; rfl)]
  refine ⟨{ err := ?_, nd_spo := hi.nd_a, nd_pos := hi.nd_b, nd_osp := hi.nd_c, pos_iff := hi.b_iff, osp_iff := hi.c_iff,
            dflt_some := fun x hx => hI.dflt_some x (mem_sremove.1 hx).2, dflt_ok := hI.dflt_ok,
            tctx_in := fun t' h => ?_, ctxs_nd := fun t' => ?_, ctxT_nd := hI.ctxT_nd, ctxT_none := hI.ctxT_none,
            ctxT_iff := fun k x => ?_, ctx_ok := fun t' h => ?_ },
    fun _ => mem_sremove, hget⟩
  · simp [ht, (hI.pos_iff t).2 ht, (hI.osp_iff t).2 ht, hentry, hI.err]
  · show alookup (aerase m.tctx t) t' = none
    rw [alookup_aerase]
    split
    · rfl
    · next e => exact hI.tctx_in t' fun h' => h (mem_sremove.2 ⟨Ne.symm e, h'⟩)
  · refine nodup_getC (fun t'' cs h => ?_) (fun d h => (hI.dflt_ok d h).2) t'
    rw [alookup_aerase] at h
    split at h
    · cases h
    · exact hI.entry_nd t'' cs h
  · show x ∈ ctxTget m k ↔ (x ∈ sremove m.spo t ∧ k ∈ getC (aerase m.tctx t) m.dflt x)
    rw [hT, mem_sremove]
    by_cases e : x = t
    · subst e; simp [hnil]
    · rw [hget x e]; simp [e]
  · obtain ⟨e, h'⟩ := mem_sremove.1 h
    show none ∈ getC (aerase m.tctx t) m.dflt t' ∧ ∃ c, some c ∈ getC (aerase m.tctx t) m.dflt t'
    rw [hget t' e]; exact hok t' h' e

theorem removeOne_spec {m : Mem} (hI : Inv m) {t : Triple} (ht : t ∈ m.spo) (req : Ctx) :
    Inv (removeOne m t req) ∧
      ∀ t' c', InG (removeOne m t req) t' c' ↔ (InG m t' c' ∧ ¬ (t' = t ∧ (req = none ∨ req = some c'))) := by
  have hfl : m.flag (getCtxsRaises m t) = m := by
    rw [getCtxsRaises_false hI.toInv0 ht]; exact flag_false m
  obtain ⟨hI1, hspo1, hoth1, hself1⟩ :=
    removeCtxLoop_spec t req (getCtxs m t) m hI.toInv0 ht (hI.ctxs_nd t) (fun _ h => h)
  unfold removeOne
  rw [hfl]
  generalize removeCtxLoop m t req (getCtxs m t) = m1 at *
  have hself : ∀ x, x ∈ getCtxs m1 t ↔ (x ∈ getCtxs m t ∧ ¬ (req = none ∨ req = x)) := fun x =>
    (hself1 x).trans ⟨fun h => ⟨h.1, fun hs => h.2 ⟨h.1, hs⟩⟩, fun h => ⟨h.1, fun hs => h.2 hs.2⟩⟩
  have hothG : ∀ t' c', t' ≠ t → (InG m1 t' c' ↔ InG m t' c') := fun t' c' e => by
    unfold InG; rw [hspo1, hoth1 t' e]
  by_cases hsome : ∃ c, some c ∈ getCtxs m1 t
  · -- an asserted context is left (so a graph was given): nothing more happens
    obtain ⟨c, hc⟩ := hsome
    obtain ⟨g, rfl⟩ : ∃ g, req = some g := by
      cases req with
      | none => exact absurd (Or.inl rfl) ((hself _).1 hc).2
      | some g => exact ⟨g, rfl⟩
    have hnone : (none : Ctx) ∈ getCtxs m1 t := (hself none).2 ⟨(hI.ctx_ok t ht).1, by simp⟩
    have hlen : (getCtxs m1 t).length ≠ 1 := fun h =>
      nomatch (length_eq_one_iff_of_mem (hI1.ctxs_nd t) hnone).1 h _ hc
    have hlen0 : (getCtxs m1 t).length ≠ 0 := fun h => by
      rw [List.eq_nil_of_length_eq_zero h] at hc; cases hc
    have hdu : dropUnion m1 t (some g) = m1 := by simp [dropUnion, hlen]
    have hdt : dropTriple m1 t = m1 := by simp [dropTriple, hlen0]
    rw [hdu, hdt]
    refine ⟨⟨hI1, fun t' h => ?_⟩, fun t' c' => ?_⟩
    · by_cases e : t' = t
      · subst e; exact ⟨hnone, c, hc⟩
      · rw [hoth1 t' e]; exact hI.ctx_ok t' (hspo1 ▸ h)
    · by_cases e : t' = t
      · subst e
        unfold InG
        rw [hspo1, hself]
        simp only [reduceCtorEq, false_or, true_and, and_assoc, Option.some.injEq]
      · rw [hothG t' c' e]; simp [e]
  · -- no asserted context is left: the union entry goes, then the triple
    obtain ⟨hI2, hspo2, hoth2, hself2⟩ := dropUnion_spec hI1 (hspo1 ▸ ht) req (fun c hc => hsome ⟨c, hc⟩)
    generalize dropUnion m1 t req = m2 at *
    have hnil : getCtxs m2 t = [] := List.eq_nil_iff_forall_not_mem.2 fun x hx => ((hself2 x).1 hx).2
    have hspo : m2.spo = m.spo := hspo2.trans hspo1
    obtain ⟨hI3, hmem3, hget3⟩ := dropTriple_spec hI2 (hspo ▸ ht) hnil (fun t' h e => by
      rw [hoth2 t' e, hoth1 t' e]; exact hI.ctx_ok t' (hspo ▸ h))
    refine ⟨hI3, fun t' c' => ?_⟩
    by_cases e : t' = t
    · subst e
      have h1 : ¬ InG (dropTriple m2 t') t' c' := fun h => ((hmem3 _).1 h.1).1 rfl
      have h2 : InG m t' c' → (req = none ∨ req = some c') := fun h =>
        Classical.byContradiction fun hs => hsome ⟨c', (hself _).2 ⟨h.2, hs⟩⟩
      exact ⟨fun h => absurd h h1, fun h => absurd ⟨rfl, h2 h.1⟩ h.2⟩
    · unfold InG
      rw [hmem3, hspo, hget3 t' e, hoth2 t' e, hoth1 t' e]
      simp [e]

/-- `Memory.remove`'s loop over its generator, with the has-context test (`test`) or over the start copy of the
    all-unbound shape (`test = false`, whose elements are distinct stored triples) -/
theorem removeLoop_spec (req : Ctx) (test : Bool) : ∀ (l : List Triple) (m : Mem), Inv m →
    (test = false → l.Nodup ∧ ∀ t ∈ l, t ∈ m.spo) →
    Inv (removeLoop m req test l) ∧
      ∀ t' c', InG (removeLoop m req test l) t' c' ↔
        (InG m t' c' ∧ ¬ (t' ∈ l ∧ (req = none ∨ req = some c'))) := by
  intro l
  induction l with
  | nil => intro m hI _; simp [removeLoop, hI]
  | cons t r ih =>
    intro m hI hsnap
    have hfl : m.flag (test && hasCtxRaises m t) = m := by
      rw [hasCtxRaises_false hI]; simp [flag_false]
    by_cases h : (!test || hasCtx m t req) = true
    · have ht : t ∈ m.spo := by
        cases test with
        | true => exact ((hasCtx_ctx_iff m t req).1 h).1
        | false => exact (hsnap rfl).2 t (by simp)
      obtain ⟨hI1, h1⟩ := removeOne_spec hI ht req
      have hstep : removeLoop m req test (t :: r) = removeLoop (removeOne m t req) req test r := by
        simp only [removeLoop, h, if_true, hfl]
      rw [hstep]
      -- the rest of the start copy is still stored: another triple (`Nodup`) keeps its asserted context
      have hsnap' : test = false → r.Nodup ∧ ∀ t' ∈ r, t' ∈ (removeOne m t req).spo := by
        intro htest
        obtain ⟨hnd, hall⟩ := hsnap htest
        rw [List.nodup_cons] at hnd
        refine ⟨hnd.2, fun t' ht' => ?_⟩
        have hin := hall t' (by simp [ht'])
        obtain ⟨c, hc⟩ := (hI.ctx_ok t' hin).2
        exact ((h1 t' c).2 ⟨⟨hin, hc⟩, fun e => hnd.1 (e.1 ▸ ht')⟩).1
      obtain ⟨hI2, h2⟩ := ih _ hI1 hsnap'
      refine ⟨hI2, fun t' c' => ?_⟩
      rw [h2, h1]
      simp only [List.mem_cons, or_and_right, not_or, and_assoc]
    · -- only under `test`: the candidate does not (or no longer) pass the has-context test
      have htest : test = true := by
        cases test with
        | true => rfl
        | false => simp at h
      subst htest
      have h' : hasCtx m t req = false := by simpa using h
      have hstep : removeLoop m req true (t :: r) = removeLoop m req true r := by
        simp only [removeLoop, h', Bool.not_true, Bool.or_self, Bool.false_eq_true, if_false, hfl]
      rw [hstep]
      obtain ⟨hI2, h2⟩ := ih _ hI (fun e => by cases e)
      refine ⟨hI2, fun t' c' => ?_⟩
      rw [h2]
      refine and_congr_right fun h3 => ?_
      simp only [List.mem_cons, or_and_right, not_or]
      refine (and_iff_right (show ¬ (t' = t ∧ _) from fun h => ?_)).symm
      rw [hasCtx_of_InG hI (h.1 ▸ h3) h.2] at h'; cases h'

theorem dropEmptyCtx_spec {m : Mem} (hI : Inv m) (req : Ctx) :
    Inv (dropEmptyCtx m req) ∧ ∀ t' c', InG (dropEmptyCtx m req) t' c' ↔ InG m t' c' := by
  unfold dropEmptyCtx
  split
  · exact ⟨hI, fun _ _ => Iff.rfl⟩
  · next g =>
    split
    · next hl =>
      refine ⟨inv_of_same hI hI.idx (fun _ => Iff.rfl) rfl rfl (fun k => getT_aerase_empty _ _ _ hl) ?_ rfl,
        fun _ _ => Iff.rfl⟩
      simp only [alookup_aerase]
      simpa using hI.ctxT_none
    · exact ⟨hI, fun _ _ => Iff.rfl⟩

theorem remove_ctx_spec {m : Mem} (hI : Inv m) (pat : Pat) (ctx : Option Nat) :
    Inv (m.remove pat ctx) ∧
      ∀ t' c', InG (m.remove pat ctx) t' c' ↔
        (InG m t' c' ∧ ¬ (pat.matches t' = true ∧ (ctx = none ∨ ctx = some c'))) := by
  -- both branches of `remove` are the loop over a list that, among the pairs selected by `ctx`, holds exactly the matching
  -- triples (`hl`): the start copy for the all-unbound shape, the candidates of the shape's index otherwise
  have key : ∀ (test : Bool) (l : List Triple), (test = false → l.Nodup ∧ ∀ t ∈ l, t ∈ m.spo) →
      (∀ t' c', InG m t' c' → (ctx = none ∨ ctx = some c') → (t' ∈ l ↔ pat.matches t' = true)) →
      Inv (dropEmptyCtx (removeLoop m ctx test l) ctx) ∧
        ∀ t' c', InG (dropEmptyCtx (removeLoop m ctx test l) ctx) t' c' ↔
          (InG m t' c' ∧ ¬ (pat.matches t' = true ∧ (ctx = none ∨ ctx = some c'))) := by
    intro test l hsnap hl
    obtain ⟨hI1, h1⟩ := removeLoop_spec ctx test l m hI hsnap
    obtain ⟨hI2, h2⟩ := dropEmptyCtx_spec hI1 ctx
    refine ⟨hI2, fun t' c' => ?_⟩
    rw [h2, h1]
    exact and_congr_right fun h3 => not_congr (and_congr_left fun hs => hl t' c' h3 hs)
  by_cases hp : pat = allPat
  · subst hp
    refine key false _ (fun _ => ⟨hI.ctxT_nd _, fun t h => ((hI.ctxT_iff ctx t).1 h).1⟩) (fun t' c' h hs => ?_)
    rw [hI.ctxT_iff]
    have := (hasCtx_ctx_iff m t' ctx).1 (hasCtx_of_InG hI h hs)
    simp [this, matches_allPat]
  · rw [remove_of_ne hp]
    exact key true _ (fun e => by cases e) (fun t' c' h _ => by simp [mem_cands hI.idx, h.1])

theorem remove_spec {m : Mem} (hI : Inv m) (pat : Pat) (g : Nat) :
    Inv (m.remove pat (some g)) ∧
      ∀ t' c', InG (m.remove pat (some g)) t' c' ↔ (InG m t' c' ∧ ¬ (pat.matches t' = true ∧ c' = g)) := by
  obtain ⟨h1, h2⟩ := remove_ctx_spec hI pat (some g)
  refine ⟨h1, fun t' c' => (h2 t' c').trans ?_⟩
  simp only [reduceCtorEq, false_or, Option.some.injEq, eq_comm]

end RV.C01

import RV.C01.NModel
import RV.C01.Basic
/-
  C01 — one nested-dictionary index (`Idx`): unique keys at every level (`WFI`), `idxAdd` / `idxDel` / `idxHas`, the
  flattening `flat`.  Under unique keys the walks of `triples()` are the filters of the flattening (as LISTS, order
  included) and `del i[a][b][c]` is `sremove` on it.
-/
namespace RV.C01
open RV

section Assoc
variable {ν : Type}

def KN (l : List (Nat × ν)) : Prop := (akeys l).Nodup

theorem kn_nil : KN ([] : List (Nat × ν)) := List.nodup_nil

theorem kn_cons {k : Nat} {v : ν} {r : List (Nat × ν)} : KN ((k, v) :: r) ↔ (k ∉ akeys r ∧ KN r) :=
  List.nodup_cons

theorem mem_akeys_of_mem {l : List (Nat × ν)} {k : Nat} {v : ν} (h : (k, v) ∈ l) : k ∈ akeys l :=
  List.mem_map.2 ⟨(k, v), h, rfl⟩

theorem alookup_mem {l : List (Nat × ν)} {k : Nat} {v : ν} (h : alookup l k = some v) : (k, v) ∈ l := by
  induction l with
  | nil => cases h
  | cons a r ih =>
    obtain ⟨k0, v0⟩ := a
    by_cases e : k0 = k
    · rw [alookup, if_pos e] at h; cases h; subst e; exact List.mem_cons_self
    · rw [alookup, if_neg e] at h; exact List.mem_cons_of_mem _ (ih h)

theorem alookup_none_of_not_mem {l : List (Nat × ν)} {k : Nat} (h : k ∉ akeys l) : alookup l k = none := by
  induction l with
  | nil => rfl
  | cons a r ih =>
    obtain ⟨k0, v0⟩ := a
    simp only [akeys, List.map_cons, List.mem_cons, not_or] at h
    have : k0 ≠ k := fun e => h.1 e.symm
    simp only [alookup, this, if_false]
    exact ih h.2

theorem alookup_of_mem {l : List (Nat × ν)} (hk : KN l) {k : Nat} {v : ν} (h : (k, v) ∈ l) :
    alookup l k = some v := by
  induction l with
  | nil => cases h
  | cons a r ih =>
    obtain ⟨k0, v0⟩ := a
    rw [kn_cons] at hk
    rcases List.mem_cons.1 h with h | h
    · cases h; exact if_pos rfl
    · have : k0 ≠ k := fun e => hk.1 (e ▸ mem_akeys_of_mem h)
      rw [alookup, if_neg this]; exact ih hk.2 h

theorem mem_akeys_of_alookup {l : List (Nat × ν)} {k : Nat} {v : ν} (h : alookup l k = some v) : k ∈ akeys l :=
  mem_akeys_of_mem (alookup_mem h)

/-- `d[k] = v` keeps the position of an existing key and appends a new one -/
theorem akeys_aset (l : List (Nat × ν)) (k : Nat) (v : ν) : akeys (aset l k v) = sinsert (akeys l) k := by
  induction l with
  | nil => rfl
  | cons a r ih =>
    obtain ⟨k0, v0⟩ := a
    by_cases e : k0 = k
    · subst e; simp [aset, akeys, sinsert]
    · have e' : ¬ k = k0 := fun h => e h.symm
      simp only [sinsert, akeys, aset, e, if_false, List.map_cons, List.mem_cons, e', false_or] at ih ⊢
      rw [ih]; split <;> simp [*]

theorem kn_aset {l : List (Nat × ν)} (h : KN l) (k : Nat) (v : ν) : KN (aset l k v) := by
  unfold KN; rw [akeys_aset]; exact nodup_sinsert h

theorem mem_aset {l : List (Nat × ν)} {k : Nat} {v : ν} {x : Nat × ν} (h : x ∈ aset l k v) :
    x = (k, v) ∨ x ∈ l := by
  induction l with
  | nil => exact Or.inl (List.mem_singleton.1 h)
  | cons a r ih =>
    obtain ⟨k0, v0⟩ := a
    by_cases e : k0 = k
    · rw [aset, if_pos e] at h
      exact (List.mem_cons.1 h).imp (fun h => e ▸ h) (List.mem_cons_of_mem _)
    · rw [aset, if_neg e] at h
      rcases List.mem_cons.1 h with h | h
      · exact Or.inr (h ▸ List.mem_cons_self)
      · exact (ih h).imp id (List.mem_cons_of_mem _)

end Assoc

structure WF2 (d : List (Nat × List Nat)) : Prop where
  kn : KN d
  leaf : ∀ b l, (b, l) ∈ d → l.Nodup

structure WFI (i : Idx) : Prop where
  kn : KN i
  sub : ∀ a d, (a, d) ∈ i → WF2 d

theorem wf2_nil : WF2 [] := ⟨kn_nil, fun _ _ h => nomatch h⟩
theorem wfi_nil : WFI [] := ⟨kn_nil, fun _ _ h => nomatch h⟩

theorem wf2_lvl2 {i : Idx} (h : WFI i) (a : Nat) : WF2 (lvl2 i a) := by
  unfold lvl2
  cases e : alookup i a with
  | none => exact wf2_nil
  | some d => exact h.sub a d (alookup_mem e)

theorem nodup_lvl3 {i : Idx} (h : WFI i) (a b : Nat) : (lvl3 i a b).Nodup := by
  unfold lvl3
  cases e : alookup (lvl2 i a) b with
  | none => exact List.nodup_nil
  | some l => exact (wf2_lvl2 h a).leaf b l (alookup_mem e)

theorem wf2_aset {d : List (Nat × List Nat)} (h : WF2 d) (b : Nat) {l : List Nat} (hl : l.Nodup) :
    WF2 (aset d b l) := by
  refine ⟨kn_aset h.kn b l, fun b' l' hm => ?_⟩
  rcases mem_aset hm with e | e
  · cases e; exact hl
  · exact h.leaf b' l' e

theorem wfi_aset {i : Idx} (h : WFI i) (a : Nat) {d : List (Nat × List Nat)} (hd : WF2 d) : WFI (aset i a d) := by
  refine ⟨kn_aset h.kn a d, fun a' d' hm => ?_⟩
  rcases mem_aset hm with e | e
  · cases e; exact hd
  · exact h.sub a' d' e

theorem wfi_idxAdd {i : Idx} (h : WFI i) (a b c : Nat) : WFI (idxAdd i a b c) :=
  wfi_aset h a (wf2_aset (wf2_lvl2 h a) b (nodup_sinsert (nodup_lvl3 h a b)))

theorem wfi_idxDel {i : Idx} (h : WFI i) (a b c : Nat) : WFI (idxDel i a b c) := by
  unfold idxDel
  split
  · exact wfi_aset h a (wf2_aset (wf2_lvl2 h a) b (nodup_sremove (nodup_lvl3 h a b)))
  · exact h

theorem lvl2_aset (i : Idx) (a a' : Nat) (d : List (Nat × List Nat)) :
    lvl2 (aset i a d) a' = if a = a' then d else lvl2 i a' := by
  unfold lvl2
  rw [alookup_aset]
  by_cases e : a = a' <;> simp [e]

/-- both `idxAdd` and `idxDel` rewrite one leaf: `i[a][b] = l` -/
theorem lvl3_aset2 (i : Idx) (a b a' b' : Nat) (l : List Nat) :
    lvl3 (aset i a (aset (lvl2 i a) b l)) a' b' = if a = a' ∧ b = b' then l else lvl3 i a' b' := by
  unfold lvl3
  rw [lvl2_aset]
  by_cases ea : a = a'
  · subst ea
    rw [if_pos rfl, alookup_aset]
    by_cases eb : b = b' <;> simp [eb]
  · simp [ea]

theorem idxHas_idxAdd (i : Idx) (a b c a' b' c' : Nat) :
    idxHas (idxAdd i a b c) a' b' c' = true ↔ (idxHas i a' b' c' = true ∨ (a' = a ∧ b' = b ∧ c' = c)) := by
  simp only [idxHas, idxAdd, lvl3_aset2, decide_eq_true_eq]
  by_cases e : a = a' ∧ b = b'
  · obtain ⟨rfl, rfl⟩ := e
    simp only [and_self, if_true, mem_sinsert, true_and]
    exact or_comm
  · rw [if_neg e]
    exact ⟨Or.inl, fun h => h.elim id (fun h => (e ⟨h.1.symm, h.2.1.symm⟩).elim)⟩

theorem idxHas_idxDel (i : Idx) (a b c a' b' c' : Nat) :
    idxHas (idxDel i a b c) a' b' c' = true ↔ (idxHas i a' b' c' = true ∧ ¬ (a' = a ∧ b' = b ∧ c' = c)) := by
  unfold idxDel
  by_cases hh : idxHas i a b c = true
  · simp only [hh, if_true]
    simp only [idxHas, lvl3_aset2, decide_eq_true_eq]
    by_cases e : a = a' ∧ b = b'
    · obtain ⟨rfl, rfl⟩ := e
      simp only [and_self, if_true, mem_sremove, true_and]
      exact and_comm
    · rw [if_neg e]
      exact ⟨fun h => ⟨h, fun h' => e ⟨h'.1.symm, h'.2.1.symm⟩⟩, And.left⟩
  · rw [if_neg hh]
    refine ⟨fun h => ⟨h, ?_⟩, And.left⟩
    rintro ⟨rfl, rfl, rfl⟩
    exact hh h

theorem flat2_items (a : Nat) (d : List (Nat × List Nat)) :
    flat2 a d = d.flatMap (fun bl => bl.2.map (fun c => (a, bl.1, c))) := by
  induction d with
  | nil => rfl
  | cons e r ih => rw [flat2, ih, List.flatMap_cons]

theorem flat_items (i : Idx) : flat i = i.flatMap (fun ad => flat2 ad.1 ad.2) := by
  induction i with
  | nil => rfl
  | cons e r ih => rw [flat, ih, List.flatMap_cons]

theorem mem_flat2 {a : Nat} {d : List (Nat × List Nat)} {x : Triple} :
    x ∈ flat2 a d ↔ ∃ b l, (b, l) ∈ d ∧ x.1 = a ∧ x.2.1 = b ∧ x.2.2 ∈ l := by
  simp only [flat2_items, List.mem_flatMap, List.mem_map]
  constructor
  · rintro ⟨⟨b, l⟩, h1, c, h2, rfl⟩; exact ⟨b, l, h1, rfl, rfl, h2⟩
  · rintro ⟨b, l, h1, h2, h3, h4⟩; exact ⟨(b, l), h1, x.2.2, h4, by rw [← h2, ← h3]⟩

theorem mem_flat {i : Idx} {x : Triple} : x ∈ flat i ↔ ∃ a d, (a, d) ∈ i ∧ x ∈ flat2 a d := by
  simp only [flat_items, List.mem_flatMap]
  exact ⟨fun ⟨⟨a, d⟩, h1, h2⟩ => ⟨a, d, h1, h2⟩, fun ⟨a, d, h1, h2⟩ => ⟨(a, d), h1, h2⟩⟩

theorem fst_of_mem_flat2 {a : Nat} {d : List (Nat × List Nat)} {x : Triple} (h : x ∈ flat2 a d) :
    x.1 = a ∧ x.2.1 ∈ akeys d := by
  obtain ⟨b, l, h1, h2, h3, _⟩ := mem_flat2.1 h
  exact ⟨h2, h3 ▸ mem_akeys_of_mem h1⟩

theorem lvl2_eq {i : Idx} {a : Nat} {d : List (Nat × List Nat)} (h : alookup i a = some d) : lvl2 i a = d := by
  simp only [lvl2, h]

theorem lvl3_eq {i : Idx} {a b : Nat} {d : List (Nat × List Nat)} {l : List Nat}
    (h1 : alookup i a = some d) (h2 : alookup d b = some l) : lvl3 i a b = l := by
  simp only [lvl3, lvl2_eq h1, h2]

theorem exists_of_mem_lvl3 {i : Idx} {a b c : Nat} (hc : c ∈ lvl3 i a b) :
    ∃ d l, alookup i a = some d ∧ alookup d b = some l ∧ c ∈ l := by
  cases e1 : alookup i a with
  | none => simp [lvl3, lvl2, e1, alookup] at hc
  | some d =>
    cases e2 : alookup d b with
    | none => simp [lvl3, lvl2, e1, e2] at hc
    | some l => exact ⟨d, l, rfl, e2, lvl3_eq e1 e2 ▸ hc⟩

theorem mem_flat_iff {i : Idx} (h : WFI i) (a b c : Nat) : (a, b, c) ∈ flat i ↔ idxHas i a b c = true := by
  rw [idxHas, decide_eq_true_eq]
  constructor
  · intro hm
    obtain ⟨a', d, h1, h2⟩ := mem_flat.1 hm
    obtain ⟨b', l, h3, h4, h5, h6⟩ := mem_flat2.1 h2
    simp only at h4 h5 h6
    subst h4; subst h5
    rw [lvl3_eq (alookup_of_mem h.kn h1) (alookup_of_mem (h.sub _ _ h1).kn h3)]
    exact h6
  · intro hm
    obtain ⟨d, l, e1, e2, hl⟩ := exists_of_mem_lvl3 hm
    exact mem_flat.2 ⟨a, d, alookup_mem e1, mem_flat2.2 ⟨b, l, alookup_mem e2, rfl, rfl, hl⟩⟩

/-! ### dictionaries of groups: filtering by the key, rewriting one group

  `flat` is a dictionary of groups at two levels (`i.flatMap …`, `d.flatMap …`); every element of the group of key `k`
  carries `k` (`key y = k`), and keys are unique. -/

section Groups
variable {α β : Type} (F : Nat → α → List β)

theorem filter_key_flatMap {l : List (Nat × α)} (hk : KN l) (key : β → Nat)
    (hkey : ∀ p ∈ l, ∀ y ∈ F p.1 p.2, key y = p.1) (k : Nat) :
    (l.flatMap (fun p => F p.1 p.2)).filter (fun y => key y == k)
      = match alookup l k with | some a => F k a | none => [] := by
  induction l with
  | nil => rfl
  | cons e r ih =>
    obtain ⟨k0, a0⟩ := e
    have hk' := kn_cons.1 hk
    have h0 : ∀ y ∈ F k0 a0, key y = k0 := hkey (k0, a0) List.mem_cons_self
    rw [List.flatMap_cons, List.filter_append, ih hk'.2 (fun p hp => hkey p (List.mem_cons_of_mem _ hp))]
    by_cases e : k0 = k
    · subst e
      rw [alookup_none_of_not_mem hk'.1, List.append_nil, alookup, if_pos rfl]
      exact List.filter_eq_self.2 fun y hy => by rw [h0 y hy]; exact beq_self_eq_true _
    · rw [alookup, if_neg e, List.filter_eq_nil_iff.2, List.nil_append]
      intro y hy hy'
      exact e ((h0 y hy).symm.trans (beq_iff_eq.1 hy'))

theorem nodup_key_flatMap {l : List (Nat × α)} (hk : KN l) (key : β → Nat)
    (hkey : ∀ p ∈ l, ∀ y ∈ F p.1 p.2, key y = p.1) (hnd : ∀ p ∈ l, (F p.1 p.2).Nodup) :
    (l.flatMap (fun p => F p.1 p.2)).Nodup :=
  List.pairwise_flatMap.2 ⟨hnd, (List.pairwise_map.1 hk).imp_of_mem fun hp hq hne x hx y hy e =>
    hne ((hkey _ hp x hx).symm.trans ((congrArg key e).trans (hkey _ hq y hy)))⟩

/-- replacing the group of `k` by itself without `y`, when `y` can only be in that group -/
theorem flatMap_aset_sremove [DecidableEq β] {l : List (Nat × α)} (hk : KN l) {k : Nat} {a a' : α} {y : β}
    (hl : alookup l k = some a) (hF : F k a' = sremove (F k a) y)
    (hoth : ∀ p ∈ l, p.1 ≠ k → y ∉ F p.1 p.2) :
    (aset l k a').flatMap (fun p => F p.1 p.2) = sremove (l.flatMap (fun p => F p.1 p.2)) y := by
  induction l with
  | nil => cases hl
  | cons e r ih =>
    obtain ⟨k0, a0⟩ := e
    have hk' := kn_cons.1 hk
    have hr : ∀ p ∈ r, p.1 ≠ k → y ∉ F p.1 p.2 := fun p hp => hoth p (List.mem_cons_of_mem _ hp)
    by_cases e : k0 = k
    · subst e
      rw [alookup, if_pos rfl] at hl
      cases hl
      have hn : y ∉ r.flatMap (fun p => F p.1 p.2) := fun hm => by
        obtain ⟨p, hp, hy⟩ := List.mem_flatMap.1 hm
        exact hr p hp (fun e => hk'.1 (e ▸ mem_akeys_of_mem (v := p.2) hp)) hy
      rw [aset, if_pos rfl, List.flatMap_cons, List.flatMap_cons, sremove_append, hF, sremove_of_not_mem hn]
    · rw [alookup, if_neg e] at hl
      rw [aset, if_neg e, List.flatMap_cons, List.flatMap_cons, sremove_append, ih hk'.2 hl hr,
        sremove_of_not_mem (hoth (k0, a0) List.mem_cons_self e)]

end Groups

theorem nodup_flat2 {d : List (Nat × List Nat)} (h : WF2 d) (a : Nat) : (flat2 a d).Nodup := by
  rw [flat2_items]
  exact nodup_key_flatMap (fun b l => l.map (fun c => (a, b, c))) h.kn (fun t => t.2.1)
    (fun _ _ _ hy => by obtain ⟨c, _, rfl⟩ := List.mem_map.1 hy; rfl)
    (fun p hp => nodup_map_inj (fun c c' hcc => by cases hcc; rfl) (h.leaf p.1 p.2 hp))

theorem nodup_flat {i : Idx} (h : WFI i) : (flat i).Nodup := by
  rw [flat_items]
  exact nodup_key_flatMap (fun a d => flat2 a d) h.kn (fun t => t.1) (fun _ _ _ hy => (fst_of_mem_flat2 hy).1)
    (fun p hp => nodup_flat2 (h.sub p.1 p.2 hp) p.1)

/-- `d[b]` for a key copied from `d` (`{}` when absent) -/
def lk (d : List (Nat × List Nat)) (b : Nat) : List Nat :=
  match alookup d b with
  | some l => l
  | none => []

theorem lvl3_eq_lk (i : Idx) (a b : Nat) : lvl3 i a b = lk (lvl2 i a) b := rfl

theorem lk_of_mem {d : List (Nat × List Nat)} (h : KN d) {b : Nat} {l : List Nat} (hm : (b, l) ∈ d) : lk d b = l := by
  simp only [lk, alookup_of_mem h hm]

theorem lvl2_of_mem {i : Idx} (h : KN i) {a : Nat} {d : List (Nat × List Nat)} (hm : (a, d) ∈ i) : lvl2 i a = d :=
  lvl2_eq (alookup_of_mem h hm)

/-- walking the copied keys and looking each up again = walking the items -/
theorem walk_items2 {β : Type} {d : List (Nat × List Nat)} (h : KN d) (g : Nat → List Nat → List β) :
    (akeys d).flatMap (fun b => g b (lk d b)) = d.flatMap (fun bl => g bl.1 bl.2) := by
  unfold akeys
  rw [List.flatMap_map]
  exact flatMap_congr' fun bl hm => by rw [lk_of_mem h hm]

theorem walk_items1 {β : Type} {i : Idx} (h : KN i) (g : Nat → List (Nat × List Nat) → List β) :
    (akeys i).flatMap (fun a => g a (lvl2 i a)) = i.flatMap (fun ad => g ad.1 ad.2) := by
  unfold akeys
  rw [List.flatMap_map]
  exact flatMap_congr' fun ad hm => by rw [lvl2_of_mem h hm]

theorem flat_filter_a {i : Idx} (h : KN i) (a : Nat) :
    (flat i).filter (fun t => t.1 == a) = flat2 a (lvl2 i a) := by
  rw [flat_items, filter_key_flatMap (fun a d => flat2 a d) h (fun t => t.1) (fun _ _ _ hy => (fst_of_mem_flat2 hy).1)]
  unfold lvl2
  cases alookup i a <;> rfl

theorem flat2_filter_b {d : List (Nat × List Nat)} (h : KN d) (a b : Nat) :
    (flat2 a d).filter (fun t => t.2.1 == b) = (lk d b).map (fun c => (a, b, c)) := by
  rw [flat2_items, filter_key_flatMap (fun b l => l.map (fun c => (a, b, c))) h (fun t => t.2.1)
    (fun _ _ _ hy => by obtain ⟨c, _, rfl⟩ := List.mem_map.1 hy; rfl)]
  unfold lk
  cases alookup d b <;> rfl

theorem flat2_filter_c {d : List (Nat × List Nat)} (h : WF2 d) (a c : Nat) :
    (flat2 a d).filter (fun t => t.2.2 == c)
      = ((akeys d).filter (fun b => decide (c ∈ lk d b))).map (fun b => (a, b, c)) := by
  -- both sides as one `flatMap` over the items: per group `[(a, b, c)]` or `[]`, as `c` is a (single) leaf key or not
  rw [filter_map_flatMap]
  rw [walk_items2 h.kn (fun b l => if decide (c ∈ l) = true then [(a, b, c)] else [])]
  rw [flat2_items, List.filter_flatMap]
  apply flatMap_congr'
  intro bl hm
  obtain ⟨b, l⟩ := bl
  have hnd := h.leaf b l hm
  simp only
  rw [List.filter_map]
  have : (fun t : Triple => t.2.2 == c) ∘ (fun c' => (a, b, c')) = fun x => x == c := rfl
  rw [this, filter_beq_nodup hnd]
  by_cases hc : c ∈ l <;> simp [hc]

theorem flat2_walk {d : List (Nat × List Nat)} (h : KN d) (a : Nat) :
    flat2 a d = (akeys d).flatMap (fun b => (lk d b).map (fun c => (a, b, c))) := by
  rw [walk_items2 h (fun b l => l.map (fun c => (a, b, c))), flat2_items]

theorem flat_walk {i : Idx} (h : WFI i) :
    flat i = (akeys i).flatMap (fun a => (akeys (lvl2 i a)).flatMap (fun b => (lvl3 i a b).map (fun c => (a, b, c)))) := by
  have : ∀ a, (akeys (lvl2 i a)).flatMap (fun b => (lvl3 i a b).map (fun c => (a, b, c))) = flat2 a (lvl2 i a) :=
    fun a => (flat2_walk (wf2_lvl2 h a).kn a).symm
  simp only [this]
  rw [walk_items1 h.kn (fun a d => flat2 a d), flat_items]

theorem flat2_aset_sremove {d : List (Nat × List Nat)} (h : KN d) (a b c : Nat) {l : List Nat}
    (hl : alookup d b = some l) : flat2 a (aset d b (sremove l c)) = sremove (flat2 a d) (a, b, c) := by
  rw [flat2_items, flat2_items]
  refine flatMap_aset_sremove (fun b l => l.map (fun c => (a, b, c))) h hl
    (sremove_map_inj (fun x y hxy => by cases hxy; rfl) l c).symm (fun p _ hne hm => ?_)
  obtain ⟨c', _, e⟩ := List.mem_map.1 hm
  cases e; exact hne rfl

theorem flat_aset_sremove {i : Idx} (h : WFI i) (a b c : Nat) {d : List (Nat × List Nat)} {l : List Nat}
    (hd : alookup i a = some d) (hl : alookup d b = some l) :
    flat (aset i a (aset d b (sremove l c))) = sremove (flat i) (a, b, c) := by
  rw [flat_items, flat_items]
  exact flatMap_aset_sremove (fun a d => flat2 a d) h.kn hd
    (flat2_aset_sremove (h.sub a d (alookup_mem hd)).kn a b c hl) (fun _ _ hne hm => hne (fst_of_mem_flat2 hm).1.symm)

theorem flat_idxDel {i : Idx} (h : WFI i) (a b c : Nat) : flat (idxDel i a b c) = sremove (flat i) (a, b, c) := by
  unfold idxDel
  by_cases hh : idxHas i a b c = true
  · simp only [hh, if_true]
    obtain ⟨d, l, e1, e2, _⟩ := exists_of_mem_lvl3 (by simpa [idxHas] using hh : c ∈ lvl3 i a b)
    rw [lvl3_eq e1 e2, lvl2_eq e1]
    exact flat_aset_sremove h a b c e1 e2
  · have hf : idxHas i a b c = false := by simpa using hh
    rw [if_neg (by simp [hf]), sremove_of_not_mem]
    intro hm; exact hh ((mem_flat_iff h a b c).1 hm)

theorem rotPOS_inj (x y : Triple) (h : rotPOS x = rotPOS y) : x = y := by
  obtain ⟨a, b, c⟩ := x; obtain ⟨a', b', c'⟩ := y
  simp only [rotPOS, Prod.mk.injEq] at h
  obtain ⟨h1, h2, h3⟩ := h
  subst h1; subst h2; subst h3; rfl

theorem rotOSP_inj (x y : Triple) (h : rotOSP x = rotOSP y) : x = y := by
  obtain ⟨a, b, c⟩ := x; obtain ⟨a', b', c'⟩ := y
  simp only [rotOSP, Prod.mk.injEq] at h
  obtain ⟨h1, h2, h3⟩ := h
  subst h1; subst h2; subst h3; rfl

/-! ### one index through its flattening: `spo` as it is, `pos` / `osp` rotated back to (s, p, o) -/

theorem idxHas_eq_decide {i : Idx} (h : WFI i) (a b c : Nat) : idxHas i a b c = decide ((a, b, c) ∈ flat i) :=
  bool_eq_decide (mem_flat_iff h a b c)

theorem mem_flat_idxAdd {i : Idx} (h : WFI i) (a b c : Nat) (x : Triple) :
    x ∈ flat (idxAdd i a b c) ↔ (x ∈ flat i ∨ x = (a, b, c)) := by
  obtain ⟨x1, x2, x3⟩ := x
  rw [mem_flat_iff (wfi_idxAdd h a b c), idxHas_idxAdd, mem_flat_iff h, Prod.mk.injEq, Prod.mk.injEq]

section Rot
variable {ρ : Triple → Triple} (hρ : ∀ x y, ρ x = ρ y → x = y) {i : Idx} (h : WFI i) (a b c : Nat)
include hρ h

theorem mem_map_flat : ρ (a, b, c) ∈ (flat i).map ρ ↔ idxHas i a b c = true := by
  rw [← mem_flat_iff h, List.mem_map]
  exact ⟨fun ⟨x, hx, e⟩ => hρ _ _ e ▸ hx, fun hx => ⟨_, hx, rfl⟩⟩

theorem idxHas_eq_decide_map : idxHas i a b c = decide (ρ (a, b, c) ∈ (flat i).map ρ) :=
  bool_eq_decide (mem_map_flat hρ h a b c)

theorem map_flat_idxDel : (flat (idxDel i a b c)).map ρ = sremove ((flat i).map ρ) (ρ (a, b, c)) := by
  rw [flat_idxDel h, sremove_map_inj hρ]

omit hρ in
theorem mem_map_flat_idxAdd (y : Triple) :
    y ∈ (flat (idxAdd i a b c)).map ρ ↔ (y ∈ (flat i).map ρ ∨ y = ρ (a, b, c)) := by
  simp only [List.mem_map, mem_flat_idxAdd h]
  constructor
  · rintro ⟨x, hx | rfl, rfl⟩
    · exact Or.inl ⟨x, hx, rfl⟩
    · exact Or.inr rfl
  · rintro (⟨x, hx, rfl⟩ | rfl)
    · exact ⟨x, Or.inl hx, rfl⟩
    · exact ⟨_, Or.inr rfl, rfl⟩

theorem nodup_map_flat : ((flat i).map ρ).Nodup := nodup_map_inj hρ (nodup_flat h)

end Rot

theorem probes_agree {i1 i2 i3 : Idx} (h1 : WFI i1) (h2 : WFI i2) (h3 : WFI i3)
    (hb : ∀ t, t ∈ (flat i2).map rotPOS ↔ t ∈ flat i1) (hc : ∀ t, t ∈ (flat i3).map rotOSP ↔ t ∈ flat i1)
    (s p o : Nat) : idxHas i2 p o s = idxHas i1 s p o ∧ idxHas i3 o s p = idxHas i1 s p o := by
  constructor
  · rw [Bool.eq_iff_iff, ← mem_map_flat rotPOS_inj h2 p o s, ← mem_flat_iff h1 s p o]; exact hb (s, p, o)
  · rw [Bool.eq_iff_iff, ← mem_map_flat rotOSP_inj h3 o s p, ← mem_flat_iff h1 s p o]; exact hc (s, p, o)

/-- the walks of one index, its entries read through `ρ` (`spo`: as they are; `pos`, `osp`: rotated) -/
theorem walk_a {i : Idx} (h : WFI i) (ρ : Triple → Triple) (a : Nat) :
    ((flat i).filter (fun t => t.1 == a)).map ρ
      = (akeys (lvl2 i a)).flatMap (fun b => (lvl3 i a b).map (fun c => ρ (a, b, c))) := by
  rw [flat_filter_a h.kn, flat2_walk (wf2_lvl2 h a).kn, List.map_flatMap]
  simp only [List.map_map, lvl3_eq_lk]
  rfl

theorem walk_ab {i : Idx} (h : WFI i) (ρ : Triple → Triple) (a b : Nat) :
    ((flat i).filter (fun t => t.1 == a && t.2.1 == b)).map ρ = (lvl3 i a b).map (fun c => ρ (a, b, c)) := by
  rw [lvl3_eq_lk, filter_and, flat_filter_a h.kn, flat2_filter_b (wf2_lvl2 h a).kn, List.map_map]
  rfl

theorem idxCands_eq {ispo ipos iosp : Idx} (h1 : WFI ispo) (h2 : WFI ipos) (h3 : WFI iosp) (m : Mem)
    (e1 : m.spo = flat ispo) (e2 : m.pos = (flat ipos).map rotPOS) (e3 : m.osp = (flat iosp).map rotOSP)
    (pat : Pat) : idxCands ispo ipos iosp pat = cands m pat := by
  obtain ⟨_ | s, _ | p, _ | o⟩ := pat <;> simp only [idxCands, cands, e1, e2, e3, List.filter_map]
  case none.none.none => exact (flat_walk h1).symm
  case none.none.some => exact (walk_a h3 rotOSP o).symm
  case none.some.none => exact (walk_a h2 rotPOS p).symm
  case none.some.some => exact (walk_ab h2 rotPOS p o).symm
  case some.none.none => exact (walk_a h1 id s).symm.trans (List.map_id _)
  case some.none.some =>
    simp only [lvl3_eq_lk]
    rw [filter_and, flat_filter_a h1.kn, flat2_filter_c (wf2_lvl2 h1 s)]; rfl
  case some.some.none => exact (walk_ab h1 id s p).symm.trans (List.map_id _)
  case some.some.some => simp only [mem_flat_iff h1]

end RV.C01

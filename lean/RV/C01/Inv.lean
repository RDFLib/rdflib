import RV.C01.Basic
/-
  C01 — the representation invariant of `Memory`, the abstraction `InG` (triple `t` is in graph `g`), and `add`.
  Five fields of the invariant speak of the index lists only (the three hold the same triples, each once: collected as
  `IdxOk` by `Inv0.idx` — with `err = false`, the whole invariant of `SimpleMemory`); the others are about the context
  bookkeeping and mention the `spo` list only through membership.
-/
namespace RV.C01
open RV

/-- abstraction: the triple is in the store and graph `g` is among its contexts
    (presence-guarded, so stale bookkeeping for absent triples cannot leak) -/
def InG (m : Mem) (t : Triple) (g : Nat) : Prop := t ∈ m.spo ∧ some g ∈ getCtxs m t

instance (m : Mem) (t : Triple) (g : Nat) : Decidable (InG m t g) := by unfold InG; infer_instance

/-- the part of the invariant that also holds in the middle of `Memory.remove`'s per-triple step -/
structure Inv0 (m : Mem) : Prop where
  err : m.err = false
  nd_spo : m.spo.Nodup
  nd_pos : m.pos.Nodup
  nd_osp : m.osp.Nodup
  pos_iff : ∀ t, t ∈ m.pos ↔ t ∈ m.spo
  osp_iff : ∀ t, t ∈ m.osp ↔ t ∈ m.spo
  /-- a non-empty store has its default context set -/
  dflt_some : ∀ t, t ∈ m.spo → m.dflt.isSome = true
  dflt_ok : ∀ d, m.dflt = some d → none ∈ d ∧ d.Nodup
  /-- explicit context entries exist only for triples in the store -/
  tctx_in : ∀ t, t ∉ m.spo → alookup m.tctx t = none
  ctxs_nd : ∀ t, (getCtxs m t).Nodup
  ctxT_nd : ∀ k, (ctxTget m k).Nodup
  ctxT_none : (alookup m.ctxT none).isSome = true
  /-- `__contextTriples[k]` is exactly the set of stored triples having context `k` -/
  ctxT_iff : ∀ k t, t ∈ ctxTget m k ↔ (t ∈ m.spo ∧ k ∈ getCtxs m t)

structure Inv (m : Mem) : Prop extends Inv0 m where
  /-- a stored triple is in the union entry and in at least one asserted context -/
  ctx_ok : ∀ t, t ∈ m.spo → none ∈ getCtxs m t ∧ ∃ c, some c ∈ getCtxs m t

theorem inv_init : Inv Mem.init := by
  refine
    { err := rfl, nd_spo := ?_, nd_pos := ?_, nd_osp := ?_, pos_iff := ?_,
      osp_iff := ?_, dflt_some := ?_, dflt_ok := ?_, tctx_in := ?_, ctxs_nd := ?_, ctx_ok := ?_,
      ctxT_nd := ?nd, ctxT_none := ?_, ctxT_iff := ?iff }
  case nd => intro k; cases k <;> simp [Mem.init, alookup, ctxTget, getT]
  case iff => intro k t; cases k <;> simp [Mem.init, alookup, ctxTget, getT]
  all_goals simp [Mem.init, getCtxs, getC, alookup]

theorem getCtxsRaises_false {m : Mem} (hI : Inv0 m) {t : Triple} (h : t ∈ m.spo) :
    getCtxsRaises m t = false := by
  have := hI.dflt_some t h
  simp [getCtxsRaises, this]

theorem hasCtx_ctx_iff (m : Mem) (t : Triple) (c : Ctx) : hasCtx m t c = true ↔ (t ∈ m.spo ∧ c ∈ getCtxs m t) := by
  simp only [hasCtx, Bool.and_eq_true, decide_eq_true_eq]

theorem hasCtx_iff (m : Mem) (t : Triple) (g : Nat) : hasCtx m t (some g) = true ↔ InG m t g :=
  hasCtx_ctx_iff m t (some g)

theorem getCtxs_of_unlisted {m : Mem} {t : Triple} {d : List Ctx} (hl : alookup m.tctx t = none)
    (hd : m.dflt = some d) : getCtxs m t = d := by
  simp only [getCtxs, getC, hl, hd]

theorem Inv0.entry_nd {m : Mem} (hI : Inv0 m) : ∀ t cs, alookup m.tctx t = some cs → cs.Nodup := by
  intro t cs h
  have := hI.ctxs_nd t
  simpa [getCtxs, getC, h] using this

/-- the three index lists hold the same triples, each once -/
structure IdxOk (a b c : List Triple) : Prop where
  nd_a : a.Nodup
  nd_b : b.Nodup
  nd_c : c.Nodup
  b_iff : ∀ t, t ∈ b ↔ t ∈ a
  c_iff : ∀ t, t ∈ c ↔ t ∈ a

theorem IdxOk.sinsert {a b c : List Triple} (h : IdxOk a b c) (t : Triple) :
    IdxOk (sinsert a t) (sinsert b t) (sinsert c t) :=
  ⟨nodup_sinsert h.nd_a, nodup_sinsert h.nd_b, nodup_sinsert h.nd_c,
    fun x => by rw [mem_sinsert, mem_sinsert, h.b_iff], fun x => by rw [mem_sinsert, mem_sinsert, h.c_iff]⟩

theorem IdxOk.sremove {a b c : List Triple} (h : IdxOk a b c) (t : Triple) :
    IdxOk (sremove a t) (sremove b t) (sremove c t) :=
  ⟨nodup_sremove h.nd_a, nodup_sremove h.nd_b, nodup_sremove h.nd_c,
    fun x => by rw [mem_sremove, mem_sremove, h.b_iff], fun x => by rw [mem_sremove, mem_sremove, h.c_iff]⟩

theorem Inv0.idx {m : Mem} (h : Inv0 m) : IdxOk m.spo m.pos m.osp :=
  ⟨h.nd_spo, h.nd_pos, h.nd_osp, h.pos_iff, h.osp_iff⟩

def Mem.withIdx (m : Mem) (a b c : List Triple) : Mem := { m with spo := a, pos := b, osp := c }

/-- `__add_triple_context`, whatever index lists go with the result: `ex` says whether the triple is stored,
    `a` lists the stored triples afterwards.  The bookkeeping mentions the index lists only through membership. -/
theorem atc_spec {m : Mem} (hI : Inv m) (t : Triple) (c : Nat) {ex : Bool} (hex : ex = true ↔ t ∈ m.spo)
    {a b d : List Triple} (hi : IdxOk a b d) (ha : ∀ x, x ∈ a ↔ (x ∈ m.spo ∨ x = t)) :
    Inv ((addTripleContext m t ex c).withIdx a b d) ∧
      ∀ t' c', InG ((addTripleContext m t ex c).withIdx a b d) t' c' ↔ (InG m t' c' ∨ (t' = t ∧ c' = c)) := by
  have hmemtc : ∀ x, x ∈ newTripleCtx m t ex (some c) ↔ (x = none ∨ x = some c ∨ (t ∈ m.spo ∧ x ∈ getCtxs m t)) := by
    intro x
    cases ex with
    | true => simp [newTripleCtx, hex.1 rfl]
    | false =>
      have : t ∉ m.spo := fun h => by cases hex.2 h
      simp [newTripleCtx, this, or_comm]
  have hndtc : (newTripleCtx m t ex (some c)).Nodup := by
    cases ex
    · show [some c, none].Nodup; simp
    · show (sinsert (sinsert (getCtxs m t) (some c)) none).Nodup
      exact nodup_sinsert (nodup_sinsert (hI.ctxs_nd t))
  have herr : (addTripleContext m t ex c).err = false := by
    have : (ex && getCtxsRaises m t) = false := by
      cases ex with
      | false => rfl
      | true => exact getCtxsRaises_false hI.toInv0 (hex.1 rfl)
    simp [addTripleContext, hI.err, this, hI.ctxT_none]
  have hd : (addTripleContext m t ex c).dflt = setDflt m.dflt (newTripleCtx m t ex (some c)) := rfl
  have htc : (addTripleContext m t ex c).tctx
      = compress m.tctx (addTripleContext m t ex c).dflt t (newTripleCtx m t ex (some c)) := rfl
  have hcT : (addTripleContext m t ex c).ctxT = ctxTadd (ctxTadd m.ctxT none t) (some c) t := rfl
  -- from here on only these facts about the new context set `tc` and the new state `m1` are used
  generalize newTripleCtx m t ex (some c) = tc at *
  generalize addTripleContext m t ex c = m1 at *
  -- the default dictionary is set by the first add and never changes afterwards
  have hdP : ∀ t', t' ∈ m.spo → m1.dflt = m.dflt := fun t' h => by
    obtain ⟨d0, hd0⟩ := Option.isSome_iff_exists.mp (hI.dflt_some t' h)
    rw [hd, hd0]; rfl
  have hdok : ∀ d, m1.dflt = some d → none ∈ d ∧ d.Nodup := by
    intro d h
    rw [hd] at h
    cases hm : m.dflt with
    | none => rw [hm] at h; cases h; exact ⟨(hmemtc none).2 (Or.inl rfl), hndtc⟩
    | some d0 => rw [hm] at h; cases h; exact hI.dflt_ok _ hm
  have hctx : ∀ t' x, t' ∈ a → (x ∈ getCtxs m1 t' ↔
      ((t' ∈ m.spo ∧ x ∈ getCtxs m t') ∨ (t' = t ∧ (x = none ∨ x = some c)))) := by
    intro t' x h
    by_cases e : t' = t
    · subst e
      rw [getCtxs, htc, mem_getC_compress_self, hmemtc]
      simp only [true_and, or_comm, or_assoc]
    · have h' : t' ∈ m.spo := ((ha t').1 h).resolve_right e
      rw [getCtxs, htc, getC_compress_other e, hdP t' h']
      simp only [e, false_and, or_false, h', true_and]; rfl
  have hT : ∀ k x, x ∈ ctxTget m1 k ↔ (x ∈ ctxTget m k ∨ (x = t ∧ (k = none ∨ k = some c))) := by
    intro k x
    simp only [ctxTget, hcT, mem_getT_ctxTadd, and_comm, and_or_left, or_assoc]
  refine ⟨{ err := herr, nd_spo := hi.nd_a, nd_pos := hi.nd_b, nd_osp := hi.nd_c, pos_iff := hi.b_iff,
            osp_iff := hi.c_iff, dflt_some := ?_, dflt_ok := hdok, tctx_in := ?_, ctxs_nd := ?_, ctxT_nd := ?_,
            ctxT_none := ?_, ctxT_iff := ?_, ctx_ok := ?_ }, ?_⟩
  · intro _ _; show m1.dflt.isSome = true; rw [hd]; cases m.dflt <;> rfl
  · intro t' h
    have h' : t' ∉ m.spo ∧ t' ≠ t := ⟨fun h' => h ((ha t').2 (Or.inl h')), fun e => h ((ha t').2 (Or.inr e))⟩
    show alookup m1.tctx t' = none
    rw [htc, alookup_compress_other h'.2]
    exact hI.tctx_in t' h'.1
  · intro t'
    show (getC m1.tctx m1.dflt t').Nodup
    rw [htc]; exact nodup_getC_compress hI.entry_nd (fun d h => (hdok d h).2) hndtc t t'
  · intro k
    show (getT m1.ctxT k).Nodup
    rw [hcT]
    exact nodup_getT_ctxTadd _ _ _ _ (nodup_getT_ctxTadd _ _ _ _ (hI.ctxT_nd k))
  · show (alookup m1.ctxT none).isSome = true
    rw [hcT]
    exact isSome_alookup_ctxTadd _ _ _ _ (isSome_alookup_ctxTadd _ _ _ _ hI.ctxT_none)
  · intro k x
    show x ∈ ctxTget m1 k ↔ (x ∈ a ∧ k ∈ getCtxs m1 x)
    rw [hT, hI.ctxT_iff]
    exact ⟨fun h => have hx := (ha x).2 (h.imp And.left And.left); ⟨hx, (hctx x k hx).2 h⟩,
      fun h => (hctx x k h.1).1 h.2⟩
  · intro t' h
    show none ∈ getCtxs m1 t' ∧ ∃ c0, some c0 ∈ getCtxs m1 t'
    simp only [hctx t' _ h]
    rcases (ha t').1 h with h' | e
    · obtain ⟨c0, hc0⟩ := (hI.ctx_ok t' h').2
      exact ⟨Or.inl ⟨h', (hI.ctx_ok t' h').1⟩, c0, Or.inl ⟨h', hc0⟩⟩
    · exact ⟨Or.inr ⟨e, Or.inl trivial⟩, c, Or.inr ⟨e, Or.inr rfl⟩⟩
  · intro t' c'
    show (t' ∈ a ∧ some c' ∈ getCtxs m1 t') ↔ _
    constructor
    · rintro ⟨h1, h2⟩
      rcases (hctx t' _ h1).1 h2 with h | ⟨e, h | h⟩
      · exact Or.inl h
      · cases h
      · exact Or.inr ⟨e, (Option.some.inj h)⟩
    · intro h
      have h1 : t' ∈ a := (ha t').2 (h.imp And.left And.left)
      refine ⟨h1, (hctx t' _ h1).2 ?_⟩
      rcases h with h | ⟨e, rfl⟩
      · exact Or.inl h
      · exact Or.inr ⟨e, Or.inr rfl⟩

theorem addCore_spec {m : Mem} (hI : Inv m) (t : Triple) (c : Nat) :
    Inv (m.addCore t c) ∧ ∀ t' c', InG (m.addCore t c) t' c' ↔ (InG m t' c' ∨ (t' = t ∧ c' = c)) := by
  by_cases ht : t ∈ m.spo
  · rw [Mem.addCore, if_pos ht]
    exact atc_spec hI t c (ex := true) (iff_of_true rfl ht) hI.idx (fun x => ⟨Or.inl, fun h => h.elim id fun e => e ▸ ht⟩)
  · rw [Mem.addCore, if_neg ht]
    -- the bookkeeping never reads an index field, so the new state is `(addTripleContext m t false c).withIdx …` by `rfl`
    have hs : m.spo ++ [t] = sinsert m.spo t := (if_neg ht).symm
    exact atc_spec hI t c (ex := false) (a := m.spo ++ [t]) (iff_of_false (fun h => nomatch h) ht)
      (hs ▸ hI.idx.sinsert t) (fun x => by rw [List.mem_append, List.mem_singleton])

/-- the invariant reads neither `__all_contexts` nor the order of the index lists -/
theorem inv_of_same {m m' : Mem} (hI : Inv m) (hi : IdxOk m'.spo m'.pos m'.osp) (hs : ∀ t, t ∈ m'.spo ↔ t ∈ m.spo)
    (ht : m'.tctx = m.tctx) (hd : m'.dflt = m.dflt) (hT : ∀ k, getT m'.ctxT k = getT m.ctxT k)
    (hn : (alookup m'.ctxT none).isSome = true) (he : m'.err = m.err) : Inv m' := by
  have hg : ∀ t, getCtxs m' t = getCtxs m t := fun t => by rw [getCtxs, getCtxs, ht, hd]
  exact
    { err := he.trans hI.err, nd_spo := hi.nd_a, nd_pos := hi.nd_b, nd_osp := hi.nd_c, pos_iff := hi.b_iff,
      osp_iff := hi.c_iff
      dflt_some := fun t h => by rw [hd]; exact hI.dflt_some t ((hs t).1 h)
      dflt_ok := fun d h => hI.dflt_ok d (hd ▸ h)
      tctx_in := fun t h => by rw [ht]; exact hI.tctx_in t (fun h' => h ((hs t).2 h'))
      ctxs_nd := fun t => by rw [hg]; exact hI.ctxs_nd t
      ctxT_nd := fun k => by rw [ctxTget, hT]; exact hI.ctxT_nd k
      ctxT_none := hn
      ctxT_iff := fun k t => by rw [ctxTget, hT, hs, hg]; exact hI.ctxT_iff k t
      ctx_ok := fun t h => by rw [hg]; exact hI.ctx_ok t ((hs t).1 h) }

theorem inv_allc {m : Mem} (hI : Inv m) (l : List Nat) : Inv { m with allc := l } :=
  inv_of_same hI hI.idx (fun _ => Iff.rfl) rfl rfl (fun _ => rfl) hI.ctxT_none rfl

theorem inv_register {m : Mem} (hI : Inv m) (c : Nat) : Inv (m.register c) := inv_allc hI _

theorem add_spec {m : Mem} (hI : Inv m) (t : Triple) (c : Nat) :
    Inv (m.add t c) ∧ ∀ t' c', InG (m.add t c) t' c' ↔ (InG m t' c' ∨ (t' = t ∧ c' = c)) :=
  addCore_spec (inv_register hI c) t c

end RV.C01

import RV.C13.Model
/-
  C13: what the statements of Props.lean speak of besides the model (`WF`, `Write`, `Frame`, `NsExt`,
  `ReadOp.mayBindNs`), then the lemmas.  Two facts carry the properties.  `Reached s x` (`run_reached`, `runAll_reached`):
  a read leaves the state where it was, or registers the default graph, and may add prefix bindings.  `run_out_congr`:
  its answer depends on the quads, the configuration and the `contexts()` listing only (`trigSer`, `JSim` serve its TriG
  and JSON-LD cases).
-/
namespace RV.C13

/-- Every state reachable through the store API: a graph holding a quad is registered
    (`Memory.add` does `__all_contexts.add(context)`), and a `Dataset`'s default graph is named
    `urn:x-rdflib:default`.  Besides keeping it (`wf_write`, `contextsCall_wf`, `NsExt.wf`) the proofs use the first
    clause for TriG's bindings (`namespaces_exact`) and `graphView_eq`, the second for `contextsCall_frame` (the `names`
    clause of `Frame`). -/
def WF (s : State) : Prop :=
  (∀ q ∈ s.quads, q.2 ∈ s.known) ∧ (s.isDataset = true → s.dname = .dflt)

instance (s : State) : Decidable (WF s) := by unfold WF; exact inferInstance

/-- the store writes on the quad side (`State.bindNs` only touches the prefix tables, which `WF` does not
    look at) -/
inductive Write
  | add (q : Quad)
  | register (g : GName)

def State.write (s : State) : Write → State
  | .add q => s.add q
  | .register g => s.register g

def State.writes (s : State) : List Write → State
  | [] => s
  | w :: ws => (s.write w).writes ws

/-- "exactly as they were": same quads, same configuration, same set of graphs
    (the always-existing default graph counted on both sides) -/
structure Frame (s s' : State) : Prop where
  quads : s'.quads = s.quads
  union : s'.defaultUnion = s.defaultUnion
  isDataset : s'.isDataset = s.isDataset
  dname : s'.dname = s.dname
  names : SetEq s'.graphNames s.graphNames

/-- `b` is `a` with (possibly) more prefix bindings and nothing else changed -/
structure NsExt (a b : State) : Prop where
  quads : b.quads = a.quads
  known : b.known = a.known
  union : b.defaultUnion = a.defaultUnion
  isDataset : b.isDataset = a.isDataset
  dname : b.dname = a.dname
  base : b.dgBase = a.dgBase
  mono : ∀ n ∈ a.ns, n ∈ b.ns

/-- `n` is a namespace the read `r` may bind on `s`: the namespace of a predicate (for pretty-xml also of a
    class) the serializer writes, or of the IRI handed to `qname` -/
def ReadOp.mayBindNs (s : State) (n : Nat) : ReadOp → Prop
  | .serializeTurtle nsOf => ∃ t ∈ s.visible, nsOf t.2.1 = some n
  | .serializeLongTurtle nsOf canon canonf =>
    (canon && s.isDataset && !s.quads.isEmpty) = false ∧
    ∃ t ∈ (if canon then unionInto [] (canonf s.visible) else s.visible), nsOf t.2.1 = some n
  | .serializeXml nsOf => ∃ t ∈ s.visible, nsOf t.2.1 = some n
  | .serializePrettyXml nsOf ty _ =>
    ∃ t ∈ s.visible, nsOf t.2.1 = some n ∨ (t.2.1 = ty ∧ nsOf t.2.2 = some n)
  | .serializeTrig nsOf => ∃ q ∈ s.quads, nsOf q.1.2.1 = some n
  | .qname nsOf t => nsOf t = some n
  | _ => False

/-! A property of both branches holds of the conditional: used where `split` would have to take a large goal apart. -/

theorem ite_pred {α : Type} (P : α → Prop) {c : Prop} [Decidable c] {x y : α}
    (h1 : P x) (h2 : P y) : P (if c then x else y) := by
  split <;> assumption

theorem ite_rel {α β : Type} {R : α → β → Prop} {c : Prop} [Decidable c] {x y : α} {x' y' : β}
    (h1 : R x x') (h2 : R y y') : R (if c then x else y) (if c then x' else y') := by
  split <;> assumption

theorem ite_snd_congr {α β : Type} {c : Prop} [Decidable c] {x y x' y' : α × β} (h1 : x.2 = x'.2) (h2 : y.2 = y'.2) :
    (if c then x else y).2 = (if c then x' else y').2 :=
  ite_rel (R := fun (x y : α × β) => x.2 = y.2) h1 h2

/-! Core's `List.exists_mem_cons` is about `∃ x, ∃ _ : x ∈ l, p x`; these are the forms `∃ x ∈ l, p x` unfolds to. -/

theorem exists_mem_nil {α : Type} {p : α → Prop} : (∃ x ∈ ([] : List α), p x) ↔ False :=
  ⟨fun ⟨_, h, _⟩ => (nomatch h), False.elim⟩

theorem exists_mem_cons_iff {α : Type} {p : α → Prop} {a : α} {l : List α} :
    (∃ x ∈ a :: l, p x) ↔ p a ∨ ∃ x ∈ l, p x := by
  simp only [List.mem_cons, or_and_right, exists_or, exists_eq_left]

theorem mem_triplesOf {qs : List Quad} {g : GName} {t : Triple} :
    t ∈ triplesOf qs g ↔ (t, g) ∈ qs := by
  induction qs with
  | nil => simp [triplesOf]
  | cons q qs ih =>
    obtain ⟨t', g'⟩ := q
    unfold triplesOf
    split
    · next h => simp only [List.mem_cons, ih, Prod.mk.injEq, h, and_true]
    · next h => simp only [ih, List.mem_cons, Prod.mk.injEq, Ne.symm h, and_false, false_or]

theorem mem_tagWith {g : GName} {ts : List Triple} {q : Quad} :
    q ∈ tagWith g ts ↔ q.2 = g ∧ q.1 ∈ ts := by
  induction ts with
  | nil => simp [tagWith]
  | cons t ts ih =>
    obtain ⟨qt, qg⟩ := q
    simp only [tagWith, List.mem_cons, ih, Prod.mk.injEq]
    rw [and_comm, ← and_or_left]

theorem add_present {s : State} {q : Quad} (h1 : q ∈ s.quads) (h2 : q.2 ∈ s.known) :
    s.add q = s := by
  unfold State.add
  rw [sinsert_of_mem h1, sinsert_of_mem h2]

theorem addAll_present (qs : List Quad) (s : State) (h : ∀ q ∈ qs, q ∈ s.quads ∧ q.2 ∈ s.known) :
    s.addAll qs = s := by
  induction qs with
  | nil => rfl
  | cons q qs ih =>
    unfold State.addAll
    rw [add_present (h q List.mem_cons_self).1 (h q List.mem_cons_self).2]
    exact ih fun q' hq' => h q' (List.mem_cons_of_mem _ hq')

theorem wf_write {s : State} (h : WF s) (w : Write) : WF (s.write w) := by
  cases w with
  | add q =>
    refine ⟨?_, h.2⟩
    intro q' hq'
    simp only [State.write, State.add, mem_sinsert] at hq' ⊢
    rcases hq' with h1 | h1
    · exact Or.inl (by rw [h1])
    · exact Or.inr (h.1 q' h1)
  | register g => exact ⟨fun q' hq' => mem_sinsert.mpr (Or.inr (h.1 q' hq')), h.2⟩

theorem wf_writes (ws : List Write) {s : State} (h : WF s) : WF (s.writes ws) := by
  induction ws generalizing s with
  | nil => exact h
  | cons w ws ih => exact ih (wf_write h w)

/-- the nested `if`s as one: registering a listed default graph changes nothing -/
theorem contextsCall_eq (s : State) : s.contextsCall =
    if s.isDataset then ({ s with known := sinsert s.known .dflt }, sinsert s.known .dflt) else (s, s.known) := by
  unfold State.contextsCall State.register
  by_cases hd : s.isDataset = true
  · by_cases h : GName.dflt ∈ s.known
    · rw [if_pos hd, if_pos hd, if_pos h, sinsert_of_mem h]
    · rw [if_pos hd, if_pos hd, if_neg h, sinsert_of_not_mem h]
  · rw [if_neg hd, if_neg hd]

theorem contextsCall_fst (s : State) : s.contextsCall.1 = { s with known := s.contextsCall.2 } := by
  rw [contextsCall_eq]
  split <;> rfl

theorem contextsCall_quads (s : State) : s.contextsCall.1.quads = s.quads := by rw [contextsCall_fst]

theorem contextsCall_dname (s : State) : s.contextsCall.1.dname = s.dname := by rw [contextsCall_fst]

theorem contextsCall_known (s : State) : s.contextsCall.1.known = s.contextsCall.2 := by
  rw [contextsCall_fst]

theorem mem_contextsCall {s : State} {g : GName} :
    g ∈ s.contextsCall.2 ↔ g ∈ s.known ∨ (s.isDataset = true ∧ g = .dflt) := by
  rw [contextsCall_eq]
  split
  · next hd => simp only [mem_sinsert, hd, true_and, or_comm]
  · next hd => simp only [hd, Bool.false_eq_true, false_and, or_false]

theorem contextsCall_of_listed {s : State} (h : s.isDataset = true → GName.dflt ∈ s.known) :
    s.contextsCall = (s, s.known) := by
  rw [contextsCall_eq]
  split
  · next hd => rw [sinsert_of_mem (h hd)]
  · rfl

theorem contextsCall_idem (s : State) : s.contextsCall.1.contextsCall = s.contextsCall := by
  rw [contextsCall_of_listed, contextsCall_known]
  intro hd
  rw [contextsCall_fst] at hd
  rw [contextsCall_known, mem_contextsCall]
  exact Or.inr ⟨hd, rfl⟩

theorem contextsCall_wf {s : State} (h : WF s) : WF s.contextsCall.1 := by
  rw [contextsCall_fst]
  exact ⟨fun q hq => mem_contextsCall.mpr (Or.inl (h.1 q hq)), h.2⟩

theorem graphView_eq {s : State} (h : WF s) (g : GName) : s.graphView g = s.contextsCall.1 := by
  unfold State.graphView
  apply addAll_present
  intro q hq
  obtain ⟨hg, ht⟩ := mem_tagWith.mp hq
  have hq' : q ∈ s.contextsCall.1.quads := by
    rw [← hg] at ht
    exact mem_triplesOf.mp ht
  exact ⟨hq', (contextsCall_wf h).1 q hq'⟩

theorem resolveCtx_eq {s : State} {c : CtxArg} : s.resolveCtx c = s := by
  cases c <;> rfl

theorem Frame.refl (s : State) : Frame s s := ⟨rfl, rfl, rfl, rfl, SetEq.refl _⟩

theorem Frame.trans {a b c : State} (h1 : Frame a b) (h2 : Frame b c) : Frame a c :=
  ⟨h2.quads.trans h1.quads, h2.union.trans h1.union, h2.isDataset.trans h1.isDataset,
   h2.dname.trans h1.dname, SetEq.trans h2.names h1.names⟩

/-- registering the default graph of a `Dataset` adds no name: `graphNames` counts it anyway -/
theorem contextsCall_frame {s : State} (h : WF s) : Frame s s.contextsCall.1 := by
  rw [contextsCall_fst]
  refine ⟨rfl, rfl, rfl, rfl, fun g => ?_⟩
  simp only [State.graphNames, mem_sinsert, mem_contextsCall]
  constructor
  · rintro (h1 | h1 | ⟨h1, h2⟩)
    · exact Or.inl h1
    · exact Or.inr h1
    · exact Or.inl (h2.trans (h.2 h1).symm)
  · exact Or.imp_right Or.inl

theorem NsExt.refl (a : State) : NsExt a a := ⟨rfl, rfl, rfl, rfl, rfl, rfl, fun _ h => h⟩

theorem NsExt.of_eq {a b : State} (h : b = a) : NsExt a b := h ▸ NsExt.refl a

theorem NsExt.trans {a b c : State} (h1 : NsExt a b) (h2 : NsExt b c) : NsExt a c :=
  ⟨h2.quads.trans h1.quads, h2.known.trans h1.known, h2.union.trans h1.union,
   h2.isDataset.trans h1.isDataset, h2.dname.trans h1.dname, h2.base.trans h1.base, fun n hn => h2.mono n (h1.mono n hn)⟩

theorem NsExt.wf {a b : State} (h : NsExt a b) (hw : WF a) : WF b := by
  unfold WF
  rw [h.quads, h.known, h.isDataset, h.dname]
  exact hw

theorem NsExt.frame {a b : State} (h : NsExt a b) : Frame a b := by
  refine ⟨h.quads, h.union, h.isDataset, h.dname, fun g => ?_⟩
  unfold State.graphNames
  rw [h.known, h.dname]

theorem NsExt.contextsCall_snd {a b : State} (h : NsExt a b) : b.contextsCall.2 = a.contextsCall.2 := by
  rw [contextsCall_eq b, contextsCall_eq a, h.known, h.isDataset]
  exact ite_snd_congr rfl rfl

theorem NsExt.contextsCall {a b : State} (h : NsExt a b) : NsExt a.contextsCall.1 b.contextsCall.1 := by
  rw [contextsCall_fst, contextsCall_fst, h.contextsCall_snd]
  exact { h with known := rfl }

theorem getQName_nsExt {s : State} {nsOf : Nat → Option Nat} {gen : Bool} {t : Nat} :
    NsExt s (s.getQName nsOf gen t) := by
  unfold State.getQName
  split
  · exact NsExt.refl s
  · split
    · exact { NsExt.refl s with mono := fun m hm => mem_sinsert.mpr (Or.inr hm) }
    · exact NsExt.refl s

theorem mem_getQName_ns {s : State} {nsOf : Nat → Option Nat} {gen : Bool} {t n : Nat} :
    n ∈ (s.getQName nsOf gen t).ns ↔ n ∈ s.ns ∨ (gen = true ∧ nsOf t = some n) := by
  unfold State.getQName
  cases nsOf t with
  | none => simp
  | some m => cases gen <;> simp [State.bindNs, eq_comm, or_comm]

theorem preprocessTriples_nsExt {nsOf : Nat → Option Nat} {ts : List Triple} {s : State} :
    NsExt s (preprocessTriples nsOf s ts) := by
  induction ts generalizing s with
  | nil => exact NsExt.refl s
  | cons t ts ih =>
    exact ((getQName_nsExt.trans getQName_nsExt).trans getQName_nsExt).trans ih

theorem mem_preprocessTriples_ns (nsOf : Nat → Option Nat) (n : Nat) (ts : List Triple) (s : State) :
    n ∈ (preprocessTriples nsOf s ts).ns ↔ n ∈ s.ns ∨ ∃ t ∈ ts, nsOf t.2.1 = some n := by
  induction ts generalizing s with
  | nil => simp only [preprocessTriples, exists_mem_nil, or_false]
  | cons t ts ih =>
    simp only [preprocessTriples, ih, mem_getQName_ns, exists_mem_cons_iff, Bool.false_eq_true, false_and, or_false,
      true_and, or_assoc]

theorem preprocessTriples_append (nsOf : Nat → Option Nat) (l₁ l₂ : List Triple) (s : State) :
    preprocessTriples nsOf s (l₁ ++ l₂) = preprocessTriples nsOf (preprocessTriples nsOf s l₁) l₂ := by
  induction l₁ generalizing s with
  | nil => rfl
  | cons _ _ ih => exact ih _

theorem bindPredicates_nsExt {nsOf : Nat → Option Nat} {ts : List Triple} {s : State} :
    NsExt s (bindPredicates nsOf s ts) := by
  induction ts generalizing s with
  | nil => exact NsExt.refl s
  | cons t ts ih => exact getQName_nsExt.trans ih

theorem mem_bindPredicates_ns (nsOf : Nat → Option Nat) (n : Nat) (ts : List Triple) (s : State) :
    n ∈ (bindPredicates nsOf s ts).ns ↔ n ∈ s.ns ∨ ∃ t ∈ ts, nsOf t.2.1 = some n := by
  induction ts generalizing s with
  | nil => simp only [bindPredicates, exists_mem_nil, or_false]
  | cons t ts ih => simp only [bindPredicates, ih, mem_getQName_ns, exists_mem_cons_iff, true_and, or_assoc]

theorem bindTypes_nsExt {nsOf : Nat → Option Nat} {ty : Nat} {ts : List Triple} {s : State} :
    NsExt s (bindTypes nsOf ty s ts) := by
  induction ts generalizing s with
  | nil => exact NsExt.refl s
  | cons t ts ih =>
    unfold bindTypes
    exact ite_pred (NsExt s) (getQName_nsExt.trans ih) ih

theorem mem_bindTypes_ns (nsOf : Nat → Option Nat) (ty n : Nat) (ts : List Triple) (s : State) :
    n ∈ (bindTypes nsOf ty s ts).ns ↔ n ∈ s.ns ∨ ∃ t ∈ ts, t.2.1 = ty ∧ nsOf t.2.2 = some n := by
  induction ts generalizing s with
  | nil => simp only [bindTypes, exists_mem_nil, or_false]
  | cons t ts ih =>
    unfold bindTypes
    split
    · next h => simp only [ih, mem_getQName_ns, exists_mem_cons_iff, h, true_and, or_assoc]
    · next h => simp only [ih, exists_mem_cons_iff, h, false_and, false_or]

/-- what the TriG serializer collects in `_contexts`: a function of the quads -/
def trigSer (qs : List Quad) : TrigSer → List GName → TrigSer
  | ser, [] => ser
  | ser, g :: gs =>
    if (triplesOf qs g).isEmpty then trigSer qs ser gs
    else if g ∈ ser.contexts.map (·.1) then trigSer qs { ser with store := some g } gs
    else trigSer qs { store := some g, contexts := ser.contexts ++ [(g, triplesOf qs g)] } gs

theorem trigPreprocess_eq (nsOf : Nat → Option Nat) (gs : List GName) (st : State) (ser : TrigSer) :
    trigPreprocess nsOf st ser gs
      = (preprocessTriples nsOf st (gs.flatMap (triplesOf st.quads)), trigSer st.quads ser gs) := by
  induction gs generalizing st ser with
  | nil => rfl
  | cons g gs ih =>
    have hq : (preprocessTriples nsOf st (triplesOf st.quads g)).quads = st.quads := preprocessTriples_nsExt.quads
    unfold trigPreprocess trigSer
    rw [List.flatMap_cons, preprocessTriples_append]
    by_cases he : (triplesOf st.quads g).isEmpty = true
    · rw [if_pos he, if_pos he, List.isEmpty_iff.mp he]
      exact ih st ser
    · by_cases hm : g ∈ ser.contexts.map (·.1)
      · rw [if_neg he, if_neg he, if_pos hm, if_pos hm, ih, hq]
      · rw [if_neg he, if_neg he, if_neg hm, if_neg hm, ih, hq]

theorem mem_trigPreprocess_ns (nsOf : Nat → Option Nat) (n : Nat) (gs : List GName) (st : State) (ser : TrigSer) :
    n ∈ (trigPreprocess nsOf st ser gs).1.ns ↔ n ∈ st.ns ∨ ∃ q ∈ st.quads, q.2 ∈ gs ∧ nsOf q.1.2.1 = some n := by
  simp only [trigPreprocess_eq, mem_preprocessTriples_ns, List.mem_flatMap, mem_triplesOf]
  refine or_congr_right ⟨?_, ?_⟩
  · rintro ⟨t, ⟨g, hg, htg⟩, hn⟩
    exact ⟨(t, g), htg, hg, hn⟩
  · rintro ⟨⟨t, g⟩, hq, hg, hn⟩
    exact ⟨t, ⟨g, hg, hq⟩, hn⟩

theorem mem_trigContexts_of_mem {s1 : State} {cs : List GName} {g : GName} (h : g ∈ cs) : g ∈ trigContexts s1 cs :=
  ite_pred (g ∈ ·) h (List.mem_append_left _ h)

theorem jsonldLoop_self {own : Bool} {cs : List GName} {acc : JAcc} : (jsonldLoop own acc cs).self = acc.self := by
  induction cs generalizing acc with
  | nil => rfl
  | cons g gs ih =>
    unfold jsonldLoop
    exact ite_pred (fun x : JAcc => x.self = acc.self) ih (ite_pred (fun x : JAcc => x.self = acc.self) ih ih)

theorem query_fst {s : State} {q : QShape} : (s.query q).1 = s ∨ (s.query q).1 = s.contextsCall.1 := by
  let P (x : State × Out) := x.1 = s ∨ x.1 = s.contextsCall.1
  show P _
  unfold State.query
  refine ite_pred P (ite_pred P (Or.inr rfl) (Or.inl rfl)) ?_
  cases qInit s q.loadGraphs q.docs ⟨[], emptyDataset⟩ q.clauses <;> exact Or.inl rfl

theorem mayBind_of_mayBindNs {s : State} {n : Nat} {r : ReadOp} (h : r.mayBindNs s n) : r.mayBind = true := by
  unfold ReadOp.mayBindNs at h
  split at h <;> first | rfl | exact h.elim

theorem run_nobind {s : State} {r : ReadOp} (hb : r.mayBind = false) :
    (s.run r).1 = s ∨ (s.run r).1 = s.contextsCall.1 := by
  cases r with
  | serializeTurtle | serializeLongTurtle | serializeXml | serializePrettyXml | serializeTrig | qname =>
    nomatch hb
  | serializeCtxs | serializeHext | serializePatch | graphs => exact Or.inr rfl
  | serializeJsonld => exact Or.inr jsonldLoop_self
  | triples4 pat c | contains4 pat c => exact Or.inl (resolveCtx_eq.trans resolveCtx_eq)
  | quads4 pat c => exact Or.inl resolveCtx_eq
  | query q => exact query_fst
  | _ => exact Or.inl rfl

theorem run_nobind_ns {s : State} {r : ReadOp} (hb : r.mayBind = false) : (s.run r).1.ns = s.ns := by
  rcases run_nobind hb with h | h
  · rw [h]
  · rw [h, contextsCall_fst]

/-- where reads can take `s`: to `s` itself or to `s` with the default graph registered, with (possibly) more
    prefix bindings -/
def Reached (s x : State) : Prop := NsExt s x ∨ NsExt s.contextsCall.1 x

theorem Reached.refl (s : State) : Reached s s := Or.inl (NsExt.refl s)

theorem run_reached (s : State) (r : ReadOp) : Reached s (s.run r).1 := by
  by_cases hb : r.mayBind = false
  · exact (run_nobind hb).imp NsExt.of_eq NsExt.of_eq
  · -- splitting the `match` of `mayBind` gives its six `true` arms in their order (turtle, longturtle, xml, pretty-xml,
    -- trig, qname) and one absurd rest
    unfold ReadOp.mayBind at hb
    split at hb
    · next nsOf => exact Or.inl (preprocessTriples_nsExt.trans preprocessTriples_nsExt)
    · next nsOf c f =>
      exact ite_pred (fun x : State × Out => Reached s x.1) (Reached.refl s)
        (Or.inl (preprocessTriples_nsExt.trans preprocessTriples_nsExt))
    · next nsOf => exact Or.inl (bindPredicates_nsExt.trans bindPredicates_nsExt)
    · next nsOf ty d => exact Or.inl (bindPredicates_nsExt.trans bindTypes_nsExt)
    · next nsOf =>
      simp only [State.run, State.serializeTrig, trigPreprocess_eq]
      exact Or.inr preprocessTriples_nsExt
    · next nsOf t => exact Or.inl getQName_nsExt
    · exact absurd rfl hb

/-- `contextsCall` is idempotent, so one registration is all a sequence of reads can add -/
theorem Reached.trans {a b c : State} (h1 : Reached a b) (h2 : Reached b c) : Reached a c := by
  rcases h1 with h1 | h1 <;> rcases h2 with h2 | h2
  · exact Or.inl (h1.trans h2)
  · exact Or.inr (h1.contextsCall.trans h2)
  · exact Or.inr (h1.trans h2)
  · have h3 := h1.contextsCall
    rw [contextsCall_idem] at h3
    exact Or.inr (h3.trans h2)

theorem runAll_reached (s : State) (rs : List ReadOp) : Reached s (s.runAll rs) := by
  induction rs generalizing s with
  | nil => exact Reached.refl s
  | cons r rs ih => exact (run_reached s r).trans (ih _)

theorem Reached.wf {s x : State} (h : Reached s x) (hw : WF s) : WF x :=
  h.elim (·.wf hw) (·.wf (contextsCall_wf hw))

theorem Reached.frame {s x : State} (h : Reached s x) (hw : WF s) : Frame s x :=
  h.elim (·.frame) ((contextsCall_frame hw).trans ·.frame)

theorem Reached.base {s x : State} (h : Reached s x) : x.dgBase = s.dgBase := by
  rcases h with h | h
  · exact h.base
  · rw [h.base, contextsCall_fst]

theorem Reached.listing {s x : State} (h : Reached s x) : x.contextsCall.2 = s.contextsCall.2 := by
  rcases h with h | h
  · exact h.contextsCall_snd
  · rw [h.contextsCall_snd, contextsCall_idem]

/-- what the JSON-LD loop collects depends on the quads and the default name only -/
structure JSim (a b : JAcc) : Prop where
  quads : a.self.quads = b.self.quads
  dname : a.self.dname = b.self.dname
  scratch : a.scratch = b.scratch
  named : a.named = b.named

theorem jsonldLoop_sim {own : Bool} {cs : List GName} {a b : JAcc} (h : JSim a b) :
    JSim (jsonldLoop own a cs) (jsonldLoop own b cs) := by
  induction cs generalizing a b with
  | nil => exact h
  | cons g gs ih =>
    unfold jsonldLoop
    rw [h.named, h.dname, h.quads, h.scratch]
    exact ite_rel (ih h) (ite_rel (ih ⟨h.quads, h.dname, rfl, rfl⟩) (ih ⟨h.quads, h.dname, rfl, rfl⟩))

theorem jsonld_out_congr {a b : State} (hq : b.quads = a.quads) (hd : b.dname = a.dname)
    (hc : b.contextsCall.2 = a.contextsCall.2) : b.serializeJsonld.2 = a.serializeJsonld.2 := by
  have h1 : b.contextsCall.1.quads = a.contextsCall.1.quads := by rw [contextsCall_quads, contextsCall_quads, hq]
  have h2 : b.contextsCall.1.dname = a.contextsCall.1.dname := by rw [contextsCall_dname, contextsCall_dname, hd]
  have hs : JSim (jsonldRun b.contextsCall.1 a.contextsCall.2) (jsonldRun a.contextsCall.1 a.contextsCall.2) := by
    unfold jsonldRun State.jsonldOwnDefault
    rw [h1, h2]
    exact jsonldLoop_sim ⟨h1, h2, rfl, rfl⟩
  unfold State.serializeJsonld jsonldOut
  rw [hc, hs.scratch, hs.named, hs.quads, h2]

theorem trig_out_congr {a b : State} (hq : b.quads = a.quads) (hd : b.dname = a.dname)
    (hc : b.contextsCall.2 = a.contextsCall.2) (nsOf : Nat → Option Nat) :
    (b.serializeTrig nsOf).2 = (a.serializeTrig nsOf).2 := by
  simp only [State.serializeTrig, contextsCall_fst, hc, trigContexts, trigPreprocess_eq, hq, hd]

theorem qInit_congr {a b : State} (h : a.quads = b.quads) (lg : Bool) (docs : GName → Option (List Triple))
    (cs : List Clause) (c : QCtx) : qInit a lg docs c cs = qInit b lg docs c cs := by
  induction cs generalizing c with
  | nil => rfl
  | cons cl cs ih => cases cl <;> (unfold qInit; rw [h]; simp only [ih])

theorem anyEmpty_congr {a b : State} (h : a.quads = b.quads) (gs : List GName) : anyEmpty a gs = anyEmpty b gs := by
  induction gs with
  | nil => rfl
  | cons g gs ih => unfold anyEmpty; rw [h, ih]

theorem constBlocks_congr {a b : State} (h : a.quads = b.quads) (known gs : List GName) :
    constBlocks a known gs = constBlocks b known gs := by
  induction gs with
  | nil => rfl
  | cons g gs ih => unfold constBlocks; rw [h, ih]

/-- the prefix bindings DESCRIBE copies into its fresh result graph do not influence the triples -/
theorem describeAll_triples_congr {active : List Triple} {isBlank : Nat → Bool} {rs : List Nat} {rg rg' : ResultGraph}
    (h : rg.triples = rg'.triples) :
    (describeAll active isBlank rg rs).triples = (describeAll active isBlank rg' rs).triples := by
  induction rs generalizing rg rg' with
  | nil => exact h
  | cons r rs ih =>
    unfold describeAll
    exact ih (by simp only [h])

theorem answer_ns_irrel {q : QShape} {active : List Triple} {named : List (GName × List Triple)}
    {n1 n2 : List Nat} : q.answer active named n1 = q.answer active named n2 := by
  unfold QShape.answer
  cases q.kind with
  | describe isBlank => exact congrArg Out.triples (describeAll_triples_congr rfl)
  | _ => rfl

theorem query_out_congr {a b : State} (hq : b.quads = a.quads) (hu : b.defaultUnion = a.defaultUnion)
    (hd : b.dname = a.dname) (hc : b.contextsCall.2 = a.contextsCall.2) (qq : QShape) :
    (b.query qq).2 = (a.query qq).2 := by
  have h1 : b.contextsCall.1.quads = a.contextsCall.1.quads := by rw [contextsCall_quads, contextsCall_quads, hq]
  unfold State.query
  rw [qInit_congr hq, anyEmpty_congr hq, constBlocks_congr h1, hc]
  refine ite_snd_congr (ite_snd_congr ?_ ?_) ?_
  · simp only [contextsCall_fst, State.queryDefault, State.visible, namedBlocks, hq, hu, hd]
    exact answer_ns_irrel
  · simp only [State.queryDefault, State.visible, hq, hu, hd]
    exact answer_ns_irrel
  · cases qInit a qq.loadGraphs qq.docs ⟨[], emptyDataset⟩ qq.clauses <;> rfl

theorem run_out_congr {a b : State} (fr : Frame a b) (hc : b.contextsCall.2 = a.contextsCall.2) (r : ReadOp) :
    (b.run r).2 = (a.run r).2 := by
  -- `names` plays no part: what the answer needs of the registered graphs is the listing `hc`
  obtain ⟨hq, hu, hi, hd, -⟩ := fr
  obtain ⟨q, k, u, i, d, n, bs⟩ := a
  obtain ⟨q', k', u', i', d', n', bs'⟩ := b
  simp only at hq hu hi hd
  subst hq hu hi hd
  -- the two states differ in `known`, `ns`, `dgBase` only: whatever mentions none of the three is the same term on
  -- both sides
  cases r with
  -- the answer is the second component of an `if` whose first components differ: compared branch by branch
  | serializeLongTurtle nsOf c f => exact ite_snd_congr rfl rfl
  | serializeCtxs | serializeHext | serializePatch =>
    simp only [State.run, State.serializeCtxs, State.serializeHext, State.serializePatch, contextsCall_quads,
      contextsCall_dname, hc]
  | graphs => exact congrArg Out.names hc
  | serializeTrig nsOf => refine trig_out_congr ?_ ?_ hc nsOf <;> rfl
  | serializeJsonld => refine jsonld_out_congr ?_ ?_ hc <;> rfl
  | query qq => refine query_out_congr ?_ ?_ ?_ hc qq <;> rfl
  | _ => rfl

theorem Reached.out {s x : State} (h : Reached s x) (hw : WF s) (r : ReadOp) : (x.run r).2 = (s.run r).2 :=
  run_out_congr (h.frame hw) h.listing r

theorem mayBindNs_congr {a b : State} (f : Frame a b) (r : ReadOp) (n : Nat) :
    r.mayBindNs b n ↔ r.mayBindNs a n := by
  have hv : b.visible = a.visible := by unfold State.visible; rw [f.quads, f.union, f.dname]
  unfold ReadOp.mayBindNs
  rw [hv, f.quads, f.isDataset]

theorem runView_state (s : State) (g : GName) (r : ReadOp) :
    NsExt (s.asView g) ((s.asView g).run r).1 := by
  rcases run_reached (s.asView g) r with h | h
  · exact h
  · -- `(s.asView g).isDataset` is `false` by definition: a view lists, it registers nothing
    rwa [contextsCall_of_listed fun hd => absurd hd Bool.false_ne_true] at h

theorem NsExt.asView {a b : State} (h : NsExt a b) (g : GName) : NsExt (a.asView g) (b.asView g) :=
  { h with union := rfl, isDataset := rfl, dname := rfl }

theorem runView_nsExt (s : State) (g : GName) (r : ReadOp) : NsExt s (s.runView g r).1 := by
  have h := runView_state s g r
  unfold State.runView
  exact { h with union := rfl, isDataset := rfl, dname := rfl }

theorem NsExt.runView_out {a b : State} (h : NsExt a b) (g : GName) (r : ReadOp) :
    (b.runView g r).2 = (a.runView g r).2 :=
  run_out_congr (h.asView g).frame (h.asView g).contextsCall_snd r

theorem mem_aggTriples {qs : List Quad} {pat : Pat} {t : Triple} {gs seen : List GName} :
    t ∈ aggTriples qs pat seen gs ↔
      pat.matches t = true ∧ (∃ g ∈ gs, (t, g) ∈ qs) ∧ ∀ g' ∈ seen, (t, g') ∉ qs := by
  induction gs generalizing seen with
  | nil => exact ⟨fun h => (nomatch h), fun ⟨_, ⟨_, h, _⟩, _⟩ => (nomatch h)⟩
  | cons g gs ih =>
    simp only [aggTriples, List.mem_append, List.mem_filter, mem_triplesOf, ih, exists_mem_cons_iff,
      Bool.and_eq_true, Bool.not_eq_true', List.any_eq_false, List.contains_iff_mem, List.mem_singleton, or_imp,
      forall_and, forall_eq]
    constructor
    · rintro (⟨h1, h2, h3⟩ | ⟨h1, h2, h3, -⟩)
      · exact ⟨h2, Or.inl h1, h3⟩
      · exact ⟨h1, Or.inr h2, h3⟩
    · rintro ⟨h1, h2, h3⟩
      -- a triple of a later member is yielded at `g` already when `g` holds it too
      by_cases hg : (t, g) ∈ qs
      · exact Or.inl ⟨hg, h1, h3⟩
      · exact Or.inr ⟨h1, h2.resolve_left hg, h3, hg⟩

theorem aggContains_iff (qs : List Quad) (pat : Pat) (gs : List GName) :
    aggContains qs pat gs = true ↔ ∃ t, pat.matches t = true ∧ ∃ g ∈ gs, (t, g) ∈ qs := by
  induction gs with
  | nil => simp [aggContains]
  | cons g gs ih =>
    simp only [aggContains, Bool.or_eq_true, ih, exists_mem_cons_iff, Bool.not_eq_true',
      List.isEmpty_eq_false_iff_exists_mem, List.mem_filter, mem_triplesOf, and_or_left, exists_or, and_comm]

theorem mem_aggQuads {qs : List Quad} {pat : Pat} {q : Quad} {gs : List GName} :
    q ∈ aggQuads qs pat gs ↔ pat.matches q.1 = true ∧ q.2 ∈ gs ∧ q ∈ qs := by
  induction gs with
  | nil => simp [aggQuads]
  | cons g gs ih =>
    obtain ⟨t, g0⟩ := q
    simp only [aggQuads, List.mem_append, mem_tagWith, List.mem_filter, mem_triplesOf, ih, List.mem_cons]
    constructor
    · rintro (⟨rfl, h2, h3⟩ | ⟨h1, h2, h3⟩)
      · exact ⟨h3, Or.inl rfl, h2⟩
      · exact ⟨h1, Or.inr h2, h3⟩
    · rintro ⟨h1, rfl | h2, h3⟩
      · exact Or.inl ⟨rfl, h3, h1⟩
      · exact Or.inr ⟨h1, h2, h3⟩

theorem transWalk_inv {ts : List Triple} {p : Nat} {fwd : Bool} (P : List Nat → List Nat → Prop) {Q : List Nat → Prop}
    (skip : ∀ {x stack seen}, P (x :: stack) seen → P stack seen)
    (push : ∀ {x stack seen}, x ∉ seen → P (x :: stack) seen → P (stepNodes ts p fwd x ++ stack) (seen ++ [x]))
    (done : ∀ {stack seen}, P stack seen → Q seen)
    {n : Nat} {stack seen : List Nat} (h : P stack seen) : Q (transWalk ts p fwd n stack seen) := by
  induction n generalizing stack seen with
  | zero => exact done h
  | succ n ih =>
    cases stack with
    | nil => exact done h
    | cons x stack =>
      unfold transWalk
      split
      · exact ih (skip h)
      · next hx => exact ih (push (by simpa using hx) h)

theorem transWalk_mono {ts : List Triple} {p : Nat} {fwd : Bool} {n : Nat} {stack seen : List Nat} {y : Nat}
    (h : y ∈ seen) : y ∈ transWalk ts p fwd n stack seen :=
  transWalk_inv (fun _ seen => y ∈ seen) id (fun _ h => List.mem_append_left _ h) id h

theorem transWalk_start {ts : List Triple} {p : Nat} {fwd : Bool} {n x : Nat} {stack seen : List Nat} :
    x ∈ transWalk ts p fwd (n + 1) (x :: stack) seen := by
  unfold transWalk
  split
  · next h => exact transWalk_mono (by simpa using h)
  · exact transWalk_mono (List.mem_append_right _ (List.mem_singleton.mpr rfl))

theorem transWalk_nodup {ts : List Triple} {p : Nat} {fwd : Bool} {n : Nat} {stack seen : List Nat}
    (h : seen.Nodup) : (transWalk ts p fwd n stack seen).Nodup :=
  -- `seen ++ [x]` is `sinsert seen x` when `x ∉ seen`
  transWalk_inv (fun _ seen => seen.Nodup) id (fun hx h => by rw [← sinsert_of_not_mem hx]; exact nodup_sinsert h) id h

theorem transWalk_sound {ts : List Triple} {p : Nat} {fwd : Bool} {Q : Nat → Prop}
    (hQ : ∀ x, ∀ y ∈ stepNodes ts p fwd x, Q y) {n : Nat} {stack seen : List Nat}
    (h1 : ∀ y ∈ seen, Q y) (h2 : ∀ y ∈ stack, Q y) : ∀ y ∈ transWalk ts p fwd n stack seen, Q y :=
  transWalk_inv (fun stack seen => (∀ y ∈ seen, Q y) ∧ ∀ y ∈ stack, Q y)
    (fun h => ⟨h.1, (List.forall_mem_cons.mp h.2).2⟩)
    (fun _ h => ⟨List.forall_mem_append.mpr ⟨h.1, List.forall_mem_singleton.mpr (List.forall_mem_cons.mp h.2).1⟩,
      List.forall_mem_append.mpr ⟨hQ _, (List.forall_mem_cons.mp h.2).2⟩⟩)
    (·.1) ⟨h1, h2⟩

theorem exists_of_mem_stepNodes {ts : List Triple} {p : Nat} {fwd : Bool} {x y : Nat} (h : y ∈ stepNodes ts p fwd x) :
    ∃ t ∈ ts, t.2.1 = p ∧ y = (if fwd then t.2.2 else t.1) := by
  unfold stepNodes at h
  cases fwd
  all_goals
    obtain ⟨t, ht, rfl⟩ := List.mem_map.mp h
    obtain ⟨ht, hf⟩ := List.mem_filter.mp ht
    exact ⟨t, ht, eq_of_beq ((Bool.and_eq_true _ _).mp hf).2, rfl⟩

end RV.C13

import RV.C13.Lemmas
/-
  C13 — property theorems.  "Reading a graph never changes it: serialise, query, compare are pure."

  `ReadOp`, `State.run`, `ReadOp.mayBind` are in Model.lean; `WF`, `Write`, `Frame`, `NsExt`, `ReadOp.mayBindNs` at the
  head of Lemmas.lean.  Most proofs are projections of `Reached s (s.run r).1` (Lemmas.lean: where a read can take `s`).
-/
namespace RV.C13

/-- every read leaves the quads and the set of graphs exactly as they were — for every dataset,
    including blank-node-named and registered-empty graphs, `defaultUnion` on or off,
    Dataset / ConjunctiveGraph / plain Graph, whatever prefixes are bound.  (Prefix bindings, the `ns`
    component, are outside the statement: see `namespaces_may_grow`.) -/
def Statement_read_frame : Prop :=
  ∀ (s : State) (r : ReadOp), WF s →
    (s.run r).1.quads = s.quads ∧ SetEq (s.run r).1.graphNames s.graphNames ∧
    (s.run r).1.defaultUnion = s.defaultUnion ∧ (s.run r).1.isDataset = s.isDataset ∧
    (s.run r).1.dname = s.dname

/-- the same read twice in a row gives the same answer (the modelled reads mint nothing and
    read no clock; `body`/`canon`/`digest` are functions) -/
def Statement_read_deterministic : Prop :=
  ∀ (s : State) (r : ReadOp), WF s → (s.run r).2 = ((s.run r).1.run r).2

/-- any sequence of reads, in any order and repetition, leaves quads, configuration and set of graphs as they were -/
def Statement_frame_compose : Prop :=
  ∀ (s : State) (rs : List ReadOp), WF s → Frame s (s.runAll rs) ∧ WF (s.runAll rs)

/-- … and a read answers after any sequence of reads what it answers before it -/
def Statement_read_after_reads_same : Prop :=
  ∀ (s : State) (rs : List ReadOp) (r : ReadOp), WF s → ((s.runAll rs).run r).2 = (s.run r).2

/-- `ConjunctiveGraph._graph` on a view of the SAME store as rdflib had it before its fix (`State.graphView`; no
    `ReadOp` runs it, see `State.resolveCtx`): the self-copy `_graph.__iadd__(c)` is the identity; all that can happen
    is the registration of the default graph by the `contexts()` scan -/
def Statement_same_store_view_is_noop : Prop :=
  ∀ (s : State) (g : GName), WF s → s.graphView g = s.contextsCall.1 ∧ Frame s (s.graphView g)

/-- the hypothesis `WF` costs nothing: every history of `add` / `register` writes from an empty store gives it -/
def Statement_wf_reachable : Prop :=
  ∀ (du ds : Bool) (dn : GName) (ws : List Write), (ds = true → dn = .dflt) →
    WF ((⟨[], [], du, ds, dn, [], none⟩ : State).writes ws)

/-- Prefix bindings: only the reads with `mayBind` (turtle/n3, longturtle, rdf/xml, pretty-xml, trig,
    `qname`/`compute_qname`) can add bindings; bindings are never removed; what is added is the namespace of a
    predicate (pretty-xml: or class) the serializer writes / of the IRI asked for (`mayBindNs`); and — by
    `read_frame` — nothing else changes. -/
def Statement_namespaces_may_grow : Prop :=
  ∀ (s : State) (r : ReadOp), WF s →
    (r.mayBind = false → (s.run r).1.ns = s.ns) ∧
    (∀ n ∈ s.ns, n ∈ (s.run r).1.ns) ∧
    (∀ n ∈ (s.run r).1.ns, n ∈ s.ns ∨ r.mayBindNs s n)

/-- Prefix bindings, EXACTLY: after a read the namespaces with a prefix are those that had one before plus
    every namespace `mayBindNs` names — each predicate namespace of a triple the Turtle-family / RDF-XML
    serializers write (pretty-xml: and each class namespace), every predicate namespace of the dataset for TriG,
    the namespace of the IRI handed to `qname`; nothing for any other read. -/
def Statement_namespaces_exact : Prop :=
  ∀ (s : State) (r : ReadOp) (n : Nat), WF s →
    (n ∈ (s.run r).1.ns ↔ n ∈ s.ns ∨ r.mayBindNs s n)

/-- a read binds everything it is going to bind the FIRST time: the same read again adds no prefix
    (with `read_frame` and `read_deterministic`: reading twice is reading once, on all three axes) -/
def Statement_bindings_idempotent : Prop :=
  ∀ (s : State) (r : ReadOp) (n : Nat), WF s →
    (n ∈ ((s.run r).1.run r).1.ns ↔ n ∈ (s.run r).1.ns)

/-- attributes of the object being read that are not triples: the base IRI of the default graph
    (`Dataset(default_graph_base=…)`, `default_context.base`) is the same after every read, after every sequence of
    reads and after every read through a view — `Dataset.graphs()/contexts()` assign `base` to the NEW Graph object
    `self.graph(DATASET_DEFAULT_GRAPH_ID)` builds, never to the dataset's own default graph.  (`default_union`, the
    identifier of the default graph and the kind of graph are the configuration clauses of `read_frame`.) -/
def Statement_read_frame_attributes : Prop :=
  ∀ (s : State), WF s →
    (∀ r, (s.run r).1.dgBase = s.dgBase) ∧ (∀ rs, (s.runAll rs).dgBase = s.dgBase) ∧
    (∀ g r, (s.runView g r).1.dgBase = s.dgBase)

/-- a read through a `Graph` VIEW of one context (`ds.get_context(g)`, any `g` — also an unknown or empty one):
    quads, registered graphs (literally: a view never registers the default graph) and the dataset's configuration
    unchanged, bindings only grow, and the same read again gives the same answer -/
def Statement_view_read_frame : Prop :=
  ∀ (s : State) (g : GName) (r : ReadOp), WF s →
    (s.runView g r).1.quads = s.quads ∧ (s.runView g r).1.known = s.known ∧
    (s.runView g r).1.defaultUnion = s.defaultUnion ∧ (s.runView g r).1.isDataset = s.isDataset ∧
    (s.runView g r).1.dname = s.dname ∧ (∀ n ∈ s.ns, n ∈ (s.runView g r).1.ns) ∧
    (s.runView g r).2 = ((s.runView g r).1.runView g r).2

/-- `ReadOnlyGraphAggregate` over views of the store (member list `gs`, duplicates allowed): `triples(pat)` are exactly
    the matching triples some member holds (the skipping of triples an earlier member holds loses nothing),
    `pat in agg` says whether there is one, `quads(pat)` are exactly the members' matching quads (`aggTriples`,
    `aggContains`, `aggQuads` on `s.quads` are what the reads answer, by definition of `State.run`); and the four reads
    leave the state literally unchanged -/
def Statement_aggregate_reads : Prop :=
  ∀ (s : State) (gs : List GName) (pat : Pat),
    (∀ t, t ∈ aggTriples s.quads pat [] gs ↔ pat.matches t = true ∧ ∃ g ∈ gs, (t, g) ∈ s.quads) ∧
    (aggContains s.quads pat gs = true ↔ ∃ t, t ∈ aggTriples s.quads pat [] gs) ∧
    (∀ q, q ∈ aggQuads s.quads pat gs ↔ pat.matches q.1 = true ∧ q.2 ∈ gs ∧ q ∈ s.quads) ∧
    (s.run (.aggLen gs)).1 = s ∧ (s.run (.aggTriples gs pat)).1 = s ∧
    (s.run (.aggContains gs pat)).1 = s ∧ (s.run (.aggQuads gs pat)).1 = s

/-- `Graph.transitive_objects(x, p)` / `transitive_subjects(p, x)` (depth-first walk with the `remember` dict): the
    graph is returned as it is; the start node is yielded, every node once, and everything yielded is the start node or
    the object (subject) of a triple with predicate `p` of the graph being read (the `transWalk` term is, by definition
    of `State.run`, the one row `.transitive x p fwd` answers) -/
def Statement_transitive_walk : Prop :=
  ∀ (s : State) (x p : Nat) (fwd : Bool),
    (s.run (.transitive x p fwd)).1 = s ∧
    x ∈ transWalk s.visible p fwd (s.visible.length + 2) [x] [] ∧
    (transWalk s.visible p fwd (s.visible.length + 2) [x] []).Nodup ∧
    ∀ y ∈ transWalk s.visible p fwd (s.visible.length + 2) [x] [],
      y = x ∨ ∃ t ∈ s.visible, t.2.1 = p ∧ y = (if fwd then t.2.2 else t.1)

/-- the pre-fix JSON-LD serializer (kept as `serializeJsonldBuggy`) would satisfy the frame clause -/
def Statement_jsonld_buggy_frame : Prop :=
  ∀ (s : State), WF s → s.serializeJsonldBuggy.1.quads = s.quads

theorem read_frame : Statement_read_frame := by
  intro s r h
  have f := (run_reached s r).frame h
  exact ⟨f.quads, f.names, f.union, f.isDataset, f.dname⟩

theorem read_deterministic : Statement_read_deterministic :=
  fun s r h => ((run_reached s r).out h r).symm

theorem frame_compose : Statement_frame_compose :=
  fun s rs h => ⟨(runAll_reached s rs).frame h, (runAll_reached s rs).wf h⟩

theorem read_after_reads_same : Statement_read_after_reads_same :=
  fun s rs r h => (runAll_reached s rs).out h r

theorem same_store_view_is_noop : Statement_same_store_view_is_noop := by
  intro s g h
  rw [graphView_eq h g]
  exact ⟨rfl, contextsCall_frame h⟩

theorem wf_reachable : Statement_wf_reachable :=
  fun _ _ _ ws hd => wf_writes ws ⟨fun _ hq => (nomatch hq), hd⟩

theorem namespaces_exact : Statement_namespaces_exact := by
  intro s r n h
  by_cases hb : r.mayBind = false
  · rw [run_nobind_ns hb]
    exact ⟨Or.inl, (·.elim id fun hm => absurd (hb.symm.trans (mayBind_of_mayBindNs hm)) Bool.false_ne_true)⟩
  · -- the six binding reads in the order of `ReadOp.mayBind`, as in `run_reached`; where a serializer makes two passes the
    -- second can only re-bind what the first bound (`or_self`)
    unfold ReadOp.mayBind at hb
    split at hb
    · next nsOf =>
      simp only [State.run, State.serializeTurtle, ReadOp.mayBindNs, mem_preprocessTriples_ns, or_assoc, or_self]
    · next nsOf c f =>
      simp only [State.run, State.serializeLongTurtle, ReadOp.mayBindNs]
      cases (c && s.isDataset && !s.quads.isEmpty)
      · simp only [Bool.false_eq_true, if_false, mem_preprocessTriples_ns, true_and, or_assoc, or_self]
      · simp only [if_true, Bool.true_eq_false, false_and, or_false]
    · next nsOf =>
      simp only [State.run, State.serializeXml, ReadOp.mayBindNs, mem_bindPredicates_ns, or_assoc, or_self]
    · next nsOf ty d =>
      simp only [State.run, State.serializePrettyXml, ReadOp.mayBindNs, mem_bindTypes_ns, mem_bindPredicates_ns,
        or_assoc, and_or_left, exists_or]
    · next nsOf =>
      simp only [State.run, State.serializeTrig, ReadOp.mayBindNs]
      rw [mem_trigPreprocess_ns, contextsCall_fst]
      -- every graph holding a quad is registered (`WF`), hence in the context list
      exact or_congr_right (exists_congr fun q => and_congr_right fun hq => and_iff_right
        (mem_trigContexts_of_mem (mem_contextsCall.mpr (Or.inl (h.1 q hq)))))
    · next nsOf t => simp only [State.run, ReadOp.mayBindNs, mem_getQName_ns, true_and]
    · exact absurd rfl hb

theorem namespaces_may_grow : Statement_namespaces_may_grow :=
  fun s r h => ⟨run_nobind_ns, fun n hn => (namespaces_exact s r n h).mpr (Or.inl hn),
    fun n => (namespaces_exact s r n h).mp⟩

theorem bindings_idempotent : Statement_bindings_idempotent := by
  intro s r n h
  rw [namespaces_exact _ r n ((run_reached s r).wf h), mayBindNs_congr ((run_reached s r).frame h)]
  exact ⟨(·.elim id fun hm => (namespaces_exact s r n h).mpr (Or.inr hm)), Or.inl⟩

theorem read_frame_attributes : Statement_read_frame_attributes :=
  fun s _ => ⟨fun r => (run_reached s r).base, fun rs => (runAll_reached s rs).base,
    fun g r => (runView_nsExt s g r).base⟩

theorem view_read_frame : Statement_view_read_frame := by
  intro s g r _
  have f := runView_nsExt s g r
  exact ⟨f.quads, f.known, f.union, f.isDataset, f.dname, f.mono, (f.runView_out g r).symm⟩

theorem aggregate_reads : Statement_aggregate_reads := by
  intro s gs pat
  have ht : ∀ t, t ∈ aggTriples s.quads pat [] gs ↔ pat.matches t = true ∧ ∃ g ∈ gs, (t, g) ∈ s.quads :=
    fun t => mem_aggTriples.trans
      (and_congr_right fun _ => and_iff_left fun _ h => nomatch h)
  refine ⟨ht, ?_, fun q => mem_aggQuads, rfl, rfl, rfl, rfl⟩
  rw [aggContains_iff]
  exact exists_congr fun t => (ht t).symm

theorem transitive_walk : Statement_transitive_walk :=
  fun _ _ _ _ => ⟨rfl, transWalk_start, transWalk_nodup List.nodup_nil,
    transWalk_sound (fun _ _ h => Or.inr (exists_of_mem_stepNodes h)) (fun _ h => nomatch h)
      (List.forall_mem_singleton.mpr (Or.inl rfl))⟩

/-- one blank-node-named graph holding one triple; default graph not registered yet -/
def witness : State := ⟨[((4, 10, 23), .bnode 3)], [.bnode 3], false, true, .dflt, [], none⟩

/-- the pre-fix code copies the blank-node graph's triple into the dataset's own default graph -/
theorem jsonld_buggy_breaks_frame : ¬ Statement_jsonld_buggy_frame := by
  intro h
  exact absurd (h witness (by decide +kernel)) (by decide +kernel)

/-- the repaired code on the same dataset: state unchanged, the default graph of the dataset AND of the output
    stay empty, the blank-node-named graph is written as a named graph -/
example : (witness.run .serializeJsonld).1.quads = witness.quads ∧
    (witness.run .serializeJsonld).2 = .blocks [(.dflt, []), (.bnode 3, [(4, 10, 23)])] := by decide +kernel

/-- `ds.triples(pat, context=foreign)` / `(s, p, o, foreign) in ds` go through `_graph(foreign)`,
    which copies the foreign graph's triples into `ds`.  This is a write by construction (the code
    comment says "Copy the graph triples so they're added to the store"), so it is not a `ReadOp`;
    the correspondence check passes identifiers and same-store views only. -/
theorem foreign_graph_copy_is_write :
    ∃ (s : State) (g : GName) (ts : List Triple), WF s ∧ (s.graphForeign g ts).quads ≠ s.quads :=
  ⟨witness, .iri 1, [(1, 10, 2)], by decide +kernel, by decide +kernel⟩

/-- a dataset with an IRI-named, a blank-node-named and a registered-empty graph, a triple shared by two
    graphs, a populated default graph -/
def sample : State :=
  ⟨[((1, 10, 2), .dflt), ((1, 10, 2), .iri 1), ((4, 11, 20), .bnode 3), ((4, 11, 5), .bnode 3)],
   [.dflt, .iri 1, .bnode 3, .iri 2], true, true, .dflt, [7], none⟩

example : WF sample := by decide +kernel
example : WF witness := by decide +kernel

/-- `graphs()` on `witness` really registers the default graph (why `read_frame` compares `graphNames`, which
    count the default graph on both sides) … -/
example : (witness.run .graphs).1.known = [.bnode 3, .dflt] ∧ witness.known = [.bnode 3] := by decide +kernel
/-- … quad membership through a same-store view: the view is used as it is, the answer is about THAT graph; the
    self-copy rdflib performed before its fix (`graphView`) executes store writes that change nothing -/
example : (sample.run (.contains4 (none, none, none) (.view (.bnode 3)))).1 = sample ∧
    (sample.run (.contains4 (some 4, none, none) (.view (.bnode 3)))).2 = .bool true ∧
    (sample.run (.contains4 (some 1, none, none) (.view (.bnode 3)))).2 = .bool false ∧
    (sample.graphView (.bnode 3)) = sample := by decide +kernel
/-- without `WF` (a quad whose graph was never registered) the self-copy WOULD register the graph:
    the hypothesis is used -/
example : ¬ SetEq ((⟨[((1, 10, 2), .iri 7)], [], false, true, .dflt, [], none⟩ : State).graphView (.iri 7)).graphNames
    (⟨[((1, 10, 2), .iri 7)], [], false, true, .dflt, [], none⟩ : State).graphNames := by
  intro h
  exact absurd ((h (.iri 7)).mp (by decide +kernel)) (by decide +kernel)
/-- documents a FROM clause can load in the examples: IRI 50 holds two triples, nothing else loads -/
def sampleDocs : GName → Option (List Triple)
  | .iri 50 => some [(2, 10, 3), (1, 11, 24)]
  | _ => none

/-- FROM / FROM NAMED: the answer is computed from scratch copies, the dataset is returned untouched -/
example : (sample.run (.query ⟨[.dflt (.iri 1), .named (.bnode 3)], true, [], true, sampleDocs,
      fun v => [[v.dflt.length, v.named.length]], .select, true⟩)) = (sample, .rows [[1, 1]]) := by decide +kernel
/-- one known non-empty FROM graph plus a LOADABLE document: the document's
    triples join the scratch default graph (1 + 2 triples are visible to the query), the dataset is untouched;
    with SPARQL_LOAD_GRAPHS off nothing is loaded; an IRI that cannot be loaded raises — state untouched -/
example : (sample.run (.query ⟨[.dflt (.iri 1), .dflt (.iri 50)], false, [], true, sampleDocs,
      fun v => [[v.dflt.length]], .select, true⟩)) = (sample, .rows [[3]]) := by decide +kernel
example : (sample.run (.query ⟨[.dflt (.iri 1), .dflt (.iri 50)], false, [], false, sampleDocs,
      fun v => [[v.dflt.length]], .select, true⟩)) = (sample, .rows [[1]]) := by decide +kernel
example : (sample.run (.query ⟨[.dflt (.iri 1), .named (.iri 51)], false, [], true, sampleDocs,
      fun v => [[v.dflt.length]], .select, true⟩)) = (sample, .err) := by decide +kernel
/-- CONSTRUCT and DESCRIBE fill a fresh result graph; `GRAPH <g>` switches the context's graph, not the dataset -/
example : (sample.run (.query ⟨[], false, [.bnode 3], true, sampleDocs,
      fun v => (v.named.map (fun b => b.2.length)) :: [], .construct (fun r => r.map (fun x => (x, x, x))), true⟩))
    = (sample, .triples [(2, 2, 2)]) := by decide +kernel
example : (sample.run (.query ⟨[], false, [], true, sampleDocs, fun _ => [[1]], .describe (fun _ => false), true⟩))
    = (sample, .triples [(1, 10, 2)]) := by decide +kernel

/-- namespaces of the example terms: predicate 10 lives in namespace 7 (already bound in `sample`),
    predicate 11 in namespace 8 (unbound), class 20 in namespace 9 -/
def sampleNs : Nat → Option Nat
  | 10 => some 7
  | 11 => some 8
  | 20 => some 9
  | _ => none

/-- Turtle on `sample` (union view): the unbound namespace 8 of predicate 11 gets a prefix; quads, graphs untouched -/
example : (sample.run (.serializeTurtle sampleNs)).1 = { sample with ns := [7, 8] } := by decide +kernel
/-- pretty-xml with `rdf:type` = 11 additionally binds the namespace of the class 20 -/
example : (sample.run (.serializePrettyXml sampleNs 11 3)).1.ns = [7, 8, 9] := by decide +kernel
/-- longturtle with `canon=True` reads a relabelled scratch copy but still binds in the ORIGINAL's tables -/
example : (({ sample with isDataset := false } : State).run
      (.serializeLongTurtle sampleNs true (fun ts => ts.map (fun t => (t.1 + 100, t.2.1, t.2.2))))).1
    = { sample with isDataset := false, ns := [7, 8] } := by decide +kernel
/-- … on a `Dataset` `canon=True` raises while canonicalising (iteration yields quads): nothing is bound -/
example : sample.run (.serializeLongTurtle sampleNs true (fun ts => ts.map (fun t => (t.1 + 100, t.2.1, t.2.2))))
    = (sample, .err) := by decide +kernel
/-- TriG registers the default graph (already registered here) and binds per context -/
example : (sample.run (.serializeTrig sampleNs)).1 = { sample with ns := [7, 8] } := by decide +kernel
/-- patch with `target=`: the two datasets it builds are scratch -/
example : (sample.run (.serializePatchTarget [((1, 10, 2), .dflt), ((9, 9, 9), .iri 5)])).1 = sample := by decide +kernel
example : (sample.run .serializeCtxs).1 = sample ∧ (sample.run .serializeJsonld).1 = sample ∧
    (sample.run (.skolemize (· + 1000))).1 = sample := by decide +kernel

/-- a dataset with a base for its default graph, default graph never registered: listing the graphs registers the
    default graph and leaves the base alone -/
example : (({ witness with dgBase := some 1 } : State).run .graphs).1
    = { witness with dgBase := some 1, known := [.bnode 3, .dflt] } := by decide +kernel

/-- Turtle through a VIEW of the blank-node-named graph (predicate 11, namespace 8): binds 8, registers nothing, and
    the dataset keeps its own configuration; through a view of an UNKNOWN graph nothing at all happens -/
example : (sample.runView (.bnode 3) (.serializeTurtle sampleNs)).1 = { sample with ns := [7, 8] } ∧
    (sample.runView (.bnode 3) (.serializeTurtle sampleNs)).2 = .triples [(4, 11, 20), (4, 11, 5)] ∧
    (sample.runView (.iri 77) (.serializeTurtle sampleNs)) = (sample, .triples []) := by decide +kernel
/-- on `witness` (default graph not registered) a view read does NOT register it, the dataset's own `graphs()` does -/
example : (witness.runView (.bnode 3) .serializeCtxs).1 = witness ∧ (witness.run .serializeCtxs).1 ≠ witness := by decide +kernel

/-- an aggregate over the default graph, `urn:g:1` and the default graph again: `len` counts the shared triple three
    times, `triples` yields it once, `quads` once per member -/
example : (sample.run (.aggLen [.dflt, .iri 1, .dflt])).2 = .nat 3 ∧
    (sample.run (.aggTriples [.dflt, .iri 1, .dflt] (none, none, none))).2 = .triples [(1, 10, 2)] ∧
    (sample.run (.aggQuads [.dflt, .iri 1, .dflt] (some 1, none, none))).2
      = .quads [((1, 10, 2), .dflt), ((1, 10, 2), .iri 1), ((1, 10, 2), .dflt)] ∧
    (sample.run (.aggContains [.iri 1] (some 4, none, none))).2 = .bool false := by decide +kernel
/-- `len` of a Dataset counts every triple of the store once (not the default graph, not per graph); iterating it
    yields quads; `quads((…, g))` selects in `g` but reports every graph holding the triple -/
example : (({ sample with defaultUnion := false } : State).run .len).2 = .nat 3 ∧
    (sample.run .iter).2 = .quads sample.quads ∧
    (sample.run (.quads4 (none, none, none) (.ident (.iri 1)))).2
      = .quads [((1, 10, 2), .dflt), ((1, 10, 2), .iri 1)] := by decide +kernel

/-- transitive walk over a cycle 1 → 2 → 1 plus a branch: terminates, each node once; hext writes a registered
    non-empty default graph twice -/
example : ((⟨[((1, 10, 2), .dflt), ((2, 10, 1), .dflt), ((2, 10, 3), .dflt), ((3, 11, 4), .dflt)],
      [.dflt], false, true, .dflt, [], none⟩ : State).run (.transitive 1 10 true)).2 = .rows [[1, 2, 3]] ∧
    (sample.run (.transitive 2 10 false)).2 = .rows [[2, 1]] ∧
    (sample.run .serializeHext).2 = .blocks [(.dflt, [(1, 10, 2)]), (.iri 1, [(1, 10, 2)]),
      (.bnode 3, [(4, 11, 20), (4, 11, 5)]), (.iri 2, []), (.dflt, [(1, 10, 2)])] := by decide +kernel

/-- `g.skolemize(new_graph=h)` with `h` on the same store adds the skolemized copy to `h`: a write, where
    `new_graph=None` (a fresh graph, `ReadOp.skolemize`) is a read -/
theorem skolemize_into_same_store_is_write :
    ∃ (s : State) (h : GName) (sk : Nat → Nat), WF s ∧ (s.skolemizeInto h sk).quads ≠ s.quads :=
  ⟨sample, .iri 1, (· + 1000), by decide +kernel, by decide +kernel⟩

end RV.C13

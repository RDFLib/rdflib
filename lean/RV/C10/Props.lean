import RV.C10.Fresh
import RV.C10.Translate
import RV.C10.WhereAlg
/-
  C10 — property statements and theorems.

  "INSERT DATA, DELETE DATA, DELETE WHERE, DELETE/INSERT … WHERE (WITH, USING, GRAPH templates),
   CLEAR, DROP, ADD, MOVE and COPY transform the dataset into exactly the dataset the SPARQL 1.1
   Update specification defines."

  The specification side (`Spec.*`) is SPARQL 1.1 Update §4.3 / §3 written as membership
  predicates over the quad set BEFORE the operation; the model side is `Model.lean` (loops as
  rdflib codes them).  WHERE solutions are the model's `Modify.solutions` evaluated on the state before: for
  the BGP modes the model's own matcher (tied to rdflib by the correspondence run and the harness' independent
  matcher only); for `WMode.alg` the C04 model of rdflib's evaluator, which `modify_where_spec_partial` relates to
  the §18 semantics `RV.C04.Spec.eval`.
-/
namespace RV.C10

/-! ## Specification (SPARQL 1.1 Update §4.3) -/
namespace Spec

/-- μ extended by sk on blank-node labels (sk_μ of the formal model) -/
def subst (μ : Binding) (sk : Nat → Option Nat) : TTerm → Option Term
  | .const c => some c
  | .var v => blookup μ v
  | .label l => (sk l).map Term.fresh

/-- graph of an instantiated quad: outside GRAPH = the WITH graph, else the real default graph;
    a GRAPH variable must be bound to an IRI -/
def substG (μ : Binding) (tgt : GName) : GTerm → Option GName
  | .dflt => some tgt
  | .name g => some (some g)
  | .var v =>
    match blookup μ v with
    | some (.iri g) => some (some g)
    | _ => none

/-- `x` is the instance of template quad `q` under μ: every position bound, and a legal RDF quad
    (subject not a literal, predicate an IRI, graph name an IRI) -/
def Instance (μ : Binding) (sk : Nat → Option Nat) (tgt : GName) (q : QTpl) (x : Quad) : Prop :=
  subst μ sk q.1.1 = some x.1 ∧ subst μ sk q.1.2.1 = some x.2.1 ∧ subst μ sk q.1.2.2 = some x.2.2.1 ∧
  substG μ tgt q.2 = some x.2.2.2 ∧ x.1.isLit = false ∧ x.2.1.isIri = true

/-- Dataset(QuadPattern, μ, …) -/
def DatasetOf (μ : Binding) (sk : Nat → Option Nat) (tgt : GName) (tpl : List QTpl) (x : Quad) : Prop :=
  ∃ q ∈ tpl, Instance μ sk tgt q x

def noSk : Nat → Option Nat := fun _ => none

/-- OpDeleteInsert: (GS \ ⋃_μ Dataset(del, μ)) ∪ ⋃_μ Dataset(ins, μ); solution number `i` uses the
    fresh blank nodes `sk i` -/
def OpDeleteInsert (before : List Quad) (sols : List Binding) (sk : Nat → Nat → Option Nat) (tgt : GName)
    (del ins : List QTpl) (x : Quad) : Prop :=
  (x ∈ before ∧ ¬ ∃ μ ∈ sols, DatasetOf μ noSk tgt del x) ∨
  (∃ i μ, sols[i]? = some μ ∧ DatasetOf μ (sk i) tgt ins x)

/-- which graphs a CLEAR / DROP target denotes -/
def inTarget : Target → GName → Prop
  | .dflt, g => g = none
  | .named, g => g ≠ none
  | .all, _ => True
  | .graph n, g => g = some n

end Spec

/-- `_fillTemplate` produces exactly Dataset(QuadPattern, μ): a template quad with an unbound variable,
    a literal subject, a non-IRI predicate or a non-IRI graph name contributes nothing; every other one
    contributes its instance. -/
def Statement_template_skip : Prop :=
  ∀ (μ : Binding) (bm : List (Nat × Nat)) (tgt : GName) (tpl : List QTpl) (x : Quad),
    x ∈ fillTemplate μ bm tgt tpl ↔ Spec.DatasetOf μ (alookup bm) tgt tpl x

/-- consequence spelled out: nothing `_fillTemplate` yields has a literal subject or a non-IRI predicate -/
def Statement_template_legal : Prop :=
  ∀ (μ : Binding) (bm : List (Nat × Nat)) (tgt : GName) (tpl : List QTpl) (x : Quad),
    x ∈ fillTemplate μ bm tgt tpl → x.1.isLit = false ∧ x.2.1.isIri = true

/-- The blank nodes minted for solution `i` (supply at `n` when the INSERT loop starts): at or above the
    supply, and the same node is never handed out for two different (solution, label) pairs. -/
def Statement_fresh_per_solution : Prop :=
  ∀ (tpl : List QTpl) (n i j a b x y : Nat),
    alookup (solMap tpl n i) a = some x → alookup (solMap tpl n j) b = some y →
      n ≤ x ∧ (x = y → i = j ∧ a = b)

/-- every label of the template does get a node in every solution (a labelled position is never "unbound") -/
def Statement_fresh_total : Prop :=
  ∀ (tpl : List QTpl) (n i l : Nat), l ∈ tplLabels tpl → ∃ v, alookup (solMap tpl n i) l = some v

/-- ⊢ DELETE/INSERT … WHERE: the repaired `evalModify` leaves exactly OpDeleteInsert of the state before,
    for some supply of fresh blank nodes that is injective over (solution, label) and beyond the store's
    supply counter. -/
def Statement_modify_spec : Prop :=
  ∀ (c : Cfg) (u : Modify) (s : St),
    ∃ sk : Nat → Nat → Option Nat,
      (∀ i l v, sk i l = some v → s.next ≤ v) ∧
      (∀ i j l l' v, sk i l = some v → sk j l' = some v → i = j ∧ l = l') ∧
      ∀ x, x ∈ (evalModify c u s).quads ↔
        Spec.OpDeleteInsert s.quads (u.solutions c s) sk u.withG (u.del.getD []) (u.ins.getD []) x

/-- the per-solution loop of the pinned code computes the same dataset as the two passes -/
def Statement_modify_interleaved_same (c : Cfg) (u : Modify) (s : St) : Prop :=
  SetEq (evalModifyInterleaved c u s).quads (evalModify c u s).quads

/-- a decidable condition under which it does (sufficient, not necessary): no quad inserted for an earlier solution
    is deleted for a later one -/
def NoLaterDeletion (c : Cfg) (u : Modify) (s : St) : Prop :=
  (solPairs u.del u.ins u.withG (u.solutions c s) s.next).Pairwise (fun a b => ∀ y ∈ a.2, y ∉ b.1)

instance (c : Cfg) (u : Modify) (s : St) : Decidable (NoLaterDeletion c u s) := by
  unfold NoLaterDeletion; infer_instance

/-- DELETE WHERE: solutions are those of the state before the first deletion -/
def Statement_delete_where_snapshot : Prop :=
  ∀ (c : Cfg) (bs : List Block) (s : St) (x : Quad),
    x ∈ (evalDeleteWhere c bs s).quads ↔
      x ∈ s.quads ∧ ¬ ∃ μ ∈ evalWhere (storeDataset c s none) bs none,
        Spec.DatasetOf μ Spec.noSk none (blocksToTpl bs) x

def Statement_insert_data_spec : Prop :=
  ∀ (tpl : List QTpl) (s : St) (x : Quad),
    x ∈ (evalInsertData tpl s).quads ↔
      x ∈ s.quads ∨ Spec.DatasetOf [] (alookup (mkMap (tplLabels tpl) s.next)) none tpl x

def Statement_delete_data_spec : Prop :=
  ∀ (tpl : List QTpl) (s : St) (x : Quad),
    x ∈ (evalDeleteData tpl s).quads ↔ x ∈ s.quads ∧ ¬ Spec.DatasetOf [] Spec.noSk none tpl x

def Statement_clear_spec : Prop :=
  ∀ (c : Cfg) (t : Target) (s : St) (x : Quad), KnownInv s → SingleInv c s →
    (x ∈ (evalClear c t s).quads ↔ x ∈ s.quads ∧ ¬ Spec.inTarget t x.graph)

def Statement_drop_spec : Prop :=
  ∀ (c : Cfg) (t : Target) (s : St) (x : Quad), KnownInv s → SingleInv c s →
    (x ∈ (evalDrop c t s).quads ↔ x ∈ s.quads ∧ ¬ Spec.inTarget t x.graph)

/-- ADD: the target gains the source's triples; source = target is a no-op (uniform formula) -/
def Statement_add_spec : Prop :=
  ∀ (src dst : GName) (s : St) (x : Quad),
    x ∈ (evalAdd src dst s).quads ↔ x ∈ s.quads ∨ (x.graph = dst ∧ (x.1, x.2.1, x.2.2.1, src) ∈ s.quads)

/-- COPY: the target becomes a copy of the source; everything else untouched; source = target: no-op -/
def Statement_copy_spec : Prop :=
  ∀ (src dst : GName) (s : St) (x : Quad),
    x ∈ (evalCopy src dst s).quads ↔
      (x.graph ≠ dst ∧ x ∈ s.quads) ∨ (x.graph = dst ∧ (x.1, x.2.1, x.2.2.1, src) ∈ s.quads)

/-- MOVE: as COPY, and the source is gone (unless source = target: no-op) -/
def Statement_move_spec : Prop :=
  ∀ (src dst : GName) (s : St) (x : Quad),
    x ∈ (evalMove src dst s).quads ↔
      (x.graph ≠ dst ∧ x.graph ≠ src ∧ x ∈ s.quads) ∨ (x.graph = dst ∧ (x.1, x.2.1, x.2.2.1, src) ∈ s.quads)

/-- operations of one request run in lexical order: running `u₁ ; u₂` is running `u₂` from where `u₁` ended
    (including "a failed operation aborts the rest") -/
def Statement_request_in_order : Prop :=
  ∀ (c : Cfg) (u₁ u₂ : List Op) (s : St),
    runRequest c (u₁ ++ u₂) s = u₂.foldl (Run.step c) (runRequest c u₁ s)

def Statement_failed_aborts : Prop :=
  ∀ (c : Cfg) (ops : List Op) (r : Run), r.failed = true → ops.foldl (Run.step c) r = r

/-- reads of the default graph in WHERE: the union of all graphs iff the engine switch is on AND the
    object's own `default_union` is set (ConjunctiveGraph, Dataset(default_union=True)); the real default
    graph otherwise; a WITH graph replaces either.  Every triple is read once. -/
def Statement_union_switch_reads : Prop :=
  ∀ (c : Cfg) (s : St) (t : Triple),
    (t ∈ (storeDataset c s none).dflt ↔
      if c.switch = true ∧ (c.api = .cg ∨ c.api = .cgi ∨ c.api = .dsu) then ∃ g, (t.1, t.2.1, t.2.2, g) ∈ s.quads
      else (t.1, t.2.1, t.2.2, none) ∈ s.quads) ∧
    (∀ w, t ∈ (storeDataset c s (some w)).dflt ↔ (t.1, t.2.1, t.2.2, some w) ∈ s.quads)

/-- writes never depend on the switch: two configurations of the same class produce the same result for
    every operation as soon as they produce the same WHERE solutions; a template quad outside GRAPH lands
    in the WITH graph if there is one, else in the real default graph `none`. -/
def Statement_union_switch_writes : Prop :=
  (∀ (c c' : Cfg) (op : Op) (s : St), c.api = c'.api →
      (∀ u, op = .modify u → u.solutions c s = u.solutions c' s) →
      (∀ bs, op = .deleteWhere bs → evalWhere (storeDataset c s none) bs none = evalWhere (storeDataset c' s none) bs none) →
      evalOp c op s = evalOp c' op s) ∧
  (∀ (μ : Binding) (bm : List (Nat × Nat)) (tgt : GName) (t : TTpl) (x : Quad),
      fillQuad μ bm tgt (t, .dflt) = some x → x.graph = tgt)

/-- the graphs an operation may write to -/
def Op.targets (c : Cfg) (s : St) : Op → List GName
  | .insertData q | .deleteData q => q.filterMap (fun x => instGraph [] none x.2)
  | .deleteWhere bs =>
    (evalWhere (storeDataset c s none) bs none).flatMap (fun μ =>
      (blocksToTpl bs).filterMap (fun x => instGraph μ none x.2))
  | .modify u =>
    (u.solutions c s).flatMap (fun μ =>
      ((u.del.getD []) ++ (u.ins.getD [])).filterMap (fun x => instGraph μ u.withG x.2))
  | .clear _ t | .drop _ t => clearTargets c s t
  | .add _ _ b | .copy _ _ b => [b]
  | .move _ a b => [a, b]
  | .fail _ => []

def Statement_untouched_graphs_unchanged : Prop :=
  ∀ (c : Cfg) (op : Op) (s s' : St) (x : Quad), evalOp c op s = some s' →
    x.graph ∉ op.targets c s → (x ∈ s'.quads ↔ x ∈ s.quads)

theorem template_skip : Statement_template_skip := fun μ bm tgt tpl x =>
  -- `Spec.subst` / `Spec.substG` are `instTerm` / `instGraph` written again: `Spec.Instance` unfolds to the right side
  mem_fillTemplate.trans (exists_congr fun q => and_congr_right fun _ => fillQuad_eq_some)

theorem template_legal : Statement_template_legal := by
  intro μ bm tgt tpl x hx
  obtain ⟨q, _, h⟩ := (template_skip μ bm tgt tpl x).1 hx
  -- the last two conjuncts of `Spec.Instance`
  exact ⟨h.2.2.2.2.1, h.2.2.2.2.2⟩

theorem fresh_per_solution : Statement_fresh_per_solution := by
  intro tpl n i j a b x y hx hy
  unfold solMap at hx hy
  have rx := alookup_mkMap_range hx
  have ry := alookup_mkMap_range hy
  refine ⟨Nat.le_trans (Nat.le_add_right _ _) rx.1, ?_⟩
  rintro rfl
  -- the blocks `[n + i·len, n + (i+1)·len)` of different solutions are disjoint
  have key : ∀ {i j : Nat}, n + i * (tplLabels tpl).length ≤ x → x < n + j * (tplLabels tpl).length + (tplLabels tpl).length →
      i ≤ j := fun h1 h2 =>
    Nat.le_of_lt_succ (Nat.lt_of_mul_lt_mul_right (a := (tplLabels tpl).length) (by rw [Nat.succ_mul]; omega))
  cases Nat.le_antisymm (key rx.1 ry.2) (key ry.1 rx.2)
  exact ⟨rfl, alookup_mkMap_inj hx hy⟩

theorem fresh_total : Statement_fresh_total := by
  intro tpl n i l hl
  exact alookup_mkMap_mem hl

theorem alookup_nil : alookup [] = Spec.noSk := by
  funext l; rfl

/-- a two-pass loop leaves OpDeleteInsert of the state before; solution `i` mints the nodes of `solMap … i` -/
theorem twoPass_spec {del ins : Option (List QTpl)} {tgt : GName} {sols : List Binding} {s : St} {x : Quad} :
    x ∈ (twoPass del ins tgt sols s).quads ↔
      Spec.OpDeleteInsert s.quads sols (fun i => alookup (solMap (ins.getD []) s.next i)) tgt
        (del.getD []) (ins.getD []) x := by
  rw [mem_twoPass_fill]
  unfold Spec.OpDeleteInsert
  simp only [template_skip _ _ _ _ _, alookup_nil, not_exists, not_and]

theorem modify_spec : Statement_modify_spec := by
  intro c u s
  refine ⟨fun i => alookup (solMap (u.ins.getD []) s.next i), ?_, ?_, ?_⟩
  · intro i l v h
    exact (fresh_per_solution _ _ _ _ _ _ _ _ h h).1
  · intro i j l l' v h h'
    exact (fresh_per_solution _ _ _ _ _ _ _ _ h h').2 rfl
  · intro x
    rw [evalModify_eq_twoPass]
    exact twoPass_spec

/-- witness: the 2-cycle {a p b, b p a} with DELETE { ?x p ?y } INSERT { ?y p ?x } WHERE { ?x p ?y } -/
def cycleStore : St := ⟨[(.iri 1, .iri 4, .iri 2, none), (.iri 2, .iri 4, .iri 1, none)], [], 0⟩
def swapModify : Modify :=
  { withG := none,
    del := some [((.var 40, .const (.iri 4), .var 41), .dflt)],
    ins := some [((.var 41, .const (.iri 4), .var 40), .dflt)],
    using_ := [], named := [],
    where_ := [(.dflt, [(.var 40, .const (.iri 4), .var 41)])], flt := none }
def plainGraph : Cfg := ⟨.graph, true⟩

/-- the pinned loop loses a triple on the witness (the repaired code keeps both) -/
theorem modify_interleaved_witness :
    ¬ Statement_modify_interleaved_same plainGraph swapModify cycleStore := by
  intro h
  have := (h (.iri 2, .iri 4, .iri 1, none)).2 (by decide +kernel)
  revert this
  decide +kernel

/-- non-vacuity of the witness: the repaired code returns both triples -/
example : (evalModify plainGraph swapModify cycleStore).quads =
    [(.iri 2, .iri 4, .iri 1, none), (.iri 1, .iri 4, .iri 2, none)] := by decide +kernel
example : (evalModifyInterleaved plainGraph swapModify cycleStore).quads =
    [(.iri 1, .iri 4, .iri 2, none)] := by decide +kernel
example : ¬ NoLaterDeletion plainGraph swapModify cycleStore := by decide +kernel

theorem modify_interleaved_partial (c : Cfg) (u : Modify) (s : St) :
    NoLaterDeletion c u s → Statement_modify_interleaved_same c u s := by
  intro h x
  rw [evalModifyInterleaved_eq_onePass, evalModify_eq_twoPass, mem_onePass s h, mem_twoPass,
    forall_solPairs_del]

/-- non-vacuity: a request with two solutions that satisfies the hypothesis -/
example : NoLaterDeletion plainGraph
    { swapModify with ins := some [((.var 40, .const (.iri 5), .var 41), .dflt)] } cycleStore := by decide +kernel

theorem delete_where_snapshot : Statement_delete_where_snapshot := by
  intro c bs s x
  refine (mem_foldl_deleteOpt (some (blocksToTpl bs)) none _ s x).trans (and_congr_right fun _ => ?_)
  simp only [delOf, template_skip _ _ _ _ _, alookup_nil, not_exists, not_and]

theorem insert_data_spec : Statement_insert_data_spec := by
  intro tpl s x
  exact mem_insertSolution.trans (or_congr_right (template_skip _ _ none tpl x))

theorem delete_data_spec : Statement_delete_data_spec := by
  intro tpl s x
  exact mem_deleteSolution.trans
    (and_congr_right fun _ => not_congr (alookup_nil ▸ template_skip [] [] none tpl x))

/-! ### DELETE WHERE of the pinned code (simplified lazy model): why the snapshot matters -/

/-- witness: {a p b, a p c, _:b p a} and DELETE WHERE { ?x p ?y . ?z p ?x } -/
def lazyStore : St :=
  ⟨[(.iri 1, .iri 4, .iri 2, none), (.iri 1, .iri 4, .iri 3, none), (.bnode 30, .iri 4, .iri 1, none)], [], 0⟩
def lazyPattern : List TPat := [(.var 40, .const (.iri 4), .var 41), (.var 42, .const (.iri 4), .var 40)]

theorem delete_where_lazy_witness :
    ¬ SetEq (evalDeleteWhereLazy lazyPattern lazyStore).quads
            (evalDeleteWhere plainGraph [(.dflt, lazyPattern)] lazyStore).quads := by
  intro h
  have := (h (.iri 1, .iri 4, .iri 3, none)).1 (by decide +kernel)
  revert this
  decide +kernel

example : (evalDeleteWhere plainGraph [(.dflt, lazyPattern)] lazyStore).quads = [] := by decide +kernel
example : (evalDeleteWhereLazy lazyPattern lazyStore).quads = [(.iri 1, .iri 4, .iri 3, none)] := by decide +kernel

theorem mem_clearTargets_iff {c : Cfg} {t : Target} {s : St} {x : Quad} (hk : KnownInv s) (hs : SingleInv c s)
    (hx : x ∈ s.quads) : x.graph ∈ clearTargets c s t ↔ Spec.inTarget t x.graph := by
  -- a quad in a named graph: no plain Graph (`hs`), and the graph is registered (`hk`)
  have hsome : ∀ g, x.graph = some g → c.single = false ∧ some g ∈ s.known.map some := by
    intro g hg
    refine ⟨Bool.eq_false_iff.2 fun hc => ?_, List.mem_map_of_mem (hk x hx g hg)⟩
    exact absurd (hg.symm.trans (hs hc x hx)) (Option.some_ne_none g)
  cases t with
  | dflt => exact List.mem_singleton
  | graph n => exact List.mem_singleton
  | named =>
    show x.graph ∈ (if c.single then [] else s.known.map some) ↔ x.graph ≠ none
    cases hg : x.graph with
    | none => exact iff_of_false (by split <;> simp) (fun h => h rfl)
    | some g => rw [(hsome g hg).1]; exact iff_of_true (hsome g hg).2 (Option.some_ne_none g)
  | all =>
    refine iff_of_true ?_ trivial
    show x.graph ∈ (if c.single then [none] else none :: s.known.map some)
    cases hg : x.graph with
    | none => split <;> exact List.mem_cons_self
    | some g => rw [(hsome g hg).1]; exact List.mem_cons_of_mem _ (hsome g hg).2

theorem clear_spec : Statement_clear_spec := fun c t s x hk hs =>
  mem_evalClear.trans (and_congr_right fun hx => not_congr (mem_clearTargets_iff hk hs hx))

theorem drop_spec : Statement_drop_spec := fun c t s x hk hs =>
  mem_evalDrop.trans (and_congr_right fun hx => not_congr (mem_clearTargets_iff hk hs hx))

theorem add_spec : Statement_add_spec := mem_evalAdd

theorem copy_spec : Statement_copy_spec := mem_evalCopy

theorem move_spec : Statement_move_spec := mem_evalMove

theorem request_in_order : Statement_request_in_order := fun _ _ _ _ => List.foldl_append

theorem failed_aborts : Statement_failed_aborts := fun c ops r hr =>
  List.foldlRecOn (motive := (· = r)) ops _ rfl fun _ h op _ => h ▸ (if_pos hr : Run.step c r op = r)

theorem union_switch_reads : Statement_union_switch_reads := by
  intro c s t
  have heff : c.effUnion = true ↔ c.switch = true ∧ (c.api = .cg ∨ c.api = .cgi ∨ c.api = .dsu) := by
    simp [Cfg.effUnion, or_assoc]
  refine ⟨?_, fun w => mem_graphTriples⟩
  show t ∈ (if c.effUnion then unionTriples s.quads else graphTriples s.quads none) ↔ _
  by_cases h : c.effUnion = true
  · rw [if_pos h, if_pos (heff.1 h)]; exact mem_unionTriples
  · rw [if_neg h, if_neg (mt heff.2 h)]; exact mem_graphTriples

theorem union_reads_once (c : Cfg) (s : St) (w : Option Nat) (h : s.quads.Nodup) :
    (storeDataset c s w).dflt.Nodup := by
  rcases storeDataset_dflt c s w with e | ⟨g, e⟩ <;> rw [e]
  · exact nodup_dedup
  · exact nodup_graphTriples h _

theorem union_switch_writes : Statement_union_switch_writes := by
  constructor
  · rintro ⟨a, sw⟩ ⟨a', sw'⟩ op s hapi hm hd
    obtain rfl : a = a' := hapi
    -- the switch is read by WHERE evaluation only
    cases op with
    | modify u =>
      show (if _ then none else some (evalModify _ u s)) = if _ then none else some (evalModify _ u s)
      rw [evalModify_eq_twoPass, evalModify_eq_twoPass, hm u rfl]
      rfl
    | deleteWhere bs =>
      show (if _ then none else some (evalDeleteWhere _ bs s)) = if _ then none else some (evalDeleteWhere _ bs s)
      rw [evalDeleteWhere_eq_twoPass, evalDeleteWhere_eq_twoPass, hd bs rfl]
      rfl
    | _ => rfl
  · intro μ bm tgt t x h
    exact (Option.some.inj (fillQuad_graph h)).symm

theorem untouched_graphs_unchanged : Statement_untouched_graphs_unchanged := by
  intro c op s s' x h
  apply evalOp_elim (motive := fun op s' => x.graph ∉ op.targets c s → (x ∈ s'.quads ↔ x ∈ s.quads)) (h := h)
  case insertData =>
    exact fun q hx => twoPass_frame (fun _ _ => List.not_mem_nil)
      (List.forall_mem_singleton.2 hx)
  case deleteData =>
    exact fun q hx => twoPass_frame (List.forall_mem_singleton.2 hx)
      (fun _ _ => List.not_mem_nil)
  case deleteWhere => exact fun bs hx => twoPass_frame (fun μ hμ h => hx (List.mem_flatMap.2 ⟨μ, hμ, h⟩)) (fun _ _ => List.not_mem_nil)
  case modify =>
    intro u hx
    refine twoPass_frame (fun μ hμ h => hx (List.mem_flatMap.2 ⟨μ, hμ, ?_⟩))
      (fun μ hμ h => hx (List.mem_flatMap.2 ⟨μ, hμ, ?_⟩))
    · rw [List.filterMap_append]; exact List.mem_append_left _ h
    · rw [List.filterMap_append]; exact List.mem_append_right _ h
  case clear => exact fun _ t hx => mem_evalClear.trans (and_iff_left hx)
  case drop => exact fun _ t hx => mem_evalDrop.trans (and_iff_left hx)
  case add => exact fun _ a b hx => (mem_evalAdd a b s x).trans (or_iff_left fun h' => hx (List.mem_singleton.2 h'.1))
  case move =>
    intro _ a b hx
    have ha : x.graph ≠ a := fun e => hx (e ▸ List.mem_cons_self)
    have hb : x.graph ≠ b := fun e => hx (e ▸ List.mem_cons_of_mem _ List.mem_cons_self)
    exact (mem_evalMove a b s x).trans
      ⟨fun h => h.elim (fun h' => h'.2.2) fun h' => absurd h'.1 hb, fun h => Or.inl ⟨hb, ha, h⟩⟩
  case copy =>
    intro _ a b hx
    have hb : x.graph ≠ b := fun e => hx (List.mem_singleton.2 e)
    exact (mem_evalCopy a b s x).trans
      ⟨fun h => h.elim And.right fun h' => absurd h'.1 hb, fun h => Or.inl ⟨hb, h⟩⟩

/-- the store invariants the graph-management specs rely on (`KnownInv`: every named graph holding a quad is
    registered; no duplicate quads; a plain Graph holds one graph) hold after every request -/
def Statement_store_invariants : Prop :=
  ∀ (c : Cfg) (ops : List Op) (s : St), Inv c s → Inv c (runRequest c ops s).st

theorem store_invariants : Statement_store_invariants := by
  intro c ops s h
  exact List.foldlRecOn (motive := fun r => Inv c r.st) ops (Run.step c) (b := ⟨s, false⟩) h
    fun r hr op _ => inv_step c r op hr

example (c : Cfg) : Inv c ⟨[], [], 0⟩ := by
  refine ⟨?_, List.nodup_nil, ?_⟩
  · intro q hq; cases hq
  · intro _ q hq; cases hq

/-- minted blank nodes are new: along any request whose text mentions no minted node (it cannot: they have
    no spelling), every minted node in the store is numbered below the supply counter and the counter never
    decreases — and `modify_spec` / `fresh_per_solution` hand out nodes at or above the counter only. -/
def Statement_minted_nodes_new : Prop :=
  ∀ (c : Cfg) (ops : List Op) (s : St), (∀ op ∈ ops, op.wf) → FreshInv s →
    FreshInv (runRequest c ops s).st ∧ s.next ≤ (runRequest c ops s).st.next

theorem minted_nodes_new : Statement_minted_nodes_new := by
  intro c ops s hw h
  refine List.foldlRecOn (motive := fun r => FreshInv r.st ∧ s.next ≤ r.st.next) ops (Run.step c) (b := ⟨s, false⟩)
    ⟨h, Nat.le_refl _⟩ fun r hr op hop =>
      Run.step_invariant (P := fun t => FreshInv t ∧ s.next ≤ t.next) (fun s' e => ?_) hr
  have := freshInv_evalOp c op (hw op hop) r.st s' hr.1 e
  exact ⟨this.1, Nat.le_trans hr.2 this.2⟩

/-- USING and USING NAMED only choose the dataset the WHERE clause is matched against; what is deleted and
    inserted, and where (outside GRAPH: the WITH graph, else the real default graph — see
    `union_switch_writes`), depends on them through the solutions alone. -/
def Statement_with_using_graph_targets : Prop :=
  ∀ (c : Cfg) (u u' : Modify) (s : St), u.withG = u'.withG → u.del = u'.del → u.ins = u'.ins →
    u.solutions c s = u'.solutions c s → evalModify c u s = evalModify c u' s

theorem with_using_graph_targets : Statement_with_using_graph_targets := by
  intro c u u' s hw hd hi hs
  unfold evalModify
  rw [hw, hd, hi, hs]

/-- the dataset USING / USING NAMED define: default graph = the merge of the USING graphs (each triple
    once; empty without USING), GRAPH <g> sees g only if it is a USING NAMED graph, and with any USING
    clause present the WITH graph and the union switch play no part in the WHERE clause -/
def Statement_using_dataset_spec : Prop :=
  (∀ (s : St) (us nm : List Nat) (t : Triple),
      t ∈ (usingDataset s us nm).dflt ↔ ∃ g ∈ us, (t.1, t.2.1, t.2.2, some g) ∈ s.quads) ∧
  (∀ (s : St) (us nm : List Nat), (usingDataset s us nm).dflt.Nodup) ∧
  (∀ (s : St) (us nm : List Nat) (g : Nat) (t : Triple),
      t ∈ (usingDataset s us nm).graph g ↔ g ∈ nm ∧ (t.1, t.2.1, t.2.2, some g) ∈ s.quads) ∧
  (∀ (c c' : Cfg) (u : Modify) (w : Option Nat) (s : St), (u.using_ ≠ [] ∨ u.named ≠ []) →
      u.solutions c s = { u with withG := w }.solutions c' s)

theorem isEmpty_and_eq_false {α β} {a : List α} {b : List β} (h : a ≠ [] ∨ b ≠ []) :
    (a.isEmpty && b.isEmpty) = false := by
  cases a with
  | cons _ _ => rfl
  | nil => cases b with
    | cons _ _ => rfl
    | nil => exact (h.elim (· rfl) (· rfl)).elim

theorem using_dataset_spec : Statement_using_dataset_spec := by
  refine ⟨fun s us nm t => ?_, fun s us nm => nodup_dedup, fun s us nm g t => ?_, fun c c' u w s h => ?_⟩
  · rw [usingDataset, mem_dedup]
    simp only [List.mem_flatMap, mem_graphTriples]
  · -- `GRAPH <g>` finds the entry of `g`, if `g` is listed
    unfold WhereDS.graph usingDataset
    rw [List.find?_map]
    cases hf : (dedup nm).find? _ with
    | some g' =>
      have hp := List.find?_some hf
      cases (of_decide_eq_true hp : g' = g)
      exact mem_graphTriples.trans (iff_and_self.2 fun _ => mem_dedup.1 (List.mem_of_find?_eq_some hf))
    | none =>
      exact iff_of_false List.not_mem_nil fun h =>
        absurd (decide_eq_true rfl) (List.find?_eq_none.1 hf g (mem_dedup.2 h.1))
  · unfold Modify.solutions
    simp only [isEmpty_and_eq_false h, Bool.false_eq_true, if_false]

/-- on a dataset, DROP unregisters exactly its target graphs; CLEAR unregisters nothing -/
def Statement_drop_unregisters : Prop :=
  ∀ (c : Cfg) (t : Target) (s : St) (n : Nat), c.single = false →
    (n ∈ (evalDrop c t s).known ↔ n ∈ s.known ∧ some n ∉ clearTargets c s t) ∧
    (evalClear c t s).known = s.known

theorem drop_unregisters : Statement_drop_unregisters := by
  intro c t s n hc
  refine ⟨?_, foldl_keeps (f := St.clearGraph) (·.known) (fun _ _ => rfl) _ s⟩
  unfold evalDrop
  rw [hc]
  exact known_foldl_dropGraph

/-- Grouping the written quad patterns into blocks (default-graph triples / one block per run of a GRAPH
    term, the same graph possibly in several blocks) and flattening the blocks again gives back exactly the
    written quads, in order: no block of a repeated graph is dropped. -/
def Statement_grouping_loses_none : Prop :=
  ∀ (ps : List (TPat × GTerm)),
    blocksToTpl (groupBlocks ps) = ps.map (fun q => ((q.1.1.toT, q.1.2.1.toT, q.1.2.2.toT), q.2))

theorem grouping_loses_none : Statement_grouping_loses_none := by
  intro ps
  induction ps with
  | nil => rfl
  | cons q rest ih =>
    obtain ⟨t, g⟩ := q
    rw [List.map_cons, ← ih, groupBlocks]
    -- whichever block the quad joins, it is the first quad of the flattened blocks
    split
    · next g' ts bs h =>
      rw [h]
      split
      · next e => subst e; rfl
      · rfl
    · next h => rw [h]; rfl

/-- non-vacuity: `GRAPH g { a } . d . GRAPH g { b }` keeps both blocks of `g` -/
example :
    let a : TPat := (.var 40, .const (.iri 4), .var 41)
    let b : TPat := (.var 42, .const (.iri 4), .var 40)
    groupBlocks [(a, .name 90), (b, .dflt), (b, .name 90)] = [(.name 90, [a]), (.dflt, [b]), (.name 90, [b])] := by
  decide +kernel

/-- operations of one request run in order over (dataset × prologue): running `es₁ ; es₂` is running `es₂`
    from the dataset AND the prologue `es₁` ended with -/
def Statement_request_in_order_prologue : Prop :=
  ∀ (c : Cfg) (T : Tables) (es₁ es₂ : List PElem) (r : PRun),
    runPRequest c T (es₁ ++ es₂) r = runPRequest c T es₂ (runPRequest c T es₁ r)

theorem request_in_order_prologue : Statement_request_in_order_prologue := fun _ _ _ _ _ => List.foldl_append

/-- the prologue in force after a request prefix is what ALL declarations written so far, in order, give —
    whether the request failed on the way or not; so the operation of the next element `e` is read under
    the declarations of every earlier element plus its own -/
def Statement_prologue_in_force : Prop :=
  ∀ (c : Cfg) (T : Tables) (es : List PElem) (r : PRun),
    (runPRequest c T es r).pro = (es.flatMap (fun e => e.1)).foldl (Prologue.declare T) r.pro

theorem prologue_in_force : Statement_prologue_in_force := by
  intro c T es
  induction es with
  | nil => intro r; rfl
  | cons e rest ih =>
    intro r
    have hstep : (PRun.step c T r e).pro = e.1.foldl (Prologue.declare T) r.pro := by
      unfold PRun.step
      dsimp only
      split <;> rfl
    rw [List.flatMap_cons, List.foldl_append, ← hstep]
    exact ih _

/-- a BASE stays in force until the next BASE: PREFIX declarations do not touch it (and vice versa a BASE
    does not touch the prefixes) -/
def Statement_base_persists : Prop :=
  ∀ (T : Tables) (ds : List Decl) (p : Prologue),
    ((∀ d ∈ ds, ∀ b, d ≠ .base b) → (ds.foldl (Prologue.declare T) p).base = p.base) ∧
    ((∀ d ∈ ds, ∃ b, d = .base b) → (ds.foldl (Prologue.declare T) p).prefixes = p.prefixes)

theorem base_persists : Statement_base_persists := by
  intro T ds p
  constructor
  · intro h
    refine List.foldlRecOn (motive := fun q : Prologue => q.base = p.base) ds _ rfl fun q hq d hd => ?_
    rw [← hq]
    cases d with
    | base b => exact absurd rfl (h _ hd b)
    | «prefix» x ns => rfl
    | prefixRel x r =>
      rw [Prologue.declare]
      split
      · split <;> rfl
      · rfl
  · intro h
    refine List.foldlRecOn (motive := fun q : Prologue => q.prefixes = p.prefixes) ds _ rfl fun q hq d hd => ?_
    obtain ⟨b, rfl⟩ := h d hd
    exact hq

/-- without declarations and with operations that do not depend on the prologue, the request over
    (dataset × prologue) is the plain `runRequest` -/
def Statement_prologue_free_request : Prop :=
  ∀ (c : Cfg) (T : Tables) (ops : List Op) (r : Run) (p : Prologue),
    (runPRequest c T (ops.map (fun op => (([], fun _ => some (WOp.other op)) : PElem))) ⟨r, p⟩).run =
      ops.foldl (Run.step c) r

theorem prologue_free_request : Statement_prologue_free_request := by
  intro c T ops
  induction ops with
  | nil => intro r p; rfl
  | cons op rest ih =>
    intro r p
    show (runPRequest c T _ ⟨r.stepW c (.other op), p⟩).run = _
    rw [stepW_eq]
    exact ih _ p

/-- non-vacuity: BASE 0 before the first operation; the second operation's relative reference is resolved
    against it (reference 5 under base 0 denotes IRI 1), although nothing is declared before it -/
example :
    let T : Tables := ⟨[((0, 5), 1)], [], []⟩
    let ins (n : Nat) : WOp := .insertData [.triples [(.const (.iri n), .const (.iri 4), .const (.iri 2))]]
    let e1 : PElem := ([.base 0], fun _ => some (ins 3))
    let e2 : PElem := ([], fun pro => (pro.resolve T (.rel 5)).map ins)
    (runPRequest ⟨.ds, true⟩ T [e1, e2] ⟨⟨⟨[], [], 0⟩, false⟩, ⟨none, []⟩⟩).run.st.quads =
      [(.iri 3, .iri 4, .iri 2, none), (.iri 1, .iri 4, .iri 2, none)] := by
  decide +kernel

/-! ### solutions are a LIST: equal solutions at two positions get different fresh nodes -/

/-- `fresh_per_solution` is about POSITIONS in the list of solutions (`solMap tpl n i` is the blank-node map of
    the i-th solution, whatever its value): two occurrences of the very same solution — `{A} UNION {A}`, a
    sub-select that projects a variable away — get different nodes for the same label. -/
def Statement_fresh_per_occurrence : Prop :=
  ∀ (tpl : List QTpl) (n i j l x y : Nat), i ≠ j →
    alookup (solMap tpl n i) l = some x → alookup (solMap tpl n j) l = some y → x ≠ y

theorem fresh_per_occurrence : Statement_fresh_per_occurrence := fun tpl n i j l x y hij hx hy e =>
  hij ((fresh_per_solution tpl n i j l l x y hx hy).2 e).1

/-- non-vacuity: one triple, `INSERT { ?x :r _:b } WHERE { { ?x :p ?y } UNION { ?x :p ?y } }` — the solution
    occurs twice in the list, and two different nodes are minted -/
def unionModify : Modify :=
  { withG := none, del := none,
    ins := some [((.var 40, .const (.iri 5), .label 50), .dflt)],
    using_ := [], named := [],
    where_ := [(.dflt, [(.var 40, .const (.iri 4), .var 41)])], flt := none,
    wmode := .union [(.dflt, [(.var 40, .const (.iri 4), .var 41)])] }
def oneTriple : St := ⟨[(.iri 1, .iri 4, .iri 2, none)], [], 0⟩

example : unionModify.solutions plainGraph oneTriple =
    [[(41, .iri 2), (40, .iri 1)], [(41, .iri 2), (40, .iri 1)]] := by decide +kernel
example : (evalModify plainGraph unionModify oneTriple).quads =
    [(.iri 1, .iri 4, .iri 2, none), (.iri 1, .iri 5, .fresh 0, none), (.iri 1, .iri 5, .fresh 1, none)] := by
  decide +kernel
/-- the same through a sub-select projecting `?y` away: {a p b, a p c} gives ?x = a twice -/
example : ({ unionModify with wmode := .proj [40] }.solutions plainGraph
    ⟨[(.iri 1, .iri 4, .iri 2, none), (.iri 1, .iri 4, .iri 3, none)], [], 0⟩) =
    [[(40, .iri 1)], [(40, .iri 1)]] := by decide +kernel

/-! ### `translateQuads`: the structure the evaluators walk, and the quads that were written -/

/-- the translated structure (triples outside GRAPH + dictionary graph term ↦ triples, later blocks of a
    graph appended to its entry, empty blocks dropped) denotes exactly the written quads, as a MULTISET:
    nothing lost, nothing duplicated — also when one graph (IRI or variable) is named by several GRAPH blocks -/
def Statement_translate_loses_none : Prop :=
  ∀ (w : Written), (translateQuads w).flat.Perm w.flat

theorem translate_loses_none : Statement_translate_loses_none := translateQuads_flat_perm

/-- non-vacuity: `GRAPH g { a } . b . GRAPH ?v { b } GRAPH g { b a } GRAPH h { }` — `g` in two blocks (merged into
    one dictionary entry, in first-occurrence position), a variable graph, an empty block (no entry) -/
example :
    let a : TTpl := (.const (.iri 1), .const (.iri 4), .const (.iri 2))
    let b : TTpl := (.var 40, .const (.iri 4), .label 50)
    let w : Written := [.graph (.name 90) [a], .triples [b], .graph (.var 44) [b], .graph (.name 90) [b, a],
                        .graph (.name 91) []]
    translateQuads w = ⟨[b], [(.name 90, [a, b, a]), (.var 44, [b])]⟩ ∧
    (translateQuads w).flat =
      [(b, .dflt), (a, .name 90), (b, .name 90), (a, .name 90), (b, .var 44)] ∧
    w.flat = [(a, .name 90), (b, .dflt), (b, .var 44), (b, .name 90), (a, .name 90)] := by
  decide +kernel

/-- an operation as written, evaluated the way the code does — `evalInsertData` / `evalDeleteData` /
    `evalModify` walking `u.triples` and then the `u.quads` dictionary entry by entry with one blank-node map —
    (a) is exactly the flat model applied to the translated structure read in evaluator order, and
    (b) leaves the same quads and the same supply counter as the flat model applied to the quads in WRITTEN
    order, which is what `modify_spec`, `insert_data_spec`, `delete_data_spec` are stated about
    (both fail together on a plain Graph). -/
def Statement_translated_effect : Prop :=
  ∀ (c : Cfg) (w : WOp) (s : St),
    evalWOp c w s = evalOp c w.toOp s ∧ SameOutcome (evalWOp c w s) (evalOp c w.asWritten s)

theorem translated_effect : Statement_translated_effect :=
  fun c w s => ⟨evalWOp_eq c w s, evalWOp_same_asWritten c w s⟩

/-- hence OpDeleteInsert for the operation AS WRITTEN, through the modelled translation: `evalModifyT`
    (templates translated, dictionary walked) leaves `Spec.OpDeleteInsert` of the written DELETE and INSERT
    quads -/
def Statement_modify_spec_written : Prop :=
  ∀ (c : Cfg) (u : WModify) (s : St),
    ∃ sk : Nat → Nat → Option Nat,
      (∀ i l v, sk i l = some v → s.next ≤ v) ∧
      (∀ i j l l' v, sk i l = some v → sk j l' = some v → i = j ∧ l = l') ∧
      ∀ x, x ∈ (evalModifyT c u s).quads ↔
        Spec.OpDeleteInsert s.quads (u.core.solutions c s) sk u.core.withG
          ((u.del.map Written.flat).getD []) ((u.ins.map Written.flat).getD []) x

theorem modify_spec_written : Statement_modify_spec_written := by
  intro c u s
  obtain ⟨sk, h1, h2, h3⟩ := modify_spec c u.asWritten s
  refine ⟨sk, h1, h2, fun x => ?_⟩
  rw [(evalModifyT_sameStore c u s).1 x, h3 x]
  -- `u.asWritten` has the solutions (`asWritten_solutions`), WITH graph and flattened templates of `u`
  rfl

/-- a whole written request is the flat request of its translated operations (so `request_in_order`,
    `store_invariants`, `minted_nodes_new` … apply to it) -/
def Statement_written_request : Prop :=
  ∀ (c : Cfg) (ws : List WOp) (r : Run),
    ws.foldl (Run.stepW c) r = (ws.map WOp.toOp).foldl (Run.step c) r

theorem written_request : Statement_written_request := by
  intro c ws
  induction ws with
  | nil => intro r; rfl
  | cons w rest ih => intro r; simp only [List.foldl_cons, List.map_cons, stepW_eq, ih]

/-! ### the same graph under two spellings; a prepared request executed again -/

/-- ADD / MOVE / COPY compare the graphs the two references DENOTE, not how they are written: whenever source and
    destination resolve to the same graph — `DEFAULT` and the IRI of the default graph in either order, the
    same IRI twice — the operation changes nothing -/
def Statement_same_graph_noop : Prop :=
  ∀ (d : Option Nat) (a b : GraphRef) (s : St), a.resolve d = b.resolve d →
    evalAdd (a.resolve d) (b.resolve d) s = s ∧ evalMove (a.resolve d) (b.resolve d) s = s ∧
    evalCopy (a.resolve d) (b.resolve d) s = s

theorem same_graph_noop : Statement_same_graph_noop := by
  intro d a b s h
  simp [evalAdd, evalMove, evalCopy, h]

/-- non-vacuity: with 99 the IRI of the default graph, `DEFAULT` and `<99>` are different spellings of one graph
    (so COPY DEFAULT TO <99> keeps the default graph), while without such an IRI `<99>` is another graph -/
example : GraphRef.dflt ≠ GraphRef.iri 99 ∧ GraphRef.dflt.resolve (some 99) = (GraphRef.iri 99).resolve (some 99) ∧
    GraphRef.dflt.resolve none ≠ (GraphRef.iri 99).resolve none := by decide +kernel
example : (evalCopy (GraphRef.dflt.resolve (some 99)) ((GraphRef.iri 99).resolve (some 99)) cycleStore).quads =
    cycleStore.quads := by decide +kernel

/-- A prepared request is an immutable list of operations; everything an execution changes — the quads, the
    registered graphs AND the supply of fresh blank nodes — is in the dataset state it is run on.  Executing it
    again from the state the first execution left (i) keeps `FreshInv` and never lowers the supply, so every
    node the second execution mints (at or above the supply it starts with, `fresh_per_solution`) is different
    from every node in the store, those of the first execution included; (ii) if the first execution did not
    fail, the two executions together are the request `ops ++ ops` run once. -/
def Statement_prepared_update_stateless : Prop :=
  ∀ (c : Cfg) (ops : List Op) (s : St), (∀ op ∈ ops, op.wf) → FreshInv s →
    let r1 := runRequest c ops s
    let r2 := runRequest c ops r1.st
    FreshInv r1.st ∧ FreshInv r2.st ∧ s.next ≤ r1.st.next ∧ r1.st.next ≤ r2.st.next ∧
    (r1.failed = false → r2 = runRequest c (ops ++ ops) s)

theorem prepared_update_stateless : Statement_prepared_update_stateless := by
  intro c ops s hw h
  have h1 := minted_nodes_new c ops s hw h
  have h2 := minted_nodes_new c ops (runRequest c ops s).st hw h1.1
  refine ⟨h1.1, h2.1, h1.2, h2.2, ?_⟩
  intro hf
  rw [request_in_order]
  -- the second execution starts from `⟨r1.st, false⟩`, which is `r1` itself as `r1.failed = false`
  show List.foldl _ (Run.mk (runRequest c ops s).st false) ops = _
  rw [← hf]

/-- non-vacuity: `INSERT DATA { _:b :p :o }` executed twice mints two different nodes -/
example :
    let op : Op := .insertData [((.label 50, .const (.iri 4), .const (.iri 2)), .dflt)]
    (runRequest plainGraph [op] (runRequest plainGraph [op] ⟨[], [], 0⟩).st).st.quads =
      [(.fresh 0, .iri 4, .iri 2, none), (.fresh 1, .iri 4, .iri 2, none)] := by decide +kernel

/-! ### WHERE clauses of the full algebra: the solutions are those SPARQL 1.1 §18 defines

  `WMode.alg n P`: the WHERE clause is any pattern `P` of C04's algebra, as rdflib translated and annotated it, evaluated by
  `RV.C04.Model.evalPart` — the model of `evaluate.py` — on the dataset this model selects.  `RV.C04.evalPart_top0` relates
  that evaluator to the bottom-up semantics `RV.C04.Spec.eval`; composed with `modify_spec`: -/

/-- the solutions SPARQL 1.1 §18 gives the pattern over the dataset (bottom-up algebra, no push-down, annotations ignored) -/
def specSolutions (d : WhereDS) (n : Nat) (P : C04.Alg) : List Binding :=
  (C04.Spec.eval d.toC04 d.toC04.dflt (C04.Row.empty : C04.Row n) P).map rowToBinding

/-- `Spec.OpDeleteInsert` does not depend on the ORDER in which the solutions are listed: over a permutation of them, a
    re-indexed supply of fresh nodes — as injective over (solution, label) and as far beyond the counter — gives the
    same dataset.  (The multiplicity of a solution does matter: one set of fresh nodes per occurrence.) -/
def Statement_op_delete_insert_perm : Prop :=
  ∀ (before : List Quad) (sols sols' : List Binding) (sk : Nat → Nat → Option Nat) (lo : Nat) (tgt : GName)
    (del ins : List QTpl), sols.Perm sols' →
    (∀ i l v, sk i l = some v → lo ≤ v) →
    (∀ i j l l' v, sk i l = some v → sk j l' = some v → i = j ∧ l = l') →
    ∃ sk' : Nat → Nat → Option Nat,
      (∀ i l v, sk' i l = some v → lo ≤ v) ∧
      (∀ i j l l' v, sk' i l = some v → sk' j l' = some v → i = j ∧ l = l') ∧
      ∀ x, Spec.OpDeleteInsert before sols sk tgt del ins x ↔ Spec.OpDeleteInsert before sols' sk' tgt del ins x

theorem op_delete_insert_perm : Statement_op_delete_insert_perm := by
  intro before sols sols' sk lo tgt del ins hp hlo hinj
  obtain ⟨π, ρ, h1, h2, h3⟩ := perm_index hp
  refine ⟨fun i => sk (π i), fun i l v h => hlo _ l v h, ?_, ?_⟩
  · intro i j l l' v hi hj
    obtain ⟨e, el⟩ := hinj _ _ _ _ _ hi hj
    refine ⟨?_, el⟩
    rw [← h1 i, ← h1 j, e]
  · intro x
    unfold Spec.OpDeleteInsert
    constructor
    · rintro (⟨hx, hn⟩ | ⟨i, μ, hi, hd⟩)
      · exact Or.inl ⟨hx, fun h => h.elim fun μ hμ => hn ⟨μ, hp.mem_iff.2 hμ.1, hμ.2⟩⟩
      · refine Or.inr ⟨ρ i, μ, ?_, ?_⟩
        · rw [h3, h2]; exact hi
        · simpa only [h2] using hd
    · rintro (⟨hx, hn⟩ | ⟨i, μ, hi, hd⟩)
      · exact Or.inl ⟨hx, fun h => h.elim fun μ hμ => hn ⟨μ, hp.mem_iff.1 hμ.1, hμ.2⟩⟩
      · exact Or.inr ⟨π i, μ, by rw [← h3]; exact hi, hd⟩

/-- ⊢ DELETE/INSERT … WHERE P for EVERY pattern P of the algebra: the dataset afterwards is OpDeleteInsert over the
    solutions SPARQL §18 defines for P on the state before (full strength: no condition on P beyond well-scopedness).
    FALSE of the code as it is — where rdflib's `_vars` annotations are inexact, its binding push-down is not
    (`RV.C04.pushdown_unconditional_witness`, known findings C04-K1 / K2 / K4) — see `modify_where_spec_partial`. -/
def Statement_modify_where_spec : Prop :=
  ∀ (c : Cfg) (u : Modify) (s : St) (n : Nat) (P : C04.Alg), u.wmode = .alg n P → u.flt = none →
    s.known.Nodup → C04.WellScoped n P →
    ∃ sk : Nat → Nat → Option Nat,
      (∀ i l v, sk i l = some v → s.next ≤ v) ∧
      (∀ i j l l' v, sk i l = some v → sk j l' = some v → i = j ∧ l = l') ∧
      ∀ x, x ∈ (evalModify c u s).quads ↔
        Spec.OpDeleteInsert s.quads (specSolutions (u.algDataset c s) n P) sk u.withG (u.del.getD []) (u.ins.getD []) x

/-- … proved wherever `RV.C04.Alg.safeIn P []` holds — C04's context-sensitive `Safe` for an empty context: at the top of an
    operation nothing is pushed in (implied by `Alg.safe P`; decidable; evaluated by the harness on every generated pattern): the
    model's solutions — rdflib's top-down evaluator with binding push-down, on rdflib's own annotated tree — are a
    permutation of the §18 solutions (`RV.C04.evalPart_top0`), and OpDeleteInsert is invariant under permutations. -/
theorem modify_where_spec_partial (c : Cfg) (u : Modify) (s : St) (n : Nat) (P : C04.Alg)
    (hw : u.wmode = .alg n P) (hf : u.flt = none) (hk : s.known.Nodup) (hws : C04.WellScoped n P)
    (hsafe : P.safeIn [] = true) :
    ∃ sk : Nat → Nat → Option Nat,
      (∀ i l v, sk i l = some v → s.next ≤ v) ∧
      (∀ i j l l' v, sk i l = some v → sk j l' = some v → i = j ∧ l = l') ∧
      ∀ x, x ∈ (evalModify c u s).quads ↔
        Spec.OpDeleteInsert s.quads (specSolutions (u.algDataset c s) n P) sk u.withG (u.del.getD []) (u.ins.getD []) x := by
  obtain ⟨sk, h1, h2, h3⟩ := modify_spec c u s
  have hp : (u.solutions c s).Perm (specSolutions (u.algDataset c s) n P) := by
    rw [solutions_alg c u s hw hf]
    exact (C04.evalPart_top0 n _ P (algDataset_WF c u s hk) hsafe hws _).map _
  obtain ⟨sk', g1, g2, g3⟩ := op_delete_insert_perm s.quads _ _ sk s.next u.withG (u.del.getD []) (u.ins.getD []) hp h1 h2
  exact ⟨sk', g1, g2, fun x => (h3 x).trans (g3 x)⟩

/-- the bridge between this model's terms / bindings / datasets and those of the C04 evaluator loses nothing: the term
    embedding has a left inverse (so it is injective: no two terms of the store are confused), a row read back as a
    binding list binds exactly the row's variables to the row's values, and the default graph handed over has exactly
    the triples of the selected default graph -/
def Statement_alg_bridge_faithful : Prop :=
  (∀ t : Term, ofC04 (toC04 t) = t) ∧
  (∀ (n : Nat) (μ : C04.Row n) (v : Nat), blookup (rowToBinding μ) v = (μ.get v).map ofC04) ∧
  (∀ (d : WhereDS) (t : Triple), tripleToC04 t ∈ d.toC04.dflt ↔ t ∈ d.dflt)

theorem alg_bridge_faithful : Statement_alg_bridge_faithful := by
  refine ⟨ofC04_toC04, fun n μ v => blookup_rowToBinding μ v, ?_⟩
  intro d t
  simp only [WhereDS.toC04]
  exact List.mem_map_of_injective tripleToC04_injective

/-- the dataset of a full-algebra WHERE clause is the one the BGP modes use (so `union_switch_reads`, `using_dataset_spec`
    speak about it too), except that with USING / USING NAMED only the NON-EMPTY USING NAMED graphs are graphs of the
    dataset (`QueryContext(datasetClause=…)` registers a graph by the first triple copied into it) -/
def Statement_alg_dataset : Prop :=
  ∀ (c : Cfg) (u : Modify) (s : St),
    (u.using_ = [] ∧ u.named = [] → u.algDataset c s = storeDataset c s u.withG) ∧
    (u.using_ ≠ [] ∨ u.named ≠ [] →
      (u.algDataset c s).dflt = (usingDataset s u.using_ u.named).dflt ∧
      ∀ g ts, (g, ts) ∈ (u.algDataset c s).named ↔
        g ∈ u.named ∧ ts = graphTriples s.quads (some g) ∧ ts ≠ [])

theorem alg_dataset : Statement_alg_dataset := by
  intro c u s
  constructor
  · rintro ⟨h1, h2⟩
    unfold Modify.algDataset
    rw [h1, h2]
    rfl
  · intro h
    simp only [Modify.algDataset, isEmpty_and_eq_false h, Bool.false_eq_true, if_false, WhereDS.nonEmptyNamed, true_and]
    intro g ts
    simp only [usingDataset, List.mem_filter, List.mem_map, mem_dedup, Prod.mk.injEq, Bool.not_eq_true',
      List.isEmpty_eq_false_iff, ne_eq]
    constructor
    · rintro ⟨⟨g', hg', rfl, rfl⟩, hne⟩
      exact ⟨hg', rfl, hne⟩
    · rintro ⟨hg, rfl, hne⟩
      exact ⟨⟨g, hg, rfl, rfl⟩, hne⟩

/-- non-vacuity: {a p b, b p c} and `INSERT { ?0 q ?2 } WHERE { ?0 p ?1 OPTIONAL { ?1 p ?2 } }` (the tree as rdflib
    annotates it): two solutions, the second without ?2 — one quad inserted, the other instantiation skipped -/
def optStore : St := ⟨[(.iri 1, .iri 4, .iri 2, none), (.iri 2, .iri 4, .iri 3, none)], [], 0⟩
def optPattern : C04.Alg :=
  .leftJoin (.bgp [⟨.var 0, .const (.iri 4), .var 1⟩]) (.bgp [⟨.var 1, .const (.iri 4), .var 2⟩])
    (.const (.bool true)) (some [0, 1]) (some [1, 2])
def optModify : Modify :=
  { withG := none, del := none, ins := some [((.var 0, .const (.iri 5), .var 2), .dflt)],
    using_ := [], named := [], where_ := [], flt := none, wmode := .alg 3 optPattern }

example : (optPattern.safe = true ∧ optPattern.safeIn [] = true) ∧ C04.WellScoped 3 optPattern := by
  exact ⟨by decide +kernel, by unfold C04.WellScoped; decide +kernel⟩
example : optModify.solutions plainGraph optStore =
    [[(0, .iri 1), (1, .iri 2), (2, .iri 3)], [(0, .iri 2), (1, .iri 3)]] := by decide +kernel
example : (evalModify plainGraph optModify optStore).quads =
    [(.iri 1, .iri 4, .iri 2, none), (.iri 2, .iri 4, .iri 3, none), (.iri 1, .iri 5, .iri 3, none)] := by decide +kernel

/-- witness that the full-strength statement fails for the code as it is (known finding C04-K2, `RV.C04.k2Pattern`):
    `INSERT { ?0 q c } WHERE { VALUES ?0 { a b } OPTIONAL { ?0 p ?1 } }` on {a p c}.  §18 keeps the row ?0 = b (OPTIONAL does not
    eliminate), so (b q c) must be inserted; `_vars` of the VALUES block is empty, the evaluator's re-check drops that row,
    and nothing is inserted for it. -/
def k2Store : St := ⟨[(.iri 1, .iri 4, .iri 3, none)], [], 0⟩
def k2Pattern : C04.Alg :=
  .leftJoin (.values [0] [[some (.iri 1)], [some (.iri 2)]]) (.bgp [⟨.var 0, .const (.iri 4), .var 1⟩])
    (.const (.bool true)) (some []) (some [0, 1])
def k2Modify : Modify :=
  { withG := none, del := none, ins := some [((.var 0, .const (.iri 5), .const (.iri 3)), .dflt)],
    using_ := [], named := [], where_ := [], flt := none, wmode := .alg 2 k2Pattern }

example : k2Pattern.safe = false ∧ k2Pattern.safeIn [] = false := by decide +kernel

theorem modify_where_spec_witness : ¬ Statement_modify_where_spec := by
  intro h
  obtain ⟨sk, _, _, h3⟩ := h plainGraph k2Modify k2Store 2 k2Pattern rfl rfl (by decide +kernel)
    (by unfold C04.WellScoped; decide +kernel)
  have hsol : (specSolutions (k2Modify.algDataset plainGraph k2Store) 2 k2Pattern)[1]? = some [(0, .iri 2)] := by
    decide +kernel
  have hx := (h3 (.iri 2, .iri 5, .iri 3, none)).2
    (Or.inr ⟨1, [(0, .iri 2)], hsol, _, List.mem_singleton.2 rfl,
      -- `Spec.Instance`: the three positions, the graph, legal subject and predicate
      ⟨rfl, rfl, rfl, rfl, rfl, rfl⟩⟩)
  revert hx
  decide +kernel

/-- the evaluator mints nothing: no solution of a WHERE clause — also of a full-algebra one, through `evalPart_below`: an
    induction over every operator of `RV.C04.Model.evalPart` — binds a minted node at or above the supply counter, as long
    as the dataset and the text of the pattern hold none.  So `minted_nodes_new` and
    `prepared_update_stateless` cover requests with such WHERE clauses: `Op.wf` only asks that the text of the pattern
    mentions no minted node (`Modify.algSpelled`), which no request text can. -/
def Statement_alg_solutions_below : Prop :=
  ∀ (c : Cfg) (u : Modify) (s : St), u.algSpelled → FreshInv s → ∀ μ ∈ u.solutions c s, BBelow s.next μ

theorem alg_solutions_below : Statement_alg_solutions_below :=
  fun _ _ _ ha h => bbelow_solutions ha h

example : optModify.algSpelled :=
  ⟨List.forall_mem_singleton.2 ⟨trivial, trivial, trivial⟩,
   List.forall_mem_singleton.2 ⟨trivial, trivial, trivial⟩, trivial⟩

/-- Which operations fail.  On a dataset NO operation of the property's list ever fails — missing graphs included:
    `get_context` always yields a graph, so CLEAR / DROP / ADD / MOVE / COPY of a graph that does not exist succeed, with or
    without SILENT (SPARQL 1.1 Update §3.2 only says such a request SHOULD return failure).  On a plain Graph exactly the
    operations that name a graph fail.  CREATE, and LOAD of a source that cannot be read, fail whatever the dataset. -/
def Statement_outcome_characterisation : Prop :=
  ∀ (c : Cfg) (op : Op) (s : St),
    evalOp c op s = none ↔ (c.single = true ∧ op.needsDataset = true) ∨ op.isFail = true

theorem outcome_characterisation : Statement_outcome_characterisation := by
  intro c op s
  unfold evalOp
  rw [← Bool.and_eq_true, ← Bool.or_eq_true]
  split
  · next h => exact iff_of_true rfl h
  · next h => exact iff_of_false (Option.some_ne_none _) h

/-- What a failing operation in the middle of a request leaves behind ("a result of failure from any operation MUST abort
    the sequence of operations, causing the subsequent operations to be ignored"): the operations before it are applied,
    the failing one changes nothing, and those after it are not run — unless it is SILENT, in which case it is skipped
    and the rest runs from the very state the operations before it left. -/
def Statement_failure_leaves_prefix : Prop :=
  ∀ (c : Cfg) (pre post : List Op) (op : Op) (s : St),
    (runRequest c pre s).failed = false → evalOp c op (runRequest c pre s).st = none →
    runRequest c (pre ++ op :: post) s =
      if op.silent then post.foldl (Run.step c) (runRequest c pre s)
      else { st := (runRequest c pre s).st, failed := true }

theorem failure_leaves_prefix : Statement_failure_leaves_prefix := by
  intro c pre post op s hf he
  rw [request_in_order, List.foldl_cons]
  generalize runRequest c pre s = r at hf he
  obtain ⟨st, _⟩ := r
  cases hf
  have hstep : Run.step c ⟨st, false⟩ op = ⟨st, !op.silent⟩ := by
    unfold Run.step
    rw [he]
    rfl
  rw [hstep]
  cases op.silent with
  | true => rfl
  | false => exact failed_aborts c post ⟨st, true⟩ rfl

/-- CREATE and LOAD as coded.  `evalCreate` raises on every path: CREATE fails (and, SILENT, is skipped) whether the graph
    exists or not — rdflib does not implement it; neither CREATE nor LOAD is in the property's operation list.  LOAD
    (`SPARQL_LOAD_GRAPHS` on) of a source that cannot be read fails; LOAD of a readable document is INSERT DATA of its
    triples into the target graph (`INTO GRAPH g`, else the real default graph), one fresh node per blank-node label of
    the document and per LOAD. -/
def Statement_create_load_spec : Prop :=
  (∀ (c : Cfg) (sl : Bool) (g : Nat) (s : St), evalOp c (Op.create sl g) s = none ∧ (Op.create sl g).silent = sl) ∧
  (∀ (c : Cfg) (single sl : Bool) (into : GName) (s : St),
    evalOp c (Op.load single sl none into) s = none ∧ (Op.load single sl none into).silent = sl) ∧
  (∀ (c : Cfg) (sl : Bool) (doc : Option (List TTpl)) (g : Nat) (s : St), c.single = true →
    evalOp c (Op.load c.single sl doc (some g)) s = none ∧ (Op.load c.single sl doc (some g)).silent = sl) ∧
  (∀ (ts : List TTpl) (into : GName), ∀ q ∈ loadQuads ts into, Spec.substG [] none q.2 = some into) ∧
  (∀ (c : Cfg) (sl : Bool) (ts : List TTpl) (into : GName) (s : St), (c.single = false ∨ into = none) →
    ∃ s', evalOp c (Op.load c.single sl (some ts) into) s = some s' ∧
      ∀ x, x ∈ s'.quads ↔
        x ∈ s.quads ∨ Spec.DatasetOf [] (alookup (mkMap (tplLabels (loadQuads ts into)) s.next)) none (loadQuads ts into) x)

theorem create_load_spec : Statement_create_load_spec := by
  have hfail : ∀ (c : Cfg) (sl : Bool) (s : St), evalOp c (.fail sl) s = none := fun c sl s =>
    (outcome_characterisation c _ s).2 (Or.inr rfl)
  refine ⟨fun c sl g s => ⟨hfail c sl s, rfl⟩, fun c single sl into s => ⟨hfail c sl s, rfl⟩, ?_, ?_, ?_⟩
  · intro c sl doc g s hc
    have : Op.load c.single sl doc (some g) = .fail sl := by
      cases doc with
      | none => rfl
      | some ts => unfold Op.load; rw [hc]; rfl
    rw [this]
    exact ⟨hfail c sl s, rfl⟩
  · intro ts into q hq
    obtain ⟨t, _, rfl⟩ := List.mem_map.1 hq
    cases into <;> rfl
  · intro c sl ts into s h
    refine ⟨evalInsertData (loadQuads ts into) s, ?_, insert_data_spec _ s⟩
    -- the guard of `evalOp` passes: a dataset, or every quad of the document outside GRAPH
    have hload : Op.load c.single sl (some ts) into = .insertData (loadQuads ts into) := by
      refine if_neg ?_
      rcases h with h | h
      · rw [h]; exact Bool.false_ne_true
      · rw [h]; show ¬ (c.single && false) = true; rw [Bool.and_false]; exact Bool.false_ne_true
    have hnd : (c.single && (Op.insertData (loadQuads ts into)).needsDataset || false) = false := by
      rw [Bool.or_false, Bool.and_eq_false_imp]
      rcases h with h | h
      · exact fun hc => absurd (h.symm.trans hc) Bool.false_ne_true
      · exact fun _ => List.any_eq_false.2 fun q hq => by
          obtain ⟨t, _, rfl⟩ := List.mem_map.1 hq; rw [h]; exact Bool.false_ne_true
    rw [hload]
    exact (if_neg (ne_true_of_eq_false hnd) : evalOp c (.insertData (loadQuads ts into)) s = _)

/-- non-vacuity: `INSERT DATA {a p b} ; CREATE GRAPH <g> ; INSERT DATA {b p a}` keeps the first insertion only;
    with `CREATE SILENT` both are there -/
example :
    let i1 : Op := .insertData [((.const (.iri 1), .const (.iri 4), .const (.iri 2)), .dflt)]
    let i2 : Op := .insertData [((.const (.iri 2), .const (.iri 4), .const (.iri 1)), .dflt)]
    (runRequest ⟨.ds, true⟩ [i1, Op.create false 90, i2] ⟨[], [], 0⟩).st.quads = [(.iri 1, .iri 4, .iri 2, none)] ∧
    (runRequest ⟨.ds, true⟩ [i1, Op.create false 90, i2] ⟨[], [], 0⟩).failed = true ∧
    (runRequest ⟨.ds, true⟩ [i1, Op.create true 90, i2] ⟨[], [], 0⟩).st.quads =
      [(.iri 1, .iri 4, .iri 2, none), (.iri 2, .iri 4, .iri 1, none)] := by decide +kernel

end RV.C10

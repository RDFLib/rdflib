import RV.C10.Modify
/-
  C10 — `translateQuads` and the evaluators that walk its result.
-/
namespace RV.C10

theorem dictAppend_flat (d : List (GRef × List TTpl)) (g : GRef) (ts : List TTpl) :
    ((dictAppend d g ts).flatMap entryQuads).Perm (d.flatMap entryQuads ++ entryQuads (g, ts)) := by
  induction d with
  | nil => simp [dictAppend]
  | cons e rest ih =>
    obtain ⟨g', ts'⟩ := e
    unfold dictAppend
    split
    · next h =>
      subst h
      rw [List.flatMap_cons, List.flatMap_cons, entryQuads, List.map_append, List.append_assoc, List.append_assoc]
      exact List.Perm.append_left _ List.perm_append_comm
    · rw [List.flatMap_cons, List.flatMap_cons, List.append_assoc]
      exact List.Perm.append_left _ ih

theorem dictStep_flat (d : List (GRef × List TTpl)) (p : QPart) :
    (outsideQuads p.outside ++ (dictStep d p).flatMap entryQuads).Perm (d.flatMap entryQuads ++ p.flat) := by
  cases p with
  | triples ts => exact List.perm_append_comm
  | graph g ts =>
    cases ts with
    | nil => exact List.perm_append_comm
    | cons t ts => exact dictAppend_flat d g (t :: ts)

/-- with the dictionary built so far as accumulator: what the rest of the request adds to it, and the triples it
    writes outside GRAPH, are the quads the rest of the request writes -/
theorem foldl_dictStep_flat (w : Written) : ∀ (d : List (GRef × List TTpl)),
    (outsideQuads (w.flatMap QPart.outside) ++ (w.foldl dictStep d).flatMap entryQuads).Perm
      (d.flatMap entryQuads ++ w.flat) := by
  induction w with
  | nil => intro d; exact List.perm_append_comm
  | cons p rest ih =>
    intro d
    rw [List.foldl_cons, List.flatMap_cons, show outsideQuads (p.outside ++ rest.flatMap QPart.outside) =
      outsideQuads p.outside ++ outsideQuads (rest.flatMap QPart.outside) from List.map_append, List.append_assoc,
      Written.flat, List.flatMap_cons]
    refine ((ih _).append_left _).trans ?_
    rw [← List.append_assoc, ← List.append_assoc]
    exact (dictStep_flat d p).append_right _

theorem translateQuads_flat_perm (w : Written) : (translateQuads w).flat.Perm w.flat :=
  foldl_dictStep_flat w []

/- both walks are one fold of the primitive over the filled template: `fillTemplate` is a `filterMap`, which
   commutes with `++` and `flatMap`, and so does `foldl` -/
theorem deleteTranslated_eq (t : Translated) (tgt : GName) :
    deleteTranslated t tgt = deleteSolution t.flat tgt := by
  funext s μ
  simp only [deleteTranslated, deleteSolution, Translated.flat, St.removeAll, fillTemplate_eq_filterMap,
    List.filterMap_append, List.filterMap_flatMap, List.foldl_append, List.foldl_flatMap]

theorem insertTranslated_eq (t : Translated) (tgt : GName) :
    insertTranslated t tgt = insertSolution t.flat tgt := by
  funext s μ
  simp only [insertTranslated, insertSolution, Translated.flat, St.addAll, fillTemplate_eq_filterMap,
    List.filterMap_append, List.filterMap_flatMap, List.foldl_append, List.foldl_flatMap]

theorem asWritten_solutions (c : Cfg) (u : WModify) (s : St) :
    u.asWritten.solutions c s = u.core.solutions c s := rfl

theorem evalModifyT_eq (c : Cfg) (u : WModify) (s : St) : evalModifyT c u s = evalModify c u.toModify s := by
  unfold evalModifyT evalModify WModify.toModify
  cases u.del <;> cases u.ins <;> simp only [Option.map, deleteTranslated_eq, insertTranslated_eq] <;> rfl

theorem evalWOp_eq (c : Cfg) (w : WOp) (s : St) : evalWOp c w s = evalOp c w.toOp s := by
  unfold evalWOp
  split
  · next h => exact (if_pos h).symm
  · next h =>
    cases w with
    | insertData q => exact (congrArg (fun f => some (f s [])) (insertTranslated_eq _ none)).trans (if_neg h).symm
    | deleteData q => exact (congrArg (fun f => some (f s [])) (deleteTranslated_eq _ none)).trans (if_neg h).symm
    | modify u => exact (congrArg some (evalModifyT_eq c u s)).trans (if_neg h).symm
    | other op => rfl

theorem stepW_eq (c : Cfg) (r : Run) (w : WOp) : r.stepW c w = r.step c w.toOp := by
  unfold Run.stepW Run.step
  rw [evalWOp_eq]

abbrev SameQuads (a b : List QTpl) : Prop := SetEq a b

theorem sameQuads_translate (w : Written) : SameQuads (translateQuads w).flat w.flat :=
  fun _ => (translateQuads_flat_perm w).mem_iff

theorem tplLabels_sameQuads {a b : List QTpl} (h : SameQuads a b) : tplLabels a = tplLabels b :=
  tplLabels_congr fun x => by unfold rawLabels; simp only [List.mem_flatMap, h _]

theorem mem_fillTemplate_sameQuads {a b : List QTpl} (h : SameQuads a b) (μ : Binding) (bm : List (Nat × Nat))
    (tgt : GName) (x : Quad) : x ∈ fillTemplate μ bm tgt a ↔ x ∈ fillTemplate μ bm tgt b := by
  simp only [mem_fillTemplate, h _]

/-- same quads and same supply counter (what the specifications of Props.lean speak about) -/
def SameStore (s s' : St) : Prop := SetEq s.quads s'.quads ∧ s.next = s'.next

theorem twoPass_same {del del' ins ins' : Option (List QTpl)} (hd : SameQuads (del.getD []) (del'.getD []))
    (hi : SameQuads (ins.getD []) (ins'.getD [])) (tgt : GName) (sols : List Binding) (s : St) :
    SameStore (twoPass del ins tgt sols s) (twoPass del' ins' tgt sols s) := by
  have hw : insWidth ins = insWidth ins' := by rw [insWidth_eq, insWidth_eq, tplLabels_sameQuads hi]
  refine ⟨fun x => ?_, by rw [twoPass_next, twoPass_next, hw]⟩
  simp only [mem_twoPass_fill, solMap, tplLabels_sameQuads hi, mem_fillTemplate_sameQuads hd,
    mem_fillTemplate_sameQuads hi]

theorem evalModify_same (c : Cfg) (u u' : Modify) (s : St)
    (hsol : u.solutions c s = u'.solutions c s) (hw : u.withG = u'.withG)
    (hd : match u.del, u'.del with | some a, some b => SameQuads a b | none, none => True | _, _ => False)
    (hi : match u.ins, u'.ins with | some a, some b => SameQuads a b | none, none => True | _, _ => False) :
    SameStore (evalModify c u s) (evalModify c u' s) := by
  have key : ∀ {a b : Option (List QTpl)},
      (match a, b with | some a, some b => SameQuads a b | none, none => True | _, _ => False) →
        SameQuads (a.getD []) (b.getD []) := by
    intro a b h
    cases a <;> cases b
    · exact SetEq.refl _
    · exact h.elim
    · exact h.elim
    · exact h
  rw [evalModify_eq_twoPass, evalModify_eq_twoPass, ← hsol, ← hw]
  exact twoPass_same (key hd) (key hi) _ _ s

theorem twoPass_translate (dw iw : Option Written) (tgt : GName) (sols : List Binding) (s : St) :
    SameStore (twoPass (dw.map fun w => (translateQuads w).flat) (iw.map fun w => (translateQuads w).flat) tgt sols s)
      (twoPass (dw.map Written.flat) (iw.map Written.flat) tgt sols s) := by
  refine twoPass_same ?_ ?_ tgt sols s
  · cases dw with
    | none => exact SetEq.refl _
    | some w => exact sameQuads_translate w
  · cases iw with
    | none => exact SetEq.refl _
    | some w => exact sameQuads_translate w

theorem evalModifyT_sameStore (c : Cfg) (u : WModify) (s : St) :
    SameStore (evalModifyT c u s) (evalModify c u.asWritten s) := by
  rw [evalModifyT_eq, evalModify_eq_twoPass, evalModify_eq_twoPass]
  exact twoPass_translate u.del u.ins _ _ s

def SameOutcome (a b : Option St) : Prop :=
  match a, b with
  | none, none => True
  | some s, some s' => SameStore s s'
  | _, _ => False

theorem asWritten_needsDataset (w : WOp) : w.toOp.needsDataset = w.asWritten.needsDataset := by
  cases w with
  | insertData q => exact (translateQuads_flat_perm q).any_eq
  | deleteData q => exact (translateQuads_flat_perm q).any_eq
  | modify u =>
    -- only the two template disjuncts differ, and they do not see the order of the quads
    obtain ⟨core, del, ins⟩ := u
    have h := fun w => (translateQuads_flat_perm w).any_eq (f := fun x : QTpl => !x.2.isDflt)
    cases del <;> cases ins <;>
      simp only [WOp.toOp, WOp.asWritten, WModify.toModify, WModify.asWritten, Op.needsDataset, Option.map, h]
  | other op => rfl

theorem evalWOp_same_asWritten (c : Cfg) (w : WOp) (s : St) :
    SameOutcome (evalWOp c w s) (evalOp c w.asWritten s) := by
  rw [evalWOp_eq]
  unfold evalOp
  rw [asWritten_needsDataset, show w.toOp.isFail = w.asWritten.isFail by cases w <;> rfl]
  split
  · trivial
  · cases w with
    | insertData q => exact twoPass_translate none (some q) none [[]] s
    | deleteData q => exact twoPass_translate (some q) none none [[]] s
    | modify u =>
      show SameStore (evalModify c u.toModify s) (evalModify c u.asWritten s)
      rw [← evalModifyT_eq]
      exact evalModifyT_sameStore c u s
    | other op => exact ⟨SetEq.refl _, rfl⟩

end RV.C10

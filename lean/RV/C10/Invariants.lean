import RV.C10.Modify
/-
  C10 — a successful operation is one of four two-pass loops, two folds over the target graphs or three
  compositions of clear / copy / drop (`evalOp_elim`); what is closed under the store primitives survives all of
  them (`Closed`: `KnownInv`, no duplicate quads), and a plain Graph keeps its one graph (`SingleInv`).
-/
namespace RV.C10

/-- every named graph that holds a quad is registered (`Memory.add` registers the context) -/
def KnownInv (s : St) : Prop := ∀ q ∈ s.quads, ∀ g, q.graph = some g → g ∈ s.known

def SingleInv (c : Cfg) (s : St) : Prop := c.single = true → ∀ q ∈ s.quads, q.graph = none

structure Inv (c : Cfg) (s : St) : Prop where
  known : KnownInv s
  nodup : s.quads.Nodup
  single : SingleInv c s

/-- the case analysis of a successful operation, the template operations as the two-pass loops they are
    (`Op.fail` never succeeds) -/
theorem evalOp_elim {c : Cfg} {s : St} {motive : Op → St → Prop}
    (insertData : ∀ q, motive (.insertData q) (twoPass none (some q) none [[]] s))
    (deleteData : ∀ q, motive (.deleteData q) (twoPass (some q) none none [[]] s))
    (deleteWhere : ∀ bs, motive (.deleteWhere bs)
      (twoPass (some (blocksToTpl bs)) none none (evalWhere (storeDataset c s none) bs none) s))
    (modify : ∀ u, motive (.modify u) (twoPass u.del u.ins u.withG (u.solutions c s) s))
    (clear : ∀ sl t, motive (.clear sl t) (evalClear c t s))
    (drop : ∀ sl t, motive (.drop sl t) (evalDrop c t s))
    (add : ∀ sl a b, motive (.add sl a b) (evalAdd a b s))
    (move : ∀ sl a b, motive (.move sl a b) (evalMove a b s))
    (copy : ∀ sl a b, motive (.copy sl a b) (evalCopy a b s))
    {op : Op} {s' : St} (h : evalOp c op s = some s') : motive op s' := by
  unfold evalOp at h
  split at h
  · cases h
  · next hg =>
    cases h
    cases op with
    | insertData q => exact insertData q
    | deleteData q => exact deleteData q
    | deleteWhere bs => show motive _ (evalDeleteWhere c bs s); rw [evalDeleteWhere_eq_twoPass]; exact deleteWhere bs
    | modify u => show motive _ (evalModify c u s); rw [evalModify_eq_twoPass]; exact modify u
    | clear sl t => exact clear sl t
    | drop sl t => exact drop sl t
    | add sl a b => exact add sl a b
    | move sl a b => exact move sl a b
    | copy sl a b => exact copy sl a b
    | fail sl => exact absurd (by simp [Op.isFail]) hg

theorem evalOp_guard {c : Cfg} {op : Op} {s s' : St} (h : evalOp c op s = some s') (hc : c.single = true) :
    op.needsDataset = false := by
  unfold evalOp at h
  split at h
  · cases h
  · next hg => exact (by simpa [hc] using hg : op.needsDataset = false ∧ _).1

/-- `P` survives every primitive step the evaluators are made of -/
structure Closed (P : St → Prop) : Prop where
  addQuad : ∀ {s} q, P s → P (s.addQuad q)
  removeQuad : ∀ {s} q, P s → P (s.removeQuad q)
  clearGraph : ∀ {s} g, P s → P (s.clearGraph g)
  dropGraph : ∀ {s} g, P s → P (s.dropGraph g)
  next : ∀ {s} n, s.next ≤ n → P s → P { s with next := n }

namespace Closed
variable {P : St → Prop} (hP : Closed P)
include hP

theorem removeAll {qs : List Quad} {s : St} (h : P s) : P (s.removeAll qs) :=
  foldl_invariant hP.removeQuad qs h

theorem addAll {qs : List Quad} {s : St} (h : P s) : P (s.addAll qs) :=
  foldl_invariant hP.addQuad qs h

theorem twoPass {del ins : Option (List QTpl)} {tgt : GName} {sols : List Binding} {s : St} (h : P s) :
    P (twoPass del ins tgt sols s) := by
  refine foldl_invariant (fun μ h => ?_) sols (foldl_invariant (fun μ h => ?_) sols h)
  · cases ins with
    | none => exact h
    | some tpl => exact hP.next _ (addAll_next.symm ▸ Nat.le_add_right _ _) (hP.addAll h)
  · cases del with
    | none => exact h
    | some tpl => exact hP.removeAll h

theorem copyInto {a b : GName} {s : St} (h : P s) : P (s.copyInto a b) := hP.addAll h

theorem evalOp {c : Cfg} {op : Op} {s s' : St} (e : evalOp c op s = some s') (h : P s) : P s' := by
  apply evalOp_elim (motive := fun _ s' => P s') (h := e)
  case insertData => exact fun _ => hP.twoPass h
  case deleteData => exact fun _ => hP.twoPass h
  case deleteWhere => exact fun _ => hP.twoPass h
  case modify => exact fun _ => hP.twoPass h
  case clear => exact fun _ t => foldl_invariant hP.clearGraph _ h
  case drop =>
    intro _ t
    unfold evalDrop
    split
    · exact foldl_invariant hP.clearGraph _ h
    · exact foldl_invariant hP.dropGraph _ h
  case add =>
    intro _ a b; unfold evalAdd; split
    · exact h
    · exact hP.copyInto h
  case move =>
    intro _ a b; unfold evalMove; split
    · exact h
    · exact hP.dropGraph _ (hP.copyInto (hP.clearGraph _ h))
  case copy =>
    intro _ a b; unfold evalCopy; split
    · exact h
    · exact hP.copyInto (hP.clearGraph _ h)

end Closed

theorem knownInv_closed : Closed KnownInv where
  addQuad := by
    intro s q h x hx g hg
    show g ∈ (match q.graph with | some g => sinsert s.known g | none => s.known)
    rcases mem_addQuad.1 hx with rfl | hx
    · rw [hg]; exact mem_sinsert.2 (Or.inl rfl)
    · have := h x hx g hg
      split
      · exact mem_sinsert.2 (Or.inr this)
      · exact this
  removeQuad := fun _ h x hx => h x (mem_removeQuad.1 hx).2
  clearGraph := fun _ h x hx => h x (mem_clearGraph.1 hx).1
  dropGraph := by
    intro s g h x hx g' hg'
    have hx := mem_dropGraph.1 hx
    have := h x hx.1 g' hg'
    cases g with
    | none => exact this
    | some n => exact mem_sremove.2 ⟨fun e => hx.2 (e ▸ hg'), this⟩
  next := fun _ _ h => h

theorem nodup_closed : Closed (fun s => s.quads.Nodup) where
  addQuad := fun _ h => nodup_sinsert h
  removeQuad := fun _ h => nodup_sremove h
  clearGraph := fun _ h => h.filter _
  dropGraph := fun _ h => h.filter _
  next := fun _ _ h => h

theorem next_le_evalOp {c : Cfg} {op : Op} {s s' : St} (e : evalOp c op s = some s') : s.next ≤ s'.next :=
  -- "the supply is at least `s.next`" is itself closed under the primitives
  Closed.evalOp (P := fun t => s.next ≤ t.next)
    ⟨fun _ h => h, fun _ h => h, fun _ h => h, fun _ h => h, fun _ hn h => Nat.le_trans h hn⟩ e (Nat.le_refl _)

theorem fillTemplate_graph_none {μ : Binding} {bm : List (Nat × Nat)} {tpl : List QTpl}
    (ht : tpl.any (fun x => !x.2.isDflt) = false) : ∀ x ∈ fillTemplate μ bm none tpl, x.graph = none := by
  intro x hx
  obtain ⟨q, hq, hg⟩ := List.mem_filterMap.1 (graph_mem_of_fillTemplate hx)
  have hd := List.any_eq_false.1 ht q hq
  cases hq2 : q.2 with
  | dflt => rw [hq2] at hg; exact (Option.some.inj hg).symm
  | name g => rw [hq2] at hd; exact absurd rfl hd
  | var v => rw [hq2] at hd; exact absurd rfl hd

theorem allNone_twoPass {del ins : Option (List QTpl)} {sols : List Binding} {s : St}
    (hi : (ins.getD []).any (fun x => !x.2.isDflt) = false)
    (h : ∀ q ∈ s.quads, q.graph = none) : ∀ q ∈ (twoPass del ins none sols s).quads, q.graph = none := by
  intro x hx
  rcases mem_twoPass_fill.1 hx with h' | ⟨i, μ, _, hx⟩
  · exact h x h'.1
  · exact fillTemplate_graph_none hi x hx

theorem needsDataset_withG {u : Modify} (h : (Op.modify u).needsDataset = false) : u.withG = none := by
  cases hw : u.withG with
  | none => rfl
  | some g => simp [Op.needsDataset, hw] at h

theorem needsDataset_ins {u : Modify} (h : (Op.modify u).needsDataset = false) :
    (u.ins.getD []).any (fun x => !x.2.isDflt) = false := by
  have hi := (Bool.or_eq_false_iff.1 h).2
  revert hi
  cases u.ins <;> exact id

theorem singleInv_evalOp {c : Cfg} {op : Op} {s s' : St} (e : evalOp c op s = some s') (h : SingleInv c s) :
    SingleInv c s' := by
  intro hc
  have h := h hc
  have hnd := evalOp_guard e hc
  revert hnd
  apply evalOp_elim (motive := fun op s' => op.needsDataset = false → ∀ q ∈ s'.quads, q.graph = none) (h := e)
  case insertData => exact fun q hnd => allNone_twoPass hnd h
  case deleteData => exact fun q _ => allNone_twoPass rfl h
  case deleteWhere => exact fun bs _ => allNone_twoPass rfl h
  case modify =>
    intro u hnd
    rw [needsDataset_withG hnd]
    exact allNone_twoPass (needsDataset_ins hnd) h
  case clear => exact fun _ t _ x hx => h x (mem_evalClear.1 hx).1
  case drop => exact fun _ t _ x hx => h x (mem_evalDrop.1 hx).1
  case add | move | copy =>
    -- on a plain Graph ADD / MOVE / COPY can only be DEFAULT to DEFAULT: source = target, nothing happens
    intro _ a b hnd
    simp only [Op.needsDataset, Bool.or_eq_false_iff, Option.isSome_eq_false_iff, Option.isNone_iff_eq_none] at hnd
    rw [hnd.1, hnd.2]
    exact h

theorem inv_evalOp (c : Cfg) (op : Op) (s s' : St) (h : Inv c s) (e : evalOp c op s = some s') : Inv c s' :=
  ⟨knownInv_closed.evalOp e h.known, nodup_closed.evalOp e h.nodup, singleInv_evalOp e h.single⟩

theorem Run.step_invariant {P : St → Prop} {c : Cfg} {r : Run} {op : Op}
    (h : ∀ s', evalOp c op r.st = some s' → P s') (hr : P r.st) : P (r.step c op).st := by
  unfold Run.step
  split
  · exact hr
  · split
    · next s' e => exact h s' e
    · exact hr

theorem inv_step (c : Cfg) (r : Run) (op : Op) (h : Inv c r.st) : Inv c (r.step c op).st :=
  Run.step_invariant (fun s' => inv_evalOp c op r.st s' h) h

end RV.C10

import RV.C10.Lemmas
/-
  C10 — `_fillTemplate`, the blank-node map of one solution (`mkMap`), the labels of a template (`tplLabels`).
-/
namespace RV.C10

theorem fillTemplate_eq_filterMap (μ : Binding) (bm : List (Nat × Nat)) (tgt : GName) (tpl : List QTpl) :
    fillTemplate μ bm tgt tpl = tpl.filterMap (fillQuad μ bm tgt) := by
  induction tpl with
  | nil => rfl
  | cons q rest ih => rw [fillTemplate, List.filterMap_cons, ih]; cases fillQuad μ bm tgt q <;> rfl

theorem mem_fillTemplate {μ : Binding} {bm : List (Nat × Nat)} {tgt : GName} {tpl : List QTpl} {x : Quad} :
    x ∈ fillTemplate μ bm tgt tpl ↔ ∃ q ∈ tpl, fillQuad μ bm tgt q = some x := by
  rw [fillTemplate_eq_filterMap, List.mem_filterMap]

theorem fillQuad_eq_some {μ : Binding} {bm : List (Nat × Nat)} {tgt : GName} {q : QTpl} {x : Quad} :
    fillQuad μ bm tgt q = some x ↔
      instTerm μ bm q.1.1 = some x.1 ∧ instTerm μ bm q.1.2.1 = some x.2.1 ∧
      instTerm μ bm q.1.2.2 = some x.2.2.1 ∧ instGraph μ tgt q.2 = some x.2.2.2 ∧
      x.1.isLit = false ∧ x.2.1.isIri = true := by
  obtain ⟨a, b, c, d⟩ := x
  constructor
  · intro h
    unfold fillQuad fillTriple at h
    split at h
    · next g t hg ht =>
      cases h
      split at ht
      · next s p o hs hp ho =>
        split at ht
        · cases ht
        · next hl => cases ht; simpa [hs, hp, ho, hg] using hl
      · cases ht
    · cases h
  · rintro ⟨h1, h2, h3, h4, h5, h6⟩
    simp only [fillQuad, fillTriple, h1, h2, h3, h4, h5, h6]
    rfl

theorem fillQuad_graph {μ : Binding} {bm : List (Nat × Nat)} {tgt : GName} {q : QTpl} {x : Quad}
    (h : fillQuad μ bm tgt q = some x) : instGraph μ tgt q.2 = some x.graph :=
  (fillQuad_eq_some.1 h).2.2.2.1

theorem graph_mem_of_fillTemplate {μ : Binding} {bm : List (Nat × Nat)} {tgt : GName} {tpl : List QTpl} {x : Quad}
    (h : x ∈ fillTemplate μ bm tgt tpl) : x.graph ∈ tpl.filterMap (fun q => instGraph μ tgt q.2) := by
  obtain ⟨q, hq, hx⟩ := mem_fillTemplate.1 h
  exact List.mem_filterMap.2 ⟨q, hq, fillQuad_graph hx⟩

theorem alookup_mkMap_range {ls : List Nat} {n l v : Nat} (h : alookup (mkMap ls n) l = some v) :
    n ≤ v ∧ v < n + ls.length := by
  induction ls generalizing n with
  | nil => cases h
  | cons a rest ih =>
    rw [mkMap, alookup] at h
    split at h
    · cases h; exact ⟨Nat.le_refl _, Nat.lt_add_of_pos_right (Nat.succ_pos _)⟩
    · have := ih h
      rw [List.length_cons]; omega

theorem alookup_mkMap_mem {ls : List Nat} {n l : Nat} (h : l ∈ ls) : ∃ v, alookup (mkMap ls n) l = some v := by
  induction ls generalizing n with
  | nil => cases h
  | cons a rest ih =>
    rw [mkMap, alookup]
    split
    · exact ⟨n, rfl⟩
    · next hne => exact ih ((List.mem_cons.1 h).resolve_left (Ne.symm hne))

theorem alookup_mkMap_inj {ls : List Nat} {n a b v : Nat}
    (ha : alookup (mkMap ls n) a = some v) (hb : alookup (mkMap ls n) b = some v) : a = b := by
  induction ls generalizing n with
  | nil => cases ha
  | cons c rest ih =>
    rw [mkMap, alookup] at ha hb
    split at ha <;> split at hb
    · next h1 h2 => rw [← h1, ← h2]
    · cases ha; have := (alookup_mkMap_range hb).1; omega
    · cases hb; have := (alookup_mkMap_range ha).1; omega
    · exact ih ha hb

theorem listMax_le_iff {l : List Nat} {k : Nat} : listMax l ≤ k ↔ ∀ x ∈ l, x ≤ k := by
  induction l with
  | nil => exact ⟨fun _ _ h => absurd h List.not_mem_nil, fun _ => Nat.zero_le _⟩
  | cons y ys ih => rw [listMax, Nat.max_le, ih, List.forall_mem_cons]

theorem listMax_congr {a b : List Nat} (h : ∀ x, x ∈ a ↔ x ∈ b) : listMax a = listMax b :=
  Nat.le_antisymm (listMax_le_iff.2 fun x hx => listMax_le_iff.1 (Nat.le_refl _) x ((h x).1 hx))
    (listMax_le_iff.2 fun x hx => listMax_le_iff.1 (Nat.le_refl _) x ((h x).2 hx))

theorem mem_tplLabels (tpl : List QTpl) (l : Nat) : l ∈ tplLabels tpl ↔ l ∈ rawLabels tpl := by
  unfold tplLabels
  simp only [List.mem_filter, List.mem_range, decide_eq_true_eq]
  exact ⟨fun h => h.2, fun h => ⟨Nat.lt_succ_of_le (listMax_le_iff.1 (Nat.le_refl _) l h), h⟩⟩

theorem tplLabels_congr {a b : List QTpl} (h : ∀ x, x ∈ rawLabels a ↔ x ∈ rawLabels b) :
    tplLabels a = tplLabels b := by
  unfold tplLabels
  rw [listMax_congr h]
  exact List.filter_congr fun x _ => by rw [decide_eq_decide.2 (h x)]

end RV.C10

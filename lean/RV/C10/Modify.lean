import RV.C10.Template
/-
  C10 — the loops of DELETE/INSERT as set algebra.
  `solPairs` lists, per solution, the quads its DELETE template names and the quads its INSERT template
  names (with that solution's fresh nodes).  Two passes (`twoPass`, the repaired code) leave
  (S \ ⋃D) ∪ ⋃I; the per-solution loop (`onePass`, the pinned code) is the fold of S ↦ (S \ Dᵢ) ∪ Iᵢ, which is
  the same set whenever no earlier solution's insertion is a later solution's deletion.
  INSERT DATA, DELETE DATA (by unfolding) and DELETE WHERE (`evalDeleteWhere_eq_twoPass`) are two-pass loops as well
  (one empty solution / no INSERT part).
-/
namespace RV.C10

theorem deleteSolution_next {tpl : List QTpl} {tgt : GName} {s : St} {μ : Binding} :
    (deleteSolution tpl tgt s μ).next = s.next := removeAll_next

theorem mem_deleteSolution {tpl : List QTpl} {tgt : GName} {s : St} {μ : Binding} {x : Quad} :
    x ∈ (deleteSolution tpl tgt s μ).quads ↔ x ∈ s.quads ∧ x ∉ fillTemplate μ [] tgt tpl := mem_removeAll

theorem insertSolution_next {tpl : List QTpl} {tgt : GName} {s : St} {μ : Binding} :
    (insertSolution tpl tgt s μ).next = s.next + (tplLabels tpl).length := rfl

theorem mem_insertSolution {tpl : List QTpl} {tgt : GName} {s : St} {μ : Binding} {x : Quad} :
    x ∈ (insertSolution tpl tgt s μ).quads ↔
      x ∈ s.quads ∨ x ∈ fillTemplate μ (mkMap (tplLabels tpl) s.next) tgt tpl := mem_addAll

/-- the blank-node map solution number `i` gets when the loop starts with supply `n` -/
def solMap (tpl : List QTpl) (n i : Nat) : List (Nat × Nat) :=
  mkMap (tplLabels tpl) (n + i * (tplLabels tpl).length)

def delOf (del : Option (List QTpl)) (tgt : GName) (μ : Binding) : List Quad :=
  match del with
  | some tpl => fillTemplate μ [] tgt tpl
  | none => []

def insOf (ins : Option (List QTpl)) (tgt : GName) (μ : Binding) (n : Nat) : List Quad :=
  match ins with
  | some tpl => fillTemplate μ (mkMap (tplLabels tpl) n) tgt tpl
  | none => []

def insWidth (ins : Option (List QTpl)) : Nat :=
  match ins with
  | some tpl => (tplLabels tpl).length
  | none => 0

/- an absent clause is the empty template (`getD []`, as the Spec says it) -/
theorem delOf_eq (del : Option (List QTpl)) (tgt : GName) (μ : Binding) :
    delOf del tgt μ = fillTemplate μ [] tgt (del.getD []) := by
  cases del <;> rfl

theorem insOf_eq (ins : Option (List QTpl)) (tgt : GName) (μ : Binding) (n : Nat) :
    insOf ins tgt μ n = fillTemplate μ (mkMap (tplLabels (ins.getD [])) n) tgt (ins.getD []) := by
  cases ins <;> rfl

theorem insWidth_eq (ins : Option (List QTpl)) : insWidth ins = (tplLabels (ins.getD [])).length := by
  cases ins <;> rfl

def deleteOpt (del : Option (List QTpl)) (tgt : GName) (s : St) (μ : Binding) : St :=
  match del with
  | some tpl => deleteSolution tpl tgt s μ
  | none => s

def insertOpt (ins : Option (List QTpl)) (tgt : GName) (s : St) (μ : Binding) : St :=
  match ins with
  | some tpl => insertSolution tpl tgt s μ
  | none => s

theorem deleteOpt_none (tgt : GName) : deleteOpt none tgt = fun s _ => s := rfl
theorem insertOpt_none (tgt : GName) : insertOpt none tgt = fun s _ => s := rfl

theorem mem_deleteOpt {del : Option (List QTpl)} {tgt : GName} {s : St} {μ : Binding} {x : Quad} :
    x ∈ (deleteOpt del tgt s μ).quads ↔ x ∈ s.quads ∧ x ∉ delOf del tgt μ := by
  cases del with
  | none => exact (and_iff_left List.not_mem_nil).symm
  | some tpl => exact mem_deleteSolution

theorem deleteOpt_next {del : Option (List QTpl)} {tgt : GName} {s : St} {μ : Binding} :
    (deleteOpt del tgt s μ).next = s.next := by
  cases del with
  | none => rfl
  | some tpl => exact deleteSolution_next

theorem mem_insertOpt {ins : Option (List QTpl)} {tgt : GName} {s : St} {μ : Binding} {x : Quad} :
    x ∈ (insertOpt ins tgt s μ).quads ↔ x ∈ s.quads ∨ x ∈ insOf ins tgt μ s.next := by
  cases ins with
  | none => exact (or_iff_left List.not_mem_nil).symm
  | some tpl => exact mem_insertSolution

theorem insertOpt_next {ins : Option (List QTpl)} {tgt : GName} {s : St} {μ : Binding} :
    (insertOpt ins tgt s μ).next = s.next + insWidth ins := by
  cases ins <;> rfl

/-- (deletions, insertions) of every solution, the fresh supply starting at `n` -/
def solPairs (del ins : Option (List QTpl)) (tgt : GName) : List Binding → Nat → List (List Quad × List Quad)
  | [], _ => []
  | μ :: rest, n => (delOf del tgt μ, insOf ins tgt μ n) :: solPairs del ins tgt rest (n + insWidth ins)

theorem exists_solPairs_ins (del ins : Option (List QTpl)) (tgt : GName) (sols : List Binding) (x : Quad) :
    ∀ (n : Nat), (∃ p ∈ solPairs del ins tgt sols n, x ∈ p.2) ↔
      ∃ i μ, sols[i]? = some μ ∧ x ∈ insOf ins tgt μ (n + i * insWidth ins) := by
  induction sols with
  | nil => intro n; simp [solPairs]
  | cons μ rest ih =>
    intro n
    rw [solPairs]
    simp only [List.mem_cons, exists_eq_or_imp, ih]
    constructor
    · rintro (h | ⟨i, ν, hi, h⟩)
      · exact ⟨0, μ, rfl, by rwa [Nat.zero_mul]⟩
      · exact ⟨i + 1, ν, hi, by rwa [Nat.succ_mul, Nat.add_comm (i * _), ← Nat.add_assoc]⟩
    · rintro ⟨i, ν, hi, h⟩
      cases i with
      | zero => cases hi; exact Or.inl (by rwa [Nat.zero_mul] at h)
      | succ i => exact Or.inr ⟨i, ν, hi, by rwa [Nat.succ_mul, Nat.add_comm (i * _), ← Nat.add_assoc] at h⟩

theorem forall_solPairs_del (del ins : Option (List QTpl)) (tgt : GName) (sols : List Binding) (n : Nat) (x : Quad) :
    (∀ p ∈ solPairs del ins tgt sols n, x ∉ p.1) ↔ ∀ μ ∈ sols, x ∉ delOf del tgt μ := by
  induction sols generalizing n with
  | nil => simp [solPairs]
  | cons μ rest ih => rw [solPairs, List.forall_mem_cons, List.forall_mem_cons, ih]

def twoPass (del ins : Option (List QTpl)) (tgt : GName) (sols : List Binding) (s : St) : St :=
  sols.foldl (insertOpt ins tgt) (sols.foldl (deleteOpt del tgt) s)

def onePass (del ins : Option (List QTpl)) (tgt : GName) (sols : List Binding) (s : St) : St :=
  sols.foldl (fun s μ => insertOpt ins tgt (deleteOpt del tgt s μ) μ) s

theorem mem_foldl_deleteOpt (del : Option (List QTpl)) (tgt : GName) (sols : List Binding) (s : St) (x : Quad) :
    x ∈ (sols.foldl (deleteOpt del tgt) s).quads ↔ x ∈ s.quads ∧ ∀ μ ∈ sols, x ∉ delOf del tgt μ :=
  foldl_and (deleteOpt del tgt) (fun s => x ∈ s.quads) (fun _ _ => mem_deleteOpt) sols s

theorem foldl_deleteOpt_next (del : Option (List QTpl)) (tgt : GName) (sols : List Binding) (s : St) :
    (sols.foldl (deleteOpt del tgt) s).next = s.next :=
  foldl_keeps (·.next) (fun _ _ => deleteOpt_next) sols s

theorem mem_foldl_insertOpt (del ins : Option (List QTpl)) (tgt : GName) (sols : List Binding) :
    ∀ (s : St) (x : Quad), x ∈ (sols.foldl (insertOpt ins tgt) s).quads ↔
      x ∈ s.quads ∨ ∃ p ∈ solPairs del ins tgt sols s.next, x ∈ p.2 := by
  induction sols with
  | nil => intro s x; simp [solPairs]
  | cons μ rest ih =>
    intro s x
    rw [List.foldl_cons, ih, mem_insertOpt, insertOpt_next, solPairs, or_assoc]
    simp only [List.mem_cons, exists_eq_or_imp]

theorem foldl_insertOpt_next (ins : Option (List QTpl)) (tgt : GName) (sols : List Binding) :
    ∀ (s : St), (sols.foldl (insertOpt ins tgt) s).next = s.next + sols.length * insWidth ins := by
  induction sols with
  | nil => intro s; simp
  | cons μ rest ih =>
    intro s
    rw [List.foldl_cons, ih, insertOpt_next, List.length_cons, Nat.succ_mul, Nat.add_assoc,
      Nat.add_comm (insWidth ins)]

theorem mem_twoPass (del ins : Option (List QTpl)) (tgt : GName) (sols : List Binding) (s : St) (x : Quad) :
    x ∈ (twoPass del ins tgt sols s).quads ↔
      (x ∈ s.quads ∧ ∀ μ ∈ sols, x ∉ delOf del tgt μ) ∨ ∃ p ∈ solPairs del ins tgt sols s.next, x ∈ p.2 := by
  unfold twoPass
  rw [mem_foldl_insertOpt del, foldl_deleteOpt_next, mem_foldl_deleteOpt]

theorem twoPass_next (del ins : Option (List QTpl)) (tgt : GName) (sols : List Binding) (s : St) :
    (twoPass del ins tgt sols s).next = s.next + sols.length * insWidth ins := by
  unfold twoPass
  rw [foldl_insertOpt_next, foldl_deleteOpt_next]

theorem mem_twoPass_fill {del ins : Option (List QTpl)} {tgt : GName} {sols : List Binding} {s : St} {x : Quad} :
    x ∈ (twoPass del ins tgt sols s).quads ↔
      (x ∈ s.quads ∧ ∀ μ ∈ sols, x ∉ fillTemplate μ [] tgt (del.getD [])) ∨
        ∃ i μ, sols[i]? = some μ ∧ x ∈ fillTemplate μ (solMap (ins.getD []) s.next i) tgt (ins.getD []) := by
  rw [mem_twoPass, exists_solPairs_ins]
  simp only [delOf_eq, insOf_eq, insWidth_eq, solMap]

theorem twoPass_frame {del ins : Option (List QTpl)} {tgt : GName} {sols : List Binding} {s : St} {x : Quad}
    (hd : ∀ μ ∈ sols, x.graph ∉ (del.getD []).filterMap (fun q => instGraph μ tgt q.2))
    (hi : ∀ μ ∈ sols, x.graph ∉ (ins.getD []).filterMap (fun q => instGraph μ tgt q.2)) :
    x ∈ (twoPass del ins tgt sols s).quads ↔ x ∈ s.quads := by
  rw [mem_twoPass_fill]
  constructor
  · rintro (h | ⟨i, μ, hμ, h⟩)
    · exact h.1
    · exact absurd (graph_mem_of_fillTemplate h) (hi μ (List.mem_of_getElem? hμ))
  · exact fun h => Or.inl ⟨h, fun μ hμ h' => hd μ hμ (graph_mem_of_fillTemplate h')⟩

theorem mem_onePass {del ins : Option (List QTpl)} {tgt : GName} {sols : List Binding} :
    ∀ (s : St), (solPairs del ins tgt sols s.next).Pairwise (fun a b => ∀ y ∈ a.2, y ∉ b.1) → ∀ (x : Quad),
      x ∈ (onePass del ins tgt sols s).quads ↔
        (x ∈ s.quads ∧ ∀ p ∈ solPairs del ins tgt sols s.next, x ∉ p.1) ∨
          ∃ p ∈ solPairs del ins tgt sols s.next, x ∈ p.2 := by
  induction sols with
  | nil => intro s _ x; simp [onePass, solPairs]
  | cons μ rest ih =>
    intro s hp x
    rw [solPairs, List.pairwise_cons] at hp
    have h1 := ih (insertOpt ins tgt (deleteOpt del tgt s μ) μ)
    rw [insertOpt_next, deleteOpt_next] at h1
    refine (h1 hp.2 x).trans ?_
    rw [mem_insertOpt, mem_deleteOpt, deleteOpt_next, solPairs, List.forall_mem_cons]
    simp only [List.mem_cons, exists_eq_or_imp]
    constructor
    · rintro (⟨(⟨h1, h2⟩ | h1), h3⟩ | h)
      · exact Or.inl ⟨h1, h2, h3⟩
      · exact Or.inr (Or.inl h1)
      · exact Or.inr (Or.inr h)
    · rintro (⟨h1, h2, h3⟩ | h | h)
      · exact Or.inl ⟨Or.inl ⟨h1, h2⟩, h3⟩
      · exact Or.inl ⟨Or.inr h, fun q hq => hp.1 q hq x h⟩
      · exact Or.inr h

theorem foldl_id_state {α} (l : List α) (s : St) : l.foldl (fun s _ => s) s = s :=
  foldl_keeps id (fun _ _ => rfl) l s

theorem evalModify_eq_twoPass (c : Cfg) (u : Modify) (s : St) :
    evalModify c u s = twoPass u.del u.ins u.withG (u.solutions c s) s := by
  unfold evalModify twoPass
  cases u.del <;> cases u.ins <;> simp only [deleteOpt_none, insertOpt_none, foldl_id_state] <;> rfl

theorem evalModifyInterleaved_eq_onePass (c : Cfg) (u : Modify) (s : St) :
    evalModifyInterleaved c u s = onePass u.del u.ins u.withG (u.solutions c s) s := by
  unfold evalModifyInterleaved onePass
  cases u.del <;> cases u.ins <;> rfl

theorem evalDeleteWhere_eq_twoPass (c : Cfg) (bs : List Block) (s : St) :
    evalDeleteWhere c bs s =
      twoPass (some (blocksToTpl bs)) none none (evalWhere (storeDataset c s none) bs none) s :=
  -- the insertion pass of an absent clause changes nothing; the rest is unfolding
  (foldl_id_state _ _).symm

end RV.C10

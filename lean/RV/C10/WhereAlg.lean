import RV.C10.Lemmas
import RV.C04.Props
/-
  C10 — what `modify_where_spec_partial` needs besides C04's theorem: a permutation as a bijection of positions,
  the dataset handed to the C04 evaluator is well-formed, `Modify.solutions` in the case `WMode.alg`.
-/
namespace RV.C10

theorem perm_index {α : Type} {l l' : List α} (h : l.Perm l') :
    ∃ π ρ : Nat → Nat, (∀ i, ρ (π i) = i) ∧ (∀ i, π (ρ i) = i) ∧ ∀ i, l'[i]? = l[π i]? := by
  induction h with
  | nil => exact ⟨id, id, fun _ => rfl, fun _ => rfl, fun _ => rfl⟩
  | cons a _ ih =>
    -- the head stays: 0 ↦ 0, i + 1 ↦ π i + 1
    obtain ⟨π, ρ, h1, h2, h3⟩ := ih
    exact ⟨fun i => i.casesOn 0 fun i => π i + 1, fun i => i.casesOn 0 fun i => ρ i + 1,
      fun i => i.casesOn rfl fun i => congrArg (· + 1) (h1 i),
      fun i => i.casesOn rfl fun i => congrArg (· + 1) (h2 i),
      fun i => i.casesOn rfl fun i => h3 i⟩
  | swap a b l =>
    -- positions 0 and 1 exchanged
    let σ : Nat → Nat := fun i => i.casesOn 1 fun i => i.casesOn 0 fun i => i + 2
    have hσ : ∀ i, σ (σ i) = i := fun i => i.casesOn rfl fun i => i.casesOn rfl fun _ => rfl
    exact ⟨σ, σ, hσ, hσ, fun i => i.casesOn rfl fun i => i.casesOn rfl fun _ => rfl⟩
  | trans _ _ ih1 ih2 =>
    obtain ⟨π1, ρ1, a1, b1, c1⟩ := ih1
    obtain ⟨π2, ρ2, a2, b2, c2⟩ := ih2
    exact ⟨fun i => π1 (π2 i), fun i => ρ2 (ρ1 i), fun i => (congrArg ρ2 (a1 _)).trans (a2 i),
      fun i => (congrArg π1 (b2 _)).trans (b1 i), fun i => (c2 i).trans (c1 _)⟩

theorem toC04_WF (d : WhereDS) (h : (d.named.map (·.1)).Nodup) : d.toC04.WF := by
  have := h.map (f := C04.Term.iri) fun a b e => C04.Term.iri.inj e
  rw [List.map_map] at this
  unfold C04.Dataset.WF WhereDS.toC04
  rw [List.map_map]
  exact this

theorem algDataset_WF (c : Cfg) (u : Modify) (s : St) (h : s.known.Nodup) : (u.algDataset c s).toC04.WF := by
  apply toC04_WF
  unfold Modify.algDataset
  split
  · show (List.map _ (List.map _ s.known)).Nodup
    rw [List.map_map]
    exact (List.map_id' s.known).symm ▸ h
  · refine ((List.filter_sublist (p := fun e : Nat × List Triple => !e.2.isEmpty)).map _).nodup ?_
    show (List.map _ (List.map _ (dedup u.named))).Nodup
    rw [List.map_map]
    exact (List.map_id' (dedup u.named)).symm ▸ nodup_dedup

theorem solutions_alg (c : Cfg) (u : Modify) (s : St) {n : Nat} {P : C04.Alg} (hw : u.wmode = .alg n P)
    (hf : u.flt = none) : u.solutions c s = algSolutions (u.algDataset c s) n P := by
  unfold Modify.solutions Modify.algDataset
  simp only [hw, hf]
  split <;> rfl

end RV.C10

import RV.C10.Model
import RV.C04.RowLemmas
/-
  C10 — the C04 evaluator mints nothing: if no term of the dataset, the pushed-in bindings and the pattern is a minted node
  numbered `m` or above, no term of a solution of `RV.C04.Model.evalPart` is (what else it builds are booleans).
  This is what `FreshInv` needs.
  Then the bridge: the term embedding `toC04` has the left inverse `ofC04`; a row read as a binding list.
-/
namespace RV.C10
open RV.C04

def CBelow (m : Nat) : C04.Term → Prop
  | .fresh k _ => k < m
  | _ => True

/-- a term a request can spell: not a minted node -/
def CSpelled : C04.Term → Prop
  | .fresh _ _ => False
  | _ => True

theorem CSpelled.below {m : Nat} {t : C04.Term} (h : CSpelled t) : CBelow m t := by
  cases t <;> simp_all [CSpelled, CBelow]

def RowBelow (m : Nat) {n : Nat} (μ : Row n) : Prop := ∀ v t, μ.get v = some t → CBelow m t
def GraphBelow (m : Nat) (g : C04.Graph) : Prop := ∀ t ∈ g, CBelow m t.1 ∧ CBelow m t.2.1 ∧ CBelow m t.2.2
def DSBelow (m : Nat) (D : C04.Dataset) : Prop :=
  GraphBelow m D.dflt ∧ ∀ e ∈ D.named, CBelow m e.1 ∧ GraphBelow m e.2

def PosSpelled : Pos → Prop
  | .const t => CSpelled t
  | .var _ => True

def TPSpelled (tp : TP) : Prop := PosSpelled tp.s ∧ PosSpelled tp.p ∧ PosSpelled tp.o

mutual
/-- the pattern mentions no minted node (it cannot: they have no spelling) -/
def AlgSpelled : Alg → Prop
  | .bgp tps => ∀ tp ∈ tps, TPSpelled tp
  | .join _ a b => AlgSpelled a ∧ AlgSpelled b
  | .leftJoin a b e _ _ => AlgSpelled a ∧ AlgSpelled b ∧ ExprSpelled e
  | .filter e p _ _ => ExprSpelled e ∧ AlgSpelled p
  | .union a b => AlgSpelled a ∧ AlgSpelled b
  | .minus a b _ _ => AlgSpelled a ∧ AlgSpelled b
  | .extend p _ e _ => AlgSpelled p ∧ ExprSpelled e
  | .graph g p => PosSpelled g ∧ AlgSpelled p
  | .values _ rows => ∀ r ∈ rows, ∀ t, some t ∈ r → CSpelled t
  | .project p _ => AlgSpelled p
def ExprSpelled : Expr → Prop
  | .var _ => True
  | .const t => CSpelled t
  | .cmp _ a b => ExprSpelled a ∧ ExprSpelled b
  | .and a b => ExprSpelled a ∧ ExprSpelled b
  | .or a b => ExprSpelled a ∧ ExprSpelled b
  | .not a => ExprSpelled a
  | .bound _ => True
  | .exists _ _ => True
end

variable {n m : Nat}

theorem rowBelow_empty : RowBelow m (Row.empty : Row n) := by
  intro v t h; simp at h

theorem rowBelow_set {μ : Row n} {v : Nat} {x : C04.Term} (h : RowBelow m μ) (hx : CBelow m x) :
    RowBelow m (μ.set v x) := by
  intro w t e
  rw [Row.get_set] at e
  split at e
  · cases e; exact hx
  · exact h w t e

theorem rowBelow_merge {a b : Row n} (ha : RowBelow m a) (hb : RowBelow m b) : RowBelow m (a.merge b) := by
  intro w t e
  rw [Row.get_merge] at e
  cases hbw : b.get w with
  | some y => rw [hbw] at e; simp at e; cases e; exact hb w _ hbw
  | none => rw [hbw] at e; simp at e; exact ha w t e

theorem rowBelow_restrict {a : Row n} (ha : RowBelow m a) (vs : List Nat) : RowBelow m (a.restrict vs) := by
  intro w t e
  rw [Row.get_restrict] at e
  split at e
  · exact ha w t e
  · cases e

theorem rowBelow_forget {a b : Row n} (ha : RowBelow m a) (ex : List Nat) : RowBelow m (a.forget b ex) := by
  intro w t e
  rw [Row.get_forget] at e
  split at e
  · exact ha w t e
  · cases e

theorem boolV_below {b : Option Bool} {t : C04.Term} (h : boolV b = some t) : CBelow m t := by
  cases b with
  | none => cases h
  | some x => simp only [boolV, Option.map_some, Option.some.injEq] at h; subst h; trivial

theorem cmpV_below {op : CmpOp} {a b : Option C04.Term} {t : C04.Term} (h : cmpV op a b = some t) : CBelow m t := by
  unfold cmpV at h
  split at h
  · exact boolV_below h
  · cases h

theorem evalExpr_below (D : C04.Dataset) (g : C04.Graph) {c : Row n} (hc : RowBelow m c) :
    ∀ (e : Expr), ExprSpelled e → ∀ t, Model.evalExpr D g c e = some t → CBelow m t
  | .var v => fun _ t h => hc v t h
  | .const x => fun hs t h => by cases h; exact CSpelled.below hs
  | .cmp _ _ _ => fun _ t h => cmpV_below h
  | .and _ _ => fun _ t h => boolV_below h
  | .or _ _ => fun _ t h => boolV_below h
  | .not _ => fun _ t h => boolV_below h
  | .bound _ => fun _ t h => by cases h; trivial
  | .exists _ _ => fun _ t h => by cases h; trivial

theorem bindIf_below {μ μ' : Row n} {p : Pos} {entry : Option C04.Term} {x : C04.Term} (hμ : RowBelow m μ)
    (hx : CBelow m x) (h : Model.bindIf μ p entry x = some μ') : RowBelow m μ' := by
  unfold Model.bindIf at h
  split at h
  · cases h; exact hμ
  · split at h
    · cases h; exact hμ
    · split at h
      · split at h
        · cases h; exact hμ
        · cases h
      · cases h; exact rowBelow_set hμ hx

theorem evalBGP_below {g : C04.Graph} (hg : GraphBelow m g) {tps : List TP} :
    ∀ (μ : Row n), RowBelow m μ → ∀ ν ∈ Model.evalBGP g tps μ, RowBelow m ν := by
  induction tps with
  | nil => intro μ hμ ν hν; cases List.mem_singleton.1 hν; exact hμ
  | cons tp rest ih =>
    intro μ hμ ν hν
    obtain ⟨t, ht, hν⟩ := List.mem_flatMap.1 hν
    obtain ⟨h1, h2, h3⟩ := hg t (List.mem_filter.1 ht).1
    split at hν
    · next μ' e =>
      obtain ⟨μ1, e1, e⟩ := Option.bind_eq_some_iff.1 e
      obtain ⟨μ2, e2, e3⟩ := Option.bind_eq_some_iff.1 e
      exact ih μ' (bindIf_below (bindIf_below (bindIf_below hμ h1 e1) h2 e2) h3 e3) ν hν
    · cases hν

theorem joinL_below {A B : List (Row n)} (hA : ∀ x ∈ A, RowBelow m x) (hB : ∀ y ∈ B, RowBelow m y) :
    ∀ z ∈ Model.joinL A B, RowBelow m z := by
  intro z hz
  obtain ⟨x, hx, hz⟩ := List.mem_flatMap.1 hz
  obtain ⟨y, hy, e⟩ := List.mem_filterMap.1 hz
  split at e
  · cases e; exact rowBelow_merge (hA x hx) (hB y hy)
  · cases e

theorem valuesRow_below (vs : List Nat) : ∀ (cs : List (Option C04.Term)) (μ μ' : Row n),
    (∀ t, some t ∈ cs → CSpelled t) → RowBelow m μ → Model.valuesRow vs cs μ = some μ' → RowBelow m μ' := by
  induction vs with
  | nil => intro cs μ μ' _ hμ h; cases h; exact hμ
  | cons v vs ih =>
    intro cs μ μ' hc hμ h
    cases cs with
    | nil => cases h; exact hμ
    | cons c cs =>
      have hc' : ∀ t, some t ∈ cs → CSpelled t := fun t ht => hc t (List.mem_cons_of_mem _ ht)
      cases c with
      | none => exact ih cs μ μ' hc' hμ h
      | some t =>
        rw [Model.valuesRow] at h
        split at h
        · split at h
          · exact ih cs μ μ' hc' hμ h
          · cases h
        · exact ih cs _ μ' hc' (rowBelow_set hμ (CSpelled.below (hc t List.mem_cons_self))) h

theorem graphOfList_below (l : List (C04.Term × C04.Graph)) (t : C04.Term)
    (h : ∀ e ∈ l, CBelow m e.1 ∧ GraphBelow m e.2) : GraphBelow m (graphOfList l t) := by
  induction l with
  | nil => intro x hx; cases hx
  | cons e rest ih =>
    rw [graphOfList]
    split
    · exact (h _ List.mem_cons_self).2
    · exact ih fun e he => h e (List.mem_cons_of_mem _ he)

/- the next two hypotheses copy the arms `.leftJoin` (one left row) and `.extend` (one row) of
   `RV.C04.Model.evalPart`, and must follow it -/
theorem mem_leftJoin_cases {α} {c1 : Prop} [Decidable c1] {o : Option (List Nat)} {c2 : List Nat → Bool}
    {l : List α} {p : α → Bool} {f : α → α} {x μ : α}
    (h : μ ∈ (if c1 then (match o with | none => [x] | some vs => if c2 vs then [] else [x])
      else (l.filter p).map f)) : μ = x ∨ ∃ y ∈ l, μ = f y := by
  split at h
  · split at h
    · exact Or.inl (List.mem_singleton.1 h)
    · split at h
      · cases h
      · exact Or.inl (List.mem_singleton.1 h)
  · obtain ⟨y, hy, rfl⟩ := List.mem_map.1 h
    exact Or.inr ⟨y, (List.mem_filter.1 hy).1, rfl⟩

theorem extend_cases {c μ : Row n} {v : Nat} {o : Option C04.Term}
    (h : (match o with
      | none => some c
      | some t => match c.get v with
        | some y => if y = t then some (c.set v t) else none
        | none => some (c.set v t)) = some μ) : μ = c ∨ ∃ t, o = some t ∧ μ = c.set v t := by
  split at h
  · cases h; exact Or.inl rfl
  · next t =>
    split at h
    · split at h
      · cases h; exact Or.inr ⟨t, rfl, rfl⟩
      · cases h
    · cases h; exact Or.inr ⟨t, rfl, rfl⟩

theorem evalPart_below {D : C04.Dataset} (hD : DSBelow m D) :
    ∀ (P : Alg), AlgSpelled P → ∀ (g : C04.Graph), GraphBelow m g → ∀ (μ0 : Row n), RowBelow m μ0 →
      ∀ μ ∈ Model.evalPart D g μ0 P, RowBelow m μ
  | .bgp tps => fun _ g hg μ0 h0 μ hμ => evalBGP_below hg μ0 h0 μ hμ
  | .join true a b => fun hs g hg μ0 h0 μ hμ => by
    obtain ⟨x, hx, hμ⟩ := List.mem_flatMap.1 hμ
    obtain ⟨y, hy, rfl⟩ := List.mem_map.1 hμ
    have bx := evalPart_below hD a hs.1 g hg μ0 h0 x hx
    exact rowBelow_merge (evalPart_below hD b hs.2 g hg x bx y hy) bx
  | .join false a b => fun hs g hg μ0 h0 μ hμ =>
    joinL_below (evalPart_below hD a hs.1 g hg μ0 h0) (evalPart_below hD b hs.2 g hg μ0 h0) μ hμ
  | .leftJoin a b e p1vars p2vars => fun hs g hg μ0 h0 μ hμ => by
    obtain ⟨x, hx, hμ⟩ := List.mem_flatMap.1 hμ
    have bx := evalPart_below hD a hs.1 g hg μ0 h0 x hx
    rcases mem_leftJoin_cases hμ with rfl | ⟨y, hy, rfl⟩
    · exact bx
    · exact rowBelow_merge (evalPart_below hD b hs.2.1 g hg _ bx y hy) bx
  | .filter e p vars noIso => fun hs g hg μ0 h0 μ hμ =>
    evalPart_below hD p hs.2 g hg μ0 h0 μ (List.mem_filter.1 hμ).1
  | .union a b => fun hs g hg μ0 h0 μ hμ =>
    (List.mem_append.1 hμ).elim (evalPart_below hD a hs.1 g hg μ0 h0 μ) (evalPart_below hD b hs.2 g hg μ0 h0 μ)
  | .minus a b p1vars p2vars => fun hs g hg μ0 h0 μ hμ =>
    evalPart_below hD a hs.1 g hg μ0 h0 μ (List.mem_filter.1 hμ).1
  | .extend p v e vars => fun hs g hg μ0 h0 μ hμ => by
    obtain ⟨c, hc, hμ⟩ := List.mem_filterMap.1 hμ
    have bc := evalPart_below hD p hs.1 g hg μ0 h0 c hc
    rcases extend_cases hμ with rfl | ⟨t, et, rfl⟩
    · exact bc
    · exact rowBelow_set bc (evalExpr_below D g (rowBelow_forget bc vars (b := μ0)) e hs.2 t et)
  | .graph gp p => fun hs g hg μ0 h0 μ hμ => by
    simp only [Model.evalPart] at hμ
    -- graph term bound (constant, or variable bound by the pushed-in row) / unbound variable / neither
    split at hμ
    · next t _ =>
      split at hμ
      · cases hμ
      · exact evalPart_below hD p hs.2 _ (graphOfList_below D.named t hD.2) μ0 h0 μ hμ
    · split at hμ
      · next v =>
        obtain ⟨ng, hng, hμ⟩ := List.mem_flatMap.1 hμ
        obtain ⟨x, hx, e⟩ := List.mem_filterMap.1 hμ
        have bx := evalPart_below hD p hs.2 ng.2 (hD.2 ng hng).2 μ0 h0 x hx
        unfold Model.graphJoin at e
        split at e
        · cases e; exact rowBelow_merge bx (rowBelow_set rowBelow_empty (hD.2 ng hng).1)
        · cases e
      · cases hμ
  | .values vars rows => fun hs g hg μ0 h0 μ hμ => by
    obtain ⟨r, hr, e⟩ := List.mem_filterMap.1 hμ
    exact valuesRow_below vars r μ0 μ (hs r hr) h0 e
  | .project p pv => fun hs g hg μ0 h0 μ hμ => by
    refine joinL_below (fun x hx => ?_) (List.forall_mem_singleton.2 h0) μ hμ
    obtain ⟨y, hy, rfl⟩ := List.mem_map.1 hx
    exact rowBelow_restrict (evalPart_below hD p hs g hg Row.empty rowBelow_empty y hy) pv

theorem litLookup_cases (l : List (Nat × C04.Term)) (n : Nat) :
    (∃ t, (n, t) ∈ l ∧ litLookup l n = some t) ∨ litLookup l n = none := by
  induction l with
  | nil => exact Or.inr rfl
  | cons e rest ih =>
    rw [litLookup]
    split
    · next h => exact Or.inl ⟨e.2, h ▸ List.mem_cons_self, rfl⟩
    · exact ih.imp_left fun h => h.elim fun t ht => ⟨t, List.mem_cons_of_mem _ ht.1, ht.2⟩

theorem ofC04_toC04 (t : Term) : ofC04 (toC04 t) = t := by
  cases t with
  | iri n => rfl
  | bnode n => rfl
  | fresh n => rfl
  | lit n =>
    show ofC04 (match litLookup litTable n with | some t => t | none => C04.Term.int (Int.negSucc n)) = Term.lit n
    rcases litLookup_cases litTable n with ⟨t, hm, ht⟩ | hn
    · rw [ht]
      exact (by decide +kernel : ∀ e ∈ litTable, ofC04 e.2 = Term.lit e.1) (n, t) hm
    · rw [hn]; rfl

theorem toC04_injective : Function.Injective toC04 :=
  Function.LeftInverse.injective ofC04_toC04

theorem tripleToC04_injective : Function.Injective tripleToC04 := by
  intro a b h
  obtain ⟨a1, a2, a3⟩ := a
  obtain ⟨b1, b2, b3⟩ := b
  simp only [tripleToC04, Prod.mk.injEq] at h
  rw [toC04_injective h.1, toC04_injective h.2.1, toC04_injective h.2.2]

theorem blookup_filterMap (f : Nat → Option Term) (ks : List Nat) (v : Nat) :
    blookup (ks.filterMap fun k => (f k).map fun t => (k, t)) v = if v ∈ ks then f v else none := by
  induction ks with
  | nil => rfl
  | cons k rest ih =>
    rw [List.filterMap_cons]
    by_cases hv : k = v
    · subst hv
      rw [if_pos List.mem_cons_self]
      cases hk : f k with
      | none => rw [Option.map_none, ih, hk]; exact ite_self _
      | some t => exact if_pos rfl
    · refine Eq.trans (b := blookup (rest.filterMap fun k => (f k).map fun t => (k, t)) v) ?_ ?_
      · cases f k with
        | none => rfl
        | some t => exact if_neg hv
      · rw [ih]
        by_cases hr : v ∈ rest
        · rw [if_pos hr, if_pos (List.mem_cons_of_mem _ hr)]
        · rw [if_neg hr, if_neg fun h => (List.mem_cons.1 h).elim (fun e => hv e.symm) hr]

theorem blookup_rowToBinding {n : Nat} (μ : C04.Row n) (v : Nat) :
    blookup (rowToBinding μ) v = (μ.get v).map ofC04 := by
  have h := blookup_filterMap (fun k => (μ.get k).map ofC04) (List.range n) v
  simp only [Option.map_map] at h
  refine h.trans ?_
  split
  · rfl
  · next hv =>
    have : μ[v]? = none := Vector.getElem?_eq_none (Nat.le_of_not_lt fun h => hv (List.mem_range.2 h))
    unfold C04.Row.get
    rw [this]; rfl

end RV.C10

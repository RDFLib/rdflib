import RV.C10.Invariants
import RV.C10.AlgBelow
/-
  C10 — minted blank nodes are new.
  `FreshInv s`: every minted node occurring in the store has a number below the supply counter.
  It is preserved by every operation whose text does not itself mention minted nodes (`Op.wf`:
  a request cannot, minted nodes have no spelling), because WHERE solutions only bind terms of the store.
-/
namespace RV.C10

def Term.below (n : Nat) : Term → Prop
  | .fresh k => k < n
  | _ => True

def Triple.below (n : Nat) (t : Triple) : Prop := t.1.below n ∧ t.2.1.below n ∧ t.2.2.below n
def Quad.below (n : Nat) (q : Quad) : Prop := q.1.below n ∧ q.2.1.below n ∧ q.2.2.1.below n

def FreshInv (s : St) : Prop := ∀ q ∈ s.quads, q.below s.next

def BBelow (n : Nat) (μ : Binding) : Prop := ∀ v t, blookup μ v = some t → t.below n

-- a template term a request can spell: no minted node (`CSpelled` for C04 terms)
def TTerm.wf : TTerm → Prop
  | .const (.fresh _) => False
  | _ => True

def QTpl.wf (q : QTpl) : Prop := q.1.1.wf ∧ q.1.2.1.wf ∧ q.1.2.2.wf

def tplWf (tpl : List QTpl) : Prop := ∀ q ∈ tpl, q.wf

theorem Term.below_mono {n m : Nat} (h : n ≤ m) {t : Term} (ht : t.below n) : t.below m := by
  cases t with
  | fresh k => exact Nat.lt_of_lt_of_le ht h
  | _ => trivial

theorem Quad.below_mono {n m : Nat} (h : n ≤ m) {q : Quad} (hq : q.below n) : q.below m :=
  ⟨Term.below_mono h hq.1, Term.below_mono h hq.2.1, Term.below_mono h hq.2.2⟩

theorem Quad.below_iff_triple {n : Nat} {q : Quad} : q.below n ↔ q.triple.below n := Iff.rfl

theorem BBelow.mono {n m : Nat} (h : n ≤ m) {μ : Binding} (hμ : BBelow n μ) : BBelow m μ :=
  fun v t e => Term.below_mono h (hμ v t e)

/-! ### the matcher binds terms of the dataset

  `EBelow`: every ENTRY of the binding list is below `n`.  `BBelow` only speaks of the entry `blookup` finds;
  the entry-wise form goes through `::`, `++` and `filter`, which is all the matcher does to a binding list. -/

def EBelow (n : Nat) (μ : Binding) : Prop := ∀ e ∈ μ, e.2.below n

theorem mem_of_blookup {μ : Binding} {v : Nat} {t : Term} (h : blookup μ v = some t) : (v, t) ∈ μ := by
  induction μ with
  | nil => cases h
  | cons e rest ih =>
    rw [blookup] at h
    split at h
    · next hk => cases h; cases hk; exact List.mem_cons_self
    · exact List.mem_cons_of_mem _ (ih h)

theorem EBelow.bbelow {n : Nat} {μ : Binding} (h : EBelow n μ) : BBelow n μ :=
  fun v t e => h (v, t) (mem_of_blookup e)

theorem ebelow_nil {n : Nat} : EBelow n [] := fun _ h => absurd h List.not_mem_nil

theorem EBelow.cons {n : Nat} {μ : Binding} (hμ : EBelow n μ) (v : Nat) {t : Term} (ht : t.below n) :
    EBelow n ((v, t) :: μ) :=
  List.forall_mem_cons.2 ⟨ht, hμ⟩

theorem EBelow.append {n : Nat} {x y : Binding} (hx : EBelow n x) (hy : EBelow n y) : EBelow n (x ++ y) :=
  fun e he => (List.mem_append.1 he).elim (hx e) (hy e)

theorem ebelow_matchTerm {n : Nat} {p : PTerm} {t : Term} {μ μ' : Binding} (hμ : EBelow n μ) (ht : t.below n)
    (e : matchTerm p t μ = some μ') : EBelow n μ' := by
  unfold matchTerm at e
  split at e
  · split at e
    · cases e; exact hμ
    · cases e
  · split at e
    · split at e
      · cases e; exact hμ
      · cases e
    · cases e; exact hμ.cons _ ht

theorem ebelow_matchTriple {n : Nat} {p : TPat} {t : Triple} {μ μ' : Binding} (hμ : EBelow n μ) (ht : t.below n)
    (e : matchTriple p t μ = some μ') : EBelow n μ' := by
  unfold matchTriple at e
  split at e
  · cases e
  · next μ1 h1 =>
    split at e
    · cases e
    · next μ2 h2 => exact ebelow_matchTerm (ebelow_matchTerm (ebelow_matchTerm hμ ht.1 h1) ht.2.1 h2) ht.2.2 e

theorem ebelow_evalBGP {n : Nat} {ps : List TPat} {ts : List Triple} (hts : ∀ t ∈ ts, t.below n) :
    ∀ (μ : Binding), EBelow n μ → ∀ μ' ∈ evalBGP ps ts μ, EBelow n μ' := by
  induction ps with
  | nil => intro μ hμ μ' h; cases List.mem_singleton.1 h; exact hμ
  | cons p rest ih =>
    intro μ hμ μ' h
    rw [evalBGP, List.mem_flatMap] at h
    obtain ⟨t, ht, h⟩ := h
    split at h
    · next μ1 e => exact ih μ1 (ebelow_matchTriple hμ (hts t ht) e) μ' h
    · cases h

theorem ebelow_join {n : Nat} {a b : List Binding} (ha : ∀ μ ∈ a, EBelow n μ) (hb : ∀ μ ∈ b, EBelow n μ) :
    ∀ μ ∈ join a b, EBelow n μ := by
  intro μ h
  obtain ⟨x, hx, h⟩ := List.mem_flatMap.1 h
  obtain ⟨y, hy, e⟩ := List.mem_filterMap.1 h
  split at e
  · cases e; exact (ha x hx).append (hb y hy)
  · cases e

def WhereDS.below (n : Nat) (d : WhereDS) : Prop :=
  (∀ t ∈ d.dflt, t.below n) ∧ ∀ e ∈ d.named, ∀ t ∈ e.2, t.below n

theorem WhereDS.graph_below {n : Nat} {d : WhereDS} (h : d.below n) (g : Nat) : ∀ t ∈ d.graph g, t.below n := by
  unfold WhereDS.graph
  split
  · next e he => exact h.2 e (List.mem_of_find?_eq_some he)
  · intro t ht; cases ht

theorem ebelow_evalBlock {n : Nat} {d : WhereDS} (h : d.below n) (b : Block) :
    ∀ μ ∈ evalBlock d b, EBelow n μ := by
  unfold evalBlock
  split
  · exact ebelow_evalBGP h.1 _ ebelow_nil
  · exact ebelow_evalBGP (d.graph_below h _) _ ebelow_nil
  · intro μ hμ
    obtain ⟨e, he, hμ⟩ := List.mem_flatMap.1 hμ
    obtain ⟨ν, hν, hh⟩ := List.mem_filterMap.1 hμ
    split at hh
    · cases hh
      exact (ebelow_evalBGP (h.2 e he) _ ebelow_nil ν hν).append (ebelow_nil.cons _ trivial)
    · cases hh

theorem ebelow_groupSols {n : Nat} {d : WhereDS} (h : d.below n) {bs : List Block} :
    ∀ μ ∈ groupSols d bs, EBelow n μ :=
  List.foldlRecOn (motive := fun acc => ∀ μ ∈ acc, EBelow n μ) bs _
    (List.forall_mem_singleton.2 ebelow_nil) fun _ ha b _ => ebelow_join ha (ebelow_evalBlock h b)

theorem mem_of_mem_optFilter {flt : Option Flt} {bag : List Binding} {μ : Binding}
    (h : μ ∈ (match flt with | some f => bag.filter f.keep | none => bag)) : μ ∈ bag := by
  cases flt with
  | none => exact h
  | some f => exact (List.mem_filter.1 h).1

theorem bbelow_evalWhere {n : Nat} {d : WhereDS} (h : d.below n) (bs : List Block) (f : Option Flt) :
    ∀ μ ∈ evalWhere d bs f, BBelow n μ :=
  fun μ hμ => (ebelow_groupSols h μ (mem_of_mem_optFilter hμ)).bbelow

theorem graphTriples_below {s : St} (h : FreshInv s) {g : GName} : ∀ t ∈ graphTriples s.quads g, t.below s.next :=
  fun _ ht => Quad.below_iff_triple.1 (h _ (mem_graphTriples.1 ht))

theorem storeDataset_below {c : Cfg} {s : St} (h : FreshInv s) {w : Option Nat} :
    (storeDataset c s w).below s.next := by
  refine ⟨?_, fun e he => ?_⟩
  · rcases storeDataset_dflt c s w with e | ⟨g, e⟩ <;> rw [e]
    · intro t ht
      obtain ⟨g, hg⟩ := mem_unionTriples.1 ht
      exact h _ hg
    · exact graphTriples_below h
  · obtain ⟨g, _, rfl⟩ := List.mem_map.1 he
    exact graphTriples_below h

theorem usingDataset_below {s : St} (h : FreshInv s) {us nm : List Nat} :
    (usingDataset s us nm).below s.next := by
  refine ⟨fun t ht => ?_, fun e he => ?_⟩
  · obtain ⟨g, _, hg⟩ := List.mem_flatMap.1 (mem_dedup.1 ht)
    exact graphTriples_below h t hg
  · obtain ⟨g, _, rfl⟩ := List.mem_map.1 he
    exact graphTriples_below h

theorem toC04_below {m : Nat} {t : Term} (h : t.below m) : CBelow m (toC04 t) := by
  cases t with
  | fresh k => exact h
  | lit k =>
    -- a literal is not sent to a minted node: `ofC04` would bring it back as one
    cases hx : toC04 (.lit k) with
    | fresh a b => exact absurd (hx ▸ ofC04_toC04 (.lit k)) Term.noConfusion
    | _ => trivial
  | _ => trivial

theorem ofC04_below {m : Nat} {t : C04.Term} (h : CBelow m t) : (ofC04 t).below m := by
  cases t with
  | fresh k l => exact h
  | iri k => trivial
  | bnode k => trivial
  | _ =>
    -- the arms of `ofC04`: `.iri`, `.bnode`, `.fresh` (excluded: `t` is none of these), then the literals, all sent to `.lit _`
    unfold ofC04
    split
    · trivial
    · trivial
    · next heq => cases heq
    · split
      · trivial
      · split <;> trivial

theorem toC04_dsBelow {m : Nat} {d : WhereDS} (h : d.below m) : DSBelow m d.toC04 := by
  have key : ∀ ts : List Triple, (∀ t ∈ ts, t.below m) → GraphBelow m (ts.map tripleToC04) := by
    intro ts hts t ht
    obtain ⟨x, hx, rfl⟩ := List.mem_map.1 ht
    exact ⟨toC04_below (hts x hx).1, toC04_below (hts x hx).2.1, toC04_below (hts x hx).2.2⟩
  refine ⟨key _ h.1, fun e he => ?_⟩
  obtain ⟨x, hx, rfl⟩ := List.mem_map.1 he
  exact ⟨trivial, key _ (h.2 x hx)⟩

theorem ebelow_algSolutions {m n : Nat} {d : WhereDS} (hd : d.below m) {P : C04.Alg} (hP : AlgSpelled P) :
    ∀ μ ∈ algSolutions d n P, EBelow m μ := by
  intro μ hμ e he
  obtain ⟨ρ, hρ, rfl⟩ := List.mem_map.1 hμ
  obtain ⟨k, _, hk⟩ := List.mem_filterMap.1 he
  obtain ⟨t, ht, rfl⟩ := Option.map_eq_some_iff.1 hk
  have hD := toC04_dsBelow hd
  exact ofC04_below (evalPart_below hD P hP _ hD.1 _ rowBelow_empty ρ hρ k t ht)

def Modify.algSpelled (u : Modify) : Prop :=
  match u.wmode with
  | .alg _ P => AlgSpelled P
  | _ => True

theorem bbelow_solutions {c : Cfg} {u : Modify} (ha : u.algSpelled) {s : St} (h : FreshInv s) :
    ∀ μ ∈ u.solutions c s, BBelow s.next μ := by
  have hd : (if u.using_.isEmpty && u.named.isEmpty then storeDataset c s u.withG
      else usingDataset s u.using_ u.named).below s.next := by
    split
    · exact storeDataset_below h
    · exact usingDataset_below h
  unfold Modify.algSpelled at ha
  unfold Modify.solutions
  generalize (if u.using_.isEmpty && u.named.isEmpty then storeDataset c s u.withG
      else usingDataset s u.using_ u.named) = d at hd
  intro μ hμ
  refine EBelow.bbelow ?_
  replace hμ := mem_of_mem_optFilter hμ
  split at hμ
  · exact ebelow_groupSols hd μ hμ
  · exact (List.mem_append.1 hμ).elim (ebelow_groupSols hd μ) (ebelow_groupSols hd μ)
  · obtain ⟨ν, hν, rfl⟩ := List.mem_map.1 hμ
    exact fun e he => ebelow_groupSols hd ν hν e (List.mem_filter.1 he).1
  · next n P hw =>
    rw [hw] at ha
    refine ebelow_algSolutions ?_ ha μ hμ
    split
    · exact hd
    · exact ⟨hd.1, fun e he => hd.2 e (List.mem_filter.1 he).1⟩

theorem below_instTerm {n m : Nat} {μ : Binding} {bm : List (Nat × Nat)} (hnm : n ≤ m) (hμ : BBelow n μ)
    (hbm : ∀ l v, alookup bm l = some v → v < m) {t : TTerm} (ht : t.wf) {x : Term}
    (e : instTerm μ bm t = some x) : x.below m := by
  cases t with
  | const c =>
    cases e
    cases x with
    | fresh k => exact ht.elim
    | _ => trivial
  | var v => exact Term.below_mono hnm (hμ v x e)
  | label l =>
    obtain ⟨v, hv, rfl⟩ := Option.map_eq_some_iff.1 e
    exact hbm l v hv

theorem below_fillTemplate {n m : Nat} {μ : Binding} {bm : List (Nat × Nat)} (hnm : n ≤ m) (hμ : BBelow n μ)
    (hbm : ∀ l v, alookup bm l = some v → v < m) (tgt : GName) {tpl : List QTpl} (hw : tplWf tpl) :
    ∀ x ∈ fillTemplate μ bm tgt tpl, x.below m := by
  intro x hx
  obtain ⟨q, hq, hf⟩ := mem_fillTemplate.1 hx
  have h := fillQuad_eq_some.1 hf
  have w := hw q hq
  exact ⟨below_instTerm hnm hμ hbm w.1 h.1, below_instTerm hnm hμ hbm w.2.1 h.2.1,
         below_instTerm hnm hμ hbm w.2.2 h.2.2.1⟩

theorem tplWf_nil : tplWf [] := fun _ h => absurd h List.not_mem_nil

theorem bbelow_single_nil {n : Nat} : ∀ μ ∈ [([] : Binding)], BBelow n μ :=
  List.forall_mem_singleton.2 ebelow_nil.bbelow

theorem freshInv_twoPass {del ins : Option (List QTpl)} {tgt : GName} {sols : List Binding} {s : St}
    (hw : tplWf (ins.getD [])) (hs : ∀ μ ∈ sols, BBelow s.next μ) (h : FreshInv s) :
    FreshInv (twoPass del ins tgt sols s) := by
  intro x hx
  rw [twoPass_next]
  rcases mem_twoPass_fill.1 hx with h' | ⟨i, μ, hi, hx⟩
  · exact Quad.below_mono (Nat.le_add_right _ _) (h x h'.1)
  · -- solution `i < len` mints inside `[n + i·w, n + (i+1)·w)`, which lies below `n + len·w`
    obtain ⟨hlt, rfl⟩ := List.getElem?_eq_some_iff.1 hi
    have hmul := Nat.mul_le_mul_right (insWidth ins) (Nat.succ_le_of_lt hlt)
    rw [Nat.succ_mul] at hmul
    refine below_fillTemplate (Nat.le_add_right _ _) (hs _ (List.getElem_mem hlt)) (fun l v hv => ?_) tgt hw x hx
    have : v < s.next + i * insWidth ins + insWidth ins := by
      rw [insWidth_eq]; exact (alookup_mkMap_range hv).2
    omega

theorem freshInv_of_sub {s s' : St} (h : FreshInv s) (hn : s.next ≤ s'.next)
    (hq : ∀ x ∈ s'.quads, ∃ y ∈ s.quads, y.triple = x.triple) : FreshInv s' := by
  intro x hx
  obtain ⟨y, hy, e⟩ := hq x hx
  rw [Quad.below_iff_triple, ← e]
  exact Quad.below_iff_triple.1 (Quad.below_mono hn (h y hy))

/-- the request text does not mention minted nodes -/
def Op.wf : Op → Prop
  | .insertData q | .deleteData q => tplWf q
  | .modify u => tplWf (u.del.getD []) ∧ tplWf (u.ins.getD []) ∧ u.algSpelled
  | _ => True

theorem freshInv_evalOp (c : Cfg) (op : Op) (hw : op.wf) (s s' : St) (h : FreshInv s)
    (e : evalOp c op s = some s') : FreshInv s' ∧ s.next ≤ s'.next := by
  refine ⟨?_, next_le_evalOp e⟩
  have hn := next_le_evalOp e
  revert hw hn
  apply evalOp_elim (motive := fun op s' => op.wf → s.next ≤ s'.next → FreshInv s') (h := e)
  case insertData => exact fun q hw _ => freshInv_twoPass hw bbelow_single_nil h
  case deleteData => exact fun q _ _ => freshInv_twoPass tplWf_nil bbelow_single_nil h
  case deleteWhere => exact fun bs _ _ => freshInv_twoPass tplWf_nil (bbelow_evalWhere (storeDataset_below h) bs none) h
  case modify => exact fun u hw _ => freshInv_twoPass hw.2.1 (bbelow_solutions hw.2.2 h) h
  case clear => exact fun _ t _ hn => freshInv_of_sub h hn fun x hx => ⟨x, (mem_evalClear.1 hx).1, rfl⟩
  case drop => exact fun _ t _ hn => freshInv_of_sub h hn fun x hx => ⟨x, (mem_evalDrop.1 hx).1, rfl⟩
  case add =>
    exact fun _ a b _ hn => freshInv_of_sub h hn fun x hx =>
      ((mem_evalAdd a b s x).1 hx).elim (fun h => ⟨x, h, rfl⟩) fun h => ⟨_, h.2, rfl⟩
  case move =>
    exact fun _ a b _ hn => freshInv_of_sub h hn fun x hx =>
      ((mem_evalMove a b s x).1 hx).elim (fun h => ⟨x, h.2.2, rfl⟩) fun h => ⟨_, h.2, rfl⟩
  case copy =>
    exact fun _ a b _ hn => freshInv_of_sub h hn fun x hx =>
      ((mem_evalCopy a b s x).1 hx).elim (fun h => ⟨x, h.2, rfl⟩) fun h => ⟨_, h.2, rfl⟩

end RV.C10

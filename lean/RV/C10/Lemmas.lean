import RV.C10.Model
/-
  C10 — the store: what every primitive and every graph-management evaluator leaves, as membership
  in the quad set; folds of primitives are instances of the general facts about `List.foldl` stated first.
-/
namespace RV.C10

theorem foldl_keeps {α β} {f : St → α → St} (g : St → β) (hf : ∀ s a, g (f s a) = g s) (l : List α) (s : St) :
    g (l.foldl f s) = g s :=
  List.foldlRecOn (motive := fun b => g b = g s) l f rfl fun _ hb a _ => (hf _ a).trans hb

theorem foldl_invariant {α} {P : St → Prop} {f : St → α → St} (hf : ∀ {s} a, P s → P (f s a)) (l : List α) {s : St}
    (h : P s) : P (l.foldl f s) :=
  List.foldlRecOn l f h fun _ hb a _ => hf a hb

theorem foldl_and {α β} (f : β → α → β) (P : β → Prop) {R : α → Prop} (hf : ∀ s a, P (f s a) ↔ P s ∧ R a)
    (l : List α) (s : β) : P (l.foldl f s) ↔ P s ∧ ∀ a ∈ l, R a := by
  induction l generalizing s with
  | nil => exact (and_iff_left fun _ h => absurd h List.not_mem_nil).symm
  | cons a l ih => rw [List.foldl_cons, ih, hf, List.forall_mem_cons, and_assoc]

theorem foldl_and_ne {α β} (f : β → α → β) (P : β → Prop) {k : α} (hf : ∀ s a, P (f s a) ↔ P s ∧ k ≠ a)
    (l : List α) (s : β) : P (l.foldl f s) ↔ P s ∧ k ∉ l :=
  (foldl_and f P hf l s).trans (and_congr_right fun _ => List.forall_mem_ne)

@[simp] theorem addQuad_quads (s : St) (q : Quad) : (s.addQuad q).quads = sinsert s.quads q := rfl
@[simp] theorem addQuad_next (s : St) (q : Quad) : (s.addQuad q).next = s.next := rfl
@[simp] theorem removeQuad_quads (s : St) (q : Quad) : (s.removeQuad q).quads = sremove s.quads q := rfl
@[simp] theorem removeQuad_next (s : St) (q : Quad) : (s.removeQuad q).next = s.next := rfl
@[simp] theorem removeQuad_known (s : St) (q : Quad) : (s.removeQuad q).known = s.known := rfl

theorem mem_addQuad {s : St} {q x : Quad} : x ∈ (s.addQuad q).quads ↔ x = q ∨ x ∈ s.quads := mem_sinsert

theorem mem_removeQuad {s : St} {q x : Quad} : x ∈ (s.removeQuad q).quads ↔ x ≠ q ∧ x ∈ s.quads := mem_sremove

theorem mem_removeAll {qs : List Quad} {s : St} {x : Quad} :
    x ∈ (s.removeAll qs).quads ↔ x ∈ s.quads ∧ x ∉ qs :=
  foldl_and_ne St.removeQuad (fun s => x ∈ s.quads) (fun _ _ => mem_removeQuad.trans and_comm) qs s

theorem mem_addAll {qs : List Quad} {s : St} {x : Quad} :
    x ∈ (s.addAll qs).quads ↔ x ∈ s.quads ∨ x ∈ qs := by
  induction qs generalizing s with
  | nil => exact (or_iff_left List.not_mem_nil).symm
  | cons q qs ih => exact ih.trans (by rw [mem_addQuad, List.mem_cons, or_comm (a := x = q), or_assoc])

theorem removeAll_next {qs : List Quad} {s : St} : (s.removeAll qs).next = s.next :=
  foldl_keeps (f := St.removeQuad) (·.next) (fun _ _ => rfl) qs s

theorem addAll_next {qs : List Quad} {s : St} : (s.addAll qs).next = s.next :=
  foldl_keeps (f := St.addQuad) (·.next) (fun _ _ => rfl) qs s

theorem mem_clearGraph {s : St} {g : GName} {x : Quad} :
    x ∈ (s.clearGraph g).quads ↔ x ∈ s.quads ∧ x.graph ≠ g := by
  simp [St.clearGraph]

theorem mem_dropGraph {s : St} {g : GName} {x : Quad} :
    x ∈ (s.dropGraph g).quads ↔ x ∈ s.quads ∧ x.graph ≠ g := mem_clearGraph

theorem mem_dedup {α} [DecidableEq α] {l : List α} {x : α} : x ∈ dedup l ↔ x ∈ l := by
  induction l with
  | nil => rfl
  | cons y ys ih =>
    unfold dedup
    split
    · next h => rw [ih, List.mem_cons]; exact ⟨Or.inr, fun h' => h'.elim (fun e => e ▸ h) id⟩
    · rw [List.mem_cons, List.mem_cons, ih]

theorem nodup_dedup {α} [DecidableEq α] {l : List α} : (dedup l).Nodup := by
  induction l with
  | nil => exact List.nodup_nil
  | cons y ys ih =>
    unfold dedup
    split
    · exact ih
    · next h => exact List.nodup_cons.2 ⟨fun hm => h (mem_dedup.1 hm), ih⟩

theorem mem_graphTriples {qs : List Quad} {g : GName} {t : Triple} :
    t ∈ graphTriples qs g ↔ (t.1, t.2.1, t.2.2, g) ∈ qs := by
  unfold graphTriples
  simp only [List.mem_map, List.mem_filter, decide_eq_true_eq]
  constructor
  · rintro ⟨⟨a, b, c, d⟩, ⟨hq, rfl⟩, rfl⟩; exact hq
  · exact fun h => ⟨_, ⟨h, rfl⟩, rfl⟩

theorem mem_unionTriples {qs : List Quad} {t : Triple} :
    t ∈ unionTriples qs ↔ ∃ g, (t.1, t.2.1, t.2.2, g) ∈ qs := by
  unfold unionTriples
  rw [mem_dedup, List.mem_map]
  constructor
  · rintro ⟨⟨a, b, c, d⟩, hq, rfl⟩; exact ⟨d, hq⟩
  · rintro ⟨g, h⟩; exact ⟨_, h, rfl⟩

theorem storeDataset_dflt (c : Cfg) (s : St) (w : Option Nat) :
    (storeDataset c s w).dflt = unionTriples s.quads ∨ ∃ g, (storeDataset c s w).dflt = graphTriples s.quads g := by
  cases w with
  | some g => exact Or.inr ⟨_, rfl⟩
  | none =>
    by_cases h : c.effUnion = true
    · exact Or.inl (if_pos h)
    · exact Or.inr ⟨none, if_neg h⟩

theorem Quad.eq_of_graph {x : Quad} {g : GName} (h : x.graph = g) : x = (x.1, x.2.1, x.2.2.1, g) := by
  obtain ⟨a, b, c, d⟩ := x
  cases h; rfl

theorem nodup_graphTriples {qs : List Quad} (h : qs.Nodup) (g : GName) : (graphTriples qs g).Nodup := by
  refine List.pairwise_map.2 ((h.filter _).imp_of_mem ?_)
  rintro ⟨a, b, c, d⟩ ⟨a', b', c', d'⟩ hx hy hne e
  have hd := of_decide_eq_true (List.mem_filter.1 hx).2
  have hd' := of_decide_eq_true (List.mem_filter.1 hy).2
  cases e; exact hne (by rw [show d = g from hd, show d' = g from hd'])

theorem mem_evalClear {c : Cfg} {t : Target} {s : St} {x : Quad} :
    x ∈ (evalClear c t s).quads ↔ x ∈ s.quads ∧ x.graph ∉ clearTargets c s t :=
  foldl_and_ne St.clearGraph (fun s => x ∈ s.quads) (fun _ _ => mem_clearGraph) _ s

theorem mem_evalDrop {c : Cfg} {t : Target} {s : St} {x : Quad} :
    x ∈ (evalDrop c t s).quads ↔ x ∈ s.quads ∧ x.graph ∉ clearTargets c s t := by
  unfold evalDrop
  split
  · exact mem_evalClear
  · exact foldl_and_ne St.dropGraph (fun s => x ∈ s.quads) (fun _ _ => mem_dropGraph) _ s

theorem mem_copyInto (s : St) (src dst : GName) (x : Quad) :
    x ∈ (s.copyInto src dst).quads ↔
      x ∈ s.quads ∨ (x.graph = dst ∧ (x.1, x.2.1, x.2.2.1, src) ∈ s.quads) := by
  unfold St.copyInto
  rw [mem_addAll, List.mem_map]
  refine or_congr_right ⟨?_, fun h => ⟨(x.1, x.2.1, x.2.2.1), mem_graphTriples.2 h.2, (Quad.eq_of_graph h.1).symm⟩⟩
  rintro ⟨t, ht, rfl⟩
  exact ⟨rfl, mem_graphTriples.1 ht⟩

theorem mem_regraph {qs : List Quad} {x : Quad} {g : GName} (h : x.graph = g) :
    (x.1, x.2.1, x.2.2.1, g) ∈ qs ↔ x ∈ qs := by
  rw [← Quad.eq_of_graph h]

theorem mem_evalAdd (src dst : GName) (s : St) (x : Quad) :
    x ∈ (evalAdd src dst s).quads ↔ x ∈ s.quads ∨ (x.graph = dst ∧ (x.1, x.2.1, x.2.2.1, src) ∈ s.quads) := by
  unfold evalAdd
  split
  · next h => subst h; exact ⟨Or.inl, fun h => h.elim id fun h => (mem_regraph h.1).1 h.2⟩
  · exact mem_copyInto s src dst x

/-- the formula of COPY read at source = target: nothing changes -/
theorem mem_self_copy (s : St) (a : GName) (x : Quad) :
    x ∈ s.quads ↔ (x.graph ≠ a ∧ x ∈ s.quads) ∨ (x.graph = a ∧ (x.1, x.2.1, x.2.2.1, a) ∈ s.quads) := by
  by_cases hg : x.graph = a
  · rw [mem_regraph hg]; exact ⟨fun h => Or.inr ⟨hg, h⟩, fun h => h.elim And.right And.right⟩
  · exact ⟨fun h => Or.inl ⟨hg, h⟩, fun h => h.elim And.right fun h => absurd h.1 hg⟩

theorem mem_evalCopy (src dst : GName) (s : St) (x : Quad) :
    x ∈ (evalCopy src dst s).quads ↔
      (x.graph ≠ dst ∧ x ∈ s.quads) ∨ (x.graph = dst ∧ (x.1, x.2.1, x.2.2.1, src) ∈ s.quads) := by
  unfold evalCopy
  split
  · next h => subst h; exact mem_self_copy s src x
  · next hne =>
    rw [mem_copyInto, mem_clearGraph, mem_clearGraph, and_comm]
    exact or_congr_right (and_congr_right fun _ => and_iff_left hne)

/-- SPARQL 1.1 Update §3.2.4 defines MOVE so -/
theorem evalMove_eq (src dst : GName) (s : St) :
    evalMove src dst s = if src = dst then s else (evalCopy src dst s).dropGraph src := by
  unfold evalMove evalCopy
  split <;> rfl

theorem mem_evalMove (src dst : GName) (s : St) (x : Quad) :
    x ∈ (evalMove src dst s).quads ↔
      (x.graph ≠ dst ∧ x.graph ≠ src ∧ x ∈ s.quads) ∨ (x.graph = dst ∧ (x.1, x.2.1, x.2.2.1, src) ∈ s.quads) := by
  rw [evalMove_eq]
  split
  · next h =>
    subst h
    exact (mem_self_copy s src x).trans (or_congr_left (and_congr_right fun h => (and_iff_right h).symm))
  · next hne =>
    -- a quad copied into the target is not in the source graph
    rw [mem_dropGraph, mem_evalCopy, or_and_right, and_assoc, and_comm (a := x ∈ s.quads)]
    exact or_congr_right (and_iff_left_of_imp fun h => h.1 ▸ Ne.symm hne)

theorem mem_known_dropGraph {s : St} {g : GName} {n : Nat} :
    n ∈ (s.dropGraph g).known ↔ n ∈ s.known ∧ some n ≠ g := by
  cases g with
  | none => exact (and_iff_left (Option.some_ne_none n)).symm
  | some m => exact mem_sremove.trans (and_comm.trans (and_congr_right fun _ => (not_congr Option.some_inj).symm))

theorem known_dropGraph_subset (s : St) (g : GName) (n : Nat) (h : n ∈ (s.dropGraph g).known) : n ∈ s.known :=
  (mem_known_dropGraph.1 h).1

theorem known_foldl_dropGraph {gs : List GName} {s : St} {n : Nat} :
    n ∈ (gs.foldl St.dropGraph s).known ↔ n ∈ s.known ∧ some n ∉ gs :=
  foldl_and_ne St.dropGraph (fun s => n ∈ s.known) (fun _ _ => mem_known_dropGraph) gs s

end RV.C10

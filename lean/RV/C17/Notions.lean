import RV.C17.Model
/-
  C17 — the vocabulary of the property statements (`Props.lean`): the specification of the bindings (`Bij`) and of an
  answer (`Sound`), the trie invariant and the lookup's specification, the shapes of an IRI for `split_uri`, the flat
  reading of the category table, and two decidable tests.  Definitions only; the lemmas about them are in the
  `Lemmas*.lean` files.
-/
namespace RV.C17
open RV.C17.Tables

/-- Spec: `namespaces()` is a partial bijection Prefix ⇌ Namespace, and both lookups read it. -/
structure Bij (s : Store) : Prop where
  prefix_once : (s.namespaces.map Prod.fst).Nodup
  namespace_once : (s.namespaces.map Prod.snd).Nodup
  lookup_namespace : ∀ p n, (p, n) ∈ s.namespaces ↔ s.namespace p = some n
  lookup_prefix : ∀ p n, (p, n) ∈ s.namespaces ↔ s.prefix n = some p

/-- `p:l` is a sound compact form of `u` in store `s`: `p` is bound to `n` (both lookups say so)
    and `n ++ l` is the IRI -/
def Sound (s : Store) (u p n l : Str) : Prop :=
  s.namespace p = some n ∧ s.prefix n = some p ∧ n ++ l = u

/-- the numbered-prefix loop of `bind` ran out of the fuel the model gives it -/
def Pick.isLoop : Pick → Bool
  | .loop => true
  | _ => false

/-- the decidable form of `NoEmpty`: no entry of `__namespace` has the empty IRI as value -/
def emptyNsUnbound (st : Store) : Bool := st.ns.all (fun pn => !pn.2.isEmpty)

/- the namespaces held in a trie / in a dict of tries -/
mutual
def valsT : Trie → List Str
  | .node k cs => k :: vals cs
def vals : Forest → List Str
  | [] => []
  | t :: r => valsT t ++ vals r
end

/-- siblings: no key is a prefix of another -/
def Sib (f : Forest) : Prop := f.Pairwise (fun a b => ¬ a.key <+: b.key ∧ ¬ b.key <+: a.key)

/- the invariant of `insert_trie`: below a node every value strictly extends the node's key, siblings are never
   prefixes of one another -/
mutual
def okT : Trie → Prop
  | .node k cs => (∀ w, w ∈ vals cs → k <+: w ∧ k ≠ w) ∧ Sib cs ∧ okF cs
def okF : Forest → Prop
  | [] => True
  | t :: r => okT t ∧ okF r
end

def FInv (f : Forest) : Prop := Sib f ∧ okF f

/-- specification of the lookup on a set of values -/
def LongestSpec (known : List Str) (v : Str) : Option Str → Prop
  | some r => r ∈ known ∧ r <+: v ∧ ∀ w, w ∈ known → w <+: v → w <+: r
  | none => ∀ w, w ∈ known → ¬ w <+: v

/-- `category(c) in split_start or c == "_"` -/
def startChar (starts : List Nat) (c : Nat) : Bool := inCats starts c || c == 95

/-- the split-start categories are name categories (true of both lists the code uses, by the tables) -/
def StartsOK (starts : List Nat) : Prop := ∀ c, startChar starts c = true → isNameChar c = true

/-- the three shapes of an IRI (outside the XML namespace) and what `split_uri` answers on each -/
def SplitCases (starts : List Nat) (uri : Str) : Prop :=
  -- (1) only name characters: ValueError
  ((∀ x, x ∈ uri → isNameChar x = true) ∧ splitUri starts uri = none) ∨
  -- (2) last non-name character `b`, name characters `pre` that cannot start a name, a start
  --     character `c`, name characters `r` to the end: split right before `c`
  (∃ a b pre c r, uri = a ++ b :: (pre ++ c :: r) ∧ isNameChar b = false ∧
      (∀ x, x ∈ pre → isNameChar x = true ∧ startChar starts x = false) ∧ startChar starts c = true ∧
      (∀ x, x ∈ r → isNameChar x = true) ∧ restNc r = true ∧
      splitUri starts uri = some (a ++ b :: pre, c :: r)) ∨
  -- (3) no start character after the last non-name character: the inner loop wraps round and takes
  --     the first start character of the whole IRI, unless that is its first character
  (∃ a b t, uri = a ++ b :: t ∧ isNameChar b = false ∧
      (∀ x, x ∈ t → isNameChar x = true ∧ startChar starts x = false) ∧
      splitUri starts uri =
        (match firstStart starts uri (List.range uri.length) with
         | none => none
         | some j => if j = 0 then none else some (uri.take j, uri.drop j)))

/-- linear scan of a run list: the category of the last run that starts at or before `c`
    (`cur` = category of the run we are in) -/
def runLookup : List (Nat × Nat) → Nat → Nat → Nat
  | [], cur, _ => cur
  | (s, k) :: r, cur, c => if c < s then cur else runLookup r k c

/-- strictly increasing starts, neighbouring runs of different categories (maximal runs) -/
def runsCanonical : List (Nat × Nat) → Bool
  | [] => true
  | [_] => true
  | (s, k) :: (s', k') :: r => decide (s < s') && decide (k ≠ k') && runsCanonical ((s', k') :: r)

/-- the specification of `category`: linear scan of the flat run table -/
def categorySpec (c : Nat) : Nat := if c < catLimit then runLookup catRuns catUnknown c else catUnknown

end RV.C17

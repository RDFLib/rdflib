import RV.C17.Notions
/-
  C17 — the Unicode category table.  `Tables.catRuns` is the flat, human-auditable table generated
  from `unicodedata.category` (first code point and category of every maximal run, all of Unicode);
  `Tables.catTree` is the same table as a balanced search tree, which is what `category` reads.
  Whenever a tree reads a run list to its end in one in-order pass (`CatTree.reads`), the descent in the
  tree equals the linear scan of the list, the list is canonical and every leaf is a known category;
  that the generated tree reads `catRuns` is a fact about the two finite tables.
-/
namespace RV.C17
open RV.C17.Tables

def nextDiffers (k : Nat) : List (Nat × Nat) → Bool
  | [] => true
  | (_, k') :: _ => !Nat.beq k' k

/-- One in-order pass of a tree over a run list.  The leaf of the interval `[lo, hi)` must find its own
    run `(lo, k)` next in the list — the interval not empty, `k` a category index below `n`, the run after
    it of another category — and hands on the rest of the list; a node reads its left subtree over `[lo, p)`,
    then its right subtree over `[p, hi)`.  It is evaluated by the kernel (`catTree_reads`), hence the recursor
    (first argument: the leaf case, second: the node case with the passes of the two subtrees) and the
    primitive `Nat.beq`, `Nat.blt`, which the kernel computes on literals. -/
noncomputable def Tables.CatTree.reads (t : CatTree) : Nat → Nat → Nat → List (Nat × Nat) → Option (List (Nat × Nat)) :=
  t.rec (motive := fun _ => Nat → Nat → Nat → List (Nat × Nat) → Option (List (Nat × Nat)))
    (fun k lo hi n L =>
      match L with
      | [] => none
      | (s, k') :: r =>
        bif Nat.beq s lo && Nat.beq k' k && Nat.blt lo hi && Nat.blt k n && nextDiffers k r then some r else none)
    (fun p _ _ readsL readsR lo hi n L => (readsL lo p n L).bind (readsR p hi n))

theorem runLookup_before {L : List (Nat × Nat)} {c : Nat} (h : ∀ x ∈ L.head?, c < x.1) (cur : Nat) :
    runLookup L cur c = cur := by
  match L, h with
  | [], _ => rfl
  | (s, k) :: r, h => simp only [runLookup, if_pos (h _ rfl)]

/-- What a successful pass says about one code point `c`, provided the unread rest starts at or after
    `hi`: the scan of the list from `lo` on is the descent in the tree, handed on to the rest. -/
theorem reads_spec {n : Nat} (c : Nat) (t : CatTree) : ∀ (lo hi : Nat) (L rest : List (Nat × Nat)),
    t.reads lo hi n L = some rest →
    lo < hi ∧ t.get c < n ∧ (∃ k L', L = (lo, k) :: L') ∧
      ((∀ x ∈ rest.head?, hi ≤ x.1) → (runsCanonical rest = true → runsCanonical L = true) ∧
        ∀ cur, runLookup L cur c = if c < lo then cur else runLookup rest (t.get c) c) := by
  induction t with
  | leaf k =>
    intro lo hi L rest h
    cases L with
    | nil => exact nomatch h
    | cons a r =>
      obtain ⟨s, k'⟩ := a
      simp only [Tables.CatTree.reads, cond_eq_ite, Bool.and_eq_true, Nat.beq_eq, Nat.blt_eq] at h
      split at h
      · next hc =>
        obtain ⟨⟨⟨⟨rfl, rfl⟩, h3⟩, h4⟩, h5⟩ := hc
        cases h
        refine ⟨h3, h4, ⟨_, _, rfl⟩, fun hrest => ⟨?_, fun cur => rfl⟩⟩
        cases rest with
        | nil => exact fun _ => rfl
        | cons b r' =>
          obtain ⟨s2, k2⟩ := b
          have h6 : s < s2 := Nat.lt_of_lt_of_le h3 (hrest _ rfl)
          have h7 : k' ≠ k2 := fun e => by simp [nextDiffers, e] at h5
          intro hcan
          simp only [runsCanonical, h6, h7, hcan, ne_eq, not_false_eq_true, decide_true, Bool.and_self]
      · exact nomatch h
  | node p l r il ir =>
    intro lo hi L rest h
    simp only [Tables.CatTree.reads, Option.bind_eq_some_iff] at h
    obtain ⟨M, hl, hr⟩ := h
    obtain ⟨l1, l2, l3, l4⟩ := il lo p L M hl
    obtain ⟨r1, r2, ⟨k', M', rfl⟩, r4⟩ := ir p hi M rest hr
    refine ⟨Nat.lt_trans l1 r1, ?_, l3, fun hrest => ?_⟩
    · simp only [Tables.CatTree.get]; split <;> assumption
    · obtain ⟨rc, rs⟩ := r4 hrest
      obtain ⟨lc, ls⟩ := l4 (fun x hx => by cases hx; exact Nat.le_refl p)
      refine ⟨fun h => lc (rc h), fun cur => ?_⟩
      rw [ls, rs]
      simp only [Tables.CatTree.get]
      by_cases h1 : c < lo
      · rw [if_pos h1, if_pos h1]
      · rw [if_neg h1, if_neg h1]
        split
        · -- `c < p`: the right subtree's part of the list starts at `p`, beyond `c`, so the scan has ended
          next h2 => exact (runLookup_before (fun x hx => Nat.lt_of_lt_of_le (Nat.lt_trans h2 r1) (hrest x hx)) _).symm
        · rfl

theorem reads_nil {n lo hi : Nat} {t : CatTree} {L : List (Nat × Nat)} (h : t.reads lo hi n L = some []) (c : Nat) :
    runsCanonical L = true ∧ t.get c < n ∧ ∀ cur, lo ≤ c → runLookup L cur c = t.get c := by
  obtain ⟨_, hn, _, hs⟩ := reads_spec c t lo hi L [] h
  obtain ⟨hc, hl⟩ := hs (fun _ hx => nomatch hx)
  exact ⟨hc rfl, hn, fun cur hlo => (hl cur).trans (if_neg (Nat.not_lt.2 hlo))⟩

theorem catTree_reads : catTree.reads 0 catLimit catUnknown catRuns = some [] := by
  -- `catRuns` is `(… ++ catRuns30) ++ catRuns31`; its equation lemma cannot be realised (hence `delta`), and the
  -- evaluation wants the appends nested to the right
  delta catRuns
  repeat rw [List.append_assoc]
  decide +kernel

theorem catRuns_canonical : runsCanonical catRuns = true :=
  (reads_nil catTree_reads 0).1

theorem category_eq_spec (c : Nat) : category c = categorySpec c := by
  unfold category categorySpec
  split
  · exact ((reads_nil catTree_reads c).2.2 catUnknown (Nat.zero_le c)).symm
  · rfl

theorem category_known (c : Nat) (h : c < catLimit) : category c < catUnknown := by
  unfold category
  rw [if_pos h]
  exact (reads_nil catTree_reads c).2.1

end RV.C17

import RV.C17.Lemmas
/-
  C17 — the three `while` loops.  A decimal numeral can be read back, so `base ++ k` are pairwise different
  strings and the two loops that look for an unused numbered prefix stop within `len(bindings) + 1` rounds
  (pigeonhole; the fuel the model gives them); the serializer's `p…` candidates have pairwise different
  lengths and its loop stops within `len(document table) + 1` rounds.
-/
namespace RV.C17

def undec (s : Str) : Nat := s.foldl (fun a d => 10 * a + (d - 48)) 0

theorem undec_decF : ∀ (f n : Nat), n ≤ f → undec (decF f n) = n := by
  intro f
  induction f with
  | zero => intro n h; rw [Nat.le_zero.1 h]; rfl
  | succ f ih =>
    intro n h
    simp only [decF]
    split
    · simp [undec]
    · next hn =>
      have hlt : n / 10 < n := Nat.div_lt_self (Nat.lt_of_lt_of_le (by decide) (Nat.le_of_not_lt hn)) (by decide)
      rw [undec, List.foldl_append, ← undec, ih _ (Nat.le_of_lt_succ (Nat.lt_of_lt_of_le hlt h))]
      simp only [List.foldl_cons, List.foldl_nil, Nat.add_sub_cancel_left, Nat.div_add_mod]

theorem dec_inj {n m : Nat} (h : dec n = dec m) : n = m := by
  rw [← undec_decF n n (Nat.le_refl n), ← undec_decF m m (Nat.le_refl m)]
  exact congrArg undec h

theorem decF_ge : ∀ (f n x : Nat), x ∈ decF f n → 48 ≤ x
  | 0, n, x, h => by
    rw [decF, List.mem_singleton] at h
    exact h ▸ Nat.le_add_right _ _
  | f + 1, n, x, h => by
    rw [decF] at h
    split at h
    · rw [List.mem_singleton] at h
      exact h ▸ Nat.le_add_right _ _
    · rcases List.mem_append.1 h with e | e
      · exact decF_ge f _ _ e
      · rw [List.mem_singleton] at e
        exact e ▸ Nat.le_add_right _ _

theorem nsnum_nospace (k : Nat) : (strNs ++ dec k).contains 32 = false := by
  rw [Bool.eq_false_iff]
  intro h
  rcases List.mem_append.1 (List.contains_iff_mem.1 h) with e | e
  · revert e; decide
  · have := decF_ge _ _ _ e; omega

theorem falsy_cases {x : Option Str} (h : truthy x = false) : x = none ∨ x = some [] := by
  cases x with
  | none => exact Or.inl rfl
  | some v => cases v with
    | nil => exact Or.inr rfl
    | cons a r => simp [truthy] at h

theorem truthy_isSome {x : Option Str} (h : truthy x = true) : x.isSome = true := by
  cases x with
  | none => simp [truthy] at h
  | some v => rfl

/-- pigeonhole (each candidate found is struck from the list) -/
theorem pigeonhole (c : Nat → Str) (hc : ∀ a b, c a = c b → a = b) : ∀ (fuel num : Nat) (l : List Str),
    (∀ k, num ≤ k → k < num + fuel → c k ∈ l) → fuel ≤ l.length
  | 0, _, _, _ => Nat.zero_le _
  | fuel + 1, num, l, h => by
    have h0 : (l.filter (· != c num)).length < l.length :=
      List.length_filter_lt_length_iff_exists.2
        ⟨_, h num (Nat.le_refl _) (Nat.lt_add_of_pos_right (Nat.succ_pos _)), by simp⟩
    refine Nat.lt_of_le_of_lt (pigeonhole c hc fuel (num + 1) (l.filter (· != c num)) fun k h1 h2 => ?_) h0
    rw [Nat.add_right_comm, Nat.add_assoc] at h2
    exact List.mem_filter.2 ⟨h k (Nat.le_of_succ_le h1) h2, bne_iff_ne.2 fun e => Nat.ne_of_gt h1 (hc _ _ e)⟩

theorem keys_pigeonhole {β : Type} (l : List (Str × β)) (c : Nat → Str) (hc : ∀ a b, c a = c b → a = b)
    (num fuel : Nat) (h : ∀ k, num ≤ k → k < num + fuel → (alookup l (c k)).isSome) : fuel ≤ l.length :=
  List.length_map (as := l) Prod.fst ▸
    pigeonhole c hc fuel num (l.map Prod.fst) fun k h1 h2 => (mem_keys_iff l _).2 (h k h1 h2)

theorem numbered_pigeonhole (st : Store) (base : Str) (fuel num : Nat)
    (h : ∀ k, num ≤ k → k < num + fuel → truthy (st.namespace (base ++ dec k)) = true) :
    fuel ≤ st.ns.length :=
  keys_pigeonhole st.ns (fun k => base ++ dec k) (fun _ _ e => dec_inj (List.append_cancel_left e)) num fuel
    fun k h1 h2 => truthy_isSome (h k h1 h2)

theorem pickNs_spec (st : Store) : ∀ (fuel num : Nat),
    (∀ p, pickNs st fuel num = some p → truthy (st.namespace p) = false ∧ ∃ j, p = strNs ++ dec j) ∧
      (pickNs st fuel num = none →
        ∀ k, num ≤ k → k < num + fuel → truthy (st.namespace (strNs ++ dec k)) = true)
  | 0, _ => ⟨fun _ h => by simp [pickNs] at h, fun _ k h1 h2 => absurd h2 (Nat.not_lt.2 h1)⟩
  | f + 1, num => by
    have ih := pickNs_spec st f (num + 1)
    simp only [pickNs]
    split
    · next ht =>
      refine ⟨ih.1, fun h k h1 h2 => ?_⟩
      rcases Nat.eq_or_lt_of_le h1 with e | e
      · exact e ▸ ht
      · exact ih.2 h k e (by omega)
    · next hf => exact ⟨fun p h => by cases h; exact ⟨by simpa using hf, num, rfl⟩, fun h => nomatch h⟩

theorem pickNs_falsy (st : Store) (fuel num : Nat) (p : Str) (h : pickNs st fuel num = some p) :
    truthy (st.namespace p) = false := ((pickNs_spec st fuel num).1 p h).1

theorem pickNs_terminates (st : Store) : ∃ p, pickNs st (st.ns.length + 1) 1 = some p := by
  cases h : pickNs st (st.ns.length + 1) 1 with
  | some p => exact ⟨p, rfl⟩
  | none => exact absurd (numbered_pigeonhole st strNs _ 1 ((pickNs_spec st _ 1).2 h)) (Nat.not_succ_le_self _)

theorem pickNumbered_spec (st : Store) (base n : Str) : ∀ (fuel num : Nat),
    (∀ p, pickNumbered st base n fuel num = .fresh p → truthy (st.namespace p) = false) ∧
      ((pickNumbered st base n fuel num).isLoop = true →
        ∀ k, num ≤ k → k < num + fuel → truthy (st.namespace (base ++ dec k)) = true)
  | 0, _ => ⟨fun _ h => by simp [pickNumbered] at h, fun _ k h1 h2 => absurd h2 (Nat.not_lt.2 h1)⟩
  | f + 1, num => by
    have ih := pickNumbered_spec st base n f (num + 1)
    simp only [pickNumbered]
    by_cases c1 : (truthy (st.namespace (base ++ dec num)) && st.namespace (base ++ dec num) == some n) = true
    · rw [if_pos c1]; exact ⟨fun _ h => (nomatch h), fun h => nomatch h⟩
    · rw [if_neg c1]
      by_cases c2 : (!truthy (st.namespace (base ++ dec num))) = true
      · rw [if_pos c2]; exact ⟨fun p h => by cases h; simpa using c2, fun h => nomatch h⟩
      · rw [if_neg c2]
        refine ⟨ih.1, fun h k h1 h2 => ?_⟩
        rcases Nat.eq_or_lt_of_le h1 with e | e
        · subst e; simpa using c2
        · exact ih.2 h k e (by omega)

theorem pickNumbered_terminates (st : Store) (base n : Str) :
    (pickNumbered st base n (st.ns.length + 1) 1).isLoop = false := by
  cases h : (pickNumbered st base n (st.ns.length + 1) 1).isLoop with
  | false => rfl
  | true =>
    exact absurd (numbered_pigeonhole st base _ 1 ((pickNumbered_spec st base n _ 1).2 h)) (Nat.not_succ_le_self _)

def pcand (p : Str) : Nat → Str
  | 0 => p
  | k + 1 => 112 :: pcand p k

theorem pcand_length (p : Str) (k : Nat) : (pcand p k).length = p.length + k := by
  induction k with
  | zero => rfl
  | succ k ih => simp [pcand, ih]; omega

theorem pcand_cons (p : Str) : ∀ k, pcand (112 :: p) k = pcand p (k + 1)
  | 0 => rfl
  | k + 1 => by simp only [pcand]; rw [pcand_cons p k]; rfl

theorem freshP_none (table : List (Str × Str)) : ∀ (fuel : Nat) (p : Str), freshP table fuel p = none →
    ∀ k, k < fuel → hasKey table (pcand p k) = true := by
  intro fuel
  induction fuel with
  | zero => intro p _ k hk; omega
  | succ f ih =>
    intro p h k hk
    simp only [freshP] at h
    split at h
    · next hp =>
      cases k with
      | zero => exact hp
      | succ k =>
        have := ih (112 :: p) h k (by omega)
        rw [← pcand_cons p k]; exact this
    · exact nomatch h

/-- the candidates have pairwise different lengths -/
theorem freshP_terminates (table : List (Str × Str)) (p : Str) :
    ∃ q, freshP table (table.length + 1) p = some q := by
  cases h : freshP table (table.length + 1) p with
  | some q => exact ⟨q, rfl⟩
  | none =>
    have hinj : ∀ a b, pcand p a = pcand p b → a = b := fun a b e => by
      have := congrArg List.length e
      rwa [pcand_length, pcand_length, Nat.add_left_cancel_iff] at this
    have htaken : ∀ k, 0 ≤ k → k < 0 + (table.length + 1) → (alookup table (pcand p k)).isSome :=
      fun k _ hk => (hasKey_iff table _).1 (freshP_none table _ p h k (by rwa [Nat.zero_add] at hk))
    exact absurd (keys_pigeonhole table (pcand p) hinj 0 _ htaken) (Nat.not_succ_le_self _)

end RV.C17

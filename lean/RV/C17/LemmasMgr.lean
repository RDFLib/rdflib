import RV.C17.LemmasFresh
import RV.C17.LemmasTrie
import RV.C17.LemmasSplit
/-
  C17 — what a call of a NamespaceManager function does, in whatever state it starts (`MRes`): the store changes only
  through successful `Memory.bind` calls (`Reach`), the manager stays as well formed as it was (`MLe`), the answer is
  never `Loop`; such summaries compose by transitivity.  From well-formed caches a qname computation answers with a
  prefix bound now to a namespace that spells the IRI (`QMRes`).
-/
namespace RV.C17
open RV.C17.Tables

variable {st : Store} {m : Mgr}

/-- `b` is obtained from `a` by finitely many successful `Memory.bind` calls -/
inductive Reach : Store → Store → Prop
  | refl (s : Store) : Reach s s
  | step {a b c : Store} (h : Reach a b) (p n : Str) (ov : Bool) (e : b.bind p n ov = some c) : Reach a c

theorem Reach.trans {a b c : Store} (h1 : Reach a b) (h2 : Reach b c) : Reach a c := by
  induction h2 with
  | refl => exact h1
  | step _ p n ov e ih => exact ih.step p n ov e

theorem Reach.inv {a b : Store} (h : Reach a b) (ha : a.Inv) : b.Inv := by
  induction h with
  | refl => exact ha
  | step _ p n ov e ih =>
    obtain ⟨s', hs, hi⟩ := Store.bind_inv ih p n ov
    rw [e] at hs; cases hs; exact hi

/-- every cache entry spells its IRI: namespace ++ name = uri -/
def CacheOK (c : List (Str × QN)) : Prop := ∀ u p n l, alookup c u = some (p, n, l) → n ++ l = u

theorem cacheOK_nil : CacheOK [] := by intro u p n l h; simp [alookup] at h

theorem cacheOK_aset {c : List (Str × QN)} (h : CacheOK c) {u p n l : Str} (e : n ++ l = u) :
    CacheOK (aset c u (p, n, l)) := by
  intro u' p' n' l' h'
  rw [alookup_aset] at h'
  split at h'
  · next hu => injection h' with h'; injection h' with _ h'; injection h' with h1 h2; subst hu h1 h2; exact e
  · exact h _ _ _ _ h'

theorem cacheOK_validEntry {c : List (Str × QN)} (h : CacheOK c) (st : Store) (u : Str) :
    CacheOK (validEntry st c u) := by
  unfold validEntry
  split
  · split
    · exact h
    · intro u' p' n' l' h'
      rw [alookup_aerase] at h'
      split at h'
      · exact absurd h' (by simp)
      · exact h _ _ _ _ h'
  · exact h

theorem validEntry_hit {c : List (Str × QN)} (st : Store) (u p n l : Str)
    (e : alookup (validEntry st c u) u = some (p, n, l)) : st.prefix n = some p := by
  unfold validEntry at e
  split at e
  · next p' n' l' he =>
    split at e
    · next hv =>
      rw [he] at e; cases e
      simpa using hv
    · rw [alookup_aerase] at e; simp at e
  · next he => rw [he] at e; exact nomatch e

/-- the manager's part of the history invariant: what rdflib's `__cache`, `__cache_strict` and `__trie` satisfy in
    every reachable state -/
structure MOK (m : Mgr) : Prop where
  cache : CacheOK m.cache
  scache : CacheOK m.scache
  trie : FInv m.trie

theorem mgr_empty_ok : CacheOK Mgr.empty.cache ∧ CacheOK Mgr.empty.scache := ⟨cacheOK_nil, cacheOK_nil⟩

theorem MOK.empty : MOK Mgr.empty := ⟨mgr_empty_ok.1, mgr_empty_ok.2, finv_nil⟩

/-- `m'` is at least as well formed as `m` -/
structure MLe (m m' : Mgr) : Prop where
  cache : CacheOK m.cache → CacheOK m'.cache
  scache : CacheOK m.scache → CacheOK m'.scache
  trie : FInv m.trie → FInv m'.trie

theorem MLe.refl (m : Mgr) : MLe m m := ⟨id, id, id⟩

theorem MLe.trans {a b c : Mgr} (h1 : MLe a b) (h2 : MLe b c) : MLe a c :=
  ⟨h2.cache ∘ h1.cache, h2.scache ∘ h1.scache, h2.trie ∘ h1.trie⟩

theorem MLe.mok {m' : Mgr} (h : MLe m m') (hm : MOK m) : MOK m' :=
  ⟨h.cache hm.cache, h.scache hm.scache, h.trie hm.trie⟩

theorem MLe.insertTrie (m : Mgr) (n : Str) : MLe m (m.insertTrie n) :=
  ⟨id, id, fun h => (insertForest_spec h n).1⟩

theorem MLe.ensureStrie (m : Mgr) (n : Str) : MLe m (m.ensureStrie n) := by
  unfold Mgr.ensureStrie
  split
  · exact .refl m
  · exact ⟨id, id, fun h => (insertForest_spec h n).1⟩

/-- What a call does, in whatever state it starts.  `loop` is the exception `Loop` as the function's answer type spells
    it (`.err .Loop` in `Out`, `.error .Loop` in `Except Err _`: no common projection, hence a parameter). -/
structure MRes {α : Type} (st : Store) (m : Mgr) (r : Store × Mgr × α) (loop : α) : Prop where
  reach : Reach st r.1
  mgr : MLe m r.2.1
  noloop : r.2.2 ≠ loop

theorem MRes.trans {α β : Type} {r : Store × Mgr × α} {r' : Store × Mgr × β} {l : α} {l' : β}
    (h : MRes st m r l) (h' : MRes r.1 r.2.1 r' l') : MRes st m r' l' :=
  ⟨h.reach.trans h'.reach, h.mgr.trans h'.mgr, h'.noloop⟩

theorem MRes.raise {α β : Type} {r : Store × Mgr × Except Err α} (h : MRes st m r (.error .Loop)) {e : Err}
    (he : r.2.2 = .error e) : MRes st m (r.1, r.2.1, (.error e : Except Err β)) (.error .Loop) :=
  ⟨h.reach, h.mgr, fun c => h.noloop (Except.error.inj c ▸ he)⟩

theorem Store.bind_override_prefix {s s' : Store} {p n : Str} (e : s.bind p n true = some s') :
    s'.prefix n = some p := by
  unfold Store.bind at e
  simp only [if_true] at e
  split at e
  · exact nomatch e
  · split at e
    · exact nomatch e
    · cases e; simp [Store.prefix]

theorem bindAndInsert_cases (st : Store) (m : Mgr) (p n : Str) (ov : Bool) :
    (∃ st', st.bind p n ov = some st' ∧ bindAndInsert st m p n ov = (st', m.insertTrie n, .unit)) ∨
      (st.bind p n ov = none ∧ bindAndInsert st m p n ov = (st, m, .err .KeyError)) := by
  unfold bindAndInsert
  cases st.bind p n ov with
  | some st' => exact Or.inl ⟨st', rfl, rfl⟩
  | none => exact Or.inr ⟨rfl, rfl⟩

/-- the outcomes of `NamespaceManager.bind` (never `Loop`: the numbered-prefix loop finds a prefix) -/
theorem Mgr.bind_cases (st : Store) (m : Mgr) (pre : Option Str) (n : Str) (ov rp : Bool) :
    (∃ p, Mgr.bind st m pre n ov rp = bindAndInsert st m p n ov) ∨
      Mgr.bind st m pre n ov rp = (st, m.insertTrie n, .unit) ∨
      ∃ o, Mgr.bind st m pre n ov rp = (st, m, o) ∧ o ≠ .err .Loop := by
  generalize hr : Mgr.bind st m pre n ov rp = r
  unfold Mgr.bind at hr
  dsimp only at hr
  by_cases h1 : (pre.getD []).contains 32 = true
  · rw [if_pos h1] at hr; exact Or.inr (Or.inr ⟨_, hr.symm, nofun⟩)
  · rw [if_neg h1] at hr
    by_cases h2 : (truthy (st.namespace (pre.getD [])) && st.namespace (pre.getD []) != some n) = true
    · rw [if_pos h2] at hr
      cases rp with
      | true => exact Or.inl ⟨_, hr.symm⟩
      | false =>
        rw [if_neg (by decide)] at hr
        cases hp : pickNumbered st (if (pre.getD []).isEmpty = true then strDefault else pre.getD []) n (st.ns.length + 1) 1 with
        | already => rw [hp] at hr; exact Or.inr (Or.inr ⟨_, hr.symm, nofun⟩)
        | fresh np => rw [hp] at hr; exact Or.inl ⟨_, hr.symm⟩
        | loop => exact absurd (hp ▸ pickNumbered_terminates st _ n) nofun
    · rw [if_neg h2] at hr
      cases hq : st.prefix n with
      | none => rw [hq] at hr; exact Or.inl ⟨_, hr.symm⟩
      | some bp =>
        rw [hq] at hr
        dsimp only at hr
        by_cases h3 : bp = pre.getD []
        · rw [if_pos h3] at hr; exact Or.inr (Or.inl hr.symm)
        · rw [if_neg h3] at hr
          by_cases h4 : (ov || bp.head? == some 95) = true
          · rw [if_pos h4] at hr; exact Or.inl ⟨_, hr.symm⟩
          · rw [if_neg h4] at hr; exact Or.inr (Or.inl hr.symm)
theorem Mgr.bind_fresh (m : Mgr) {p n : Str} (hn : st.prefix n = none)
    (hp : truthy (st.namespace p) = false) (hs : p.contains 32 = false) :
    Mgr.bind st m (some p) n true false = bindAndInsert st m p n true := by
  unfold Mgr.bind
  simp only [Option.getD_some, hs, hp, Bool.false_and, Bool.false_eq_true, if_false, hn]

theorem bindAndInsert_does (st : Store) (m : Mgr) (p n : Str) (ov : Bool) :
    MRes st m (bindAndInsert st m p n ov) (.err .Loop) := by
  rcases bindAndInsert_cases st m p n ov with ⟨st', e, h'⟩ | ⟨_, h'⟩ <;> rw [h']
  · exact ⟨(Reach.refl st).step p n ov e, .insertTrie m n, nofun⟩
  · exact ⟨.refl st, .refl m, nofun⟩

theorem Mgr.bind_does (st : Store) (m : Mgr) (pre : Option Str) (n : Str) (ov rp : Bool) :
    MRes st m (Mgr.bind st m pre n ov rp) (.err .Loop) := by
  rcases Mgr.bind_cases st m pre n ov rp with ⟨p, e⟩ | e | ⟨o, e, ho⟩ <;> rw [e]
  · exact bindAndInsert_does st m p n ov
  · exact ⟨.refl st, .insertTrie m n, nofun⟩
  · exact ⟨.refl st, .refl m, ho⟩

/-- the outcomes of `lookupOrGenerate` (never `Loop`: the `ns<k>` loop finds a prefix) -/
theorem lookupOrGenerate_cases (st : Store) (m : Mgr) (n name : Str) (g : Bool) :
    (∃ p, st.prefix n = some p ∧ lookupOrGenerate st m n name g = (st, m, .ok (p, n, name))) ∨
      (st.prefix n = none ∧ lookupOrGenerate st m n name g = (st, m, .error .KeyError) ∧
        (g = true → ∃ p, st.bind p n true = none)) ∨
      (st.prefix n = none ∧ ∃ p st', pickNs st (st.ns.length + 1) 1 = some p ∧ st.bind p n true = some st' ∧
        lookupOrGenerate st m n name g = (st', m.insertTrie n, .ok (p, n, name))) := by
  generalize hr : lookupOrGenerate st m n name g = r
  unfold lookupOrGenerate at hr
  split at hr
  · next p hp => exact Or.inl ⟨p, hp, hr.symm⟩
  · next hn =>
    cases g with
    | false => exact Or.inr (Or.inl ⟨hn, hr.symm, fun h => nomatch h⟩)
    | true =>
      obtain ⟨p, hp⟩ := pickNs_terminates st
      obtain ⟨hf, j, hj⟩ := (pickNs_spec st _ _).1 p hp
      simp only [hp, Bool.not_true, Bool.false_eq_true, if_false,
        Mgr.bind_fresh m hn hf (hj ▸ nsnum_nospace j)] at hr
      rcases bindAndInsert_cases st m p n true with ⟨st', e, h'⟩ | ⟨e, h'⟩ <;> rw [h'] at hr
      · exact Or.inr (Or.inr ⟨hn, p, st', hp, e, hr.symm⟩)
      · exact Or.inr (Or.inl ⟨hn, hr.symm, fun _ => ⟨p, e⟩⟩)

theorem splitOrWhole_some {uri n l : Str} (h : splitOrWhole st uri = some (n, l)) :
    n ++ l = uri ∧ (st.prefix n = none → n ≠ []) := by
  unfold splitOrWhole at h
  split at h
  · next r hr => cases h; exact ⟨splitUri_append hr, fun _ => splitUri_ne hr⟩
  · split at h
    · next p hq =>
      split at h
      · exact nomatch h
      · cases h; exact ⟨List.append_nil _, fun hp => nomatch hq ▸ hp⟩
    · exact nomatch h

theorem refineLongest_append {trie : Forest} {n0 name0 uri : Str} (h : n0 ++ name0 = uri) :
    (refineLongest trie n0 name0 uri).1 ++ (refineLongest trie n0 name0 uri).2 = uri := by
  unfold refineLongest
  split
  · next pl hpl =>
    simp only
    cases hf : findSub n0 trie with
    | none => rw [hf] at hpl; simp at hpl
    | some sub =>
      rw [hf] at hpl; simp only [Option.bind_some] at hpl
      exact isPrefixOf_append_drop (getLongest_prefix uri sub pl hpl)
  · exact h

/-! ### `compute_qname` and the second half of `compute_qname_strict`: one code over two caches -/

/-- `__cache` (`false`) or `__cache_strict` (`true`) -/
def Mgr.getC : Bool → Mgr → List (Str × QN)
  | false, m => m.cache
  | true, m => m.scache

def Mgr.setC : Bool → Mgr → List (Str × QN) → Mgr
  | false, m, c => { m with cache := c }
  | true, m, c => { m with scache := c }

/-- `sp`: the split of the IRI (`none`: it raises); `rf`: how the trie refines the split -/
def qcompute (s : Bool) (st : Store) (m : Mgr) (u : Str) (g : Bool) (sp : Option (Str × Str))
    (rf : Forest → Str → Str → Str × Str) : Store × Mgr × Except Err QN :=
  let m := m.setC s (validEntry st (m.getC s) u)
  match alookup (m.getC s) u with
  | some r => (st, m, .ok r)
  | none =>
    match sp with
    | none => (st, m, .error .ValueError)
    | some (n0, name0) =>
      let m := m.ensureStrie n0
      let nn := rf m.trie n0 name0
      let r := lookupOrGenerate st m nn.1 nn.2 g
      match r.2.2 with
      | .ok q => (r.1, r.2.1.setC s (aset (r.2.1.getC s) u q), .ok q)
      | .error e => (r.1, r.2.1, .error e)

theorem computeQname_eq (st : Store) (m : Mgr) (u : Str) (g : Bool) :
    Mgr.computeQname st m u g = qcompute false st m u g (if validUri u then splitOrWhole st u else none)
      (fun t n0 name0 => refineLongest t n0 name0 u) := by
  unfold Mgr.computeQname qcompute
  cases validUri u <;> rfl

theorem strictTail_eq (st : Store) (m : Mgr) (u : Str) (g : Bool) :
    Mgr.strictTail st m u g = qcompute true st m u g (splitUri nameStartCats u) (fun _ n0 name0 => (n0, name0)) :=
  rfl

theorem Mgr.getC_setC (s : Bool) (m : Mgr) (c : List (Str × QN)) : (m.setC s c).getC s = c := by
  cases s <;> rfl

theorem MLe.setC (s : Bool) {c : List (Str × QN)} (hc : CacheOK (m.getC s) → CacheOK c) : MLe m (m.setC s c) := by
  cases s
  · exact ⟨hc, id, id⟩
  · exact ⟨id, hc, id⟩

/-- `MRes` for a qname computation for `u` -/
structure QMRes (st : Store) (m : Mgr) (u : Str) (r : Store × Mgr × Except Err QN) : Prop
    extends MRes st m r (.error .Loop) where
  ok : CacheOK m.cache → CacheOK m.scache → ∀ p n l, r.2.2 = .ok (p, n, l) → r.1.prefix n = some p ∧ n ++ l = u

theorem qcompute_does (s : Bool) (st : Store) (m : Mgr) (u : Str) (g : Bool) {sp : Option (Str × Str)}
    {rf : Forest → Str → Str → Str × Str} (hsp : ∀ n0 name0, sp = some (n0, name0) → n0 ++ name0 = u)
    (href : ∀ t n0 name0, n0 ++ name0 = u → (rf t n0 name0).1 ++ (rf t n0 name0).2 = u) :
    QMRes st m u (qcompute s st m u g sp rf) := by
  have hv := fun h => cacheOK_validEntry (c := m.getC s) h st u
  have hm : MLe m (m.setC s (validEntry st (m.getC s) u)) := .setC s hv
  unfold qcompute
  simp only [Mgr.getC_setC]
  split
  · next r hr =>
    refine ⟨⟨.refl _, hm, nofun⟩, fun a b p n l e => ?_⟩
    cases e
    exact ⟨validEntry_hit st u p n l hr, hv (by cases s <;> assumption) _ _ _ _ hr⟩
  · split
    · exact ⟨⟨.refl _, hm, nofun⟩, nofun⟩
    · next n0 name0 =>
      have hnn := href (Mgr.ensureStrie (m.setC s (validEntry st (m.getC s) u)) n0).trie n0 name0 (hsp _ _ rfl)
      have hm1 := hm.trans (.ensureStrie _ n0)
      generalize Mgr.ensureStrie (m.setC s (validEntry st (m.getC s) u)) n0 = m1 at hnn hm1
      generalize rf _ n0 name0 = nn at hnn
      rcases lookupOrGenerate_cases st m1 nn.1 nn.2 g with ⟨p, hp, c⟩ | ⟨_, c, _⟩ | ⟨_, p, st', _, hb, c⟩ <;> rw [c]
      · exact ⟨⟨.refl _, hm1.trans (.setC s fun h => cacheOK_aset h hnn), nofun⟩,
          fun _ _ _ _ _ e => by cases e; exact ⟨hp, hnn⟩⟩
      · exact ⟨⟨.refl _, hm1, nofun⟩, nofun⟩
      · exact ⟨⟨(Reach.refl _).step p _ true hb,
            (hm1.trans (.insertTrie _ _)).trans (.setC s fun h => cacheOK_aset h hnn), nofun⟩,
          fun _ _ _ _ _ e => by cases e; exact ⟨Store.bind_override_prefix hb, hnn⟩⟩

theorem computeQname_does (st : Store) (m : Mgr) (u : Str) (g : Bool) :
    QMRes st m u (Mgr.computeQname st m u g) := by
  rw [computeQname_eq]
  refine qcompute_does false st m u g (fun n0 name0 e => ?_) (fun t _ _ e => refineLongest_append e)
  split at e
  · exact (splitOrWhole_some e).1
  · exact nomatch e

theorem strictTail_does (st : Store) (m : Mgr) (u : Str) (g : Bool) :
    QMRes st m u (Mgr.strictTail st m u g) :=
  qcompute_does true st m u g (sp := splitUri nameStartCats u) (rf := fun _ n0 name0 => (n0, name0))
    (fun _ _ e => splitUri_append e) (fun _ _ _ e => e)

theorem computeQnameStrict_cases (st : Store) (m : Mgr) (u : Str) (g : Bool) :
    (Mgr.computeQnameStrict st m u g = Mgr.computeQname st m u g ∧
        ∀ q, (Mgr.computeQname st m u g).2.2 = .ok q → isNcname q.2.2 = true) ∨
      ∃ q, (Mgr.computeQname st m u g).2.2 = .ok q ∧ isNcname q.2.2 = false ∧
        Mgr.computeQnameStrict st m u g =
          Mgr.strictTail (Mgr.computeQname st m u g).1 (Mgr.computeQname st m u g).2.1 u g := by
  unfold Mgr.computeQnameStrict
  generalize Mgr.computeQname st m u g = r0
  obtain ⟨a, b, c⟩ := r0
  cases c with
  | error e => exact .inl ⟨rfl, nofun⟩
  | ok q =>
    obtain ⟨p, n, l⟩ := q
    by_cases h : isNcname l = true
    · exact .inl ⟨by simp only [h, if_true], fun q e => by cases e; exact h⟩
    · exact .inr ⟨_, rfl, by simpa using h, by simp only [h]; rfl⟩

theorem computeQnameStrict_does (st : Store) (m : Mgr) (u : Str) (g : Bool) :
    QMRes st m u (Mgr.computeQnameStrict st m u g) := by
  have h0 := computeQname_does st m u g
  rcases computeQnameStrict_cases st m u g with ⟨e, _⟩ | ⟨_, _, _, e⟩ <;> rw [e]
  · exact h0
  · have h1 := strictTail_does (Mgr.computeQname st m u g).1 (Mgr.computeQname st m u g).2.1 u g
    exact ⟨h0.toMRes.trans h1.toMRes, fun a b => h1.ok (h0.mgr.cache a) (h0.mgr.scache b)⟩

/-- `QMRes` with its two hypotheses discharged -/
structure QRes (st : Store) (u : Str) (r : Store × Mgr × Except Err QN) : Prop where
  reach : Reach st r.1
  cache : CacheOK r.2.1.cache
  scache : CacheOK r.2.1.scache
  ok : ∀ p n l, r.2.2 = .ok (p, n, l) → r.1.prefix n = some p ∧ n ++ l = u

theorem QMRes.toQRes {u : Str} {r : Store × Mgr × Except Err QN} (h : QMRes st m u r) (hc : CacheOK m.cache)
    (hs : CacheOK m.scache) : QRes st u r := ⟨h.reach, h.mgr.cache hc, h.mgr.scache hs, h.ok hc hs⟩

/- The summaries `computeQname_does`, `computeQnameStrict_does` read under the hypotheses that hold of rdflib's caches,
   resp. of its trie, in every reachable state. -/
theorem computeQname_all {st : Store} {m : Mgr} (u : Str) (g : Bool)
    (hc : CacheOK m.cache) (hs : CacheOK m.scache) : QRes st u (Mgr.computeQname st m u g) :=
  (computeQname_does st m u g).toQRes hc hs

theorem computeQnameStrict_all {st : Store} {m : Mgr} (u : Str) (g : Bool)
    (hc : CacheOK m.cache) (hs : CacheOK m.scache) : QRes st u (Mgr.computeQnameStrict st m u g) :=
  (computeQnameStrict_does st m u g).toQRes hc hs

theorem computeQnameStrict_finv {m : Mgr} (h : FInv m.trie) (st : Store) (u : Str) (g : Bool) :
    FInv (Mgr.computeQnameStrict st m u g).2.1.trie :=
  (computeQnameStrict_does st m u g).mgr.trie h

theorem normalizeUri_does (st : Store) (m : Mgr) (u : Str) :
    MRes st m (Mgr.normalizeUri st m u) (.err .Loop) ∧
      (CacheOK m.cache → CacheOK m.scache → ∀ s, (Mgr.normalizeUri st m u).2.2 = .str s → s = 60 :: u ++ [62] ∨
        ∃ p n l, s = joinQ p l ∧ (Mgr.normalizeUri st m u).1.prefix n = some p ∧ n ++ l = u) := by
  generalize hr : Mgr.normalizeUri st m u = r
  unfold Mgr.normalizeUri at hr
  split at hr
  · subst hr; exact ⟨⟨.refl _, .refl _, nofun⟩, fun _ _ _ e => nomatch e⟩
  · simp only at hr
    split at hr
    · subst hr; exact ⟨⟨.refl _, .refl _, nofun⟩, fun _ _ _ e => .inl (Out.str.inj e).symm⟩
    · next n0 l0 _ =>
      have he := MLe.ensureStrie m n0
      split at hr
      · subst hr; exact ⟨⟨.refl _, he, nofun⟩, fun _ _ _ e => .inl (Out.str.inj e).symm⟩
      · have h0 := computeQname_does st (m.ensureStrie n0) u true
        split at hr
        · next p n l hq =>
          subst hr
          exact ⟨⟨h0.reach, he.trans h0.mgr, nofun⟩, fun a b _ e =>
            .inr ⟨p, n, l, (Out.str.inj e).symm, h0.ok (he.cache a) (he.scache b) _ _ _ hq⟩⟩
        · next e he' =>
          subst hr
          exact ⟨⟨h0.reach, he.trans h0.mgr, fun c => h0.noloop (Out.err.inj c ▸ he')⟩, fun _ _ _ e => nomatch e⟩

end RV.C17

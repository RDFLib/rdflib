import RV.C17.Notions
/-
  C17 — dictionaries (association lists in insertion order) and the store's two maps.
-/
namespace RV.C17

section dict
variable {β : Type}

@[simp] theorem alookup_aset (l : List (Str × β)) (k x : Str) (v : β) :
    alookup (aset l k v) x = if x = k then some v else alookup l x := by
  induction l with
  | nil =>
    by_cases h : x = k
    · subst h; simp [aset, alookup]
    · have h' : ¬ k = x := fun e => h e.symm
      simp [aset, alookup, h, h']
  | cons a r ih =>
    obtain ⟨a, w⟩ := a
    by_cases hk : a = k
    · subst hk
      by_cases h : x = a
      · subst h; simp [aset, alookup]
      · have h' : ¬ a = x := fun e => h e.symm
        simp [aset, alookup, h, h']
    · by_cases h : a = x
      · subst h
        simp [aset, alookup, hk]
      · simp [aset, alookup, hk, h, ih]

@[simp] theorem alookup_aerase (l : List (Str × β)) (k x : Str) :
    alookup (aerase l k) x = if x = k then none else alookup l x := by
  induction l with
  | nil => simp [aerase, alookup]
  | cons a r ih =>
    obtain ⟨a, w⟩ := a
    by_cases hk : a = k
    · subst hk
      by_cases h : x = a
      · subst h; simp [aerase, ih]
      · have h' : ¬ a = x := fun e => h e.symm
        simp [aerase, alookup, ih, h, h']
    · by_cases h : a = x
      · subst h; simp [aerase, alookup, hk]
      · simp [aerase, alookup, hk, h, ih]

theorem aset_keeps {t : List (Str × β)} {q : Str} {n : β} (hq : ∀ n', alookup t q = some n' → n' = n)
    {x : Str} {v : β} (hx : alookup t x = some v) : alookup (aset t q n) x = some v := by
  rw [alookup_aset]
  split
  · next e => rw [← hq v (e ▸ hx)]
  · exact hx

theorem hasKey_iff (l : List (Str × β)) (k : Str) : hasKey l k = true ↔ (alookup l k).isSome := by
  induction l with
  | nil => simp [hasKey, alookup]
  | cons a r ih =>
    obtain ⟨a, w⟩ := a
    simp only [hasKey, alookup, Bool.or_eq_true, decide_eq_true_eq]
    split
    · next h => simp [h]
    · next h => simp [h, ih]

theorem mem_keys_iff (l : List (Str × β)) (k : Str) : k ∈ l.map Prod.fst ↔ (alookup l k).isSome := by
  induction l with
  | nil => simp [alookup]
  | cons a r ih =>
    obtain ⟨a, w⟩ := a
    simp only [List.map_cons, List.mem_cons, alookup]
    split
    · next h => simp [h]
    · next h => rw [ih, or_iff_right fun e => h e.symm]

theorem keys_aset (l : List (Str × β)) (k x : Str) (v : β) :
    x ∈ (aset l k v).map Prod.fst ↔ x = k ∨ x ∈ l.map Prod.fst := by
  rw [mem_keys_iff, mem_keys_iff, alookup_aset]
  split <;> simp_all

theorem nodup_keys_aset {l : List (Str × β)} (h : (l.map Prod.fst).Nodup) (k : Str) (v : β) :
    ((aset l k v).map Prod.fst).Nodup := by
  induction l with
  | nil => simp [aset]
  | cons a r ih =>
    obtain ⟨a, w⟩ := a
    simp only [List.map_cons, List.nodup_cons] at h
    simp only [aset]
    split
    · next hk => simp only [List.map_cons, List.nodup_cons]; exact h
    · next hk =>
      simp only [List.map_cons, List.nodup_cons]
      refine ⟨?_, ih h.2⟩
      intro hm
      rcases (keys_aset r k a v).1 hm with h1 | h1
      · exact hk h1
      · exact h.1 h1

theorem aerase_sublist (l : List (Str × β)) (k : Str) : (aerase l k).Sublist l := by
  induction l with
  | nil => exact .slnil
  | cons a r ih =>
    simp only [aerase]
    split
    · exact ih.cons _
    · exact ih.cons_cons _

theorem nodup_keys_aerase {l : List (Str × β)} (h : (l.map Prod.fst).Nodup) (k : Str) :
    ((aerase l k).map Prod.fst).Nodup := h.sublist ((aerase_sublist l k).map _)

theorem alookup_mem : ∀ (l : List (Str × β)) (k : Str) (v : β), alookup l k = some v → (k, v) ∈ l
  | [], _, _, h => by simp [alookup] at h
  | (a, w) :: r, k, v, h => by
    simp only [alookup] at h
    split at h
    · next e => injection h with h; subst e h; simp
    · exact List.mem_cons.2 (Or.inr (alookup_mem r k v h))

theorem mem_iff_alookup {l : List (Str × β)} (h : (l.map Prod.fst).Nodup) (k : Str) (v : β) :
    (k, v) ∈ l ↔ alookup l k = some v := by
  refine ⟨fun hm => ?_, alookup_mem l k v⟩
  induction l with
  | nil => exact nomatch hm
  | cons a r ih =>
    obtain ⟨a, w⟩ := a
    simp only [List.map_cons, List.nodup_cons] at h
    simp only [alookup]
    rcases List.mem_cons.1 hm with e | e
    · cases e; rw [if_pos rfl]
    · rw [if_neg fun c : a = k => h.1 (c ▸ List.mem_map_of_mem (f := Prod.fst) e), ih h.2 e]

theorem nodup_vals {l : List (Str × Str)} (h : (l.map Prod.fst).Nodup)
    (inj : ∀ p q n, alookup l p = some n → alookup l q = some n → p = q) :
    (l.map Prod.snd).Nodup := by
  have h0 := h
  rw [List.Nodup, List.pairwise_map] at h ⊢
  exact h.imp_of_mem fun {a b} ha hb hne e =>
    hne (inj _ _ _ ((mem_iff_alookup h0 a.1 a.2).1 ha) (e ▸ (mem_iff_alookup h0 b.1 b.2).1 hb))

end dict

/-- the invariant of the store's two dicts: keys unique, lookups mutually inverse; the specification `Bij` follows
    from it (`Store.Inv.bij`) -/
structure Store.Inv (s : Store) : Prop where
  nodupNs : (s.ns.map Prod.fst).Nodup
  nodupPfx : (s.pfx.map Prod.fst).Nodup
  inverse : ∀ p n, alookup s.ns p = some n ↔ alookup s.pfx n = some p

theorem Store.inv_empty : Store.empty.Inv := ⟨by simp [Store.empty], by simp [Store.empty], by simp [Store.empty, alookup]⟩

theorem adel_eq {β : Type} (l : List (Str × β)) (k : Str) (h : (alookup l k).isSome) : adel l k = some (aerase l k) := by
  unfold adel; rw [if_pos ((hasKey_iff l k).2 h)]

/-- `if k is not None: del d[k]` -/
def aeraseO {β : Type} (l : List (Str × β)) : Option Str → List (Str × β)
  | none => l
  | some k => aerase l k

theorem alookup_aeraseO {β : Type} (l : List (Str × β)) (o : Option Str) (x : Str) :
    alookup (aeraseO l o) x = if o = some x then none else alookup l x := by
  cases o with
  | none => simp [aeraseO]
  | some k => simp [aeraseO, eq_comm]

theorem nodup_keys_aeraseO {β : Type} {l : List (Str × β)} (h : (l.map Prod.fst).Nodup) (o : Option Str) :
    ((aeraseO l o).map Prod.fst).Nodup := by
  cases o with
  | none => exact h
  | some k => exact nodup_keys_aerase h k

/-- Rebinding `p ↦ n` keeps the two maps inverse: `p`'s old namespace (`om`) loses its prefix, `n`'s old prefix
    loses its namespace (`oq`; when `n` had none, the code deletes and re-inserts `p` itself). -/
theorem Store.inv_rebind {s : Store} (h : s.Inv) (p n : Str) (oq om : Option Str)
    (hq : ∀ x, x ≠ p → (oq = some x ↔ alookup s.pfx n = some x)) (hm : ∀ y, om = some y ↔ alookup s.ns p = some y) :
    Store.Inv ⟨aset (aeraseO s.pfx om) n p, aset (aeraseO s.ns oq) p n⟩ := by
  refine ⟨nodup_keys_aset (nodup_keys_aeraseO h.nodupNs oq) _ _, nodup_keys_aset (nodup_keys_aeraseO h.nodupPfx om) _ _,
    fun p' n' => ?_⟩
  simp only [alookup_aset, alookup_aeraseO]
  -- both sides are now `if`s over `p' = p`, `oq = some p'`, `n' = n`, `om = some n'`; in each of the cases the
  -- old inverse law at `(p', n')`, `(p, n')` or `(p', n)` decides, with `hq`/`hm` saying what was deleted
  have h1 := h.inverse p' n'
  have h2 := h.inverse p n'
  have h3 := h.inverse p' n
  have h4 := hq p'
  have h5 := hm n'
  clear h
  grind

theorem Store.bind_inv {s : Store} (h : s.Inv) (p n : Str) (ov : Bool) :
    ∃ s', s.bind p n ov = some s' ∧ s'.Inv := by
  have h3 := h.inverse
  unfold Store.bind
  cases ov with
  | true =>
    simp only [if_true]
    cases hbn : alookup s.ns p with
    | none =>
      cases hq : alookup s.pfx n with
      | none => exact ⟨_, rfl, Store.inv_rebind h p n none none (fun x _ => by rw [hq]) (fun y => by rw [hbn])⟩
      | some q =>
        simp only [adel_eq s.ns q (by simp [(h3 q n).2 hq])]
        exact ⟨_, rfl, Store.inv_rebind h p n (some q) none (fun x _ => by rw [hq]) (fun y => by rw [hbn])⟩
    | some m =>
      have hmp : alookup s.pfx m = some p := (h3 p m).1 hbn
      cases hq : alookup s.pfx n with
      | none =>
        simp only [hmp, adel_eq s.ns p (by simp [hbn]), adel_eq s.pfx m (by simp [hmp])]
        exact ⟨_, rfl, Store.inv_rebind h p n (some p) (some m) (fun x hx => by rw [hq]; simp [Ne.symm hx])
          (fun y => by rw [hbn])⟩
      | some q =>
        simp only [adel_eq s.ns q (by simp [(h3 q n).2 hq]), adel_eq s.pfx m (by simp [hmp])]
        exact ⟨_, rfl, Store.inv_rebind h p n (some q) (some m) (fun x _ => by rw [hq]) (fun y => by rw [hbn])⟩
  | false =>
    simp only [Bool.false_eq_true, if_false]
    split
    · next hbp hbn =>
      have hq : alookup s.pfx n = none := by
        cases hq : alookup s.pfx n with
        | none => rfl
        | some q => simp [hq] at hbp
      exact ⟨_, rfl, Store.inv_rebind h p n none none (fun x _ => by rw [hq]) (fun y => by rw [hbn])⟩
    · exact ⟨_, rfl, h⟩
theorem Store.Inv.bij {s : Store} (h : s.Inv) : Bij s := by
  refine ⟨h.nodupNs, ?_, ?_, ?_⟩
  · apply nodup_vals h.nodupNs
    intro p q n hp hq
    have h1 := (h.inverse p n).1 hp
    have h2 := (h.inverse q n).1 hq
    rw [h1] at h2; injection h2
  · intro p n; exact mem_iff_alookup h.nodupNs p n
  · intro p n
    rw [show s.prefix n = alookup s.pfx n from rfl, ← h.inverse p n]
    exact mem_iff_alookup h.nodupNs p n

theorem Store.bind_isSome {s : Store} (h : s.Inv) (p n : Str) (ov : Bool) : (s.bind p n ov).isSome :=
  let ⟨_, hs, _⟩ := Store.bind_inv h p n ov
  hs ▸ rfl

end RV.C17

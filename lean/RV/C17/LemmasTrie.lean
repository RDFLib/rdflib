import RV.C17.Notions
/-
  C17 — the trie of known namespaces.
  Invariant of the coded `insert_trie` (`FInv`): below a node every value strictly extends the node's key,
  and siblings are never prefixes of one another.  Under it `get_longest_namespace` returns the
  longest known namespace that prefixes the IRI (`getLongest_spec`, `build_spec`), and the dict `__strie[n0]`
  (`findSub`) holds exactly the known strict extensions of `n0` (`findSub_spec`).
-/
namespace RV.C17

theorem okF_iff (f : Forest) : okF f ↔ ∀ t, t ∈ f → okT t := by
  induction f with
  | nil => simp [okF]
  | cons t r ih => simp [okF, ih]

theorem vals_mem (f : Forest) (w : Str) : w ∈ vals f ↔ ∃ t, t ∈ f ∧ w ∈ valsT t := by
  induction f with
  | nil => simp [vals]
  | cons t r ih => simp [vals, ih]

theorem vals_append (a b : Forest) : ∀ w, w ∈ vals (a ++ b) ↔ w ∈ vals a ∨ w ∈ vals b := by
  intro w
  simp only [vals_mem, List.mem_append]
  constructor
  · rintro ⟨t, h1 | h1, h2⟩
    · exact Or.inl ⟨t, h1, h2⟩
    · exact Or.inr ⟨t, h1, h2⟩
  · rintro (⟨t, h1, h2⟩ | ⟨t, h1, h2⟩)
    · exact ⟨t, Or.inl h1, h2⟩
    · exact ⟨t, Or.inr h1, h2⟩

theorem key_mem_valsT (t : Trie) : t.key ∈ valsT t := by
  cases t with
  | node k cs => simp [valsT, Trie.key]

theorem key_prefix_of_mem {t : Trie} (h : okT t) {w : Str} (hw : w ∈ valsT t) : t.key <+: w := by
  cases t with
  | node k cs =>
    simp only [valsT, List.mem_cons] at hw
    rcases hw with e | e
    · subst e; exact List.prefix_refl _
    · exact (h.1 w e).1

theorem prefix_antisymm {a b : Str} (h1 : a <+: b) (h2 : b <+: a) : a = b :=
  List.IsPrefix.eq_of_length_le h1 h2.length_le

theorem prefix_comparable {a b v : Str} (h1 : a <+: v) (h2 : b <+: v) : a <+: b ∨ b <+: a := by
  rcases Nat.le_total a.length b.length with h | h
  · exact Or.inl (List.prefix_of_prefix_length_le h1 h2 h)
  · exact Or.inr (List.prefix_of_prefix_length_le h2 h1 h)

theorem FInv.ok {f : Forest} (h : FInv f) {t : Trie} (ht : t ∈ f) : okT t := (okF_iff f).1 h.2 t ht

theorem FInv.head {t : Trie} {rest : Forest} (h : FInv (t :: rest)) : okT t := h.2.1

theorem FInv.tail {t : Trie} {rest : Forest} (h : FInv (t :: rest)) : FInv rest :=
  ⟨List.Pairwise.of_cons h.1, h.2.2⟩

theorem sib_apart {t : Trie} {rest : Forest} (h : FInv (t :: rest)) {a b v : Str}
    (ha : a ∈ valsT t) (hb : b ∈ vals rest) (h1 : a <+: v) (h2 : b <+: v) : False := by
  obtain ⟨t', ht', hb'⟩ := (vals_mem rest b).1 hb
  have hsib := List.rel_of_pairwise_cons h.1 ht'
  rcases prefix_comparable ((key_prefix_of_mem h.head ha).trans h1)
    ((key_prefix_of_mem (h.tail.ok ht') hb').trans h2) with c | c
  · exact hsib.1 c
  · exact hsib.2 c

theorem LongestSpec.append_left {a b : List Str} {v r : Str} (ha : LongestSpec a v (some r))
    (hb : ∀ w, w ∈ b → ¬ w <+: v) : LongestSpec (a ++ b) v (some r) :=
  ⟨List.mem_append_left _ ha.1, ha.2.1, fun w hw hwv =>
    (List.mem_append.1 hw).elim (fun e => ha.2.2 w e hwv) fun e => absurd hwv (hb w e)⟩

theorem LongestSpec.append_right {a b : List Str} {v : Str} {r : Option Str} (ha : LongestSpec a v none)
    (hb : LongestSpec b v r) : LongestSpec (a ++ b) v r := by
  cases r with
  | some r =>
    exact ⟨List.mem_append_right _ hb.1, hb.2.1, fun w hw hwv =>
      (List.mem_append.1 hw).elim (fun e => absurd hwv (ha w e)) fun e => hb.2.2 w e hwv⟩
  | none => exact fun w hw => (List.mem_append.1 hw).elim (ha w) (hb w)

mutual
theorem getLongestT_spec (v : Str) : ∀ (t : Trie), okT t → LongestSpec (valsT t) v (getLongestT v t)
  | .node k cs, h => by
    have ih := getLongest_spec v cs h.2
    simp only [getLongestT]
    by_cases hk : k.isPrefixOf v = true
    · have hk' : k <+: v := List.isPrefixOf_iff_prefix.1 hk
      rw [if_pos hk]
      cases hg : getLongest v cs with
      | none =>
        rw [hg] at ih
        exact LongestSpec.append_left (a := [k]) ⟨List.mem_singleton_self k, hk', fun w hw _ => List.mem_singleton.1 hw ▸ List.prefix_refl _⟩ ih
      | some r =>
        rw [hg] at ih
        refine ⟨List.mem_cons_of_mem _ ih.1, ih.2.1, fun w hw hwv => ?_⟩
        rcases List.mem_cons.1 hw with e | e
        · exact e ▸ (h.1 r ih.1).1
        · exact ih.2.2 w e hwv
    · rw [if_neg hk]
      exact fun w hw hwv => hk (List.isPrefixOf_iff_prefix.2 ((key_prefix_of_mem (t := .node k cs) h hw).trans hwv))
theorem getLongest_spec (v : Str) : ∀ (f : Forest), FInv f → LongestSpec (vals f) v (getLongest v f)
  | [], _ => by simp [getLongest, LongestSpec, vals]
  | t :: rest, h => by
    have iht := getLongestT_spec v t h.head
    have ihr := getLongest_spec v rest h.tail
    simp only [getLongest, vals]
    cases hg : getLongestT v t with
    | some r =>
      rw [hg] at iht
      exact iht.append_left fun w hw hwv => sib_apart h iht.1 hw iht.2.1 hwv
    | none =>
      rw [hg] at iht
      exact iht.append_right ihr
end

theorem hasKeyT_iff (f : Forest) (v : Str) : hasKeyT f v = true ↔ ∃ t, t ∈ f ∧ t.key = v := by
  induction f with
  | nil => simp [hasKeyT]
  | cons t r ih => simp [hasKeyT, ih]

theorem sib_iff_keys (f : Forest) :
    Sib f ↔ (f.map Trie.key).Pairwise (fun a b => ¬ a <+: b ∧ ¬ b <+: a) := by
  unfold Sib; rw [List.pairwise_map]

theorem sib_perm {a b : Forest} (p : a.Perm b) (h : Sib a) : Sib b := by
  unfold Sib at h ⊢
  exact (List.Perm.pairwise_iff (R := fun (x y : Trie) => ¬ x.key <+: y.key ∧ ¬ y.key <+: x.key)
    (fun h => ⟨h.2, h.1⟩) p).1 h

theorem insChild_key (v : Str) (t : Trie) : (insChild v t).key = t.key := by
  cases t with
  | node k cs => simp [insChild, Trie.key]

theorem vals_perm {a b : Forest} (p : a.Perm b) (w : Str) : w ∈ vals a ↔ w ∈ vals b := by
  simp only [vals_mem, p.mem_iff]

theorem finv_perm {a b : Forest} (p : a.Perm b) (h : FInv a) : FInv b :=
  ⟨sib_perm p h.1, (okF_iff b).2 fun t ht => h.ok (p.mem_iff.2 ht)⟩

theorem mem_or_self {v : Str} {l : List Str} (h : v ∈ l) (w : Str) : w = v ∨ w ∈ l ↔ w ∈ l :=
  or_iff_right_of_imp fun e => e ▸ h

theorem mem_vals_of_hasKeyT {f : Forest} {v : Str} (h : hasKeyT f v = true) : v ∈ vals f := by
  obtain ⟨t, ht, hv⟩ := (hasKeyT_iff f v).1 h
  exact (vals_mem f v).2 ⟨t, ht, hv ▸ key_mem_valsT t⟩

/- The loop of `insert_trie` with its two accumulators: `kept ++ moved ++ ks` is always a rearrangement of the
   dict it started from (hence well formed), `kept` holds keys unrelated to `v`, `moved` strict extensions of `v`. -/
mutual
theorem insChild_spec (v : Str) : ∀ (t : Trie), okT t → t.key <+: v → t.key ≠ v →
    okT (insChild v t) ∧ ∀ w, w ∈ valsT (insChild v t) ↔ w = v ∨ w ∈ valsT t
  | .node k cs, h, hkv, hne => by
    simp only [insChild]
    split
    · next hk =>
      refine ⟨h, fun w => ?_⟩
      simp only [valsT, List.mem_cons]
      rw [or_left_comm, mem_or_self (mem_vals_of_hasKeyT hk)]
    · next hk =>
      obtain ⟨ih, iv⟩ := insLoop_spec v cs [] [] h.2 (fun _ e => nomatch e) (fun _ e => nomatch e) hk
      refine ⟨⟨fun w hw => ?_, ih.1, ih.2⟩, fun w => ?_⟩
      · rcases (iv w).1 hw with e | e
        · exact e ▸ ⟨hkv, hne⟩
        · exact h.1 w e
      · simp only [valsT, List.mem_cons, iv w, List.nil_append]
        exact or_left_comm
theorem insLoop_spec (v : Str) : ∀ (ks kept moved : Forest), FInv (kept ++ moved ++ ks) →
    (∀ t, t ∈ kept → ¬ t.key <+: v ∧ ¬ v <+: t.key) → (∀ t, t ∈ moved → v <+: t.key ∧ v ≠ t.key) →
    ¬ hasKeyT ks v = true →
    FInv (insLoop v ks kept moved) ∧ ∀ w, w ∈ vals (insLoop v ks kept moved) ↔ w = v ∨ w ∈ vals (kept ++ moved ++ ks)
  | [], kept, moved, hf, hkept, hmoved, _ => by
    simp only [insLoop, List.append_nil] at hf ⊢
    have hs := List.pairwise_append.1 hf.1
    have ho := fun t => hf.ok (t := t)
    have hsib : Sib (kept ++ [Trie.node v moved]) :=
      List.pairwise_append.2 ⟨hs.1, List.pairwise_singleton _ _,
        fun a ha b hb => by rw [List.mem_singleton.1 hb]; exact hkept a ha⟩
    refine ⟨⟨hsib, (okF_iff _).2 fun t ht => ?_⟩, fun w => ?_⟩
    · rcases List.mem_append.1 ht with e | e
      · exact ho t (List.mem_append_left _ e)
      · rw [List.mem_singleton.1 e]
        refine ⟨fun w hw => ?_, hs.2.1, (okF_iff moved).2 fun t ht => ho t (List.mem_append_right _ ht)⟩
        -- a value below the new node extends a moved key, which strictly extends `v`
        obtain ⟨t', ht', hw'⟩ := (vals_mem moved w).1 hw
        have h2 : t'.key <+: w := key_prefix_of_mem (ho t' (List.mem_append_right _ ht')) hw'
        exact ⟨(hmoved t' ht').1.trans h2, fun e => (hmoved t' ht').2 (prefix_antisymm (hmoved t' ht').1 (e ▸ h2))⟩
    · simp only [vals_append, vals, valsT, List.append_nil, List.mem_cons]
      exact or_left_comm
  | t :: rest, kept, moved, hf, hkept, hmoved, hks => by
    have hokt : okT t := hf.ok (by simp)
    have htv : t.key ≠ v := fun e => hks (by simp [hasKeyT, e])
    have hks' : ¬ hasKeyT rest v = true := fun e => hks (by simp [hasKeyT, e])
    simp only [insLoop]
    by_cases hA : (decide (t.key.length < v.length) && t.key.isPrefixOf v) = true
    · rw [if_pos hA]
      simp only [Bool.and_eq_true, decide_eq_true_eq] at hA
      have hpre : t.key <+: v := List.isPrefixOf_iff_prefix.1 hA.2
      -- a moved key extends `v`, hence `t.key`, which siblings never do: nothing was moved, the code may stop here
      have hmv : moved = [] := by
        match moved, hmoved, hf with
        | [], _, _ => rfl
        | t' :: r', hmoved, hf =>
          exact absurd (hpre.trans (hmoved t' List.mem_cons_self).1)
            ((List.pairwise_append.1 hf.1).2.2 t' (by simp) t (by simp)).2
      subst hmv
      simp only [List.isEmpty_nil, if_true, List.append_nil] at hf ⊢
      obtain ⟨ht1, ht2⟩ := insChild_spec v t hokt hpre htv
      refine ⟨⟨?_, (okF_iff _).2 fun t' ht' => ?_⟩, fun w => ?_⟩
      · have := hf.1
        rw [sib_iff_keys] at this ⊢
        simpa [insChild_key] using this
      · rcases List.mem_append.1 ht' with e | e
        · exact hf.ok (List.mem_append_left _ e)
        · rcases List.mem_cons.1 e with e | e
          · exact e ▸ ht1
          · exact hf.ok (List.mem_append_right _ (List.mem_cons_of_mem _ e))
      · simp only [vals_append, vals, List.mem_append, ht2 w]
        rw [or_assoc, or_left_comm]
    · rw [if_neg hA]
      by_cases hB : v.isPrefixOf t.key = true
      · rw [if_pos hB]
        have hvt : v <+: t.key := List.isPrefixOf_iff_prefix.1 hB
        obtain ⟨ih, iv⟩ := insLoop_spec v rest kept (moved ++ [t]) (by simpa using hf) hkept
          (fun t' ht' => by
            rcases List.mem_append.1 ht' with e | e
            · exact hmoved t' e
            · rw [List.mem_singleton.1 e]; exact ⟨hvt, fun e => htv e.symm⟩) hks'
        exact ⟨ih, fun w => by simpa using iv w⟩
      · rw [if_neg hB]
        have hvt : ¬ v <+: t.key := fun h => hB (List.isPrefixOf_iff_prefix.2 h)
        have htv' : ¬ t.key <+: v := fun h => hA (by
          simp only [Bool.and_eq_true, decide_eq_true_eq]
          exact ⟨Nat.lt_of_not_le fun h1 => htv (h.eq_of_length_le h1), List.isPrefixOf_iff_prefix.2 h⟩)
        have hperm : (kept ++ moved ++ t :: rest).Perm (kept ++ [t] ++ moved ++ rest) := by
          simp only [List.append_assoc]
          exact List.Perm.append_left _ (by simp)
        obtain ⟨ih, iv⟩ := insLoop_spec v rest (kept ++ [t]) moved (finv_perm hperm hf)
          (fun t' ht' => by
            rcases List.mem_append.1 ht' with e | e
            · exact hkept t' e
            · rw [List.mem_singleton.1 e]; exact ⟨htv', hvt⟩) hmoved hks'
        exact ⟨ih, fun w => by rw [iv w, vals_perm hperm w]⟩
end

theorem insertForest_spec {f : Forest} (h : FInv f) (v : Str) :
    FInv (insertForest f v) ∧ ∀ w, w ∈ vals (insertForest f v) ↔ w = v ∨ w ∈ vals f := by
  unfold insertForest
  split
  · next hk => exact ⟨h, fun w => (mem_or_self (mem_vals_of_hasKeyT hk) w).symm⟩
  · next hk =>
    exact insLoop_spec v f [] [] h (fun _ e => nomatch e) (fun _ e => nomatch e) hk

theorem finv_nil : FInv [] := ⟨List.Pairwise.nil, trivial⟩

theorem build_spec (known : List Str) : ∀ (f : Forest), FInv f →
    FInv (known.foldl insertForest f) ∧ ∀ w, w ∈ vals (known.foldl insertForest f) ↔ w ∈ known ∨ w ∈ vals f := by
  induction known with
  | nil => intro f h; exact ⟨h, by simp⟩
  | cons v r ih =>
    intro f h
    obtain ⟨h1, h2⟩ := insertForest_spec h v
    obtain ⟨h3, h4⟩ := ih _ h1
    refine ⟨h3, ?_⟩
    intro w
    simp only [List.foldl_cons, h4 w, h2 w, List.mem_cons]
    constructor
    · rintro (e | e | e)
      · exact Or.inl (Or.inr e)
      · exact Or.inl (Or.inl e)
      · exact Or.inr e
    · rintro ((e | e) | e)
      · exact Or.inr (Or.inl e)
      · exact Or.inl e
      · exact Or.inr (Or.inr e)

theorem LongestSpec.congr {a b : List Str} (h : ∀ w, w ∈ a ↔ w ∈ b) {v : Str} {r : Option Str}
    (hs : LongestSpec a v r) : LongestSpec b v r := by
  cases r with
  | none => intro w hw; exact hs w ((h w).2 hw)
  | some r => exact ⟨(h r).1 hs.1, hs.2.1, fun w hw => hs.2.2 w ((h w).2 hw)⟩

mutual
theorem getLongestT_prefix (v : Str) : ∀ (t : Trie) (r : Str), getLongestT v t = some r → r.isPrefixOf v = true
  | .node k cs, r, h => by
    simp only [getLongestT] at h
    split at h
    · next hk =>
      split at h
      · cases h; exact hk
      · next r' hr => cases h; exact getLongest_prefix v cs _ hr
    · exact nomatch h
theorem getLongest_prefix (v : Str) : ∀ (f : Forest) (r : Str), getLongest v f = some r → r.isPrefixOf v = true
  | [], r, h => by simp [getLongest] at h
  | t :: rest, r, h => by
    simp only [getLongest] at h
    split at h
    · next r' hr => cases h; exact getLongestT_prefix v t _ hr
    · exact getLongest_prefix v rest r h
end

mutual
theorem findSubT_mem (n0 : Str) : ∀ (t : Trie) (sub : Forest), findSubT n0 t = some sub → n0 ∈ valsT t
  | .node k cs, sub, h => by
    simp only [findSubT] at h
    by_cases hk : k = n0
    · subst hk; simp [valsT]
    · rw [if_neg hk] at h
      simp only [valsT, List.mem_cons]
      exact Or.inr (findSub_mem n0 cs sub h)
theorem findSub_mem (n0 : Str) : ∀ (f : Forest) (sub : Forest), findSub n0 f = some sub → n0 ∈ vals f
  | [], sub, h => by simp [findSub] at h
  | t :: rest, sub, h => by
    simp only [findSub] at h
    simp only [vals, List.mem_append]
    cases ht : findSubT n0 t with
    | some r => exact Or.inl (findSubT_mem n0 t r ht)
    | none => rw [ht] at h; exact Or.inr (findSub_mem n0 rest sub h)
end

mutual
theorem findSubT_spec (n0 : Str) : ∀ (t : Trie) (sub : Forest), okT t → findSubT n0 t = some sub →
    FInv sub ∧ (∀ w, w ∈ vals sub → w ∈ valsT t ∧ n0 <+: w ∧ n0 ≠ w) ∧
      (∀ w, w ∈ valsT t → n0 <+: w → n0 ≠ w → w ∈ vals sub)
  | .node k cs, sub, h, hf => by
    simp only [findSubT] at hf
    by_cases hk : k = n0
    · subst hk
      rw [if_pos rfl] at hf; cases hf
      refine ⟨h.2, ?_, ?_⟩
      · intro w hw; exact ⟨List.mem_cons_of_mem _ hw, h.1 w hw⟩
      · intro w hw h1 h2
        simp only [valsT, List.mem_cons] at hw
        rcases hw with e | e
        · exact absurd e.symm h2
        · exact e
    · rw [if_neg hk] at hf
      obtain ⟨i1, i2, i3⟩ := findSub_spec n0 cs sub h.2 hf
      refine ⟨i1, ?_, ?_⟩
      · intro w hw; exact ⟨List.mem_cons_of_mem _ (i2 w hw).1, (i2 w hw).2⟩
      · intro w hw h1 h2
        simp only [valsT, List.mem_cons] at hw
        rcases hw with e | e
        · subst e
          have hn := h.1 n0 (findSub_mem n0 cs sub hf)
          exact absurd (prefix_antisymm hn.1 h1) hn.2
        · exact i3 w e h1 h2
theorem findSub_spec (n0 : Str) : ∀ (f : Forest) (sub : Forest), FInv f → findSub n0 f = some sub →
    FInv sub ∧ (∀ w, w ∈ vals sub → w ∈ vals f ∧ n0 <+: w ∧ n0 ≠ w) ∧
      (∀ w, w ∈ vals f → n0 <+: w → n0 ≠ w → w ∈ vals sub)
  | [], sub, _, hf => by simp [findSub] at hf
  | t :: rest, sub, h, hf => by
    simp only [findSub] at hf
    cases ht : findSubT n0 t with
    | some r =>
      rw [ht] at hf; injection hf with hf; subst hf
      obtain ⟨i1, i2, i3⟩ := findSubT_spec n0 t r h.head ht
      refine ⟨i1, ?_, ?_⟩
      · intro w hw; exact ⟨List.mem_append_left _ (i2 w hw).1, (i2 w hw).2⟩
      · intro w hw h1 h2
        simp only [vals, List.mem_append] at hw
        rcases hw with e | e
        · exact i3 w e h1 h2
        · -- `n0` sits in `t`, `w` in another tree, and both prefix `w`
          exact (sib_apart h (findSubT_mem n0 t r ht) e h1 (List.prefix_refl w)).elim
    | none =>
      rw [ht] at hf
      obtain ⟨i1, i2, i3⟩ := findSub_spec n0 rest sub h.tail hf
      refine ⟨i1, ?_, ?_⟩
      · intro w hw; exact ⟨List.mem_append_right _ (i2 w hw).1, (i2 w hw).2⟩
      · intro w hw h1 h2
        simp only [vals, List.mem_append] at hw
        rcases hw with e | e
        · exact (sib_apart h e (findSub_mem n0 rest sub hf) (List.prefix_refl w) h1).elim
        · exact i3 w e h1 h2
end

/-- what `compute_qname` does with the trie, provided `n0` is a node of it (`findSub n0 f ≠ none`): among the known
    namespaces that strictly extend the split namespace `n0`, the longest one that prefixes the IRI -/
theorem strieLongest_spec {f : Forest} (h : FInv f) (n0 uri : Str) :
    LongestSpec ((vals f).filter (fun w => decide (n0 <+: w ∧ n0 ≠ w))) uri
      ((findSub n0 f).bind (getLongest uri)) ∨ findSub n0 f = none := by
  cases hf : findSub n0 f with
  | none => exact Or.inr rfl
  | some sub =>
    left
    obtain ⟨i1, i2, i3⟩ := findSub_spec n0 f sub h hf
    simp only [Option.bind_some]
    apply (getLongest_spec uri sub i1).congr
    intro w
    simp only [List.mem_filter, decide_eq_true_eq]
    constructor
    · intro hw; exact i2 w hw
    · rintro ⟨hw, h1, h2⟩; exact i3 w hw h1 h2

end RV.C17

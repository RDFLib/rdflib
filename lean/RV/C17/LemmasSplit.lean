import RV.C17.Notions
/-
  C17 — `split_uri`: what a successful split looks like (`splitUri_spec`), then when it succeeds and with what
  (`splitUri_tail`, `SplitCases`, `splitUri_complete`).  `startChar`: the character may start a local name.
-/
namespace RV.C17
open RV.C17.Tables

variable {starts : List Nat}

theorem startsOK_of_subset (h : ∀ x, x ∈ starts → x ∈ nameCats) : StartsOK starts := by
  intro c hc
  unfold startChar at hc
  unfold isNameChar
  simp only [Bool.or_eq_true] at hc ⊢
  rcases hc with h1 | h1
  · left
    unfold inCats at h1 ⊢
    exact List.contains_iff_mem.2 (h _ (List.contains_iff_mem.1 h1))
  · right
    have : c = 95 := by simpa using h1
    subst this
    decide

theorem startsOK_split : StartsOK splitStartCats := startsOK_of_subset (by decide)
theorem startsOK_strict : StartsOK nameStartCats := startsOK_of_subset (by decide)

theorem lastBreak_none {l : Str} (h : ∀ x, x ∈ l → isNameChar x = true) : lastBreak l = none := by
  induction l with
  | nil => rfl
  | cons c r ih =>
    simp only [lastBreak, ih (fun x hx => h x (List.mem_cons_of_mem _ hx)), h c List.mem_cons_self, if_true]

theorem lastBreak_cons_break {b : Nat} {t : Str} (hb : isNameChar b = false)
    (ht : ∀ x, x ∈ t → isNameChar x = true) : lastBreak (b :: t) = some 0 := by
  simp [lastBreak, lastBreak_none ht, hb]

theorem lastBreak_append (a : Str) {x : Str} {j : Nat} (h : lastBreak x = some j) :
    lastBreak (a ++ x) = some (a.length + j) := by
  induction a with
  | nil => simpa using h
  | cons c r ih => simp only [List.cons_append, lastBreak, ih, List.length_cons]; congr 1; omega

theorem break_cases (uri : Str) :
    (∀ x, x ∈ uri → isNameChar x = true) ∨
      ∃ a b t, uri = a ++ b :: t ∧ isNameChar b = false ∧ ∀ x, x ∈ t → isNameChar x = true := by
  induction uri with
  | nil => left; simp
  | cons c r ih =>
    rcases ih with h | ⟨a, b, t, e, hb, ht⟩
    · by_cases hc : isNameChar c = true
      · left; intro x hx
        rcases List.mem_cons.1 hx with e | e
        · subst e; exact hc
        · exact h x e
      · right; exact ⟨[], c, r, rfl, by simpa using hc, h⟩
    · right; exact ⟨c :: a, b, t, by simp [e], hb, ht⟩

theorem start_cases (starts : List Nat) (t : Str) :
    (∀ x, x ∈ t → startChar starts x = false) ∨
      ∃ pre c r, t = pre ++ c :: r ∧ (∀ x, x ∈ pre → startChar starts x = false) ∧ startChar starts c = true := by
  induction t with
  | nil => left; simp
  | cons c r ih =>
    by_cases hc : startChar starts c = true
    · right; exact ⟨[], c, r, rfl, by simp, hc⟩
    · rcases ih with h | ⟨pre, c', r', e, hp, hc'⟩
      · left; intro x hx
        rcases List.mem_cons.1 hx with e | e
        · subst e; simpa using hc
        · exact h x e
      · right
        refine ⟨c :: pre, c', r', by simp [e], ?_, hc'⟩
        intro x hx
        rcases List.mem_cons.1 hx with e | e
        · subst e; simpa using hc
        · exact hp x e

theorem startChar_break (hs : StartsOK starts) {b : Nat} (hb : isNameChar b = false) :
    startChar starts b = false := by
  cases h : startChar starts b with
  | false => rfl
  | true => rw [hs b h] at hb; exact nomatch hb

theorem firstStart_eq_find (starts : List Nat) (uri : Str) : ∀ js : List Nat,
    firstStart starts uri js = js.find? (isStartAt starts uri)
  | [] => rfl
  | j :: js => by
    cases h : isStartAt starts uri j <;> simp [firstStart, h, firstStart_eq_find starts uri js]

theorem firstStart_append (starts : List Nat) (uri : Str) (l1 l2 : List Nat) :
    firstStart starts uri (l1 ++ l2) = (firstStart starts uri l1).or (firstStart starts uri l2) := by
  simp only [firstStart_eq_find, List.find?_append]

theorem isStartAt_append (starts : List Nat) (a x : Str) (i : Nat) :
    isStartAt starts (a ++ x) (a.length + i) = isStartAt starts x i := by
  unfold isStartAt
  rw [List.getElem?_append_right (Nat.le_add_right _ _), Nat.add_sub_cancel_left]

theorem find_isStartAt (starts : List Nat) : ∀ x : Str,
    (List.range x.length).find? (isStartAt starts x) = x.findIdx? (startChar starts)
  | [] => rfl
  | c :: x => by
    have h1 : ∀ i, isStartAt starts (c :: x) (i + 1) = isStartAt starts x i := fun i => rfl
    rw [List.length_cons, List.range_succ_eq_map, List.find?_cons, List.find?_map, List.findIdx?_cons]
    cases h : startChar starts c
    · have : isStartAt starts (c :: x) 0 = false := h
      simp only [this, Function.comp_def, h1, find_isStartAt starts x]
      rfl
    · have : isStartAt starts (c :: x) 0 = true := h
      simp [this]

theorem isPrefixOf_append_drop {a v : Str} (h : a.isPrefixOf v = true) : a ++ v.drop a.length = v := by
  rw [List.isPrefixOf_iff_prefix] at h
  exact List.prefix_iff_eq_append.1 h

theorem firstStart_spec (starts : List Nat) (uri : Str) (js : List Nat) (j : Nat)
    (h : firstStart starts uri js = some j) : isStartAt starts uri j = true :=
  List.find?_some (firstStart_eq_find starts uri js ▸ h)

theorem splitUri_spec {uri n l : Str} (h : splitUri starts uri = some (n, l)) :
    n ++ l = uri ∧ ((xmlns.isPrefixOf uri = true ∧ n = xmlns) ∨
      (n ≠ [] ∧ ∃ c r, l = c :: r ∧ (inCats starts c = true ∨ c = 95))) := by
  unfold splitUri at h
  split at h
  · next hx => cases h; exact ⟨isPrefixOf_append_drop hx, Or.inl ⟨hx, rfl⟩⟩
  · split at h
    · exact nomatch h
    · split at h
      · exact nomatch h
      · next j hj =>
        split at h
        · exact nomatch h
        · next hj0 =>
          cases h
          refine ⟨List.take_append_drop _ _, Or.inr ?_⟩
          have hs := firstStart_spec _ _ _ _ hj
          unfold isStartAt at hs
          split at hs
          · next c hc =>
            obtain ⟨hlt, hc⟩ := List.getElem?_eq_some_iff.1 hc
            refine ⟨fun e => ?_, c, uri.drop (j + 1), ?_, by simpa using hs⟩
            · have := congrArg List.length e
              rw [List.length_take] at this
              simp only [List.length_nil] at this
              omega
            · rw [List.drop_eq_getElem_cons hlt, hc]
          · exact nomatch hs

theorem splitUri_append {uri n l : Str} (h : splitUri starts uri = some (n, l)) :
    n ++ l = uri := (splitUri_spec h).1

theorem splitUri_ne {uri n l : Str} (h : splitUri starts uri = some (n, l)) : n ≠ [] :=
  (splitUri_spec h).2.elim (fun c => c.2 ▸ (by decide : xmlns ≠ [])) (·.1)

/-- After the last non-name character `b`: the inner loop of the code walks the positions of `b :: t` and then,
    wrapping round, the whole IRI from its first character. -/
theorem splitUri_tail {a : Str} {b : Nat} {t : Str}
    (hx : xmlns.isPrefixOf (a ++ b :: t) = false) (hb : isNameChar b = false)
    (ht : ∀ x, x ∈ t → isNameChar x = true) :
    splitUri starts (a ++ b :: t) =
      match (((b :: t).findIdx? (startChar starts)).map (a.length + ·)).or
          (firstStart starts (a ++ b :: t) (List.range (a ++ b :: t).length)) with
      | none => none
      | some j => if j = 0 then none else some ((a ++ b :: t).take j, (a ++ b :: t).drop j) := by
  have hlen : (a ++ b :: t).length - a.length = (b :: t).length := by simp
  unfold splitUri
  rw [hx, lastBreak_append a (lastBreak_cons_break hb ht)]
  simp only [Bool.false_eq_true, if_false, Nat.add_zero]
  -- the search over the tail positions `range' a.length …` is `findIdx?` on `b :: t`, shifted by `a.length`
  rw [firstStart_append, hlen, List.range'_eq_map_range, firstStart_eq_find, List.find?_map, ← find_isStartAt]
  simp only [Function.comp_def, isStartAt_append]
  rfl

theorem splitUri_regular (hs : StartsOK starts) {a : Str} {b : Nat} {pre : Str} {c : Nat} {r : Str}
    (hx : xmlns.isPrefixOf (a ++ b :: (pre ++ c :: r)) = false)
    (hb : isNameChar b = false)
    (hpre : ∀ x, x ∈ pre → isNameChar x = true ∧ startChar starts x = false)
    (hc : startChar starts c = true) (hr : ∀ x, x ∈ r → isNameChar x = true) :
    splitUri starts (a ++ b :: (pre ++ c :: r)) = some (a ++ b :: pre, c :: r) := by
  have hname : ∀ x, x ∈ pre ++ c :: r → isNameChar x = true := by
    intro x hx
    rcases List.mem_append.1 hx with e | e
    · exact (hpre x e).1
    · rcases List.mem_cons.1 e with e | e
      · exact e ▸ hs _ hc
      · exact hr x e
  have hb' := startChar_break hs hb
  have hfind : (b :: (pre ++ c :: r)).findIdx? (startChar starts) = some (pre.length + 1) := by
    rw [List.findIdx?_cons, hb', List.findIdx?_append, List.findIdx?_eq_none_iff.2 (fun x hx => by simp [(hpre x hx).2])]
    simp [List.findIdx?_cons, hc]
  have hl : (a ++ b :: pre).length = a.length + (pre.length + 1) := by simp
  rw [splitUri_tail hx hb hname, hfind]
  simp only [Option.map_some, Option.some_or]
  rw [if_neg (by omega), show a ++ b :: (pre ++ c :: r) = (a ++ b :: pre) ++ c :: r by simp,
    List.take_left' hl, List.drop_left' hl]

theorem splitUri_wrap (hs : StartsOK starts) {a : Str} {b : Nat} {t : Str}
    (hx : xmlns.isPrefixOf (a ++ b :: t) = false) (hb : isNameChar b = false)
    (ht : ∀ x, x ∈ t → isNameChar x = true ∧ startChar starts x = false) :
    splitUri starts (a ++ b :: t) =
      (match firstStart starts (a ++ b :: t) (List.range (a ++ b :: t).length) with
       | none => none
       | some j => if j = 0 then none else some ((a ++ b :: t).take j, (a ++ b :: t).drop j)) := by
  have hb' := startChar_break hs hb
  rw [splitUri_tail hx hb (fun x hx => (ht x hx).1),
    List.findIdx?_eq_none_iff.2 (fun x hx => by
      rcases List.mem_cons.1 hx with e | e
      · simp [e, hb']
      · simp [(ht x e).2])]
  rfl

theorem splitUri_all_name {uri : Str} (hx : xmlns.isPrefixOf uri = false)
    (h : ∀ x, x ∈ uri → isNameChar x = true) : splitUri starts uri = none := by
  unfold splitUri
  rw [hx, lastBreak_none h]; rfl

theorem restNc_of_all {r : Str} (h : ∀ x, x ∈ r → isNameChar x = true) : restNc r = true := by
  induction r with
  | nil => rfl
  | cons c t ih =>
    simp only [restNc, h c List.mem_cons_self, ih (fun x hx => h x (List.mem_cons_of_mem _ hx)), Bool.and_self]

theorem splitUri_complete (hs : StartsOK starts) (uri : Str)
    (hx : xmlns.isPrefixOf uri = false) : SplitCases starts uri := by
  rcases break_cases uri with h | ⟨a, b, t, e, hb, ht⟩
  · exact Or.inl ⟨h, splitUri_all_name hx h⟩
  · subst e
    rcases start_cases starts t with h | ⟨pre, c, r, e, hp, hc⟩
    · exact Or.inr (Or.inr ⟨a, b, t, rfl, hb, fun x hx' => ⟨ht x hx', h x hx'⟩,
        splitUri_wrap hs hx hb (fun x hx' => ⟨ht x hx', h x hx'⟩)⟩)
    · subst e
      have hpre : ∀ x, x ∈ pre → isNameChar x = true ∧ startChar starts x = false :=
        fun x hx' => ⟨ht x (List.mem_append_left _ hx'), hp x hx'⟩
      have hr : ∀ x, x ∈ r → isNameChar x = true :=
        fun x hx' => ht x (List.mem_append_right _ (List.mem_cons_of_mem _ hx'))
      exact Or.inr (Or.inl ⟨a, b, pre, c, r, rfl, hb, hpre, hc, hr, restNc_of_all hr,
        splitUri_regular hs hx hb hpre hc hr⟩)

/-- with the strict start categories (`compute_qname_strict`) the local part of shape (2) is an NCName -/
theorem isNcname_of_strict {c : Nat} {r : Str} (hc : startChar nameStartCats c = true) (hr : restNc r = true) :
    isNcname (c :: r) = true := by
  unfold startChar at hc
  simp only [isNcname, hr, Bool.and_true]
  rw [Bool.or_comm]; exact hc

end RV.C17

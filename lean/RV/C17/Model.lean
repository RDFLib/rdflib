import RV.C17.Tables
/-
  C17 — model of prefix handling in rdflib (after the three `fix:` commits of branch fix-C17):

  * `rdflib/plugins/stores/memory.py`  `Memory.bind` = `SimpleMemory.bind` (identical code),
    `prefix`, `namespace`, `namespaces`                      → `Store`
  * `rdflib/namespace/__init__.py`  `NamespaceManager.bind`, `_store_bind`, `compute_qname`,
    `compute_qname_strict`, `qname`, `curie`, `qname_strict`, `normalizeUri`, `expand_curie`,
    `reset`, `__init__` (default bindings), `split_uri`, `is_ncname`, `insert_trie`,
    `insert_strie`, `get_longest_namespace`                 → `Mgr`, `splitUri`, `insertForest`, …
  * the glue that binds from other components: Turtle parser (`TurtleParser.parse`: dict of the
    document's `@prefix`es, then `graph.bind` each), RDF/XML parser (`startPrefixMapping`:
    `bind(prefix, ns or "", override=False)`), Turtle serializer (`getQName`: `compute_qname`
    with `generate` only for predicates, every exception swallowed).

  Strings are lists of code points.  Python dicts are association lists kept in insertion order
  (`d[k] = v` keeps the position of an existing key).  Python exceptions are `Out.err`.
  Several managers may sit on one store (every `Graph(store=…)` has its own; a `Dataset`'s
  default graph has its own, too): the state carries two managers.
-/
namespace RV.C17
open RV.C17.Tables

abbrev Str := List Nat

/-! ### dicts -/

def alookup {β : Type} : List (Str × β) → Str → Option β
  | [], _ => none
  | (k, v) :: r, x => if k = x then some v else alookup r x

/-- `del d[k]` / `d.pop(k)` (keys are unique in a dict; all occurrences are dropped) -/
def aerase {β : Type} : List (Str × β) → Str → List (Str × β)
  | [], _ => []
  | (k, v) :: r, x => if k = x then aerase r x else (k, v) :: aerase r x

/-- `d[k] = v` -/
def aset {β : Type} : List (Str × β) → Str → β → List (Str × β)
  | [], x, v => [(x, v)]
  | (k, w) :: r, x, v => if k = x then (k, v) :: r else (k, w) :: aset r x v

def hasKey {β : Type} : List (Str × β) → Str → Bool
  | [], _ => false
  | (k, _) :: r, x => k = x || hasKey r x

/-! ### the store's two dictionaries (`Memory.bind`, `SimpleMemory.bind`) -/

structure Store where
  pfx : List (Str × Str)   -- `__prefix`    : namespace ↦ prefix
  ns : List (Str × Str)    -- `__namespace` : prefix ↦ namespace
  deriving Repr, DecidableEq

def Store.empty : Store := ⟨[], []⟩
def Store.namespace (s : Store) (p : Str) : Option Str := alookup s.ns p
def Store.prefix (s : Store) (n : Str) : Option Str := alookup s.pfx n
def Store.namespaces (s : Store) : List (Str × Str) := s.ns

/-- `del d[k]` raises KeyError when the key is absent -/
def adel {β : Type} (l : List (Str × β)) (k : Str) : Option (List (Str × β)) :=
  if hasKey l k then some (aerase l k) else none

/-- `Memory.bind(prefix, namespace, override)`; `none` = a `del` raised KeyError
    (shown impossible on reachable stores: `Store.bind_isSome`). -/
def Store.bind (s : Store) (p n : Str) (override : Bool) : Option Store :=
  let bn := alookup s.ns p
  let bp := match alookup s.pfx n with
    | some q => some q
    | none => (match bn with
      | some m => alookup s.pfx m
      | none => none)
  if override then
    match (match bp with
           | some q => adel s.ns q
           | none => some s.ns) with
    | none => none
    | some ns1 =>
      match (match bn with
             | some m => adel s.pfx m
             | none => some s.pfx) with
      | none => none
      | some pfx1 => some ⟨aset pfx1 n p, aset ns1 p n⟩
  else
    match bp, bn with
    | none, none => some ⟨aset s.pfx n p, aset s.ns p n⟩
    | _, _ => some s

/-- the non-override branch before `fix: Memory.bind … keeps the maps inverse`
    (kept to document the defect; not used by the model) -/
def Store.bindOld (s : Store) (p n : Str) : Store :=
  let bn := alookup s.ns p
  let bp := match alookup s.pfx n with
    | some q => some q
    | none => (match bn with
      | some m => alookup s.pfx m
      | none => none)
  let pfx1 := aset s.pfx (bn.getD n) (bp.getD p)
  ⟨pfx1, aset s.ns (bp.getD p) (bn.getD n)⟩

/-! ### characters, `is_ncname`, `split_uri` -/

/-- descent in the search tree `Tables.catTree` (the C table lookup of `unicodedata.category`) -/
def Tables.CatTree.get : CatTree → Nat → Nat
  | .leaf k, _ => k
  | .node p l r, c => if c < p then l.get c else r.get c

/-- `unicodedata.category(c)` as an index into `Tables.catNames`, for every code point of the running
    Python's Unicode database (the table is regenerated from it on every run) -/
def category (c : Nat) : Nat := if c < catLimit then catTree.get c else catUnknown
def inCats (cats : List Nat) (c : Nat) : Bool := cats.contains (category c)
/-- `category(c) in NAME_CATEGORIES or c in ALLOWED_NAME_CHARS` -/
def isNameChar (c : Nat) : Bool := inCats nameCats c || allowedNameChars.contains c

def restNc : Str → Bool
  | [] => true
  | c :: cs => isNameChar c && restNc cs

def isNcname : Str → Bool
  | [] => false
  | c :: cs => (c == 95 || inCats nameStartCats c) && restNc cs

/-- index of the right-most character that is neither of a name category nor allowed
    (the outer loop of `split_uri`, which walks from the end) -/
def lastBreak : Str → Option Nat
  | [] => none
  | c :: cs =>
    match lastBreak cs with
    | some k => some (k + 1)
    | none => if isNameChar c then none else some 0

def isStartAt (starts : List Nat) (uri : Str) (j : Nat) : Bool :=
  match uri[j]? with
  | some c => inCats starts c || c == 95
  | none => false

def firstStart (starts : List Nat) (uri : Str) : List Nat → Option Nat
  | [] => none
  | j :: js => if isStartAt starts uri j then some j else firstStart starts uri js

/-- `split_uri(uri, split_start)`; `none` = ValueError.  The inner loop of the code runs `j`
    over `range(-1 - i, length)`: the tail positions and then, wrapping round, `0 … length-1`. -/
def splitUri (starts : List Nat) (uri : Str) : Option (Str × Str) :=
  if xmlns.isPrefixOf uri then some (xmlns, uri.drop xmlns.length)
  else
    match lastBreak uri with
    | none => none
    | some k =>
      match firstStart starts uri (List.range' k (uri.length - k) ++ List.range uri.length) with
      | none => none
      | some j => if j = 0 then none else some (uri.take j, uri.drop j)

def validUri (uri : Str) : Bool := !(uri.any (fun c => invalidUriChars.contains c))

/-! ### decimal numerals (`"%s" % num`) -/

/-- decimal digits with fuel (`fuel ≥ n` always suffices: `undec_decF` reads the numeral back) -/
def decF : Nat → Nat → Str
  | 0, n => [48 + n % 10]
  | f + 1, n => if n < 10 then [48 + n] else decF f (n / 10) ++ [48 + n % 10]

def dec (n : Nat) : Str := decF n n

/-! ### the trie of known namespaces (`insert_trie`, `get_longest_namespace`) -/

inductive Trie where
  | node (key : Str) (cs : List Trie)
  deriving Repr

/-- a dict `{key: sub-dict}` in insertion order -/
abbrev Forest := List Trie

def Trie.key : Trie → Str
  | .node k _ => k
def Trie.cs : Trie → Forest
  | .node _ cs => cs

def hasKeyT : Forest → Str → Bool
  | [], _ => false
  | t :: r, x => t.key = x || hasKeyT r x

/- `insert_trie(trie, value)` on the dict `trie`.  The loop over `tuple(trie.keys())` is `insLoop`:
   `kept` = entries passed and left in place, `moved` = entries already re-hung below the new
   node `value` (which sits at the end of the dict as soon as `moved` is non-empty).
   `insChild v t` is the recursive call `insert_trie(trie[key], value)` on the sub-dict of `t`. -/
mutual
def insChild (v : Str) : Trie → Trie
  | .node k cs => .node k (if hasKeyT cs v then cs else insLoop v cs [] [])
termination_by structural t => t
def insLoop (v : Str) : Forest → Forest → Forest → Forest
  | [], kept, moved => kept ++ [.node v moved]
  | t :: rest, kept, moved =>
    if t.key.length < v.length && t.key.isPrefixOf v then
      kept ++ insChild v t :: rest ++ (if moved.isEmpty then [] else [.node v moved])
    else if v.isPrefixOf t.key then insLoop v rest kept (moved ++ [t])
    else insLoop v rest (kept ++ [t]) moved
termination_by structural f => f
end

def insertForest (f : Forest) (v : Str) : Forest :=
  if hasKeyT f v then f else insLoop v f [] []

/- `get_longest_namespace(trie, value)`: the first key that prefixes `value`, then as deep as possible -/
mutual
def getLongestT (v : Str) : Trie → Option Str
  | .node k cs =>
    if k.isPrefixOf v then
      (match getLongest v cs with
       | none => some k
       | some r => some r)
    else none
termination_by structural t => t
def getLongest (v : Str) : Forest → Option Str
  | [] => none
  | t :: rest =>
    match getLongestT v t with
    | some r => some r
    | none => getLongest v rest
termination_by structural f => f
end

/- the dict `__strie[v]` is (an alias of) the children dict of the node `v` of `__trie` -/
mutual
def findSubT (v : Str) : Trie → Option Forest
  | .node k cs => if k = v then some cs else findSub v cs
termination_by structural t => t
def findSub (v : Str) : Forest → Option Forest
  | [] => none
  | t :: rest =>
    match findSubT v t with
    | some r => some r
    | none => findSub v rest
termination_by structural f => f
end

/-! ### NamespaceManager -/

inductive Err | KeyError | ValueError | Other | Loop
  deriving Repr, DecidableEq

inductive Out
  | unit
  | qn (p ns l : Str)
  | str (s : Str)
  | err (e : Err)
  | doc (table : List (Str × Str))
  deriving Repr, DecidableEq

abbrev QN := Str × Str × Str   -- (prefix, namespace, name)

structure Mgr where
  cache : List (Str × QN)      -- `__cache`
  scache : List (Str × QN)     -- `__cache_strict`
  trie : Forest                -- `__trie`
  strie : List Str             -- keys of `__strie`
  deriving Repr

def Mgr.empty : Mgr := ⟨[], [], [], []⟩

/-- Python truthiness of `store.namespace(p)`: `None` and `URIRef("")` are falsy -/
def truthy : Option Str → Bool
  | none => false
  | some [] => false
  | some _ => true

def Mgr.insertTrie (m : Mgr) (n : Str) : Mgr := { m with trie := insertForest m.trie n }

/-- `if namespace not in self.__strie: insert_strie(self.__strie, self.__trie, namespace)` -/
def Mgr.ensureStrie (m : Mgr) (n : Str) : Mgr :=
  if m.strie.contains n then m else { m with strie := m.strie ++ [n], trie := insertForest m.trie n }

/-- `_store_bind` followed by `insert_trie` -/
def bindAndInsert (st : Store) (m : Mgr) (p n : Str) (ov : Bool) : Store × Mgr × Out :=
  match st.bind p n ov with
  | some st' => (st', m.insertTrie n, .unit)
  | none => (st, m, .err .KeyError)

inductive Pick | already | fresh (p : Str) | loop

/-- the `while 1:` of `bind`: first `base ++ num` that is unbound (or already bound to `n`) -/
def pickNumbered (st : Store) (base n : Str) : Nat → Nat → Pick
  | 0, _ => .loop
  | fuel + 1, num =>
    let np := base ++ dec num
    let t := st.namespace np
    if truthy t && t == some n then .already
    else if !truthy t then .fresh np
    else pickNumbered st base n fuel (num + 1)

def strDefault : Str := [100, 101, 102, 97, 117, 108, 116]   -- "default"
def strNs : Str := [110, 115]                               -- "ns"

/-- `NamespaceManager.bind(prefix, namespace, override, replace)` -/
def Mgr.bind (st : Store) (m : Mgr) (pre : Option Str) (n : Str) (ov rp : Bool) : Store × Mgr × Out :=
  let p := pre.getD []
  if p.contains 32 then (st, m, .err .KeyError)
  else
    let bound := st.namespace p
    if truthy bound && bound != some n then
      if rp then bindAndInsert st m p n ov
      else
        let base := if p.isEmpty then strDefault else p
        match pickNumbered st base n (st.ns.length + 1) 1 with
        | .already => (st, m, .unit)
        | .fresh np => bindAndInsert st m np n ov
        | .loop => (st, m, .err .Loop)
    else
      match st.prefix n with
      | none => bindAndInsert st m p n ov
      | some bp =>
        if bp = p then (st, m.insertTrie n, .unit)
        else if ov || bp.head? == some 95 then bindAndInsert st m p n ov
        else (st, m.insertTrie n, .unit)

/-- the `while 1:` of `compute_qname`: first `ns<num>` whose namespace is falsy -/
def pickNs (st : Store) : Nat → Nat → Option Str
  | 0, _ => none
  | fuel + 1, num =>
    let p := strNs ++ dec num
    if truthy (st.namespace p) then pickNs st fuel (num + 1) else some p

/-- tail of `compute_qname` / `compute_qname_strict`: look the namespace up, generate a prefix
    if needed; returns the cache entry to store. -/
def lookupOrGenerate (st : Store) (m : Mgr) (n name : Str) (generate : Bool) :
    Store × Mgr × Except Err QN :=
  match st.prefix n with
  | some p => (st, m, .ok (p, n, name))
  | none =>
    if !generate then (st, m, .error .KeyError)
    else
      match pickNs st (st.ns.length + 1) 1 with
      | none => (st, m, .error .Loop)
      | some p =>
        let r := Mgr.bind st m (some p) n true false
        match r.2.2 with
        | .err e => (r.1, r.2.1, .error e)
        | _ => (r.1, r.2.1, .ok (p, n, name))

/-- cache entries are trusted only while the binding they used is still current
    (`fix: NamespaceManager … validates cached qnames`) -/
def validEntry (st : Store) (c : List (Str × QN)) (uri : Str) : List (Str × QN) :=
  match alookup c uri with
  | some (p, n, _) => if st.prefix n == some p then c else aerase c uri
  | none => c

/-- `try: split_uri(uri) except ValueError:` the whole IRI if it is itself a namespace with a
    non-empty prefix -/
def splitOrWhole (st : Store) (uri : Str) : Option (Str × Str) :=
  match splitUri splitStartCats uri with
  | some r => some r
  | none =>
    match st.prefix uri with
    | some p => if p.isEmpty then none else some (uri, [])
    | none => none

/-- `if self.__strie[namespace]: pl_namespace = get_longest_namespace(self.__strie[namespace], uri) …` -/
def refineLongest (trie : Forest) (n0 name0 uri : Str) : Str × Str :=
  match (findSub n0 trie).bind (getLongest uri) with
  | some pl => (pl, uri.drop pl.length)
  | none => (n0, name0)

/-- `NamespaceManager.compute_qname(uri, generate)` -/
def Mgr.computeQname (st : Store) (m : Mgr) (uri : Str) (generate : Bool) :
    Store × Mgr × Except Err QN :=
  let m := { m with cache := validEntry st m.cache uri }
  match alookup m.cache uri with
  | some r => (st, m, .ok r)
  | none =>
    if !validUri uri then (st, m, .error .ValueError)
    else
      match splitOrWhole st uri with
      | none => (st, m, .error .ValueError)
      | some (n0, name0) =>
        let m := m.ensureStrie n0
        let nn := refineLongest m.trie n0 name0 uri
        let r := lookupOrGenerate st m nn.1 nn.2 generate
        match r.2.2 with
        | .ok q => (r.1, { r.2.1 with cache := aset r.2.1.cache uri q }, .ok q)
        | .error e => (r.1, r.2.1, .error e)

/-- second half of `compute_qname_strict`: the name is not an NCName, split at a strict name start -/
def Mgr.strictTail (st : Store) (m : Mgr) (uri : Str) (generate : Bool) :
    Store × Mgr × Except Err QN :=
  let m := { m with scache := validEntry st m.scache uri }
  match alookup m.scache uri with
  | some r => (st, m, .ok r)
  | none =>
    match splitUri nameStartCats uri with
    | none => (st, m, .error .ValueError)
    | some (n0, name0) =>
      let m := m.ensureStrie n0
      let r := lookupOrGenerate st m n0 name0 generate
      match r.2.2 with
      | .ok q => (r.1, { r.2.1 with scache := aset r.2.1.scache uri q }, .ok q)
      | .error e => (r.1, r.2.1, .error e)

/-- `NamespaceManager.compute_qname_strict(uri, generate)` -/
def Mgr.computeQnameStrict (st : Store) (m : Mgr) (uri : Str) (generate : Bool) :
    Store × Mgr × Except Err QN :=
  let r0 := Mgr.computeQname st m uri generate
  match r0.2.2 with
  | .error e => (r0.1, r0.2.1, .error e)
  | .ok (p, n, name) =>
    if isNcname name then (r0.1, r0.2.1, .ok (p, n, name))
    else Mgr.strictTail r0.1 r0.2.1 uri generate

def joinQ (p l : Str) : Str := p ++ 58 :: l
/-- `qname` / `qname_strict`: bare name for the empty prefix -/
def showQname : QN → Str
  | (p, _, l) => if p.isEmpty then l else joinQ p l

/-- `NamespaceManager.normalizeUri(term)` for a URIRef (reached through `URIRef.n3(nm)`, which
    raises a plain `Exception` first when the IRI has a forbidden character) -/
def Mgr.normalizeUri (st : Store) (m : Mgr) (uri : Str) : Store × Mgr × Out :=
  if !validUri uri then (st, m, .err .Other)
  else
    let angle : Str := 60 :: uri ++ [62]
    match splitUri splitStartCats uri with
    | none => (st, m, .str angle)
    | some (n0, _) =>
      let m := m.ensureStrie n0
      match st.prefix n0 with
      | none => (st, m, .str angle)
      | some _ =>
        let r := Mgr.computeQname st m uri true
        match r.2.2 with
        | .ok (p, _, l) => (r.1, r.2.1, .str (joinQ p l))
        | .error e => (r.1, r.2.1, .err e)

def splitColon : Str → Option (Str × Str)
  | [] => none
  | c :: cs =>
    if c = 58 then some ([], cs)
    else
      match splitColon cs with
      | some (a, b) => some (c :: a, b)
      | none => none

/-- `NamespaceManager.expand_curie(curie)` -/
def expandCurie (st : Store) (curie : Str) : Out :=
  match splitColon curie with
  | none => .err .ValueError
  | some (p, l) =>
    match st.namespace p with
    | some n => .str (n ++ l)
    | none => .err .ValueError

/-- `NamespaceManager.reset()` (`__cache_strict` is not cleared by the code) -/
def Mgr.reset (st : Store) (m : Mgr) : Mgr :=
  { m with cache := [], strie := [],
           trie := st.namespaces.foldl (fun t pn => insertForest t pn.2) [] }

/-- `for prefix, ns in table.items(): self.bind(prefix, ns)` -/
def bindAll (ov : Bool) : List (Option Str × Str) → Store → Mgr → Store × Mgr × Out
  | [], st, m => (st, m, .unit)
  | (p, n) :: r, st, m =>
    let b := Mgr.bind st m p n ov false
    match b.2.2 with
    | .err e => (b.1, b.2.1, .err e)
    | _ => bindAll ov r b.1 b.2.1

/-- the `bind_namespaces` argument: the three implemented modes, `"cc"` (NotImplementedError) and any
    other string (ValueError) -/
inductive BindSet | none | core | rdflib | cc | unknown
  deriving Repr, DecidableEq

/-- the modes for which `NamespaceManager.__init__` raises (so that no manager comes into being) -/
def BindSet.bad : BindSet → Option Err
  | .cc => some .Other
  | .unknown => some .ValueError
  | _ => Option.none

def someKeys (l : List (Str × Str)) : List (Option Str × Str) := l.map (fun pn => (some pn.1, pn.2))

/-- `NamespaceManager.__init__(graph, bind_namespaces)`: `self.bind(prefix, ns, override=False)` over
    the default tables (since `fix: a NamespaceManager created on a store that already has bindings
    does not rebind their namespaces to the default prefixes`; before it the binds were overriding) -/
def Mgr.init (st : Store) : BindSet → Store × Mgr × Out
  | .none => (st, Mgr.empty, .unit)
  | .core => bindAll false (someKeys nsCore) st Mgr.empty
  | .rdflib => bindAll false (someKeys nsRdflib ++ someKeys nsCore) st Mgr.empty
  | .cc => (st, Mgr.empty, .err .Other)
  | .unknown => (st, Mgr.empty, .err .ValueError)

/-- the Turtle parser's `_bindings` dict (later `@prefix` for the same prefix wins, position of
    the first), then `graph.bind(prefix, namespace)` for each -/
def parseTurtle (st : Store) (m : Mgr) (decls : List (Str × Str)) : Store × Mgr × Out :=
  bindAll true (someKeys (decls.foldl (fun d pn => aset d pn.1 pn.2) [])) st m

/-- RDF/XML `startPrefixMapping`: `bind(prefix, namespace or "", override=False)` in attribute order -/
def parseXml (st : Store) (m : Mgr) (decls : List (Option Str × Str)) : Store × Mgr × Out :=
  bindAll false decls st m

/-- Turtle serializer `getQName` calls for one triple `s p o` of IRIs: `preprocessTriple`, then
    the labels while writing; prefixes are generated for the predicate only; errors swallowed. -/
def getQNames : List (Str × Bool) → Store → Mgr → Store × Mgr
  | [], st, m => (st, m)
  | (u, g) :: r, st, m =>
    let q := Mgr.computeQname st m u g
    getQNames r q.1 q.2.1

def serializeTriple (st : Store) (m : Mgr) (s p o : Str) : Store × Mgr :=
  getQNames [(s, false), (p, true), (o, false), (s, false), (p, true), (o, false)] st m

/-! ### the prefix table of one Turtle / N3 / longturtle document (`TurtleSerializer.addNamespace`) -/

structure Doc where
  table : List (Str × Str)     -- `self.namespaces`  : document prefix ↦ namespace (the `@prefix` lines)
  rewrite : List (Str × Str)   -- `self._ns_rewrite` : graph prefix ↦ document prefix
  deriving Repr

def Doc.empty : Doc := ⟨[], []⟩

/-- `p = "p" + prefix; while p in self.namespaces: p = "p" + p` -/
def freshP (table : List (Str × Str)) : Nat → Str → Option Str
  | 0, _ => none
  | fuel + 1, p => if hasKey table p then freshP table fuel (112 :: p) else some p

/-- `TurtleSerializer.addNamespace(prefix, namespace)`: prefixes starting with `_`, and prefixes
    already used in the document for another namespace, are renamed to `p…`; the base class then
    refuses (raises) to give a declared prefix a second namespace. Returns the document prefix. -/
def Doc.addNamespace (d : Doc) (p n : Str) : Except Err (Doc × Str) :=
  let needs := p.head? == some 95 || (alookup d.table p).getD n != n
  let rw : Option (List (Str × Str) × Str) :=
    if needs then
      match alookup d.rewrite p with
      | some q => some (d.rewrite, q)
      | none =>
        match freshP d.table (d.table.length + 1) (112 :: p) with
        | some q => some (aset d.rewrite p q, q)
        | none => none
    else some (d.rewrite, p)
  match rw with
  | none => .error .Loop
  | some (rwt, q) =>
    match alookup d.table q with
    | some n' => if n' != n then .error .Other else .ok (⟨aset d.table q n, rwt⟩, q)
    | none => .ok (⟨aset d.table q n, rwt⟩, q)

/-- `TurtleSerializer.getQName(uri, gen_prefix)` for a URIRef: `compute_qname`, on any exception the
    IRI's own prefix if it is a bound namespace; the prefix is registered in the document; no name
    if the local part ends with `.`.  `some (d, l)` = the name `d:l` was produced.
    The fallback reads `self.store.store.prefix(uri)`, i.e. the store of the *graph* being written:
    `fb` = that store is the manager's store (false for a graph that borrows the manager of a graph
    on another store: its own store holds no bindings). -/
def docGetQName (st : Store) (m : Mgr) (d : Doc) (uri : Str) (gen fb : Bool) :
    Store × Mgr × Except Err (Doc × Option (Str × Str)) :=
  let r := Mgr.computeQname st m uri gen
  let parts : Option QN :=
    match r.2.2 with
    | .ok q => some q
    | .error _ =>
      match (if fb then r.1.prefix uri else none) with
      | some pfx => some (pfx, uri, [])
      | none => none
  match parts with
  | none => (r.1, r.2.1, .ok (d, none))
  | some (p, n, l) =>
    -- the prefix is declared even if this name cannot use it (`local.endswith(".")`)
    match d.addNamespace p n with
    | .ok (d', q) => (r.1, r.2.1, .ok (d', if l.getLast? == some 46 then none else some (q, l)))
    | .error e => (r.1, r.2.1, .error e)

/-- `preprocess()` of a document: `getQName` for every IRI node in the order the triples are met
    (`generate` only for predicates).  Returns the names produced: (IRI, document prefix, local). -/
def serDoc (fb : Bool) : List (Str × Bool) → Store → Mgr → Doc → List (Str × Str × Str) →
    Store × Mgr × Except Err (Doc × List (Str × Str × Str))
  | [], st, m, d, acc => (st, m, .ok (d, acc))
  | (u, g) :: r, st, m, d, acc =>
    let q := docGetQName st m d u g fb
    match q.2.2 with
    | .error e => (q.1, q.2.1, .error e)
    | .ok (d', none) => serDoc fb r q.1 q.2.1 d' acc
    | .ok (d', some (dp, l)) => serDoc fb r q.1 q.2.1 d' (acc ++ [(u, dp, l)])

/-! ### the RDF/XML serializer (`XMLSerializer.__bindings`, `predicate`) -/

/-- `compute_qname_strict(u)` (generate) for a sequence of IRIs; the first exception ends it -/
def strictSeq : List Str → Store → Mgr → List (Str × QN) → Store × Mgr × Except Err (List (Str × QN))
  | [], st, m, acc => (st, m, .ok acc)
  | u :: r, st, m, acc =>
    let q := Mgr.computeQnameStrict st m u true
    match q.2.2 with
    | .error e => (q.1, q.2.1, .error e)
    | .ok a => strictSeq r q.1 q.2.1 (acc ++ [(u, a)])

def strRdf : Str := [114, 100, 102]   -- "rdf"
/-- the constant `RDFNS` of rdfxml.py -/
def rdfNs : Str := [104, 116, 116, 112, 58, 47, 47, 119, 119, 119, 46, 119, 51, 46, 111, 114, 103, 47, 49, 57, 57, 57, 47, 48, 50, 47, 50, 50, 45, 114, 100, 102, 45, 115, 121, 110, 116, 97, 120, 45, 110, 115, 35]

/-- `XMLSerializer.serialize`: `__bindings()` — `compute_qname_strict(p)` for every predicate of the graph
    (`preds`: the set of predicates in its iteration order), collected in a dict prefix ↦ namespace, `rdf`
    added (AssertionError if `rdf` is there with another namespace) — gives the `xmlns` declarations; then
    `qname_strict(p)` for the predicate of every statement written (`stmts`).  Result: the `xmlns` table
    and, per statement, the predicate with the (prefix, namespace, local) its element name is made of. -/
def xmlTable (ans : List (Str × QN)) : List (Str × Str) := ans.foldl (fun t a => aset t a.2.1 a.2.2.1) []

def serXml (preds stmts : List Str) (st : Store) (m : Mgr) :
    Store × Mgr × Except Err (List (Str × Str) × List (Str × QN)) :=
  let r1 := strictSeq preds st m []
  match r1.2.2 with
  | .error e => (r1.1, r1.2.1, .error e)
  | .ok ans =>
    let t := xmlTable ans
    let t' : Option (List (Str × Str)) :=
      match alookup t strRdf with
      | some n => if n = rdfNs then some t else none
      | none => some (aset t strRdf rdfNs)
    match t' with
    | none => (r1.1, r1.2.1, .error .Other)
    | some t' =>
      let r2 := strictSeq stmts r1.1 r1.2.1 []
      match r2.2.2 with
      | .error e => (r2.1, r2.2.1, .error e)
      | .ok names => (r2.1, r2.2.1, .ok (t', names))

/-! ### histories -/

inductive Op
  | minit (m : Bool) (b : BindSet)
  | bind (m : Bool) (p : Option Str) (n : Str) (ov rp : Bool)
  | sbind (p n : Str) (ov : Bool)
  | cq (m : Bool) (u : Str) (g : Bool)
  | cqs (m : Bool) (u : Str) (g : Bool)
  | qname (m : Bool) (u : Str)
  | qstrict (m : Bool) (u : Str)
  | curie (m : Bool) (u : Str) (g : Bool)
  | n3 (m : Bool) (u : Str)
  | expand (c : Str)
  | reset (m : Bool)
  | parse (m : Bool) (d : List (Str × Str))
  | parsexml (m : Bool) (d : List (Option Str × Str))
  | ser (m : Bool) (s p o : Str)
  | serdoc (m : Bool) (fb : Bool) (qs : List (Str × Bool))
  | sertrig (fb : Bool) (cs : List (Bool × List (Str × Bool)))
  | serxml (m : Bool) (preds stmts : List Str)
  deriving Repr

structure St where
  store : Store
  m0 : Mgr
  m1 : Mgr
  deriving Repr

def St.init : St := ⟨Store.empty, Mgr.empty, Mgr.empty⟩
def St.mgr (s : St) (i : Bool) : Mgr := if i then s.m1 else s.m0
def St.put (s : St) (i : Bool) (r : Store × Mgr) : St :=
  if i then { s with store := r.1, m1 := r.2 } else { s with store := r.1, m0 := r.2 }

def outQN : Except Err QN → Out
  | .ok (p, n, l) => .qn p n l
  | .error e => .err e
def outStr (f : QN → Str) : Except Err QN → Out
  | .ok r => .str (f r)
  | .error e => .err e

/-- `TrigSerializer.preprocess()`: one document, one prefix table, but every context (graph) of the
    dataset is walked through *its own* graph object — `self.store = context` — hence through that
    graph's manager: the named graphs of a `Dataset` share the dataset's manager, its default graph
    has its own.  Each context contributes `getQName(context.identifier, False)` and then the nodes
    of its triples (the harness puts the identifier first in the context's list). -/
def serTrig (fb : Bool) : List (Bool × List (Str × Bool)) → St → Doc → List (Str × Str × Str) →
    St × Except Err (Doc × List (Str × Str × Str))
  | [], s, d, acc => (s, .ok (d, acc))
  | (i, qs) :: r, s, d, acc =>
    let q := serDoc fb qs s.store (s.mgr i) d acc
    match q.2.2 with
    | .error e => (s.put i (q.1, q.2.1), .error e)
    | .ok (d', acc') => serTrig fb r (s.put i (q.1, q.2.1)) d' acc'

def St.step (s : St) : Op → St × Out
  | .minit i b =>
    match b.bad with
    | some e => (s, .err e)   -- the constructor raised: there is no new manager, the old one stays
    | none => let r := Mgr.init s.store b; (s.put i (r.1, r.2.1), r.2.2)
  | .bind i p n ov rp => let r := Mgr.bind s.store (s.mgr i) p n ov rp; (s.put i (r.1, r.2.1), r.2.2)
  | .sbind p n ov =>
    match s.store.bind p n ov with
    | some st' => ({ s with store := st' }, .unit)
    | none => (s, .err .KeyError)
  | .cq i u g => let r := Mgr.computeQname s.store (s.mgr i) u g; (s.put i (r.1, r.2.1), outQN r.2.2)
  | .cqs i u g => let r := Mgr.computeQnameStrict s.store (s.mgr i) u g; (s.put i (r.1, r.2.1), outQN r.2.2)
  | .qname i u => let r := Mgr.computeQname s.store (s.mgr i) u true; (s.put i (r.1, r.2.1), outStr showQname r.2.2)
  | .qstrict i u => let r := Mgr.computeQnameStrict s.store (s.mgr i) u true; (s.put i (r.1, r.2.1), outStr showQname r.2.2)
  | .curie i u g => let r := Mgr.computeQname s.store (s.mgr i) u g; (s.put i (r.1, r.2.1), outStr (fun q => joinQ q.1 q.2.2) r.2.2)
  | .n3 i u => let r := Mgr.normalizeUri s.store (s.mgr i) u; (s.put i (r.1, r.2.1), r.2.2)
  | .expand c => (s, expandCurie s.store c)
  | .reset i => (s.put i (s.store, Mgr.reset s.store (s.mgr i)), .unit)
  | .parse i d => let r := parseTurtle s.store (s.mgr i) d; (s.put i (r.1, r.2.1), r.2.2)
  | .parsexml i d => let r := parseXml s.store (s.mgr i) d; (s.put i (r.1, r.2.1), r.2.2)
  | .ser i a b c => (s.put i (serializeTriple s.store (s.mgr i) a b c), .unit)
  | .serdoc i fb qs =>
    -- the harness calls `reset()` right after the serialisation (see harness/c17.py)
    let r := serDoc fb qs s.store (s.mgr i) Doc.empty []
    (s.put i (r.1, Mgr.reset r.1 r.2.1),
      match r.2.2 with
      | .ok (d, _) => .doc d.table
      | .error e => .err e)

  | .serxml i preds stmts =>
    let r := serXml preds stmts s.store (s.mgr i)
    (s.put i (r.1, r.2.1),
      match r.2.2 with
      -- observed: the xmlns table and, marked `!`, every element name written with the predicate it stands for
      | .ok (t, names) => .doc (t ++ names.map (fun x => (33 :: showQname x.2, x.1)))
      | .error e => .err e)
  | .sertrig fb cs =>
    -- the harness calls `reset()` on both managers right after the serialisation
    let r := serTrig fb cs s Doc.empty []
    (⟨r.1.store, Mgr.reset r.1.store r.1.m0, Mgr.reset r.1.store r.1.m1⟩,
      match r.2 with
      | .ok (d, _) => .doc d.table
      | .error e => .err e)

def St.run (s : St) (ops : List Op) : St := ops.foldl (fun s o => (s.step o).1) s

end RV.C17

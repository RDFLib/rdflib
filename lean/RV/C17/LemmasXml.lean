import RV.C17.LemmasStep
/-
  C17 — the RDF/XML document.  `compute_qname_strict(u, generate=True)` only ever ADDS bindings (`Keep`: on a
  store where no prefix is bound to the empty namespace, a generated prefix is a new key and its namespace a
  new key) and memoises its answer (`Memo`); no later call drops or changes a memoised entry whose binding is
  there (`stay`), and an IRI has at most one memo (`Memo.unique`).  So at the end of the second pass of the
  serializer (`qname_strict` per statement) its answers and those of the first pass (`__bindings`) are memoised
  side by side, hence equal; and the prefixes of the first pass are the keys of the `xmlns` table.
-/
namespace RV.C17
open RV.C17.Tables

variable {st : Store} {m : Mgr} {u : Str} {sp : Option (Str × Str)}
  {rf : Forest → Str → Str → Str × Str}

/-- nothing that was bound gets unbound or rebound -/
def Keep (st st' : Store) : Prop := ∀ n p, st.prefix n = some p → st'.prefix n = some p

/-- no prefix is bound to the empty namespace `URIRef("")` -/
def NoEmpty (st : Store) : Prop := ∀ p, st.namespace p ≠ some []

theorem Keep.refl (st : Store) : Keep st st := fun _ _ h => h

theorem Store.bind_pure {s : Store} {p n : Str} (hn : s.prefix n = none) (hp : s.namespace p = none) :
    s.bind p n true = some ⟨aset s.pfx n p, aset s.ns p n⟩ := by
  unfold Store.prefix at hn
  unfold Store.namespace at hp
  unfold Store.bind
  simp only [hn, hp, if_true]

theorem falsy_none (hne : NoEmpty st) {p : Str} (h : truthy (st.namespace p) = false) :
    st.namespace p = none := (falsy_cases h).resolve_right (hne p)

theorem keep_insert {p n : Str} (hn : st.prefix n = none) :
    Keep st ⟨aset st.pfx n p, aset st.ns p n⟩ := by
  intro n0 p0 h
  unfold Store.prefix at h hn ⊢
  simp only [alookup_aset]
  split
  · next e => subst e; rw [hn] at h; exact nomatch h
  · exact h

theorem noEmpty_insert (hne : NoEmpty st) {p n : Str} (h : n ≠ []) :
    NoEmpty ⟨aset st.pfx n p, aset st.ns p n⟩ := by
  intro p' e
  unfold Store.namespace at e
  simp only [alookup_aset] at e
  split at e
  · injection e with e; exact h e
  · exact hne p' e

theorem Mgr.getC_insertTrie (s : Bool) (m : Mgr) (n : Str) : (m.insertTrie n).getC s = m.getC s := by
  cases s <;> rfl

theorem Mgr.getC_ensureStrie (s : Bool) (m : Mgr) (n : Str) : (m.ensureStrie n).getC s = m.getC s := by
  unfold Mgr.ensureStrie; split <;> cases s <;> rfl

theorem Mgr.getC_setC_other (s : Bool) (m : Mgr) (c : List (Str × QN)) : (m.setC s c).getC (!s) = m.getC (!s) := by
  cases s <;> rfl

theorem lookupOrGenerate_grows (hne : NoEmpty st) (m : Mgr) (n name : Str) (g : Bool)
    (hgen : st.prefix n = none → n ≠ []) :
    Keep st (lookupOrGenerate st m n name g).1 ∧ NoEmpty (lookupOrGenerate st m n name g).1 ∧
      ∀ s, (lookupOrGenerate st m n name g).2.1.getC s = m.getC s := by
  rcases lookupOrGenerate_cases st m n name g with ⟨_, _, c⟩ | ⟨_, c, _⟩ | ⟨hn, p, st', hp, hb, c⟩ <;> rw [c]
  · exact ⟨Keep.refl _, hne, fun _ => rfl⟩
  · exact ⟨Keep.refl _, hne, fun _ => rfl⟩
  · rw [Store.bind_pure hn (falsy_none hne (pickNs_falsy st _ _ _ hp))] at hb
    cases hb
    exact ⟨keep_insert hn, noEmpty_insert hne (hgen hn), fun s => Mgr.getC_insertTrie s m n⟩

/-- a memoised answer whose binding is still there survives validation (whichever IRI is validated) -/
theorem validEntry_stay {c : List (Str × QN)} {u' : Str} {q : QN} (u : Str)
    (h : alookup c u' = some q) (hv : st.prefix q.2.1 = some q.1) : alookup (validEntry st c u) u' = some q := by
  unfold validEntry
  split
  · next p n l he =>
    split
    · exact h
    · next hne =>
      rw [alookup_aerase, if_neg fun e => hne ?_]
      · exact h
      · rw [e, he] at h; cases h; simpa using hv
  · exact h

theorem refineLongest_ne {trie : Forest} (hf : FInv trie) {u n0 name0 : Str}
    (hsp : splitOrWhole st u = some (n0, name0)) :
    st.prefix (refineLongest trie n0 name0 u).1 = none → (refineLongest trie n0 name0 u).1 ≠ [] := by
  unfold refineLongest
  split
  · next pl hpl =>
    intro _ e
    simp only at e
    rcases strieLongest_spec hf n0 u with h | h
    · rw [hpl] at h
      have hm := h.1
      simp only [List.mem_filter, decide_eq_true_eq] at hm
      subst e
      have : n0 = [] := List.prefix_nil.1 hm.2.1
      exact hm.2.2 this
    · rw [h] at hpl; simp at hpl
  · exact (splitOrWhole_some hsp).2

/-- the RDF/XML facts about one call for `u` over cache `s`; `stay`: a memoised entry whose binding is there is kept,
    whichever IRI is asked about -/
structure QGrows (s : Bool) (st : Store) (m : Mgr) (u : Str) (r : Store × Mgr × Except Err QN) : Prop where
  keep : Keep st r.1
  ne : NoEmpty r.1
  other : r.2.1.getC (!s) = m.getC (!s)
  stay : ∀ u' q, alookup (m.getC s) u' = some q → st.prefix q.2.1 = some q.1 → alookup (r.2.1.getC s) u' = some q
  memo : ∀ q, r.2.2 = .ok q → alookup (r.2.1.getC s) u = some q

theorem qcompute_grows (hne : NoEmpty st) (hf : FInv m.trie) (s : Bool) (u : Str) (g : Bool)
    (hgen : ∀ t n0 name0, FInv t → sp = some (n0, name0) →
      st.prefix (rf t n0 name0).1 = none → (rf t n0 name0).1 ≠ [])
    {r : Store × Mgr × Except Err QN} (hr : qcompute s st m u g sp rf = r) : QGrows s st m u r := by
  have hve := fun u' q => validEntry_stay (st := st) (c := m.getC s) (u' := u') (q := q) u
  have ho := Mgr.getC_setC_other s m (validEntry st (m.getC s) u)
  unfold qcompute at hr
  simp only [Mgr.getC_setC] at hr
  split at hr
  · next q hq =>
    subst hr
    exact ⟨Keep.refl _, hne, ho, fun u' q => by rw [Mgr.getC_setC]; exact hve u' q,
      fun q' e => by cases e; rw [Mgr.getC_setC]; exact hq⟩
  · next hnone =>
    split at hr
    · subst hr
      exact ⟨Keep.refl _, hne, ho, fun u' q => by rw [Mgr.getC_setC]; exact hve u' q, fun _ e => nomatch e⟩
    · next n0 name0 =>
      generalize hm1 : Mgr.ensureStrie (m.setC s (validEntry st (m.getC s) u)) n0 = m1 at hr
      have hc1 : ∀ s', m1.getC s' = (m.setC s (validEntry st (m.getC s) u)).getC s' := by
        intro s'; rw [← hm1]; exact Mgr.getC_ensureStrie s' _ n0
      have hf1 : FInv m1.trie := by
        rw [← hm1]; exact (MLe.ensureStrie _ n0).trie (by cases s <;> exact hf)
      have hg := hgen m1.trie n0 name0 hf1 rfl
      generalize rf m1.trie n0 name0 = nn at hg hr
      obtain ⟨x1, x2, x3⟩ := lookupOrGenerate_grows hne m1 nn.1 nn.2 g hg
      split at hr
      · next q hq =>
        subst hr
        refine ⟨x1, x2, ?_, fun u' q' a b => ?_, fun q' e => ?_⟩
        · rw [Mgr.getC_setC_other, x3, hc1, ho]
        · -- the entry of `u` itself was not there (or was dropped): the new one overwrites nothing that stays
          have := hve u' q' a b
          rw [Mgr.getC_setC, x3, hc1, Mgr.getC_setC, alookup_aset, if_neg fun e => by rw [e, hnone] at this; cases this]
          exact this
        · cases e; rw [Mgr.getC_setC, alookup_aset, if_pos rfl]
      · subst hr
        refine ⟨x1, x2, ?_, fun u' q' => ?_, fun _ e => nomatch e⟩
        · rw [x3, hc1, ho]
        · rw [x3, hc1, Mgr.getC_setC]; exact hve u' q'

/-- `u` is memoised with answer `q` and every binding the answer rests on is there: either the cache has
    `q` and its local name is an NCName, or the cache has an answer `q0` whose local name is not an NCName
    and the strict cache has `q` -/
def Memo (st : Store) (m : Mgr) (u : Str) (q : QN) : Prop :=
  (alookup m.cache u = some q ∧ isNcname q.2.2 = true ∧ st.prefix q.2.1 = some q.1) ∨
  (∃ q0 : QN, alookup m.cache u = some q0 ∧ isNcname q0.2.2 = false ∧ st.prefix q0.2.1 = some q0.1 ∧
    alookup m.scache u = some q ∧ st.prefix q.2.1 = some q.1)

theorem Memo.valid {q : QN} (h : Memo st m u q) : st.prefix q.2.1 = some q.1 := by
  rcases h with ⟨_, _, hv⟩ | ⟨_, _, _, _, _, hv⟩ <;> exact hv

theorem Memo.spelled {st : Store} {m : Mgr} {u : Str} {q : QN} (h : Memo st m u q)
    (hc : CacheOK m.cache) (hs : CacheOK m.scache) : q.2.1 ++ q.2.2 = u := by
  obtain ⟨p, n, l⟩ := q
  rcases h with ⟨hq, _⟩ | ⟨_, _, _, _, hq, _⟩
  · exact hc _ _ _ _ hq
  · exact hs _ _ _ _ hq

theorem Memo.stay {st st' : Store} {m m' : Mgr} {q : QN} (h : Memo st m u q) (hk : Keep st st')
    (hc : ∀ q, alookup m.cache u = some q → st.prefix q.2.1 = some q.1 → alookup m'.cache u = some q)
    (hs : ∀ q, alookup m.scache u = some q → st.prefix q.2.1 = some q.1 → alookup m'.scache u = some q) :
    Memo st' m' u q := by
  rcases h with ⟨a, b, c⟩ | ⟨q0, a, b, c, d, e⟩
  · exact Or.inl ⟨hc _ a c, b, hk _ _ c⟩
  · exact Or.inr ⟨q0, hc _ a c, b, hk _ _ c, hs _ d e, hk _ _ e⟩

theorem Memo.unique {q q' : QN} (h : Memo st m u q) (h' : Memo st m u q') : q = q' := by
  rcases h with ⟨a, b, _⟩ | ⟨q0, a, b, _, d, _⟩ <;> rcases h' with ⟨a', b', _⟩ | ⟨q0', a', b', _, d', _⟩
  · exact Option.some.inj (a.symm.trans a')
  · cases a.symm.trans a'; rw [b] at b'; cases b'
  · cases a.symm.trans a'; rw [b] at b'; cases b'
  · exact Option.some.inj (d.symm.trans d')

/-- the same for `compute_qname_strict(u, generate=True)`, in terms of `Memo` -/
structure SGrows (st : Store) (m : Mgr) (u : Str) (r : Store × Mgr × Except Err QN) : Prop where
  ne : NoEmpty r.1
  stay : ∀ u' q, Memo st m u' q → Memo r.1 r.2.1 u' q
  memo : ∀ q, r.2.2 = .ok q → Memo r.1 r.2.1 u q

theorem computeQnameStrict_grows (hne : NoEmpty st) (hm : MOK m) (u : Str) :
    SGrows st m u (Mgr.computeQnameStrict st m u true) := by
  have hq0 := computeQname_does st m u true
  have q0 := qcompute_grows hne hm.trie false u true
    (sp := if validUri u then splitOrWhole st u else none) (rf := fun t n0 name0 => refineLongest t n0 name0 u)
    (fun t n0 name0 ht e => by
      split at e
      · exact refineLongest_ne ht e
      · exact nomatch e) (computeQname_eq st m u true).symm
  -- a memo survives a call over one cache: that cache has `stay`, the other is untouched (`other`)
  have s0 : ∀ u' q, Memo st m u' q → Memo (Mgr.computeQname st m u true).1 (Mgr.computeQname st m u true).2.1 u' q :=
    fun u' q h => h.stay q0.keep (q0.stay u') fun q a _ => (congrArg (alookup · u') q0.other).trans a
  rcases computeQnameStrict_cases st m u true with ⟨c, hnc⟩ | ⟨⟨p, n, name⟩, hq, hnc, c⟩ <;> rw [c]
  · exact ⟨q0.ne, s0, fun q e => .inl ⟨q0.memo _ e, hnc q e, (hq0.ok hm.cache hm.scache _ _ _ e).1⟩⟩
  · have hm1 := hq0.mgr.mok hm
    have hq1 := strictTail_does (Mgr.computeQname st m u true).1 (Mgr.computeQname st m u true).2.1 u true
    have q1 := qcompute_grows q0.ne hm1.trie true u true
      (sp := splitUri nameStartCats u) (rf := fun _ n0 name0 => (n0, name0))
      (fun _ _ _ _ e _ => splitUri_ne e) (strictTail_eq _ _ u true).symm
    -- the second half leaves `__cache` alone: the first half's entry for `u` is still there
    have hc1 := (congrArg (alookup · u) q1.other).trans (q0.memo _ hq)
    refine ⟨q1.ne, fun u' q h => ?_,
      fun q e => .inr ⟨(p, n, name), hc1, hnc, ?_, q1.memo _ e, ?_⟩⟩
    · exact (s0 u' q h).stay q1.keep (fun q a _ => (congrArg (alookup · u') q1.other).trans a) (q1.stay u')
    · exact q1.keep _ _ (hq0.ok hm.cache hm.scache p n name hq).1
    · exact (hq1.ok hm1.cache hm1.scache _ _ _ e).1

/-- the invariant of a pass of `compute_qname_strict` calls: every answer known so far is still memoised -/
structure XInv (st : Store) (m : Mgr) (known : List (Str × QN)) : Prop where
  inv : st.Inv
  ne : NoEmpty st
  mok : MOK m
  memo : ∀ u q, (u, q) ∈ known → Memo st m u q

/-- a pass (`__bindings`, or `qname_strict` per statement): the answers `known` before it and its own are all
    memoised at its end -/
theorem strictSeq_grows (known : List (Str × QN)) : ∀ (us : List Str) (st : Store) (m : Mgr) (acc : List (Str × QN)),
    XInv st m (known ++ acc) → ∀ res, (strictSeq us st m acc).2.2 = .ok res →
      XInv (strictSeq us st m acc).1 (strictSeq us st m acc).2.1 (known ++ res) ∧
        (∀ u, u ∈ us → ∃ q, (u, q) ∈ res) ∧ (∀ x, x ∈ acc → x ∈ res) ∧ (∀ x, x ∈ res → x ∈ acc ∨ x.1 ∈ us)
  | [], st, m, acc, h, res, e => by
    simp only [strictSeq] at e ⊢
    cases e
    exact ⟨h, fun _ hu => absurd hu List.not_mem_nil, fun x hx => hx, fun x hx => Or.inl hx⟩
  | u :: r, st, m, acc, h, res, e => by
    have hx := computeQnameStrict_grows h.ne h.mok u
    have hall := computeQnameStrict_does st m u true
    simp only [strictSeq] at e ⊢
    split at e
    · exact nomatch e
    · next a ha =>
      obtain ⟨i1, i2, i3, i4⟩ := strictSeq_grows known r _ _ (acc ++ [(u, a)])
        ⟨hall.reach.inv h.inv, hx.ne, hall.mgr.mok h.mok, fun u' q' hm => by
          rw [← List.append_assoc] at hm
          rcases List.mem_append.1 hm with hm | hm
          · exact hx.stay u' q' (h.memo u' q' hm)
          · cases List.mem_singleton.1 hm; exact hx.memo _ ha⟩ res e
      refine ⟨i1, fun u' hu' => ?_, fun x hx' => i3 x (List.mem_append_left _ hx'), fun x hx' => ?_⟩
      · rcases List.mem_cons.1 hu' with e' | e'
        · exact e' ▸ ⟨a, i3 _ (List.mem_append_right _ List.mem_cons_self)⟩
        · exact i2 u' e'
      · rcases i4 x hx' with e' | e'
        · rcases List.mem_append.1 e' with e' | e'
          · exact .inl e'
          · cases List.mem_singleton.1 e'; exact .inr List.mem_cons_self
        · exact .inr (List.mem_cons_of_mem _ e')

theorem foldl_aset_keeps : ∀ (ans : List (Str × QN)) (t0 : List (Str × Str)) (p n : Str), alookup t0 p = some n →
    (∀ y, y ∈ ans → y.2.1 = p → y.2.2.1 = n) → alookup (ans.foldl (fun t a => aset t a.2.1 a.2.2.1) t0) p = some n
  | [], _, _, _, h, _ => h
  | a :: r, t0, p, n, h, hf => by
    refine foldl_aset_keeps r _ p n ?_ fun y hy => hf y (List.mem_cons_of_mem _ hy)
    rw [alookup_aset]
    split
    · next e => rw [hf a List.mem_cons_self e.symm]
    · exact h

theorem xmlTable_lookup : ∀ (ans : List (Str × QN)) (t0 : List (Str × Str)) (x : Str × QN), x ∈ ans →
    (∀ y, y ∈ ans → y.2.1 = x.2.1 → y.2.2.1 = x.2.2.1) →
    alookup (ans.foldl (fun t a => aset t a.2.1 a.2.2.1) t0) x.2.1 = some x.2.2.1
  | a :: r, t0, x, hx, hf => by
    rcases List.mem_cons.1 hx with e | e
    · subst e
      exact foldl_aset_keeps r _ _ _ (by rw [alookup_aset, if_pos rfl]) fun y hy => hf y (List.mem_cons_of_mem _ hy)
    · exact xmlTable_lookup r _ x e fun y hy => hf y (List.mem_cons_of_mem _ hy)

theorem serXml_names {st : Store} {m : Mgr} (hi : st.Inv) (hne : NoEmpty st) (hf : FInv m.trie)
    (hc : CacheOK m.cache) (hs : CacheOK m.scache) (preds stmts : List Str)
    (hsub : ∀ u, u ∈ stmts → u ∈ preds) (t : List (Str × Str)) (names : List (Str × QN))
    (h : (serXml preds stmts st m).2.2 = .ok (t, names)) :
    ∀ u p n l, (u, p, n, l) ∈ names → alookup t p = some n ∧ n ++ l = u := by
  unfold serXml at h
  simp only at h
  split at h
  · exact nomatch h
  · next ans hans =>
    obtain ⟨x1, x2, _, _⟩ := strictSeq_grows [] preds st m [] ⟨hi, hne, ⟨hc, hs, hf⟩, fun _ _ h => nomatch h⟩ ans hans
    rw [List.nil_append] at x1
    have hvalid : ∀ x, x ∈ ans → (strictSeq preds st m []).1.prefix x.2.2.1 = some x.2.1 :=
      fun x hx => (x1.memo x.1 x.2 hx).valid
    -- two valid answers with one prefix have one namespace: the one place where the store's invariant enters
    have htab : ∀ x, x ∈ ans → alookup (xmlTable ans) x.2.1 = some x.2.2.1 := fun x hx =>
      xmlTable_lookup ans [] x hx fun y hy e => by
        have a1 := (x1.inv.inverse y.2.1 y.2.2.1).2 (hvalid y hy)
        rw [e, (x1.inv.inverse x.2.1 x.2.2.1).2 (hvalid x hx)] at a1
        exact (Option.some.inj a1).symm
    split at h
    · exact nomatch h
    · next t' ht' =>
      split at h
      · exact nomatch h
      · next names' hnames =>
        cases h
        intro u p n l hm
        -- the second pass keeps the memos of the first: its answer for `u` is the first pass's
        obtain ⟨y1, _, _, y4⟩ := strictSeq_grows ans stmts _ _ [] (by rw [List.append_nil]; exact x1) _ hnames
        obtain ⟨q, hq⟩ := x2 u (hsub u ((y4 _ hm).resolve_left nofun))
        cases (y1.memo u q (List.mem_append_left _ hq)).unique (y1.memo u _ (List.mem_append_right _ hm))
        refine ⟨?_, (x1.memo u _ hq).spelled x1.mok.cache x1.mok.scache⟩
        have hx := htab _ hq
        simp only at hx
        split at ht'
        · split at ht'
          · cases ht'; exact hx
          · exact nomatch ht'
        · next hr =>
          cases ht'
          exact aset_keeps (fun _ e => nomatch hr ▸ e) hx

theorem noEmpty_of_check (h : emptyNsUnbound st = true) : NoEmpty st := by
  intro p e
  have hm := alookup_mem st.ns p [] e
  have := List.all_eq_true.1 h _ hm
  simp at this

end RV.C17

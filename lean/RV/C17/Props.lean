import RV.C17.LemmasCat
import RV.C17.LemmasXml
/-
  C17 — the property theorems.

  "Prefix bindings stay a consistent two-way map and compact IRIs expand back."

  A *history* is any list of `Op`: binds through either manager (override × replace, None / empty /
  numbered prefixes), direct `store.bind`, qname / curie / compute_qname(_strict) / n3 / expand_curie
  calls, `reset`, Turtle and RDF/XML parses that bind prefixes, serialisations that generate them (one
  triple; a Turtle / N3 / TriG document with its prefix table; an RDF/XML document), creation of managers
  with the none / core / rdflib default bindings or with a refused mode (`cc`, unknown) — in any order and number.
  The definitions the statements are written in (`Bij`, the specification: a partial bijection Prefix ⇌ Namespace;
  `Sound`; `FInv`, `LongestSpec`; `SplitCases`; `categorySpec` …) are in `Notions.lean`.
-/
namespace RV.C17
open RV.C17.Tables

/-- After ANY history, `namespaces()` lists each prefix once and each namespace once and agrees
    with `store.namespace(p)` / `store.prefix(n)` lookups in both directions. -/
def Statement_bind_bijective : Prop :=
  ∀ ops : List Op, Bij (St.init.run ops).store

/-- After any history `Memory.bind` / `SimpleMemory.bind` cannot hit the KeyError of its `del`s,
    whatever its arguments. -/
def Statement_bind_never_raises : Prop :=
  ∀ (ops : List Op) (p n : Str) (ov : Bool), ((St.init.run ops).store.bind p n ov).isSome

/-- For every history and every IRI asked about afterwards (through either manager, with or
    without `generate`): whatever `compute_qname`, `compute_qname_strict`, `curie`, `qname`,
    `qname_strict` or `n3` answer uses a prefix that is bound — in the store as it is right after
    the call — to a namespace that, concatenated with the local name, is the IRI. -/
def Statement_qname_bound_and_expands : Prop :=
  ∀ (ops : List Op) (i : Bool) (u : Str) (g : Bool),
    (∀ p n l, ((St.init.run ops).step (.cq i u g)).2 = .qn p n l →
        Sound ((St.init.run ops).step (.cq i u g)).1.store u p n l) ∧
    (∀ p n l, ((St.init.run ops).step (.cqs i u g)).2 = .qn p n l →
        Sound ((St.init.run ops).step (.cqs i u g)).1.store u p n l) ∧
    (∀ c, ((St.init.run ops).step (.curie i u g)).2 = .str c →
        ∃ p n l, c = joinQ p l ∧ Sound ((St.init.run ops).step (.curie i u g)).1.store u p n l) ∧
    (∀ c, ((St.init.run ops).step (.qname i u)).2 = .str c →
        ∃ p n l, c = showQname (p, n, l) ∧ Sound ((St.init.run ops).step (.qname i u)).1.store u p n l) ∧
    (∀ c, ((St.init.run ops).step (.qstrict i u)).2 = .str c →
        ∃ p n l, c = showQname (p, n, l) ∧ Sound ((St.init.run ops).step (.qstrict i u)).1.store u p n l) ∧
    (∀ c, ((St.init.run ops).step (.n3 i u)).2 = .str c →
        c = 60 :: u ++ [62] ∨
          ∃ p n l, c = joinQ p l ∧ Sound ((St.init.run ops).step (.n3 i u)).1.store u p n l)

/-- `expand_curie(curie(u)) = u` after every history, for answers whose prefix has no colon
    (a prefix containing `:` is not a prefix in any RDF syntax; see `colon_prefix_not_expandable`). -/
def Statement_expand_inverse : Prop :=
  ∀ (ops : List Op) (i : Bool) (u : Str) (g : Bool) (c : Str),
    ((St.init.run ops).step (.curie i u g)).2 = .str c →
      ∃ p l, c = joinQ p l ∧
        (¬ 58 ∈ p → expandCurie ((St.init.run ops).step (.curie i u g)).1.store c = .str u)

/-- `split_uri(u) = (ns, l)`: `ns ++ l = u`; and either `u` is in the XML namespace (`ns` = XMLNS),
    or `ns` is not empty and `l` starts with a character of a split-start category or `_`. -/
def Statement_split_spec : Prop :=
  ∀ (starts : List Nat) (uri n l : Str), splitUri starts uri = some (n, l) →
    n ++ l = uri ∧
      ((xmlns.isPrefixOf uri = true ∧ n = xmlns) ∨
        (n ≠ [] ∧ ∃ c r, l = c :: r ∧ (inCats starts c = true ∨ c = 95)))

/-- `get_longest_namespace` on a trie built by `insert_trie` calls (in any order, repeats allowed)
    returns the longest inserted namespace that is a prefix of the IRI, and `None` iff there is none.
    (`LongestSpec known v r`: `r ∈ known`, `r` prefixes `v`, every `w ∈ known` prefixing `v` prefixes `r`.) -/
def Statement_longest_is_longest : Prop :=
  ∀ (known : List Str) (v : Str), LongestSpec known v (getLongest v (known.foldl insertForest []))

/-- After every history the trie of either manager is well formed, and the lookup that
    `compute_qname` makes — `get_longest_namespace(self.__strie[n0], uri)` — returns, among the
    namespaces in the trie that strictly extend the split namespace `n0`, the longest one that
    prefixes the IRI (`none` when there is none; `findSub = none` means `n0` is not in the trie). -/
def Statement_longest_in_histories : Prop :=
  ∀ (ops : List Op) (i : Bool) (n0 uri : Str),
    FInv ((St.init.run ops).mgr i).trie ∧
      (LongestSpec ((vals ((St.init.run ops).mgr i).trie).filter (fun w => decide (n0 <+: w ∧ n0 ≠ w))) uri
          ((findSub n0 ((St.init.run ops).mgr i).trie).bind (getLongest uri)) ∨
        findSub n0 ((St.init.run ops).mgr i).trie = none)

/-- `insert_trie` keeps the trie well formed (below a node every value strictly extends its key;
    siblings are never prefixes of one another) and adds exactly the inserted value. -/
def Statement_trie_inv_insert : Prop :=
  ∀ (f : Forest) (v : Str), FInv f →
    FInv (insertForest f v) ∧ ∀ w, w ∈ vals (insertForest f v) ↔ w = v ∨ w ∈ vals f

/-- After any history: the loop of `compute_qname` that looks for an unused `ns<k>` stops within
    `len(bindings)+1` rounds, and the prefix it picks is unbound or bound to the empty namespace
    (the code tests truthiness: `if not self.store.namespace(prefix)`).  Likewise the
    `<prefix><k>` loop of `bind`.  (That the namespace then really has the generated prefix is part
    of `qname_bound_and_expands`.) -/
def Statement_generated_prefix_fresh : Prop :=
  ∀ (ops : List Op),
    (∃ p, pickNs (St.init.run ops).store ((St.init.run ops).store.ns.length + 1) 1 = some p) ∧
    (∀ fuel num p, pickNs (St.init.run ops).store fuel num = some p →
        (St.init.run ops).store.namespace p = none ∨ (St.init.run ops).store.namespace p = some []) ∧
    (∀ base n, (pickNumbered (St.init.run ops).store base n ((St.init.run ops).store.ns.length + 1) 1).isLoop = false) ∧
    (∀ base n fuel num p, pickNumbered (St.init.run ops).store base n fuel num = .fresh p →
        (St.init.run ops).store.namespace p = none ∨ (St.init.run ops).store.namespace p = some [])

/-- The prefix table of one Turtle / N3 / longturtle document (`addNamespace`, which renames
    `_…` prefixes and prefixes already taken in the document to `p…`): after any history, for any
    sequence of nodes the serializer meets, every prefixed name `d:l` it produces for an IRI `u`
    expands through the document's own final `@prefix` table back to `u` — the table gives `d`
    exactly one namespace `n` (it is a dict) and `n ++ l = u`. -/
def Statement_document_names_expand : Prop :=
  ∀ (ops : List Op) (i fb : Bool) (qs : List (Str × Bool)) (d : Doc) (names : List (Str × Str × Str)),
    (serDoc fb qs (St.init.run ops).store ((St.init.run ops).mgr i) Doc.empty []).2.2 = .ok (d, names) →
      ∀ u dp l, (u, dp, l) ∈ names → ∃ n, alookup d.table dp = some n ∧ n ++ l = u

/-- The same for a TriG document of a dataset: ONE prefix table, but the contexts (graphs) are walked one
    after the other, each through its own graph object and therefore its own manager (`i`: the named graphs
    of a `Dataset` share the dataset's manager, the default graph has its own) on the common store; a prefix
    bound or generated while one context is written is seen by the next.  After any history, for any list
    of contexts (manager, graph name and nodes): every prefixed name `d:l` produced for an IRI `u` expands
    through the document's final `@prefix` table back to `u`. -/
def Statement_trig_names_expand : Prop :=
  ∀ (ops : List Op) (fb : Bool) (cs : List (Bool × List (Str × Bool))) (d : Doc) (names : List (Str × Str × Str)),
    (serTrig fb cs (St.init.run ops) Doc.empty []).2 = .ok (d, names) →
      ∀ u dp l, (u, dp, l) ∈ names → ∃ n, alookup d.table dp = some n ∧ n ++ l = u

/-- The RDF/XML document (`XMLSerializer`): after any history, for the set of predicates `preds` of a graph
    and the predicates `stmts` of the statements written (each of them one of `preds`): every element name —
    `showQname (p, n, l)`, i.e. `p:l`, or the bare `l` under the default `xmlns=` — expands through the
    document's own `xmlns` table `t` (built by `__bindings` BEFORE the statements are written, from separate
    `compute_qname_strict` calls) back to the predicate: `t[p] = n` and `n ++ l = u`. -/
def Statement_xml_names_expand : Prop :=
  ∀ (ops : List Op) (i : Bool) (preds stmts : List Str) (t : List (Str × Str)) (names : List (Str × QN)),
    (∀ u, u ∈ stmts → u ∈ preds) →
    (serXml preds stmts (St.init.run ops).store ((St.init.run ops).mgr i)).2.2 = .ok (t, names) →
      ∀ u p n l, (u, p, n, l) ∈ names → alookup t p = some n ∧ n ++ l = u

/-- No operation, in any state — hence after every history — answers `Loop`: the fuel the model
    gives to the three `while` loops always suffices.  Fuel as a function of the sizes: the `ns<k>` loop
    of `compute_qname` and the `<prefix><k>` loop of `bind` stop within `len(bindings) + 1` rounds, the
    `p…` renaming loop of the Turtle serializer within `len(document prefix table) + 1` rounds. -/
def Statement_no_loop : Prop :=
  (∀ (s : St) (op : Op), (s.step op).2 ≠ .err .Loop) ∧
  (∀ (ops : List Op) (op : Op), ((St.init.run ops).step op).2 ≠ .err .Loop) ∧
  (∀ st : Store, ∃ p, pickNs st (st.ns.length + 1) 1 = some p) ∧
  (∀ (st : Store) (base n : Str), (pickNumbered st base n (st.ns.length + 1) 1).isLoop = false) ∧
  (∀ (table : List (Str × Str)) (p : Str), ∃ q, freshP table (table.length + 1) p = some q)

/-- Exactly when `split_uri` succeeds, and with what (`SplitCases`, Notions.lean), for both
    start-category lists the code uses and every IRI outside the XML namespace: (1) only name
    characters → ValueError; (2) last non-name character, then name characters that cannot start a
    name, then a start character `c`, then name characters `r` to the end → `(…, c :: r)`, the
    longest all-name suffix that begins with a start character (for the strict list an NCName);
    (3) no start character after the last non-name character → the wrap-around of the inner loop:
    split before the first start character of the whole IRI, ValueError if that is position 0 or
    there is none.  The three cases are exhaustive. -/
def Statement_split_uri_complete : Prop :=
  StartsOK splitStartCats ∧ StartsOK nameStartCats ∧
  (∀ (starts : List Nat), StartsOK starts → ∀ uri : Str, xmlns.isPrefixOf uri = false → SplitCases starts uri) ∧
  (∀ (c : Nat) (r : Str), startChar nameStartCats c = true → restNc r = true → isNcname (c :: r) = true)

/-- After every history, `qname(u)` (likewise every `compute_qname(u, generate=True)`) fails only
    with ValueError and only if `u` has a forbidden character or `split_uri(u)` raises and `u` is not
    itself a namespace bound to a non-empty prefix. -/
def Statement_qname_fails_only_unsplittable : Prop :=
  ∀ (ops : List Op) (i : Bool) (u : Str) (e : Err),
    ((St.init.run ops).step (.qname i u)).2 = .err e →
      e = .ValueError ∧ (validUri u = false ∨
        (splitUri splitStartCats u = none ∧
          ((St.init.run ops).store.prefix u = none ∨ (St.init.run ops).store.prefix u = some [])))

/-- The same for `qname_strict(u)` (every `compute_qname_strict(u, generate=True)`, the call the RDF/XML
    serializers make for every predicate): after every history it fails only with ValueError, and only if `u`
    has a forbidden character, or `split_uri(u)` raises (and `u` is not itself a namespace bound to a non-empty
    prefix), or the strict split `split_uri(u, NAME_START_CATEGORIES)` raises. -/
def Statement_qname_strict_fails_only : Prop :=
  ∀ (ops : List Op) (i : Bool) (u : Str) (e : Err),
    ((St.init.run ops).step (.qstrict i u)).2 = .err e →
      e = .ValueError ∧ (validUri u = false ∨
        (splitUri splitStartCats u = none ∧
          ((St.init.run ops).store.prefix u = none ∨ (St.init.run ops).store.prefix u = some [])) ∨
        splitUri nameStartCats u = none)

/-- `unicodedata.category` for ALL of Unicode.  The model's `category` (a descent in the generated search
    tree `Tables.catTree`) equals, for every natural number, the linear reading `categorySpec` of the flat
    table `Tables.catRuns` generated from the running Python's `unicodedata` (first code point and category
    of every run); that table starts at code point 0 and consists of maximal runs in strictly increasing
    order; every code point below `catLimit` = 0x110000 has one of the `catNames` (never `catUnknown`). -/
def Statement_category_table : Prop :=
  (∀ c, category c = categorySpec c) ∧ (∀ c, c < catLimit → category c < catUnknown) ∧
  runsCanonical catRuns = true ∧ (catRuns.head?.map Prod.fst) = some 0 ∧ catNames.length = catUnknown

theorem category_table : Statement_category_table :=
  ⟨category_eq_spec, category_known, catRuns_canonical, by decide +kernel, by decide⟩

theorem bind_bijective : Statement_bind_bijective :=
  fun ops => (HInv.hist ops).store.bij

theorem bind_never_raises : Statement_bind_never_raises :=
  fun ops p n ov => Store.bind_isSome (HInv.hist ops).store p n ov

theorem qname_bound_and_expands : Statement_qname_bound_and_expands := by
  intro ops i u g
  have h := HInv.hist ops
  have hc := (h.mgr i).cache
  have hs := (h.mgr i).scache
  exact ⟨fun p n l e => (computeQname_all u g hc hs).sound h i (outQN_qn e),
    fun p n l e => (computeQnameStrict_all u g hc hs).sound h i (outQN_qn e), step_curie_sound h i u g,
    step_qname_sound h i u, fun c e => outStr_sound h i (computeQnameStrict_all u true hc hs) e,
    step_n3_sound h i u⟩

theorem expand_inverse : Statement_expand_inverse := by
  intro ops i u g c e
  obtain ⟨p, n, l, hc, hs⟩ := step_curie_sound (HInv.hist ops) i u g c e
  exact ⟨p, l, hc, fun hp => hc ▸ expand_of_sound hs hp⟩

theorem split_spec : Statement_split_spec :=
  fun _ _ _ _ h => splitUri_spec h

theorem document_names_expand : Statement_document_names_expand := by
  intro ops i fb qs d names h
  exact (serDoc_does fb qs _ _ Doc.empty []).2 ((MInv.hist ops).mgr i) (namesOK_nil _) d names h

theorem trig_names_expand : Statement_trig_names_expand := by
  intro ops fb cs d names h
  exact (serTrig_does fb cs _ Doc.empty []).2.2 (MInv.hist ops) (namesOK_nil _) d names h

/-- `Statement_xml_names_expand` for every history after which no prefix is bound to the empty namespace
    `URIRef("")` (decidable: `emptyNsUnbound`).  Then bindings only grow while the document is made (`Keep`: a
    generated `ns<k>` is a new key), every answer of the first pass stays memoised and valid, and the second pass
    has the same memos.  (With `ns1` bound to `""` a generated `ns1` would unbind `""`; no strict answer can have the empty
    namespace, so the full statement is believed true as well — not proved, no counterexample.) -/
theorem xml_names_expand_partial :
    ∀ (ops : List Op) (i : Bool) (preds stmts : List Str) (t : List (Str × Str)) (names : List (Str × QN)),
      emptyNsUnbound (St.init.run ops).store = true →
      (∀ u, u ∈ stmts → u ∈ preds) →
      (serXml preds stmts (St.init.run ops).store ((St.init.run ops).mgr i)).2.2 = .ok (t, names) →
        ∀ u p n l, (u, p, n, l) ∈ names → alookup t p = some n ∧ n ++ l = u := by
  intro ops i preds stmts t names hne hsub h
  have hi := HInv.hist ops
  exact serXml_names hi.store (noEmpty_of_check hne) (hi.mgr i).trie (hi.mgr i).cache (hi.mgr i).scache
    preds stmts hsub t names h

theorem no_loop : Statement_no_loop :=
  ⟨fun s op => (St.step_does s op).2, fun _ op => (St.step_does _ op).2, pickNs_terminates,
    pickNumbered_terminates, freshP_terminates⟩

theorem split_uri_complete : Statement_split_uri_complete :=
  ⟨startsOK_split, startsOK_strict, fun _ hs uri hx => splitUri_complete hs uri hx,
    fun _ _ hc hr => isNcname_of_strict hc hr⟩

theorem qname_fails_only_unsplittable : Statement_qname_fails_only_unsplittable :=
  fun ops i u e h => step_qname_error (HInv.hist ops) i u e h

theorem qname_strict_fails_only : Statement_qname_strict_fails_only :=
  fun ops i u e h => step_qstrict_error (HInv.hist ops) i u e h

theorem longest_is_longest : Statement_longest_is_longest := fun known v =>
  let ⟨h1, h2⟩ := build_spec known [] finv_nil
  (getLongest_spec v _ h1).congr fun w => by simp [h2 w, vals]

theorem longest_in_histories : Statement_longest_in_histories := by
  intro ops i n0 uri
  have h := ((MInv.hist ops).mgr i).trie
  exact ⟨h, strieLongest_spec h n0 uri⟩

theorem trie_inv_insert : Statement_trie_inv_insert := fun _ v h => insertForest_spec h v

theorem generated_prefix_fresh : Statement_generated_prefix_fresh := by
  intro ops
  exact ⟨pickNs_terminates _, fun f k p h => falsy_cases (pickNs_falsy _ f k p h),
    fun base n => pickNumbered_terminates _ base n,
    fun base n f k p h => falsy_cases ((pickNumbered_spec _ base n f k).1 p h)⟩

/-! ### Non-vacuity and regression witnesses (concrete histories, by evaluation) -/

def sA : Str := [97]                                   -- "a"
def sB : Str := [98]                                   -- "b"
def nsE : Str := [104, 116, 116, 112, 58, 47, 47, 101, 47]          -- "http://e/"
def nsEa : Str := nsE ++ [97, 47]                      -- "http://e/a/"
def iriX : Str := nsEa ++ [120]                        -- "http://e/a/x"

/-- qname, re-bind the namespace to another prefix, qname again: the answer follows the binding
    (on this history the pinned code answered `a:x` although `a` was no longer bound) -/
def exHist : List Op :=
  [.bind false (some sA) nsEa true false, .bind false none nsE true false, .qname false iriX,
   .bind false (some sB) nsEa true false]

example : (St.init.run exHist).store.namespaces = [([], nsE), (sB, nsEa)] := by decide +kernel
example : ((St.init.run (exHist.take 2)).step (.qname false iriX)).2 = .str (sA ++ [58, 120]) := by decide +kernel
example : ((St.init.run exHist).step (.qname false iriX)).2 = .str (sB ++ [58, 120]) := by decide +kernel
example : ((St.init.run exHist).step (.cq true iriX false)).2 = .qn sB nsEa [120] := by decide +kernel
/-- a prefix is generated for an unbound namespace, and it is bound afterwards -/
example : ((St.init.run exHist).step (.cq false (nsE ++ [98, 35, 99]) true)).2 = .qn [110, 115, 49] (nsE ++ [98, 35]) [99] ∧
    ((St.init.run exHist).step (.cq false (nsE ++ [98, 35, 99]) true)).1.store.namespace [110, 115, 49] = some (nsE ++ [98, 35]) := by
  decide +kernel

/-- the trie after binding nested namespaces in an unfavourable order, and its lookups -/
def exKnown : List Str := [nsEa, nsE ++ [98], nsE, nsEa ++ [98, 47]]
example : getLongest iriX (exKnown.foldl insertForest []) = some nsEa := by decide +kernel
example : getLongest (nsEa ++ [98, 47, 120]) (exKnown.foldl insertForest []) = some (nsEa ++ [98, 47]) := by decide +kernel
example : getLongest [117, 114, 110, 58] (exKnown.foldl insertForest []) = none := by decide +kernel
example : pickNs (St.init.run exHist).store 3 1 = some [110, 115, 49] := by decide +kernel

def sUv : Str := [95, 118]
def sPv : Str := [112, 95, 118]
def exCollide : List Op := [.bind false (some sUv) nsE true false, .bind false (some sPv) nsEa true false]
/- `_v` (renamed `p_v` in the document) together with a real `p_v` for another namespace, the `_v`
   term met first: the real `p_v` is written as `pp_v` and both names expand to their IRIs -/
example : ((St.init.run exCollide).step (.serdoc false true [(nsE ++ [115], false), (iriX, true)])).2 =
    .doc [(sPv, nsE), (112 :: sPv, nsEa)] := by decide +kernel
example : ((St.init.run exCollide).step (.serdoc false false [(iriX, true), (nsE ++ [115], false)])).2 =
    .doc [(sPv, nsEa), (112 :: sPv, nsE)] := by decide +kernel

/-- categories of a few code points of different planes (é Ll, 中 Lo, U+1D7D8 𝟘 Nd, U+E0001 Cf, U+10FFFF Cn) -/
example : (category 233, category 20013, category 120792, category 917505, category 1114111, category 1114112) =
    (catNames.idxOf "Ll", catNames.idxOf "Lo", catNames.idxOf "Nd", catNames.idxOf "Cf", catNames.idxOf "Cn", catUnknown) := by
  decide +kernel

/-- TriG: the named graph is written through manager 0, the default graph through manager 1, into one prefix
    table: the `_v` prefix (renamed `p_v`) met in the first context and the real `p_v` met in the second
    collide across contexts and are kept apart (`p_v`, `pp_v`) -/
example : ((St.init.run exCollide).step (.sertrig true
      [(false, [(nsE ++ [103], false), (nsE ++ [115], false)]), (true, [(iriX, true)])])).2 =
    .doc [(sPv, nsE), (112 :: sPv, nsEa)] := by decide +kernel
/-- RDF/XML: the `xmlns` table of a graph with the predicates `http://e/a/x` (prefix `b`) and `http://e/1a`
    (the strict split generates `ns1` for `http://e/1`), and the generated prefix is bound afterwards -/
example : ((St.init.run exHist).step (.serxml false [iriX, nsE ++ [49, 97]] [iriX, nsE ++ [49, 97]])).2 =
      .doc [(sB, nsEa), ([110, 115, 49], nsE ++ [49]), (strRdf, rdfNs),
            (33 :: sB ++ [58, 120], iriX), ([33, 110, 115, 49, 58, 97], nsE ++ [49, 97])] ∧
    emptyNsUnbound (St.init.run exHist).store = true ∧
    ((St.init.run exHist).step (.serxml false [iriX, nsE ++ [49, 97]] [iriX, nsE ++ [49, 97]])).1.store.namespace [110, 115, 49] =
      some (nsE ++ [49]) := by decide +kernel

/-- `bind_namespaces="cc"` raises NotImplementedError, an unknown mode ValueError; nothing is bound -/
example : (St.init.step (.minit false .cc)).2 = .err .Other ∧ (St.init.step (.minit true .unknown)).2 = .err .ValueError ∧
    (St.init.step (.minit false .cc)).1.store.namespaces = [] := by decide +kernel

/-- `split_uri` on the three shapes: a hyphen before the name is left in the namespace; "abc" raises;
    slash-ab-slash-hyphen wraps round and splits after the first slash; an IRI ending in slash-hyphen
    raises (its first character is a start character) -/
example : splitUri splitStartCats (nsEa ++ [45, 100]) = some (nsEa ++ [45], [100]) := by decide +kernel
example : splitUri splitStartCats [97, 98, 99] = none := by decide +kernel
example : splitUri splitStartCats [47, 97, 98, 47, 45] = some ([47], [97, 98, 47, 45]) := by decide +kernel
example : splitUri splitStartCats (nsE ++ [45]) = none := by decide +kernel
example : ((St.init.run exHist).step (.qname false (nsE ++ [45]))).2 = .err .ValueError := by decide +kernel
/-- `http://e/1`: the default split gives the local name `1`, which is not an NCName, and the strict split
    finds no name-start character after the last slash: `qname` answers, `qname_strict` raises ValueError -/
example : ((St.init.run exHist).step (.qname false (nsE ++ [49]))).2 = .str [49] ∧
    ((St.init.run exHist).step (.qstrict false (nsE ++ [49]))).2 = .err .ValueError := by decide +kernel

/-- The non-override branch of `Memory.bind` as it was before the `fix:` commit: with `p → n1`,
    `q → n2`, `bind(p, n2, override=False)` left a listing that is not a bijection. -/
theorem old_nonoverride_bind_breaks_bijection :
    ¬ Bij ((Store.mk [(nsE, sA), (nsEa, sB)] [(sA, nsE), (sB, nsEa)]).bindOld sA nsEa) := by
  intro h
  have := h.namespace_once
  revert this
  decide +kernel

/-- a prefix containing a colon cannot be expanded back (`expand_curie` splits at the first colon):
    the reason for the hypothesis of `expand_inverse` -/
theorem colon_prefix_not_expandable :
    let s := (St.init.step (.bind false (some [97, 58, 98]) nsE true false)).1
    (s.step (.curie false (nsE ++ [120]) true)).2 = .str [97, 58, 98, 58, 120] ∧
      expandCurie (s.step (.curie false (nsE ++ [120]) true)).1.store [97, 58, 98, 58, 120] = .err .ValueError := by
  decide +kernel

end RV.C17

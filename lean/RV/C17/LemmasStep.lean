import RV.C17.LemmasMgr
/-
  C17 — the parser / serializer glue, summarised like the manager functions (`…_does`); one step of a history in
  any state (`St.step_does`); the history invariant `HInv` and what it gives for the answers of the qname
  operations; which exceptions a qname operation can raise.
-/
namespace RV.C17
open RV.C17.Tables

variable {s : St} {st : Store} {m : Mgr}

theorem MLe.reset (m : Mgr) (st : Store) : MLe m (Mgr.reset st m) := by
  refine ⟨fun _ => cacheOK_nil, id, fun _ => ?_⟩
  have := (build_spec (st.namespaces.map Prod.snd) [] finv_nil).1
  rw [List.foldl_map] at this
  exact this

theorem bindAll_does (ov : Bool) : ∀ (d : List (Option Str × Str)) (st : Store) (m : Mgr),
    MRes st m (bindAll ov d st m) (.err .Loop)
  | [], _, _ => ⟨.refl _, .refl _, nofun⟩
  | (p, n) :: r, st, m => by
    have hb := Mgr.bind_does st m p n ov false
    simp only [bindAll]
    split
    · next e he => exact ⟨hb.reach, hb.mgr, fun c => hb.noloop (he.trans c)⟩
    · exact hb.trans (bindAll_does ov r _ _)

theorem Mgr.init_does (st : Store) (b : BindSet) : MRes st Mgr.empty (Mgr.init st b) (.err .Loop) := by
  cases b with
  | core => exact bindAll_does false _ st Mgr.empty
  | rdflib => exact bindAll_does false _ st Mgr.empty
  | _ => exact ⟨.refl _, .refl _, nofun⟩

theorem getQNames_does : ∀ (d : List (Str × Bool)) (st : Store) (m : Mgr),
    Reach st (getQNames d st m).1 ∧ MLe m (getQNames d st m).2
  | [], _, _ => ⟨.refl _, .refl _⟩
  | (u, g) :: r, st, m =>
    have h0 := computeQname_does st m u g
    have ih := getQNames_does r (Mgr.computeQname st m u g).1 (Mgr.computeQname st m u g).2.1
    ⟨h0.reach.trans ih.1, h0.mgr.trans ih.2⟩

theorem Doc.addNamespace_spec (d : Doc) (p n : Str) : d.addNamespace p n ≠ .error .Loop ∧
    ∀ d' q, d.addNamespace p n = .ok (d', q) →
      alookup d'.table q = some n ∧ ∀ x v, alookup d.table x = some v → alookup d'.table x = some v := by
  generalize hr : d.addNamespace p n = r
  unfold Doc.addNamespace at hr
  simp only at hr
  split at hr
  · next hrw =>
    split at hrw
    · split at hrw
      · exact nomatch hrw
      · split at hrw
        · exact nomatch hrw
        · next hf =>
          obtain ⟨q, hq⟩ := freshP_terminates d.table (112 :: p)
          rw [hq] at hf; exact nomatch hf
    · exact nomatch hrw
  · next rwt q' _ =>
    split at hr
    · next n' hn' =>
      split at hr
      · subst hr; exact ⟨nofun, nofun⟩
      · next hne =>
        subst hr
        -- the only key written is `q'`, which held `n` already (or, below, nothing): older entries survive
        refine ⟨nofun, fun d' q h => ?_⟩
        cases h
        exact ⟨by simp, fun x v => aset_keeps fun n'' e => by rw [hn'] at e; cases e; simpa using hne⟩
    · next hnone =>
      subst hr
      refine ⟨nofun, fun d' q h => ?_⟩
      cases h
      exact ⟨by simp, fun x v => aset_keeps fun n'' e => by rw [hnone] at e; cases e⟩

/-- every name `dp:l` written so far expands, through the document's table, to its IRI -/
def NamesOK (d : Doc) (acc : List (Str × Str × Str)) : Prop :=
  ∀ u dp l, (u, dp, l) ∈ acc → ∃ n, alookup d.table dp = some n ∧ n ++ l = u

theorem namesOK_nil (d : Doc) : NamesOK d [] := fun _ _ _ h => nomatch h

theorem docGetQName_does (st : Store) (m : Mgr) {d : Doc} {acc : List (Str × Str × Str)} (u : Str) (g fb : Bool) :
    MRes st m (docGetQName st m d u g fb) (.error .Loop) ∧
      (MOK m → NamesOK d acc → ∀ d' res, (docGetQName st m d u g fb).2.2 = .ok (d', res) →
        NamesOK d' acc ∧ ∀ dp l, res = some (dp, l) → ∃ n, alookup d'.table dp = some n ∧ n ++ l = u) := by
  have h0 := computeQname_does st m u g
  generalize hr : docGetQName st m d u g fb = r
  unfold docGetQName at hr
  simp only at hr
  split at hr
  · subst hr
    refine ⟨⟨h0.reach, h0.mgr, nofun⟩, fun _ ha d' res e => ?_⟩
    cases e
    exact ⟨ha, nofun⟩
  · next p n l hparts =>
    have hnl : MOK m → n ++ l = u := by
      intro a
      split at hparts
      · next q hq => cases hparts; exact (h0.ok a.cache a.scache _ _ _ hq).2
      · split at hparts
        · cases hparts; exact List.append_nil _
        · exact nomatch hparts
    obtain ⟨a0, a⟩ := Doc.addNamespace_spec d p n
    split at hr
    · next d2 q hadd =>
      subst hr
      refine ⟨⟨h0.reach, h0.mgr, nofun⟩, fun hm ha d' res e => ?_⟩
      injection e with e; injection e with e1 e2; subst e1
      obtain ⟨a1, a2⟩ := a _ _ hadd
      refine ⟨fun u' dp' l' hm' => ?_, fun dp l' e => ?_⟩
      · obtain ⟨n', hn', e'⟩ := ha u' dp' l' hm'
        exact ⟨n', a2 _ _ hn', e'⟩
      · rw [← e2] at e
        split at e
        · exact nomatch e
        · cases e
          exact ⟨n, a1, hnl hm⟩
    · next e he =>
      subst hr
      exact ⟨⟨h0.reach, h0.mgr, fun c => a0 (Except.error.inj c ▸ he)⟩, fun _ _ _ _ e => nomatch e⟩

theorem serDoc_does (fb : Bool) : ∀ (qs : List (Str × Bool)) (st : Store) (m : Mgr) (d : Doc)
    (acc : List (Str × Str × Str)),
    MRes st m (serDoc fb qs st m d acc) (.error .Loop) ∧
      (MOK m → NamesOK d acc → ∀ d' res, (serDoc fb qs st m d acc).2.2 = .ok (d', res) → NamesOK d' res)
  | [], st, m, d, acc => by
    refine ⟨⟨.refl _, .refl _, nofun⟩, fun _ ha d' res e => ?_⟩
    simp only [serDoc] at e
    cases e; exact ha
  | (u, g) :: r, st, m, d, acc => by
    obtain ⟨hm, hn⟩ := docGetQName_does st m (d := d) (acc := acc) u g fb
    simp only [serDoc]
    split
    · next e he => exact ⟨hm.raise he, fun _ _ _ _ e => nomatch e⟩
    · next d2 hq =>
      have ih := serDoc_does fb r (docGetQName st m d u g fb).1 (docGetQName st m d u g fb).2.1 d2 acc
      exact ⟨hm.trans ih.1, fun h ha => ih.2 (hm.mgr.mok h) (hn h ha _ _ hq).1⟩
    · next d2 dp l hq =>
      have ih := serDoc_does fb r (docGetQName st m d u g fb).1 (docGetQName st m d u g fb).2.1 d2 (acc ++ [(u, dp, l)])
      refine ⟨hm.trans ih.1, fun h ha => ih.2 (hm.mgr.mok h) fun u' dp' l' hm' => ?_⟩
      obtain ⟨n1, n2⟩ := hn h ha _ _ hq
      rcases List.mem_append.1 hm' with e | e
      · exact n1 u' dp' l' e
      · cases List.mem_singleton.1 e
        exact n2 _ _ rfl

theorem strictSeq_does : ∀ (us : List Str) (st : Store) (m : Mgr) (acc : List (Str × QN)),
    MRes st m (strictSeq us st m acc) (.error .Loop)
  | [], _, _, _ => ⟨.refl _, .refl _, nofun⟩
  | u :: r, st, m, acc => by
    have h0 := (computeQnameStrict_does st m u true).toMRes
    simp only [strictSeq]
    split
    · next e he => exact h0.raise he
    · exact h0.trans (strictSeq_does r _ _ _)

theorem serXml_does (preds stmts : List Str) (st : Store) (m : Mgr) :
    MRes st m (serXml preds stmts st m) (.error .Loop) := by
  have h1 := strictSeq_does preds st m []
  have h2 := h1.trans (strictSeq_does stmts (strictSeq preds st m []).1 (strictSeq preds st m []).2.1 [])
  unfold serXml
  simp only
  split
  · next e he => exact h1.raise he
  · split
    · exact ⟨h1.reach, h1.mgr, nofun⟩
    · split
      · next e he => exact h2.raise he
      · exact ⟨h2.reach, h2.mgr, nofun⟩

/-- the managers' half of the history invariant (it does not need the store's) -/
structure MInv (s : St) : Prop where
  m0 : MOK s.m0
  m1 : MOK s.m1

theorem MInv.mgr (h : MInv s) (i : Bool) : MOK (s.mgr i) := by
  cases i
  · exact h.m0
  · exact h.m1

/-- the summary of steps on a state -/
structure SRes (s s' : St) : Prop where
  reach : Reach s.store s'.store
  minv : MInv s → MInv s'

theorem SRes.refl (s : St) : SRes s s := ⟨.refl _, id⟩

theorem SRes.trans {a b c : St} (h1 : SRes a b) (h2 : SRes b c) : SRes a c :=
  ⟨h1.reach.trans h2.reach, h2.minv ∘ h1.minv⟩

theorem SRes.put (i : Bool) {r : Store × Mgr} (hr : Reach s.store r.1) (hm : MOK (s.mgr i) → MOK r.2) :
    SRes s (s.put i r) := by
  cases i
  · exact ⟨hr, fun h => ⟨hm h.m0, h.m1⟩⟩
  · exact ⟨hr, fun h => ⟨h.m0, hm h.m1⟩⟩

theorem MRes.put {α : Type} (i : Bool) {r : Store × Mgr × α} {l : α} (hr : MRes s.store (s.mgr i) r l) :
    SRes s (s.put i (r.1, r.2.1)) := .put i hr.reach hr.mgr.mok

theorem serTrig_does (fb : Bool) : ∀ (cs : List (Bool × List (Str × Bool))) (s : St) (d : Doc)
    (acc : List (Str × Str × Str)),
    SRes s (serTrig fb cs s d acc).1 ∧ (serTrig fb cs s d acc).2 ≠ .error .Loop ∧
      (MInv s → NamesOK d acc → ∀ d' res, (serTrig fb cs s d acc).2 = .ok (d', res) → NamesOK d' res)
  | [], s, d, acc => by
    refine ⟨.refl s, nofun, fun _ ha d' res e => ?_⟩
    simp only [serTrig] at e
    cases e; exact ha
  | (i, qs) :: r, s, d, acc => by
    obtain ⟨hd, hn⟩ := serDoc_does fb qs s.store (s.mgr i) d acc
    simp only [serTrig]
    split
    · next e he => exact ⟨hd.put i, (hd.raise he).noloop, fun _ _ _ _ e => nomatch e⟩
    · next d2 acc2 hq =>
      obtain ⟨i1, i2, i3⟩ := serTrig_does fb r (s.put i ((serDoc fb qs s.store (s.mgr i) d acc).1,
        (serDoc fb qs s.store (s.mgr i) d acc).2.1)) d2 acc2
      exact ⟨(hd.put i).trans i1, i2, fun h ha => i3 ((hd.put i).minv h) (hn (h.mgr i) ha d2 acc2 hq)⟩

theorem outQN_noloop {r : Except Err QN} (h : r ≠ .error .Loop) : outQN r ≠ .err .Loop := by
  cases r with
  | ok q => exact nofun
  | error e => exact fun c => h (Out.err.inj c ▸ rfl)

theorem outStr_err {f : QN → Str} {r : Except Err QN} {e : Err} (h : outStr f r = .err e) : r = .error e := by
  cases r with
  | ok q => simp [outStr] at h
  | error e' => simp only [outStr] at h; injection h with h; rw [h]

/-- One step, in any state: the summary of the call it makes, put back (`(s.step op).1` is by definition
    `s.put i (r.1, r.2.1)` for the call's result `r`); never `Loop`. -/
theorem St.step_does (s : St) (op : Op) : SRes s (s.step op).1 ∧ (s.step op).2 ≠ .err .Loop := by
  cases op with
  | minit i b =>
    have h := Mgr.init_does s.store b
    cases b with
    | cc => exact ⟨.refl s, nofun⟩
    | unknown => exact ⟨.refl s, nofun⟩
    | _ => exact ⟨.put i h.reach fun _ => h.mgr.mok MOK.empty, h.noloop⟩
  | bind i p n ov rp => exact ⟨(Mgr.bind_does _ _ p n ov rp).put i, (Mgr.bind_does _ _ p n ov rp).noloop⟩
  | sbind p n ov =>
    simp only [St.step]
    split
    · next st' e => exact ⟨⟨(Reach.refl _).step p n ov e, fun h => ⟨h.m0, h.m1⟩⟩, nofun⟩
    · exact ⟨.refl s, nofun⟩
  | cq i u g => exact ⟨(computeQname_does _ _ u g).put i, outQN_noloop (computeQname_does _ _ u g).noloop⟩
  | cqs i u g =>
    exact ⟨(computeQnameStrict_does _ _ u g).put i, outQN_noloop (computeQnameStrict_does _ _ u g).noloop⟩
  | qname i u => exact ⟨(computeQname_does _ _ u true).put i, fun c => (computeQname_does _ _ u true).noloop (outStr_err c)⟩
  | qstrict i u =>
    exact ⟨(computeQnameStrict_does _ _ u true).put i, fun c => (computeQnameStrict_does _ _ u true).noloop (outStr_err c)⟩
  | curie i u g => exact ⟨(computeQname_does _ _ u g).put i, fun c => (computeQname_does _ _ u g).noloop (outStr_err c)⟩
  | n3 i u => exact ⟨(normalizeUri_does _ _ u).1.put i, (normalizeUri_does _ _ u).1.noloop⟩
  | expand c =>
    refine ⟨.refl s, ?_⟩
    simp only [St.step, expandCurie]
    split
    · exact nofun
    · split <;> exact nofun
  | reset i => exact ⟨.put i (.refl _) (MLe.reset _ _).mok, nofun⟩
  | parse i d => exact ⟨(bindAll_does true _ _ _).put i, (bindAll_does true _ _ _).noloop⟩
  | parsexml i d => exact ⟨(bindAll_does false _ _ _).put i, (bindAll_does false _ _ _).noloop⟩
  | ser i a b c => exact ⟨.put i (getQNames_does _ _ _).1 (getQNames_does _ _ _).2.mok, nofun⟩
  | serxml i preds stmts =>
    have h := serXml_does preds stmts s.store (s.mgr i)
    refine ⟨h.put i, ?_⟩
    simp only [St.step]
    split
    · exact nofun
    · next e he => exact fun c => h.noloop (Out.err.inj c ▸ he)
  | serdoc i fb qs =>
    have h := (serDoc_does fb qs s.store (s.mgr i) Doc.empty []).1
    refine ⟨.put i h.reach (h.mgr.trans (.reset _ _)).mok, ?_⟩
    simp only [St.step]
    split
    · exact nofun
    · next e he => exact fun c => h.noloop (Out.err.inj c ▸ he)
  | sertrig fb cs =>
    obtain ⟨h1, h2, _⟩ := serTrig_does fb cs s Doc.empty []
    refine ⟨⟨h1.reach, fun h => ⟨(MLe.reset _ _).mok (h1.minv h).m0, (MLe.reset _ _).mok (h1.minv h).m1⟩⟩, ?_⟩
    simp only [St.step]
    split
    · exact nofun
    · next e he => exact fun c => h2 (Out.err.inj c ▸ he)

theorem St.run_does (ops : List Op) : ∀ s : St, SRes s (s.run ops) := by
  induction ops with
  | nil => exact .refl
  | cons o r ih => exact fun s => (St.step_does s o).1.trans (ih _)

theorem MInv.hist (ops : List Op) : MInv (St.init.run ops) := (St.run_does ops _).minv ⟨MOK.empty, MOK.empty⟩

/-- the history invariant; its store half makes every answer of a qname operation `Sound` -/
structure HInv (s : St) : Prop where
  store : s.store.Inv
  mgrs : MInv s

theorem HInv.mgr (h : HInv s) (i : Bool) : MOK (s.mgr i) := h.mgrs.mgr i

theorem HInv.hist (ops : List Op) : HInv (St.init.run ops) :=
  ⟨(St.run_does ops _).reach.inv Store.inv_empty, MInv.hist ops⟩

theorem outQN_qn {r : Except Err QN} {p n l : Str} (h : outQN r = .qn p n l) : r = .ok (p, n, l) := by
  cases r with
  | error e => simp [outQN] at h
  | ok q => obtain ⟨a, b, c⟩ := q; simp only [outQN] at h; cases h; rfl

theorem outStr_str {f : QN → Str} {r : Except Err QN} {c : Str} (h : outStr f r = .str c) :
    ∃ q, r = .ok q ∧ c = f q := by
  cases r with
  | error e => simp [outStr] at h
  | ok q => simp only [outStr] at h; injection h with h; exact ⟨q, rfl, h.symm⟩

theorem St.put_store (s : St) (i : Bool) (r : Store × Mgr) : (s.put i r).store = r.1 := by
  cases i <;> rfl

theorem Sound.of_prefix {s : Store} (hi : s.Inv) {u p n l : Str} (h : s.prefix n = some p ∧ n ++ l = u) :
    Sound s u p n l := ⟨(hi.inverse p n).2 h.1, h.1, h.2⟩

theorem QRes.sound (h : HInv s) (i : Bool) {u : Str} {r : Store × Mgr × Except Err QN}
    (hr : QRes s.store u r) {p n l : Str} (e : r.2.2 = .ok (p, n, l)) :
    Sound (s.put i (r.1, r.2.1)).store u p n l := by
  rw [St.put_store]
  exact Sound.of_prefix (hr.reach.inv h.store) (hr.ok _ _ _ e)

theorem outStr_sound (h : HInv s) (i : Bool) {u : Str} {r : Store × Mgr × Except Err QN} (hr : QRes s.store u r)
    {f : QN → Str} {c : Str} (e : outStr f r.2.2 = .str c) :
    ∃ p n l, c = f (p, n, l) ∧ Sound (s.put i (r.1, r.2.1)).store u p n l :=
  let ⟨⟨p, n, l⟩, hq, hc⟩ := outStr_str e
  ⟨p, n, l, hc, hr.sound h i hq⟩

theorem step_curie_sound (h : HInv s) (i : Bool) (u : Str) (g : Bool) (c : Str)
    (e : (s.step (.curie i u g)).2 = .str c) :
    ∃ p n l, c = joinQ p l ∧ Sound (s.step (.curie i u g)).1.store u p n l :=
  outStr_sound h i (computeQname_all u g (h.mgr i).cache (h.mgr i).scache) e

theorem step_qname_sound (h : HInv s) (i : Bool) (u : Str) (c : Str)
    (e : (s.step (.qname i u)).2 = .str c) :
    ∃ p n l, c = showQname (p, n, l) ∧ Sound (s.step (.qname i u)).1.store u p n l :=
  outStr_sound h i (computeQname_all u true (h.mgr i).cache (h.mgr i).scache) e

theorem step_n3_sound (h : HInv s) (i : Bool) (u : Str) (c : Str)
    (e : (s.step (.n3 i u)).2 = .str c) :
    c = 60 :: u ++ [62] ∨ ∃ p n l, c = joinQ p l ∧ Sound (s.step (.n3 i u)).1.store u p n l := by
  obtain ⟨hr, hs⟩ := normalizeUri_does s.store (s.mgr i) u
  refine (hs (h.mgr i).cache (h.mgr i).scache c e).imp_right fun ⟨p, n, l, hc, hp⟩ => ⟨p, n, l, hc, ?_⟩
  exact (St.put_store s i _).symm ▸ Sound.of_prefix (hr.reach.inv h.store) hp

theorem splitColon_join {p l : Str} (h : ¬ 58 ∈ p) : splitColon (joinQ p l) = some (p, l) := by
  induction p with
  | nil => simp [joinQ, splitColon]
  | cons c r ih =>
    have hc : c ≠ 58 := fun e => h (e ▸ List.mem_cons_self)
    have hr : ¬ 58 ∈ r := fun e => h (List.mem_cons_of_mem _ e)
    have := ih hr
    simp only [joinQ, List.cons_append] at this ⊢
    simp only [splitColon, hc, if_false, this]

theorem expand_of_sound {s : Store} {u p n l : Str} (h : Sound s u p n l) (hp : ¬ 58 ∈ p) :
    expandCurie s (joinQ p l) = .str u := by
  unfold expandCurie
  rw [splitColon_join hp]
  simp only [h.1, h.2.2]

variable {u : Str} {g : Bool} {e : Err} {sp : Option (Str × Str)} {rf : Forest → Str → Str → Str × Str}

theorem lookupOrGenerate_error {n name : Str} (h : (lookupOrGenerate st m n name g).2.2 = .error e) :
    e = .KeyError ∧ (g = true → ∃ p, st.bind p n true = none) := by
  rcases lookupOrGenerate_cases st m n name g with ⟨_, _, c⟩ | ⟨_, c, hg⟩ | ⟨_, _, _, _, _, c⟩
  · rw [c] at h; exact nomatch h
  · rw [c] at h; injection h with h; exact ⟨h.symm, hg⟩
  · rw [c] at h; exact nomatch h

theorem qcompute_error {s : Bool} (h : (qcompute s st m u g sp rf).2.2 = .error e) :
    (e = .ValueError ∧ sp = none) ∨ (e = .KeyError ∧ (g = true → ∃ p n, st.bind p n true = none)) := by
  unfold qcompute at h
  simp only at h
  split at h
  · exact nomatch h
  · split at h
    · injection h with h; exact Or.inl ⟨h.symm, rfl⟩
    · split at h
      · exact nomatch h
      · next e' he' =>
        cases h
        obtain ⟨a, b⟩ := lookupOrGenerate_error he'
        exact Or.inr ⟨a, fun hg => (b hg).elim fun p hp => ⟨p, _, hp⟩⟩

theorem computeQnameStrict_error (h : (Mgr.computeQnameStrict st m u g).2.2 = .error e) :
    (Mgr.computeQname st m u g).2.2 = .error e ∨
      (Mgr.strictTail (Mgr.computeQname st m u g).1 (Mgr.computeQname st m u g).2.1 u g).2.2 = .error e := by
  rcases computeQnameStrict_cases st m u g with ⟨c, _⟩ | ⟨_, _, _, c⟩ <;> rw [c] at h
  · exact .inl h
  · exact .inr h

theorem splitOrWhole_none (h : splitOrWhole st u = none) :
    splitUri splitStartCats u = none ∧ (st.prefix u = none ∨ st.prefix u = some []) := by
  unfold splitOrWhole at h
  split at h
  · exact nomatch h
  · next hs =>
    refine ⟨hs, ?_⟩
    split at h
    · next p hp =>
      split at h
      · next he => right; rw [hp]; cases p with
        | nil => rfl
        | cons a r => simp at he
      · exact nomatch h
    · next hp => exact Or.inl hp

theorem qcompute_error_gen {s : Bool} (hi : st.Inv) (h : (qcompute s st m u true sp rf).2.2 = .error e) :
    e = .ValueError ∧ sp = none := by
  rcases qcompute_error h with c | ⟨_, c⟩
  · exact c
  · obtain ⟨p, n, hb⟩ := c rfl
    exact nomatch hb ▸ Store.bind_isSome hi p n true

theorem computeQname_error (hi : st.Inv) (m : Mgr) (u : Str) (e : Err)
    (h : (Mgr.computeQname st m u true).2.2 = .error e) :
    e = .ValueError ∧ (validUri u = false ∨
      (splitUri splitStartCats u = none ∧ (st.prefix u = none ∨ st.prefix u = some []))) := by
  rw [computeQname_eq] at h
  obtain ⟨h1, h2⟩ := qcompute_error_gen hi h
  refine ⟨h1, ?_⟩
  split at h2
  · exact Or.inr (splitOrWhole_none h2)
  · next hv => exact Or.inl (by simpa using hv)

theorem step_qname_error {s : St} (hi : HInv s) (i : Bool) (u : Str) (e : Err)
    (h : (s.step (.qname i u)).2 = .err e) :
    e = .ValueError ∧ (validUri u = false ∨
      (splitUri splitStartCats u = none ∧ (s.store.prefix u = none ∨ s.store.prefix u = some []))) :=
  computeQname_error hi.store (s.mgr i) u e (outStr_err h)

theorem step_qstrict_error {s : St} (hi : HInv s) (i : Bool) (u : Str) (e : Err)
    (h : (s.step (.qstrict i u)).2 = .err e) :
    e = .ValueError ∧ (validUri u = false ∨
      (splitUri splitStartCats u = none ∧ (s.store.prefix u = none ∨ s.store.prefix u = some [])) ∨
      splitUri nameStartCats u = none) := by
  rcases computeQnameStrict_error (outStr_err h) with c | c
  · obtain ⟨a, b⟩ := computeQname_error hi.store (s.mgr i) u e c
    exact ⟨a, b.elim Or.inl (fun x => Or.inr (Or.inl x))⟩
  · rw [strictTail_eq] at c
    obtain ⟨a, b⟩ := qcompute_error_gen ((computeQname_does _ _ u true).reach.inv hi.store) c
    exact ⟨a, Or.inr (Or.inr b)⟩

end RV.C17

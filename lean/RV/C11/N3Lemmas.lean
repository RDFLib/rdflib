import RV.C11.N3
import RV.C11.Notions
/-
  C11 — the reader reads back what the writer wrote.

  `good`: for every path that is not `bad`, at each grammar level, the reader consumes exactly the text of the path and
  `translate` of the tree it builds is `norm p` (induction on the path).

  Fuel: PathAlternative → … → PathPrimary is five calls deep and a list spends one call per member: six calls per token
  suffice.  Invariants read `6 * |text| ≤ f → the level-k parser succeeds with fuel f + k`; arithmetic only where a text is split.
-/
namespace RV.C11

theorem wrap_iri (p : Term) : wrap (.iri p) = [.iri p] := rfl
theorem wrap_inv (x : Path) : wrap (.inv x) = .hat :: wrap x := rfl
theorem wrap_mul (x : Path) (m : Mod) : wrap (.mul x m) = wrap x ++ [.mod m] := rfl
theorem wrap_neg (fw bw : List Term) : wrap (.neg fw bw) = n3 (.neg fw bw) := rfl
theorem wrap_seq1 (a : Path) : wrap (.seq a []) = wrap a := List.append_nil _
theorem wrap_alt1 (a : Path) : wrap (.alt [a]) = wrap a := List.append_nil _
theorem n3_seq (a : Path) (as : List Path) : n3 (.seq a as) = wrap a ++ n3Rest .slash as := rfl
theorem n3_alt (a : Path) (as : List Path) : n3 (.alt (a :: as)) = wrap a ++ n3Rest .bar as := rfl
theorem wrap_seq2 (a b : Path) (bs : List Path) : wrap (.seq a (b :: bs)) = .lp :: n3 (.seq a (b :: bs)) ++ [.rp] := rfl
theorem wrap_alt2 (a b : Path) (cs : List Path) :
    wrap (.alt (a :: b :: cs)) = .lp :: n3 (.alt (a :: b :: cs)) ++ [.rp] := rfl
theorem n3_of_not_paren {p : Path} (h : needsParen p = false) : n3 p = wrap p := by rw [wrap, h]; rfl
theorem n3Rest_cons (sep : Tok) (p : Path) (ps : List Path) :
    n3Rest sep (p :: ps) = sep :: (wrap p ++ n3Rest sep ps) := rfl

/-- follow conditions: what comes next is not a modifier / not `sep`, so a greedy parser stops -/
def NoMod (ts : List Tok) : Prop := ∀ m r, ts ≠ .mod m :: r
def NoTok (sep : Tok) (ts : List Tok) : Prop := ∀ r, ts ≠ sep :: r

/-- the parser `P`, with fuel `f`, reads exactly `w` off `w ++ rest`, and the tree translates to `q` -/
def Reads (P : Nat → List Tok → Option (Syn × List Tok)) (f : Nat) (w rest : List Tok) (q : Path) : Prop :=
  ∃ t, P f (w ++ rest) = some (t, rest) ∧ translate t = q

def ReadsL (P : Nat → List Tok → Option (List Syn × List Tok)) (f : Nat) (w rest : List Tok) (qs : List Path) : Prop :=
  ∃ ts, P f (w ++ rest) = some (ts, rest) ∧ translateList ts = qs

theorem pSeqRest_stop (f : Nat) {ts : List Tok} (h : NoTok .slash ts) : pSeqRest (f + 1) ts = some ([], ts) := by
  cases ts with
  | nil => rfl
  | cons a r => cases a <;> first | rfl | exact absurd rfl (h r)

theorem pAltRest_stop (f : Nat) {ts : List Tok} (h : NoTok .bar ts) : pAltRest (f + 1) ts = some ([], ts) := by
  cases ts with
  | nil => rfl
  | cons a r => cases a <;> first | rfl | exact absurd rfl (h r)

theorem elt_of_prim {f : Nat} {w rest : List Tok} {q : Path} (h : Reads pPrim f w rest q) (hm : NoMod rest) :
    Reads pElt (f + 1) w rest q := by
  obtain ⟨t, h, ht⟩ := h
  refine ⟨.elt t none, ?_, ht⟩
  rw [pElt, h]
  cases rest with
  | nil => rfl
  | cons a r => cases a <;> first | rfl | exact absurd rfl (hm _ r)

theorem elt_mul {f : Nat} {w rest : List Tok} {q : Path} {m : Mod} (h : Reads pPrim f w (.mod m :: rest) q) :
    Reads pElt (f + 1) (w ++ [.mod m]) rest (.mul q m) := by
  obtain ⟨t, h, ht⟩ := h
  refine ⟨.elt t (some m), ?_, congrArg (Path.mul · m) ht⟩
  rw [pElt, List.append_assoc, List.singleton_append, h]

/-- a text that PathElt accepts does not begin with `^`, so PathEltOrInverse takes the same branch -/
theorem eltInv_of_elt {f : Nat} {w rest : List Tok} {q : Path} (h : Reads pElt f w rest q) :
    Reads pEltInv (f + 1) w rest q := by
  obtain ⟨t, h, ht⟩ := h
  refine ⟨t, ?_, ht⟩
  rw [← h]
  generalize w ++ rest = ts at h
  cases ts with
  | nil => rfl
  | cons a r =>
    cases a
    -- `^`: impossible, `pElt` calls `pPrim` with one unit of fuel less, and neither accepts `^` (nor runs on no fuel)
    case hat => cases f with
      | zero => cases h
      | succ f => cases f <;> cases h
    all_goals rfl

theorem eltInv_inv {f : Nat} {w rest : List Tok} {q : Path} (h : Reads pElt f w rest q) :
    Reads pEltInv (f + 1) (.hat :: w) rest (.inv q) := by
  obtain ⟨t, h, ht⟩ := h
  exact ⟨.invS t, by rw [List.cons_append, pEltInv, h], congrArg Path.inv ht⟩

theorem seq_of_eltInv {f : Nat} {w rest : List Tok} {q : Path} (h : Reads pEltInv (f + 1) w rest q) (hs : NoTok .slash rest) :
    Reads pSeq (f + 2) w rest q := by
  obtain ⟨t, h, ht⟩ := h
  exact ⟨.seqS t [], by simp only [pSeq, h, pSeqRest_stop f hs], ht⟩

theorem alt_of_seq {f : Nat} {w rest : List Tok} {q : Path} (h : Reads pSeq (f + 1) w rest q) (hs : NoTok .bar rest) :
    Reads pAlt (f + 2) w rest q := by
  obtain ⟨t, h, ht⟩ := h
  exact ⟨.altS t [], by simp only [pAlt, h, pAltRest_stop f hs], ht⟩

theorem prim_paren {f : Nat} {w rest : List Tok} {q : Path} (h : Reads pAlt f w (.rp :: rest) q) :
    Reads pPrim (f + 1) (.lp :: w ++ [.rp]) rest q := by
  obtain ⟨t, h, ht⟩ := h
  refine ⟨t, ?_, ht⟩
  simp only [List.cons_append, List.append_assoc, List.nil_append, pPrim, h]

/-- `Rst` reads `(sep E)*`; `P` reads `E (sep E)*` into a tree that `translatePath` turns into `join q qs` when there
    are two members or more -/
structure SepList (sep : Tok) (E P : Nat → List Tok → Option (Syn × List Tok))
    (Rst : Nat → List Tok → Option (List Syn × List Tok)) (join : Path → List Path → Path) : Prop where
  stop : ∀ f ts, NoTok sep ts → Rst (f + 1) ts = some ([], ts)
  more : ∀ f ts x r xs r', E f ts = some (x, r) → Rst f r = some (xs, r') →
    Rst (f + 1) (sep :: ts) = some (x :: xs, r')
  head : ∀ f ts x r xs r' q qs, E f ts = some (x, r) → Rst f r = some (xs, r') → translateList xs = q :: qs →
    ∃ t, P (f + 1) ts = some (t, r') ∧ translate t = join (translate x) (q :: qs)

theorem seqList : SepList .slash pEltInv pSeq pSeqRest mkSeq where
  stop f _ h := pSeqRest_stop f h
  more f ts x r xs r' h1 h2 := by simp only [pSeqRest, h1, h2]
  head f ts x r xs r' q qs h1 h2 h3 := ⟨.seqS x xs, by simp only [pSeq, h1, h2], by simp only [translate, h3]⟩

theorem altList : SepList .bar pSeq pAlt pAltRest (fun q qs => mkAlt (q :: qs)) where
  stop f _ h := pAltRest_stop f h
  more f ts x r xs r' h1 h2 := by simp only [pAltRest, h1, h2]
  head f ts x r xs r' q qs h1 h2 h3 := ⟨.altS x xs, by simp only [pAlt, h1, h2], by simp only [translate, h3]⟩

/-- `a = 6·|first member|`, `b = 6·|rest|`: PathAlternative at `n + 6` calls PathSequence at `n + 5`, which hands member and
    rest `n + 4` each -/
theorem fuel_top {a b f : Nat} (hf : a + b + 6 ≤ f) : ∃ n, f = n + 6 ∧ a ≤ n ∧ b + 1 ≤ n + 4 := by
  obtain ⟨k, rfl⟩ := Nat.le.dest hf
  exact ⟨a + b + k, Nat.add_right_comm .., Nat.le_add_right_of_le (Nat.le_add_right ..),
    Nat.succ_le_succ (Nat.le_add_right_of_le (Nat.le_add_right_of_le (Nat.le_add_left ..)))⟩

/-- inside a list (`6 + 1`: the separator's share and the caller's `+ 1`): called at `n + 5`, it hands member and rest `n + 4` -/
theorem fuel_cons {a b h : Nat} (hf : a + b + 6 + 1 ≤ h) : ∃ n, h = n + 5 ∧ a ≤ n ∧ b + 1 ≤ n + 4 := by
  obtain ⟨k, rfl⟩ := Nat.le.dest hf
  exact ⟨a + b + 2 + k, Nat.add_right_comm (a + b + 2) 5 k, Nat.le_add_right_of_le (Nat.le_add_right_of_le (Nat.le_add_right ..)),
    Nat.succ_le_succ (Nat.le_add_right_of_le (Nat.le_add_right_of_le (Nat.le_add_right_of_le (Nat.le_add_left ..))))⟩

theorem follow_n3Rest {sep : Tok} {F : List Tok → Prop} (hsep : ∀ r, F (sep :: r)) {rest : List Tok} (hF : F rest)
    (ps : List Path) : F (n3Rest sep ps ++ rest) := by
  cases ps with
  | nil => exact hF
  | cons p ps => exact hsep _

section
variable {sep : Tok} {E P : Nat → List Tok → Option (Syn × List Tok)}
  {Rst : Nat → List Tok → Option (List Syn × List Tok)} {join : Path → List Path → Path}
  (S : SepList sep E P Rst join) {F : List Tok → Prop}
  (hsep : ∀ r, F (sep :: r)) {rest : List Tok} (hF : F rest) (hrest : NoTok sep rest)
include S hsep hF hrest
-- `F`: what a member's parser `E` asks of the text after the member; true after `sep` (`hsep`) and after the list (`hF`)

theorem readsL_sep : ∀ ps : List Path,
    (∀ p ∈ ps, ∀ rest, F rest → ∀ n, 6 * (wrap p).length ≤ n → Reads E (n + 4) (wrap p) rest (norm p)) →
    ∀ f, 6 * (n3Rest sep ps).length + 1 ≤ f → ReadsL Rst f (n3Rest sep ps) rest (normList ps)
  | [], _, 0, hf => absurd hf (Nat.not_succ_le_zero _)
  | [], _, f + 1, _ => ⟨[], S.stop f rest hrest, rfl⟩
  | p :: ps, hE, f, hf => by
    rw [n3Rest_cons] at hf ⊢
    rw [List.length_cons, List.length_append, Nat.mul_add, Nat.mul_add] at hf
    obtain ⟨n, rfl, hl, hr⟩ := fuel_cons hf
    obtain ⟨x, hx, htx⟩ := hE p (List.mem_cons_self ..) _ (follow_n3Rest hsep hF ps) n hl
    obtain ⟨xs, hxs, hts⟩ := readsL_sep ps (fun q hq => hE q (List.mem_cons_of_mem _ hq)) (n + 4) hr
    refine ⟨x :: xs, ?_, show translate x :: translateList xs = _ by rw [htx, hts]; rfl⟩
    rw [List.cons_append, List.append_assoc]
    exact S.more _ _ _ _ _ _ hx hxs

theorem reads_sep (a b : Path) (bs : List Path)
    (hE : ∀ p ∈ a :: b :: bs, ∀ rest, F rest → ∀ n, 6 * (wrap p).length ≤ n → Reads E (n + 4) (wrap p) rest (norm p))
    {n : Nat} (hl : 6 * (wrap a).length ≤ n) (hr : 6 * (n3Rest sep (b :: bs)).length + 1 ≤ n + 4) :
    Reads P (n + 5) (wrap a ++ n3Rest sep (b :: bs)) rest (join (norm a) (normList (b :: bs))) := by
  obtain ⟨x, hx, htx⟩ := hE a (List.mem_cons_self ..) _ (follow_n3Rest hsep hF (b :: bs)) n hl
  obtain ⟨xs, hxs, hts⟩ := readsL_sep S hsep hF hrest (b :: bs) (fun q hq => hE q (List.mem_cons_of_mem _ hq)) (n + 4) hr
  obtain ⟨t, ht, htt⟩ := S.head _ _ _ _ _ _ _ _ hx hxs hts
  exact ⟨t, by rw [List.append_assoc]; exact ht, htx ▸ htt⟩

end

theorem pMembers_n3 (ms : List (Bool × Term)) : ∀ (m : Bool × Term) (rest : List Tok),
    pMembers (n3Members (m :: ms) ++ .rp :: rest) = some (m :: ms, rest) := by
  induction ms with
  | nil => rintro ⟨_ | _, _⟩ _ <;> rfl
  | cons m' ms ih =>
    -- `pMembers` on `m`'s tokens and `|` is a `match` on the recursive call: put the goal in that shape for the `rw`
    rintro ⟨_ | _, p⟩ rest <;>
    · show (match pMembers (n3Members (m' :: ms) ++ .rp :: rest) with
        | some (ms, r) => some (_ :: ms, r) | none => none) = _
      rw [ih]

/-- after `!(`: a text that `pMembers` accepts is a member list (it does not begin with `)`) -/
theorem pNps_members {ts rest : List Tok} {ms : List (Bool × Term)} (h : pMembers ts = some (ms, rest)) :
    pNps (.lp :: ts) = some (npsOf ms, rest) := by
  cases ts with
  | nil => cases h
  | cons a r =>
    cases a <;> first
      | cases h
      | (show (match pMembers _ with | some (ms, r) => some (npsOf ms, r) | none => none) = _; rw [h])

theorem npsOf_split (fw bw : List Term) :
    npsOf (fw.map (fun p => (false, p)) ++ bw.map (fun p => (true, p))) = .nps fw bw := by
  have ht : ∀ l : List Term, l.filter (fun _ => true) = l := fun l => List.filter_eq_self.mpr fun _ _ => rfl
  have hf : ∀ l : List Term, l.filter (fun _ => false) = [] := fun l => List.filter_eq_nil_iff.mpr fun _ _ => nofun
  simp [npsOf, List.filter_append, List.filter_map, Function.comp_def, ht, hf]

theorem prim_neg (f : Nat) (fw bw : List Term) (rest : List Tok) :
    Reads pPrim (f + 1) (n3 (.neg fw bw)) rest (.neg fw bw) := by
  refine ⟨.nps fw bw, ?_, rfl⟩
  show pNps (.lp :: ((n3Members (fw.map (fun p => (false, p)) ++ bw.map (fun p => (true, p))) ++ [.rp]) ++ rest)) = _
  rw [← npsOf_split, List.append_assoc]
  cases fw.map (fun p => (false, p)) ++ bw.map (fun p => (true, p)) with
  | nil => rfl
  | cons m ms => exact pNps_members (pMembers_n3 ms m rest)

/-- nothing that continues a path comes next: no modifier, `/` or `|` (the end of the text, a `)`) -/
def Stop (ts : List Tok) : Prop := NoMod ts ∧ NoTok .slash ts ∧ NoTok .bar ts

theorem stop_nil : Stop [] := ⟨nofun, nofun, nofun⟩

theorem stop_rp (r : List Tok) : Stop (.rp :: r) := ⟨nofun, nofun, nofun⟩

def ReadsTop (p : Path) : Prop :=
  lvl p ≠ .bad → ∀ rest, Stop rest → ∀ f, 6 * (n3 p).length + 6 ≤ f → Reads pAlt f (n3 p) rest (norm p)

/-- `k`: how many calls above the text's share of `6·|text|` the parser `P` needs -/
def ReadsAt (P : Nat → List Tok → Option (Syn × List Tok)) (k : Nat) (p : Path) : Prop :=
  ∀ rest, NoMod rest → ∀ f, 6 * (wrap p).length ≤ f → Reads P (f + k) (wrap p) rest (norm p)

/-- `p`'s text is read at its own level and every level above.  After a primary anything may follow (a modifier is
    PathElt's to take); above it no modifier may follow; at the top no `/` or `|` either. -/
structure Good (p : Path) : Prop where
  prim : lvl p = .prim → ∀ rest f, 6 * (wrap p).length ≤ f → Reads pPrim (f + 1) (wrap p) rest (norm p)
  elt : (lvl p = .prim ∨ lvl p = .elt) → ReadsAt pElt 2 p
  inv : lvl p ≠ .bad → ReadsAt pEltInv 3 p
  top : ReadsTop p

theorem top_of_inv {p : Path} (e : n3 p = wrap p) (inv : lvl p ≠ .bad → ReadsAt pEltInv 3 p) : ReadsTop p := by
  intro hl rest ⟨hm, hs, hb⟩ f hf
  rw [e] at hf ⊢
  obtain ⟨n, rfl, hg, _⟩ := fuel_top (b := 0) hf
  exact alt_of_seq (seq_of_eltInv (inv hl rest hm (n + 1) (Nat.le_succ_of_le hg)) hs) hb

/-- a path whose text is a primary: not parenthesised, or else its inside is read as a PathAlternative -/
theorem good_of_prim {p : Path} (hl : lvl p ≠ .bad → lvl p = .prim)
    (hP : lvl p = .prim → ∀ rest f, 6 * (wrap p).length ≤ f → Reads pPrim (f + 1) (wrap p) rest (norm p))
    (htop : n3 p = wrap p ∨ ReadsTop p) : Good p := by
  have hpe : lvl p = .prim ∨ lvl p = .elt → lvl p = .prim := fun h => hl fun e => by rw [e] at h; cases h <;> contradiction
  have inv : lvl p ≠ .bad → ReadsAt pEltInv 3 p := fun h rest hm f hf => eltInv_of_elt (elt_of_prim (hP (hl h) rest f hf) hm)
  exact { prim := hP, elt := fun h rest hm f hf => elt_of_prim (hP (hpe h) rest f hf) hm, inv := inv,
          top := htop.elim (top_of_inv · inv) id }

theorem good_iri (p : Term) : Good (.iri p) :=
  good_of_prim (fun _ => rfl) (fun _ _ _ _ => ⟨.iri p, rfl, rfl⟩) (.inl rfl)

theorem good_neg (fw bw : List Term) : Good (.neg fw bw) :=
  good_of_prim (fun _ => rfl) (fun _ rest f _ => prim_neg f fw bw rest) (.inl rfl)

theorem six_le_of_succ {n f : Nat} (h : 6 * (n + 1) ≤ f) : 6 * n ≤ f :=
  Nat.le_trans (Nat.mul_le_mul_left 6 (Nat.le_succ n)) h

theorem lvlInv_cases (l : Lvl) : (lvlInv l ≠ .prim ∧ lvlInv l ≠ .elt) ∧ (lvlInv l ≠ .bad → l = .prim ∨ l = .elt) := by
  cases l <;> decide

theorem lvlMul_cases (l : Lvl) : lvlMul l ≠ .prim ∧ (lvlMul l ≠ .bad → l = .prim) := by
  cases l <;> decide

theorem good_inv {x : Path} (hx : Good x) : Good (.inv x) := by
  obtain ⟨⟨n1, n2⟩, hc⟩ := lvlInv_cases (lvl x)
  have n12 : ¬(lvl (.inv x) = .prim ∨ lvl (.inv x) = .elt) := fun h => h.elim n1 n2
  have inv : lvl (.inv x) ≠ .bad → ReadsAt pEltInv 3 (.inv x) := fun h rest hm f hf =>
    eltInv_inv (hx.elt (hc h) rest hm f (six_le_of_succ hf))
  exact { prim := fun h => absurd h n1, elt := fun h => absurd h n12, inv := inv, top := top_of_inv rfl inv }

theorem good_mul {x : Path} (hx : Good x) (m : Mod) : Good (.mul x m) := by
  obtain ⟨n1, hc⟩ := lvlMul_cases (lvl x)
  have hne : lvl (.mul x m) = .prim ∨ lvl (.mul x m) = .elt → lvl (.mul x m) ≠ .bad := by
    rintro (h | h) <;> rw [h] <;> decide
  have hE : lvl (.mul x m) ≠ .bad → ReadsAt pElt 2 (.mul x m) := by
    intro h rest _ f hf
    rw [wrap_mul, List.length_append] at hf
    exact elt_mul (hx.prim (hc h) (.mod m :: rest) f (six_le_of_succ hf))
  have inv : lvl (.mul x m) ≠ .bad → ReadsAt pEltInv 3 (.mul x m) := fun h rest hm f hf => eltInv_of_elt (hE h rest hm f hf)
  exact { prim := fun h => absurd h n1, elt := fun h => hE (hne h), inv := inv, top := top_of_inv rfl inv }

theorem okList_mem : ∀ ps : List Path, okList ps = true → ∀ p ∈ ps, lvl p ≠ .bad
  | p :: ps, h, q, hq => by
    obtain ⟨h1, h2⟩ := Bool.and_eq_true_iff.mp h
    rcases List.mem_cons.mp hq with rfl | hq
    · exact bne_iff_ne.mp h1
    · exact okList_mem ps h2 q hq

theorem lvl_group {c : Bool} (h : (if c = true then Lvl.prim else Lvl.bad) ≠ .bad) :
    (if c = true then Lvl.prim else Lvl.bad) = .prim ∧ c = true := by
  cases c
  · exact absurd rfl h
  · exact ⟨rfl, rfl⟩

theorem top_seq {a b : Path} {bs : List Path} (hg : ∀ p ∈ a :: b :: bs, Good p) : ReadsTop (.seq a (b :: bs)) := by
  intro h rest ⟨hm, hs, hb⟩ f hf
  have hok := okList_mem (a :: b :: _) (lvl_group h).2
  rw [n3_seq, List.length_append, Nat.mul_add] at hf
  obtain ⟨n, rfl, hl, hr⟩ := fuel_top hf
  -- members are read by PathEltOrInverse, three calls above their share: `n + 1 + 3`
  exact alt_of_seq (reads_sep seqList (F := NoMod) (hsep := fun _ => nofun) (hF := hm) (hrest := hs) a b bs
    (fun p hp rest hm n hle => (hg p hp).inv (hok p hp) rest hm (n + 1) (Nat.le_succ_of_le hle)) hl hr) hb

theorem top_alt {a b : Path} {cs : List Path} (hg : ∀ p ∈ a :: b :: cs, Good p) : ReadsTop (.alt (a :: b :: cs)) := by
  intro h rest ⟨hm, hs, hb⟩ f hf
  have hok := okList_mem (a :: b :: _) (lvl_group h).2
  rw [n3_alt, List.length_append, Nat.mul_add] at hf
  obtain ⟨n, rfl, hl, hr⟩ := fuel_top hf
  -- members are read by PathSequence (no `/` may follow); PathAlternative is the top itself, one call above: shifted bounds
  exact reads_sep altList (F := fun ts => NoMod ts ∧ NoTok .slash ts) (hsep := fun _ => ⟨nofun, nofun⟩)
    (hF := ⟨hm, hs⟩) (hrest := hb) a b cs
    (fun p hp rest hF n hle => seq_of_eltInv ((hg p hp).inv (hok p hp) rest hF.1 n hle) hF.2)
    (Nat.le_succ_of_le hl) (Nat.le_succ_of_le hr)

theorem good_paren {p : Path} (hw : wrap p = .lp :: n3 p ++ [.rp]) (hl : lvl p ≠ .bad → lvl p = .prim)
    (htop : ReadsTop p) : Good p := by
  refine good_of_prim hl (fun h rest f hf => ?_) (.inr htop)
  rw [hw] at hf ⊢
  rw [List.length_append, List.length_cons] at hf
  -- `hf : 6 * ((n3 p).length + 1 + 1) ≤ f`: the two parentheses pay for the way down to the inner PathAlternative
  exact prim_paren (htop (fun e => by rw [h] at e; cases e) (.rp :: rest) (stop_rp rest) f
    (Nat.le_trans (Nat.add_le_add_left (by decide : 6 ≤ 12) _) hf))

/-- single-member sequences / alternatives are transparent -/
theorem good_congr {p q : Path} (hl : lvl q = lvl p) (hn : norm q = norm p) (hw : wrap q = wrap p) (e : n3 q = wrap q)
    (h : Good p) : Good q := by
  obtain ⟨h1, h2, h3, _⟩ := h
  have h3' : lvl q ≠ .bad → ReadsAt pEltInv 3 q := by rw [hl, ReadsAt, hn, hw]; exact h3
  exact ⟨by rw [hl, hn, hw]; exact h1, by rw [hl, ReadsAt, hn, hw]; exact h2, h3', top_of_inv e h3'⟩

theorem good_seq {a : Path} {as : List Path} (ha : Good a) (has : ∀ p ∈ as, Good p) : Good (.seq a as) := by
  cases as with
  | nil => exact good_congr (p := a) rfl rfl (wrap_seq1 a) rfl ha
  | cons b bs =>
    have hg : ∀ p ∈ a :: b :: bs, Good p := List.forall_mem_cons.mpr ⟨ha, has⟩
    exact good_paren (wrap_seq2 a b bs) (fun h => (lvl_group h).1) (top_seq hg)

theorem good_alt {as : List Path} (has : ∀ p ∈ as, Good p) : Good (.alt as) := by
  match as, has with
  | [], _ =>
    exact { prim := nofun, elt := fun h => h.elim nofun nofun, inv := fun h => absurd rfl h, top := fun h => absurd rfl h }
  | [a], has => exact good_congr (p := a) rfl rfl (wrap_alt1 a) rfl (has a (List.mem_cons_self ..))
  | a :: b :: cs, has =>
    exact good_paren (wrap_alt2 a b cs) (fun h => (lvl_group h).1) (top_alt has)

mutual
theorem good : ∀ p : Path, Good p
  | .iri p => good_iri p
  | .neg fw bw => good_neg fw bw
  | .inv x => good_inv (good x)
  | .mul x m => good_mul (good x) m
  | .seq a as => good_seq (good a) (goodList as)
  | .alt as => good_alt (goodList as)
theorem goodList : ∀ ps : List Path, ∀ p ∈ ps, Good p
  | [] => nofun
  | p :: ps => List.forall_mem_cons.mpr ⟨good p, goodList ps⟩
end

theorem read_n3 (p : Path) (hl : lvl p ≠ .bad) : ∃ t, readPath (n3 p) = some t ∧ translate t = norm p := by
  obtain ⟨t, h, ht⟩ := (good p).top hl [] stop_nil _ (Nat.le_refl _)
  refine ⟨t, ?_, ht⟩
  rw [List.append_nil] at h
  simp only [readPath, h]

end RV.C11

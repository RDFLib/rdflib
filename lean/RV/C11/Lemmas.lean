import RV.C11.Notions
/-
  Two facts carry the per-generator lemmas below.  Path relations only relate a term outside the graph to itself (`Iso`),
  which is what lets an answer with both ends free range over `nodes g` only.  And the traversal with a `seen` set
  (`fwd`) computes the transitive closure: invariant `FwdSpec`, measure `unseen`.
-/
namespace RV.C11
open Relation

/-- one step, or one or more: what `_fwd` / `_bwd` follow from a given end (`?` against `*`, `+`) -/
def steps (more : Bool) (R : Rel) : Rel := fun x y => if more = true then TransGen R x y else R x y

theorem closure_iff {m : Mod} {R : Rel} {x y : Term} :
    closure m R x y ↔ (m.zero = true ∧ x = y) ∨ steps m.more R x y := by
  cases m with
  | zeroOrOne => simp [closure, steps, Mod.zero, Mod.more]
  | zeroOrMore =>
    simp only [closure, steps, Mod.zero, Mod.more, reflTransGen_iff_eq_or_transGen, true_and, if_true]
    exact or_congr_left eq_comm
  | oneOrMore => simp [closure, steps, Mod.zero, Mod.more]

/-- `e` evaluates `R` over the universe `N`.  Neither half is compositional alone — `/` and the closures need `Iso` of
    their operands to bound the answers when both ends are free — the pair is what every generator takes and returns. -/
structure Denotes (N : List Term) (e : Ev) (R : Rel) : Prop where
  correct : Correct N e R
  iso : Iso N R

inductive DenotesL (N : List Term) : List Ev → List Rel → Prop
  | nil : DenotesL N [] []
  | cons {e : Ev} {R : Rel} {es : List Ev} {Rs : List Rel} :
      Denotes N e R → DenotesL N es Rs → DenotesL N (e :: es) (R :: Rs)

variable {N : List Term} {e ev : Ev} {R S : Rel} {g : Graph} {es : List Ev} {Rs : List Rel}

namespace DenotesL

theorem correctL (h : DenotesL N es Rs) : CorrectL N es Rs := by
  induction h with
  | nil => exact .nil
  | cons h _ ih => exact .cons h.correct ih

theorem iso (h : DenotesL N es Rs) : ∀ S ∈ Rs, Iso N S := by
  induction h with
  | nil => exact nofun
  | cons h _ ih => exact List.forall_mem_cons.mpr ⟨h.iso, ih⟩

end DenotesL

theorem okPos_iff (b : Option Term) (x : Term) : okPos b x = true ↔ ∀ a, b = some a → x = a := by
  cases b with
  | none => simp [okPos]
  | some y => simp [okPos]

theorem restr_some_left {a : Term} {o : Option Term} {x y : Term} :
    Restr N (some a) o x y ↔ x = a ∧ okPos o y = true := by
  simp [Restr, okPos_iff]

theorem restr_none_some {b x y : Term} : Restr N none (some b) x y ↔ y = b := by
  simp [Restr]

theorem restr_none_none {x y : Term} : Restr N none none x y ↔ x ∈ N ∧ y ∈ N := by
  simp [Restr]

namespace Correct

theorem some_none (h : Correct N e R) {a x y : Term} : (x, y) ∈ e (some a) none ↔ x = a ∧ R a y := by
  rw [h, restr_some_left]
  exact ⟨fun ⟨r, hx, _⟩ => ⟨hx, hx ▸ r⟩, fun ⟨hx, r⟩ => ⟨hx ▸ r, hx, rfl⟩⟩

theorem none_some (h : Correct N e R) {b x y : Term} : (x, y) ∈ e none (some b) ↔ y = b ∧ R x b := by
  rw [h, restr_none_some]
  exact ⟨fun ⟨r, hy⟩ => ⟨hy, hy ▸ r⟩, fun ⟨hy, r⟩ => ⟨hy ▸ r, hy⟩⟩

theorem some_some (h : Correct N e R) {a b x y : Term} :
    (x, y) ∈ e (some a) (some b) ↔ x = a ∧ y = b ∧ R a b := by
  rw [h, restr_some_left]
  constructor
  · rintro ⟨r, rfl, hy⟩
    obtain rfl := beq_iff_eq.mp hy
    exact ⟨rfl, rfl, r⟩
  · rintro ⟨rfl, rfl, r⟩
    exact ⟨r, rfl, beq_iff_eq.mpr rfl⟩

theorem none_none (h : Correct N e R) {x y : Term} :
    (x, y) ∈ e none none ↔ R x y ∧ x ∈ N ∧ y ∈ N :=
  (h _ _ x y).trans (and_congr_right fun _ => restr_none_none)

end Correct

namespace Iso

theorem mem_right (h : Iso N R) {x y : Term} (r : R x y) (hx : x ∈ N) :
    y ∈ N := by
  rcases h x y r with e | ⟨_, hy⟩
  · exact e ▸ hx
  · exact hy

theorem mem_left (h : Iso N R) {x y : Term} (r : R x y) (hy : y ∈ N) :
    x ∈ N := by
  rcases h x y r with e | ⟨hx, _⟩
  · exact e ▸ hy
  · exact hx

end Iso

theorem mem_uniq {α : Type} [DecidableEq α] (L : List α) : ∀ (seen : List α) (p : α),
    p ∈ uniq seen L ↔ p ∈ L ∧ p ∉ seen := by
  induction L with
  | nil => intro seen p; simp [uniq]
  | cons x xs ih =>
    intro seen p
    by_cases hx : x ∈ seen
    · rw [uniq, if_pos hx, ih, List.mem_cons]
      exact ⟨fun h => ⟨Or.inr h.1, h.2⟩, fun h => ⟨h.1.resolve_left fun e => h.2 (e ▸ hx), h.2⟩⟩
    · rw [uniq, if_neg hx, List.mem_cons, ih, List.mem_cons, List.mem_cons, not_or]
      constructor
      · rintro (rfl | ⟨h1, _, h3⟩)
        · exact ⟨Or.inl rfl, hx⟩
        · exact ⟨Or.inr h1, h3⟩
      · rintro ⟨h1 | h1, h2⟩
        · exact Or.inl h1
        · exact (Decidable.em (p = x)).imp_right fun e => ⟨h1, e, h2⟩

theorem nodup_uniq {α : Type} [DecidableEq α] {L seen : List α} : (uniq seen L).Nodup := by
  induction L generalizing seen with
  | nil => exact List.nodup_nil
  | cons x xs ih =>
    by_cases hx : x ∈ seen
    · rw [uniq, if_pos hx]; exact ih
    · rw [uniq, if_neg hx, List.nodup_cons]
      exact ⟨fun h => ((mem_uniq xs (x :: seen) x).mp h).2 (List.mem_cons_self ..), ih⟩

theorem dedupInto_eq_uniq (L : List Pair) : ∀ done : List Pair, dedupInto done L = uniq done L := by
  induction L with
  | nil => exact fun _ => rfl
  | cons x xs ih =>
    intro done
    by_cases hx : x ∈ done
    · rw [dedupInto, uniq, if_pos hx, if_pos hx, ih]
    · rw [dedupInto, uniq, if_neg hx, if_neg hx, ih]

theorem mem_nodesAux (g : Graph) : ∀ (seen : List Term) (x : Term),
    x ∈ nodesAux seen g ↔ x ∈ seen ∨ ∃ t ∈ g, x = t.1 ∨ x = t.2.2 := by
  induction g with
  | nil => intro seen x; simp [nodesAux]
  | cons t g ih =>
    intro seen x
    simp only [nodesAux, ih, mem_sinsert, List.mem_cons, exists_eq_or_imp]
    constructor
    · rintro ((h | h | h) | h)
      · exact Or.inr (Or.inl (Or.inr h))
      · exact Or.inr (Or.inl (Or.inl h))
      · exact Or.inl h
      · exact Or.inr (Or.inr h)
    · rintro (h | (h | h) | h)
      · exact Or.inl (Or.inr (Or.inr h))
      · exact Or.inl (Or.inr (Or.inl h))
      · exact Or.inl (Or.inl h)
      · exact Or.inr h

theorem mem_nodes {x : Term} : x ∈ nodes g ↔ ∃ t ∈ g, x = t.1 ∨ x = t.2.2 :=
  (mem_nodesAux g [] x).trans (or_iff_right List.not_mem_nil)

theorem nodup_nodesAux (g : Graph) : ∀ seen : List Term, seen.Nodup → (nodesAux seen g).Nodup := by
  induction g with
  | nil => exact fun _ h => h
  | cons t g ih => exact fun _ h => ih _ (nodup_sinsert (nodup_sinsert h))

theorem nodup_nodes (g : Graph) : (nodes g).Nodup := nodup_nodesAux g [] List.nodup_nil

theorem triple_nodes {x p y : Term} (h : (x, p, y) ∈ g) : x ∈ nodes g ∧ y ∈ nodes g :=
  ⟨mem_nodes.mpr ⟨_, h, Or.inl rfl⟩, mem_nodes.mpr ⟨_, h, Or.inr rfl⟩⟩

theorem mem_proj {l : List Triple} {x y : Term} : (x, y) ∈ l.map (fun t => (t.1, t.2.2)) ↔ ∃ p, (x, p, y) ∈ l := by
  rw [List.mem_map]
  constructor
  · rintro ⟨⟨a, p, c⟩, h, e⟩; cases e; exact ⟨p, h⟩
  · rintro ⟨p, h⟩; exact ⟨_, h, rfl⟩

theorem mem_scan {l : List Triple} {f : Triple → Bool} {x y : Term} :
    (x, y) ∈ (l.filter f).map (fun t => (t.1, t.2.2)) ↔ ∃ p, (x, p, y) ∈ l ∧ f (x, p, y) = true :=
  mem_proj.trans (exists_congr fun _ => List.mem_filter)

theorem iso_of_nodes (hN : ∀ {x y}, R x y → x ∈ N ∧ y ∈ N) : Iso N R :=
  fun _ _ h => Or.inr (hN h)

/-- a relation that holds between nodes only needs no thought about free ends: it is enough that the evaluator
    filters it by the given ends -/
theorem denotes_of_scan (hN : ∀ {x y}, R x y → x ∈ N ∧ y ∈ N)
    (h : ∀ s o x y, (x, y) ∈ e s o ↔ R x y ∧ okPos s x = true ∧ okPos o y = true) : Denotes N e R := by
  refine ⟨fun s o x y => ?_, iso_of_nodes hN⟩
  rw [h, Restr, okPos_iff, okPos_iff]
  exact and_congr_right fun r => ⟨fun ⟨a, b⟩ => ⟨a, b, fun _ _ => hN r⟩, fun ⟨a, b, _⟩ => ⟨a, b⟩⟩

theorem negRelImpl_nodes {fw bw : List Term} {x y : Term} (h : negRelImpl g fw bw x y) :
    x ∈ nodes g ∧ y ∈ nodes g :=
  let ⟨_, ht, _⟩ := h; triple_nodes ht

theorem negRel_nodes {fw bw : List Term} {x y : Term} (h : negRel g fw bw x y) :
    x ∈ nodes g ∧ y ∈ nodes g := by
  rcases h with ⟨_, _, ht, _⟩ | ⟨_, _, ht, _⟩
  · exact triple_nodes ht
  · exact (triple_nodes ht).symm

theorem negRelImpl_nil (g : Graph) (fw : List Term) : negRelImpl g fw [] = negRel g fw [] := by
  funext x y
  apply propext
  simp [negRelImpl, negRel]

theorem mem_map_swap {l : List Pair} {x y : Term} : (x, y) ∈ l.map (fun r => (r.2, r.1)) ↔ (y, x) ∈ l :=
  ⟨fun h => let ⟨_, hm, e⟩ := List.mem_map.mp h; (by cases e; exact hm), fun h => List.mem_map.mpr ⟨(y, x), h, rfl⟩⟩

theorem mem_scan_rev {l : List Triple} {f : Triple → Bool} {x y : Term} :
    (x, y) ∈ (l.filter f).map (fun t => (t.2.2, t.1)) ↔ ∃ p, (y, p, x) ∈ l ∧ f (y, p, x) = true := by
  rw [← mem_scan, ← mem_map_swap, List.map_map]
  rfl  -- the swap after the projection is the reversed projection

theorem restr_swap {s o : Option Term} {x y : Term} : Restr N o s y x ↔ Restr N s o x y :=
  ⟨fun ⟨a, b, c⟩ => ⟨b, a, fun hs ho => (c ho hs).symm⟩, fun ⟨a, b, c⟩ => ⟨b, a, fun ho hs => (c hs ho).symm⟩⟩

theorem inv_correct (h : Correct N e R) : Correct N (invEval e) (fun x y => R y x) :=
  fun s o x y => mem_map_swap.trans ((h o s y x).trans (and_congr_right fun _ => restr_swap))

theorem inv_iso (h : Iso N R) : Iso N (fun x y => R y x) :=
  fun x y r => (h y x r).imp Eq.symm And.symm

theorem nodup_invEval {s o : Option Term} (h : (e o s).Nodup) : (invEval e s o).Nodup := by
  simp only [invEval, List.Nodup, List.pairwise_map]
  refine List.Pairwise.imp ?_ h
  rintro ⟨a, b⟩ ⟨c, d⟩ hne heq
  cases heq
  exact hne rfl

theorem alt_correct (h : CorrectL N es Rs) : Correct N (altEval es) (unionList Rs) := by
  intro s o x y
  simp only [altEval, unionList]
  induction h with
  | nil => simp
  | cons he _ ih =>
    simp only [List.flatMap_cons, List.mem_append, List.mem_cons, ih, he s o x y, or_and_right, exists_or,
      exists_eq_left]

theorem alt_iso (h : ∀ R ∈ Rs, Iso N R) : Iso N (unionList Rs) :=
  fun x y ⟨R, hR, r⟩ => h R hR x y r

theorem comp_iso (hR : Iso N R) (hS : Iso N S) : Iso N (comp R S) := by
  rintro x y ⟨m, r, s⟩
  rcases hR x m r with e | ⟨hx, hm⟩
  · subst e; exact hS x y s
  · exact Or.inr ⟨hx, hS.mem_right s hm⟩

theorem compList_iso (Rs : List Rel) : ∀ R : Rel, Iso N R → (∀ S ∈ Rs, Iso N S) →
    Iso N (compList R Rs) := by
  induction Rs with
  | nil => exact fun _ hR _ => hR
  | cons S Ss ih =>
    exact fun _ hR h => comp_iso hR (ih S (h S (List.mem_cons_self ..)) fun T hT => h T (List.mem_cons_of_mem _ hT))

theorem transGen_iso (h : Iso N R) : Iso N (TransGen R) := by
  intro x y r
  induction r with
  | single r => exact h _ _ r
  | tail _ r ih =>
    rcases ih with e | ⟨hx, hb⟩
    · subst e; exact h _ _ r
    · exact Or.inr ⟨hx, h.mem_right r hb⟩

theorem steps_iso (more : Bool) (h : Iso N R) : Iso N (steps more R) := by
  cases more
  · exact h
  · exact transGen_iso h

theorem closure_iso (m : Mod) (h : Iso N R) : Iso N (closure m R) := by
  intro x y r
  rcases closure_iff.mp r with ⟨_, e⟩ | r
  · exact Or.inl e
  · exact steps_iso _ h x y r

namespace Denotes

theorem inv (h : Denotes N e R) : Denotes N (invEval e) (fun x y => R y x) :=
  ⟨inv_correct h.correct, inv_iso h.iso⟩

theorem alt (h : DenotesL N es Rs) : Denotes N (altEval es) (unionList Rs) :=
  ⟨alt_correct h.correctL, alt_iso h.iso⟩

end Denotes

/-! ### SequencePath: both directions are folds of one two-evaluator join -/

section
variable {e' l l' : Ev} {A L : Rel}

/-- `e` is right for `R` on the bindings `_eval_seq` runs its later steps with: the start given, or both ends free.
    (With only the end given it would lose a zero-length match on an absent term: that is why `SequencePath.eval`
    must go backward then.) -/
structure FwOk (N : List Term) (e : Ev) (R : Rel) : Prop where
  mem : ∀ s o, (s ≠ none ∨ o = none) → ∀ x y, (x, y) ∈ e s o ↔ R x y ∧ Restr N s o x y
  iso : Iso N R

/-- the same for `_eval_seq_bw` (the end given, or both free), said through the converse evaluator: its `iso` is that of
    the converse of `R` -/
def BwOk (N : List Term) (e : Ev) (R : Rel) : Prop := FwOk N (invEval e) (fun x y => R y x)

namespace Denotes

theorem fwOk (h : Denotes N e R) : FwOk N e R := ⟨fun s o _ => h.correct s o, h.iso⟩

theorem bwOk (h : Denotes N e R) : BwOk N e R := h.inv.fwOk

end Denotes

theorem mem_of_bwOk (h : BwOk N e R) (s o : Option Term) (hso : o ≠ none ∨ s = none) (x y : Term) :
    (x, y) ∈ e s o ↔ R x y ∧ Restr N s o x y := by
  rw [← restr_swap, ← FwOk.mem h o s hso y x, invEval, mem_map_swap]

/-- one step of `_eval_seq`: the first path from the start, the rest from each node reached;
    `seqFw e (e' :: es)` is `joinFw e (seqFw e' es)` by definition -/
def joinFw (e e' : Ev) : Ev := fun s o =>
  (e s none).flatMap (fun xm => (e' (some xm.2) o).map (fun r => (xm.1, r.2)))

/-- one step of `_eval_seq_bw`: the last path into the end, the rest into each node it starts from;
    `seqBwRev l (l' :: ls)` is `joinBw l (seqBwRev l' ls)` by definition -/
def joinBw (l l' : Ev) : Ev := fun s o =>
  (l none o).flatMap (fun my => (l' s (some my.1)).map (fun r => (r.1, my.2)))

theorem joinFw_ok (he : Denotes N e R) (he' : FwOk N e' S) : FwOk N (joinFw e e') (comp R S) := by
  refine ⟨fun s o hso x y => ?_, comp_iso he.iso he'.iso⟩
  simp only [joinFw, List.mem_flatMap, List.mem_map, comp]
  constructor
  · rintro ⟨⟨x', m⟩, hxm, ⟨m', y'⟩, hmy, heq⟩
    cases heq
    obtain ⟨r, hs, _, hN⟩ := (he.correct s none x' m).mp hxm
    obtain ⟨c, hm', ho, _⟩ := (he'.mem (some m) o (Or.inl nofun) m' y').mp hmy
    obtain rfl := hm' m rfl
    refine ⟨⟨m', r, c⟩, hs, ho, fun hs' _ => ?_⟩
    -- both free: `Iso` of the rest keeps the end on nodes
    obtain ⟨hx, hm⟩ := hN hs' rfl
    exact ⟨hx, he'.iso.mem_right c hm⟩
  · rintro ⟨⟨m, r, c⟩, hs, ho, hN⟩
    -- both free: `Iso` of the first step puts `m` on nodes
    have hxm : (x, m) ∈ e s none := (he.correct s none x m).mpr ⟨r, hs, nofun, fun hs' _ =>
      have hx := (hN hs' (hso.resolve_left (absurd hs'))).1
      ⟨hx, he.iso.mem_right r hx⟩⟩
    have hmy : (m, y) ∈ e' (some m) o :=
      (he'.mem (some m) o (Or.inl nofun) m y).mpr ⟨c, fun _ e => Option.some.inj e, ho, nofun⟩
    exact ⟨(x, m), hxm, (m, y), hmy, rfl⟩

theorem seqFw_ok (hL : DenotesL N es Rs) :
    ∀ {e : Ev} {R : Rel}, Denotes N e R → FwOk N (seqFw e es) (compList R Rs) := by
  induction hL with
  | nil => exact fun he => he.fwOk
  | cons he' _ ih => exact fun he => joinFw_ok he (ih he')

theorem invEval_joinBw (l l' : Ev) : invEval (joinBw l l') = joinFw (invEval l) (invEval l') := by
  funext s o
  simp [joinBw, joinFw, invEval, List.map_flatMap, List.flatMap_map, Function.comp_def]

theorem comp_conv (A L : Rel) : (fun x y => comp A L y x) = comp (fun x y => L y x) (fun x y => A y x) :=
  Relation.flip_comp

theorem joinBw_ok (hl : Denotes N l L) (hl' : BwOk N l' A) : BwOk N (joinBw l l') (comp A L) := by
  rw [BwOk, invEval_joinBw, comp_conv]
  exact joinFw_ok hl.inv hl'

theorem comp_assoc (A B C : Rel) : comp (comp A B) C = comp A (comp B C) := Relation.comp_assoc

/-- `_eval_seq_bw` takes `paths` from its last member.  With `l :: ls` the members already passed (they compose to `A`),
    reversing the remaining `e :: es` onto them gives the evaluator of `A ; R ; Rs…`: the accumulator of `revOnto` is
    followed at the level of evaluators, so no relation is ever reversed. -/
theorem seqBwRev_revOnto_acc (hL : DenotesL N es Rs) : ∀ {e : Ev} {R : Rel} {l : Ev} {ls : List Ev} {A : Rel},
    Denotes N e R → BwOk N (seqBwRev l ls) A →
    BwOk N (seqBwRev (revOnto es e (l :: ls)).1 (revOnto es e (l :: ls)).2) (comp A (compList R Rs)) := by
  induction hL with
  | nil => exact fun he hA => joinBw_ok he hA
  | cons he' _ ih =>
    intro e R l ls A he hA
    have := ih (l := e) (ls := l :: ls) he' (joinBw_ok he hA)
    rwa [comp_assoc] at this

theorem seqBwRev_revOnto_ok (hL : DenotesL N es Rs) (he : Denotes N e R) :
    BwOk N (seqBwRev (revOnto es e []).1 (revOnto es e []).2) (compList R Rs) := by
  cases hL with
  | nil => exact he.bwOk
  | cons he' hL' => exact seqBwRev_revOnto_acc (l := e) (ls := []) hL' he' he.bwOk

namespace Denotes
theorem seq (he : Denotes N e R) (hL : DenotesL N es Rs) : Denotes N (seqEval e es) (compList R Rs) := by
  refine ⟨fun s o x y => ?_, (seqFw_ok hL he).iso⟩
  match s, o with
  | some a, o => exact (seqFw_ok hL he).mem (some a) o (Or.inl nofun) x y
  | none, none => exact (seqFw_ok hL he).mem none none (Or.inr rfl) x y
  | none, some b => exact mem_of_bwOk (seqBwRev_revOnto_ok hL he) none (some b) (Or.inl nofun) x y
end Denotes

/-- `_eval_seq_bw` is `_eval_seq` on the converse evaluators, pairs swapped back (whole-list form of `invEval_joinBw`) -/
theorem seqBwRev_mirror (ls : List Ev) : ∀ (l : Ev) (s o : Option Term),
    seqBwRev l ls s o = (seqFw (invEval l) (ls.map invEval) o s).map (fun r => (r.2, r.1)) := by
  induction ls with
  | nil => intro l s o; simp [seqBwRev, seqFw, invEval, Function.comp_def]
  | cons l' ls ih =>
    intro l s o
    simp [seqBwRev, seqFw, ih, invEval, List.map_flatMap, List.flatMap_map, Function.comp_def]

theorem revOnto_eq {α : Type} (xs : List α) : ∀ (x : α) (acc : List α),
    (revOnto xs x acc).1 :: (revOnto xs x acc).2 = (x :: xs).reverse ++ acc := by
  induction xs with
  | nil => exact fun _ _ => rfl
  | cons x' xs ih => intro x acc; rw [revOnto, ih, List.reverse_cons (a := x), List.append_assoc]; rfl

end

/-! ### MulPath: the traversal with a `seen` set computes the transitive closure -/

/-- the termination measure of `fwd` -/
def unseen (V seen : List Term) : Nat := V.countP (fun v => !(decide (v ∈ seen)))

theorem unseen_nil (V : List Term) : unseen V [] = V.length := by
  simp [unseen]

theorem unseen_mono {V seen seen' : List Term} (h : ∀ v, v ∈ seen → v ∈ seen') :
    unseen V seen' ≤ unseen V seen := by
  apply List.countP_mono_left
  intro v _ hv
  simp only [Bool.not_eq_true', decide_eq_false_iff_not] at hv ⊢
  exact fun hc => hv (h v hc)

theorem unseen_insert_lt {V seen : List Term} {x : Term} (hx : x ∈ V) (hn : x ∉ seen) :
    unseen V (sinsert seen x) < unseen V seen := by
  induction V with
  | nil => cases hx
  | cons v V ih =>
    have hm : unseen V (sinsert seen x) ≤ unseen V seen := unseen_mono fun w hw => mem_sinsert.mpr (Or.inr hw)
    rw [unseen, unseen, List.countP_cons, List.countP_cons]
    by_cases hvx : v = x
    · subst hvx
      rw [if_neg (by simp), if_pos (by simpa using hn)]
      exact Nat.lt_succ_of_le hm
    · have ih := ih ((List.mem_cons.mp hx).resolve_left (Ne.symm hvx))
      by_cases hvs : v ∈ seen
      · rw [if_neg (by simp [hvs]), if_neg (by simp [hvs])]; exact ih
      · rw [if_pos (by simp [hvs, hvx]), if_pos (by simp [hvs])]; exact Nat.succ_lt_succ ih

/-- what one call `_fwd(subj, obj, seen)` achieves -/
structure FwdSpec (R : Rel) (obj : Option Term) (subj : Term) (seen : List Term) (d : Dfs) : Prop where
  mono : ∀ v ∈ seen, v ∈ d.seen
  self : subj ∈ d.seen
  /-- every node visited during this call has all its successors visited and reported -/
  closed : ∀ v ∈ d.seen, v ∉ seen → ∀ w, R v w → w ∈ d.seen ∧ (okPos obj w = true → ∃ x, (x, w) ∈ d.out)
  sound : ∀ x y, (x, y) ∈ d.out → x = subj ∧ okPos obj y = true ∧ TransGen R subj y
  ok : d.ok = true

/-- what the loop over the successors `L` of `subj` achieves -/
structure LoopSpec (R : Rel) (obj : Option Term) (subj : Term) (L : List Pair) (seen : List Term)
    (d : Dfs) : Prop where
  mono : ∀ v ∈ seen, v ∈ d.seen
  succ : ∀ so ∈ L, so.2 ∈ d.seen ∧ (okPos obj so.2 = true → ∃ x, (x, so.2) ∈ d.out)
  closed : ∀ v ∈ d.seen, v ∉ seen → ∀ w, R v w → w ∈ d.seen ∧ (okPos obj w = true → ∃ x, (x, w) ∈ d.out)
  sound : ∀ x y, (x, y) ∈ d.out → x = subj ∧ okPos obj y = true ∧ TransGen R subj y
  ok : d.ok = true

/-- `*` / `+` (`more = true`); for `?` see `fwdLoop_once` -/
theorem fwdLoop_spec {obj : Option Term} {V : List Term} {n : Nat}
    {rec : Term → List Term → Dfs} {subj : Term}
    (hrec : ∀ o seen, o ∈ V → o ∉ seen → unseen V seen ≤ n → FwdSpec R obj o seen (rec o seen))
    (hV : ∀ w, R subj w → w ∈ V) :
    ∀ (L : List Pair) (seen : List Term), (∀ so ∈ L, so.1 = subj ∧ R subj so.2) → unseen V seen ≤ n →
      LoopSpec R obj subj L seen (fwdLoop rec true obj L seen) := by
  intro L
  induction L with
  | nil => exact fun seen _ _ =>
      { mono := fun v h => h, succ := nofun, closed := fun v h hn => absurd h hn, sound := nofun, ok := rfl }
  | cons so rest ih =>
    intro seen hL hn
    obtain ⟨hso, hrest⟩ := List.forall_mem_cons.mp hL
    -- the recursive call on `so.2`; none (`r1` empty) if that node was seen already: `FwdSpec` holds of it trivially
    obtain ⟨r1, F1, hd⟩ : ∃ r1, FwdSpec R obj so.2 seen r1 ∧ fwdLoop rec true obj (so :: rest) seen =
        ⟨(if okPos obj so.2 then [so] else []) ++
           (r1.out.map (fun r => (so.1, r.2)) ++ (fwdLoop rec true obj rest r1.seen).out),
         (fwdLoop rec true obj rest r1.seen).seen, r1.ok && (fwdLoop rec true obj rest r1.seen).ok⟩ := by
      by_cases hs : so.2 ∈ seen
      · exact ⟨⟨[], seen, true⟩,
          { mono := fun _ h => h, self := hs, closed := fun _ h hn => absurd h hn, sound := nofun, ok := rfl },
          by simp [fwdLoop, hs]⟩
      · exact ⟨rec so.2 seen, hrec so.2 seen (hV _ hso.2) hs hn, by simp [fwdLoop, hs]⟩
    have L2 := ih r1.seen hrest (Nat.le_trans (unseen_mono F1.mono) hn)
    rw [hd]
    refine { mono := fun v h => L2.mono _ (F1.mono v h), succ := ?_, closed := ?_, sound := ?_, ok := by simp [F1.ok, L2.ok] }
    · intro so' hso'
      rcases List.mem_cons.mp hso' with rfl | e
      · exact ⟨L2.mono _ F1.self, fun hok => ⟨so'.1, List.mem_append_left _ (if_pos hok ▸ List.mem_singleton.mpr rfl)⟩⟩
      · exact (L2.succ so' e).imp_right fun b hok =>
          (b hok).imp fun x h => List.mem_append_right _ (List.mem_append_right _ h)
    · intro v hv hvn w r
      by_cases hv1 : v ∈ r1.seen
      · obtain ⟨a, b⟩ := F1.closed v hv1 hvn w r
        refine ⟨L2.mono _ a, fun hok => ?_⟩
        obtain ⟨x, hx⟩ := b hok
        exact ⟨so.1, List.mem_append_right _ (List.mem_append_left _ (List.mem_map.mpr ⟨(x, w), hx, rfl⟩))⟩
      · exact (L2.closed v hv hv1 w r).imp_right fun b hok =>
          (b hok).imp fun x h => List.mem_append_right _ (List.mem_append_right _ h)
    · intro x y hxy
      rcases List.mem_append.mp hxy with h | h
      · split at h
        · next hok => cases List.mem_singleton.mp h; exact ⟨hso.1, hok, TransGen.single hso.2⟩
        · cases h
      · rcases List.mem_append.mp h with h | h
        · obtain ⟨⟨r1, r2⟩, hr, he⟩ := List.mem_map.mp h
          cases he
          obtain ⟨_, hok, ht⟩ := F1.sound r1 r2 hr
          exact ⟨hso.1, hok, TransGen.head hso.2 ht⟩
        · exact L2.sound x y h

theorem fwd_spec (hev : Correct N ev R) (obj : Option Term)
    {V : List Term} (hV : ∀ v ∈ V, ∀ w, R v w → w ∈ V) :
    ∀ (n : Nat) (subj : Term) (seen : List Term), subj ∈ V → subj ∉ seen → unseen V seen ≤ n →
      FwdSpec R obj subj seen (fwd ev true obj n subj seen) := by
  intro n
  induction n with
  | zero =>
    -- impossible: inserting the unseen `subj ∈ V` lowers `unseen` below 0
    intro subj seen hs hn h0
    exact absurd (Nat.lt_of_lt_of_le (unseen_insert_lt hs hn) h0) (Nat.not_lt_zero _)
  | succ n ih =>
    intro subj seen hs hn hle
    have LS := fwdLoop_spec ih (hV subj hs) (ev (some subj) none) (sinsert seen subj)
      (fun _ hso => hev.some_none.mp hso)
      (Nat.le_of_lt_succ (Nat.lt_of_lt_of_le (unseen_insert_lt hs hn) hle))
    refine { mono := fun v h => LS.mono v (mem_sinsert.mpr (Or.inr h)), self := LS.mono subj (mem_sinsert.mpr (Or.inl rfl)),
             closed := fun v hv hvn w r => ?_, sound := LS.sound, ok := LS.ok }
    by_cases hvs : v = subj
    · subst hvs; exact LS.succ (v, w) (hev.some_none.mpr ⟨rfl, r⟩)
    · exact LS.closed v hv (fun h => (mem_sinsert.mp h).elim hvs hvn) w r

/-- `?` : one step, no recursion — the loop is a filter -/
theorem fwdLoop_once (rec : Term → List Term → Dfs) (obj : Option Term) : ∀ (L : List Pair) (seen : List Term),
    (fwdLoop rec false obj L seen).ok = true ∧
    (fwdLoop rec false obj L seen).out = L.filter (fun so => okPos obj so.2) := by
  intro L
  induction L with
  | nil => exact fun _ => ⟨rfl, rfl⟩
  | cons so rest ih =>
    intro seen
    obtain ⟨h1, h2⟩ := ih seen
    by_cases hok : okPos obj so.2 = true <;> simp [fwdLoop, hok, h1, h2]

theorem fwd_once (ev : Ev) (obj : Option Term) (n : Nat) (a : Term) (seen : List Term) :
    (fwd ev false obj (n + 1) a seen).ok = true ∧
    (fwd ev false obj (n + 1) a seen).out = (ev (some a) none).filter (fun so => okPos obj so.2) :=
  fwdLoop_once _ obj _ _

theorem fwd_run (h : Denotes N ev R) (more : Bool) (obj : Option Term) (a : Term) :
    (fwd ev more obj (N.length + 1) a []).ok = true ∧
    ∀ x y, (x, y) ∈ (fwd ev more obj (N.length + 1) a []).out ↔
      x = a ∧ okPos obj y = true ∧ steps more R a y := by
  cases more with
  | false =>
    refine ⟨(fwd_once ..).1, fun x y => ?_⟩
    rw [(fwd_once ..).2, List.mem_filter, h.correct.some_none]
    exact ⟨fun ⟨⟨e, r⟩, h⟩ => ⟨e, h, r⟩, fun ⟨e, h, r⟩ => ⟨⟨e, r⟩, h⟩⟩
  | true =>
    -- universe `a :: N`: by `Iso` a start outside the graph reaches only itself
    have hV : ∀ v ∈ a :: N, ∀ w, R v w → w ∈ a :: N := by
      intro v hv w r
      rcases h.iso v w r with e | ⟨_, hw⟩
      · exact e ▸ hv
      · exact List.mem_cons_of_mem _ hw
    have S := fwd_spec h.correct obj hV (N.length + 1) a [] (List.mem_cons_self ..) List.not_mem_nil
      (Nat.le_of_eq (unseen_nil _))
    refine ⟨S.ok, fun x y => ⟨S.sound x y, ?_⟩⟩
    rintro ⟨rfl, hok, ht⟩
    -- from `seen = []`, `closed` makes the visited set closed under `R`; the last edge reports `y`
    have reach : ∀ v, ReflTransGen R x v → v ∈ (fwd ev true obj (N.length + 1) x []).seen := by
      intro v hv
      induction hv with
      | refl => exact S.self
      | tail _ r ih => exact (S.closed _ ih List.not_mem_nil _ r).1
    obtain ⟨v, hv, r⟩ := TransGen.tail'_iff.mp ht
    obtain ⟨x', hx'⟩ := (S.closed v (reach v hv) List.not_mem_nil y r).2 hok
    exact (S.sound x' y hx').1 ▸ hx'

/-! `_bwd` is `_fwd` on the converse evaluator, with the pairs swapped back -/

namespace Dfs
def mirror (d : Dfs) : Dfs := ⟨d.out.map (fun r => (r.2, r.1)), d.seen, d.ok⟩
theorem mirror_ok (d : Dfs) : d.mirror.ok = d.ok := rfl
theorem mem_mirror_out {d : Dfs} {x y : Term} : (x, y) ∈ d.mirror.out ↔ (y, x) ∈ d.out := mem_map_swap
end Dfs

theorem bwdLoop_mirror {rec rec' : Term → List Term → Dfs} (h : ∀ o seen, rec o seen = (rec' o seen).mirror)
    (more : Bool) : ∀ (L : List Pair) (seen : List Term),
    bwdLoop rec more L seen = (fwdLoop rec' more none (L.map (fun r => (r.2, r.1))) seen).mirror := by
  intro L
  induction L with
  | nil => exact fun _ => rfl
  | cons so rest ih =>
    intro seen
    by_cases hc : (more && !decide (so.1 ∈ seen)) = true
    · simp only [bwdLoop, hc, if_true, List.map_cons, fwdLoop, okPos, h, ih]
      simp [Dfs.mirror, Function.comp_def]
    · simp only [bwdLoop, hc, List.map_cons, fwdLoop, okPos, ih]
      simp [Dfs.mirror]

theorem bwd_mirror (ev : Ev) (more : Bool) : ∀ (n : Nat) (o : Term) (seen : List Term),
    bwd ev more n o seen = (fwd (invEval ev) more none n o seen).mirror := by
  intro n
  induction n with
  | zero => exact fun _ _ => rfl
  | succ n ih => exact fun _ _ => bwdLoop_mirror ih more _ _

theorem steps_swap (more : Bool) (R : Rel) (x y : Term) : steps more (fun x y => R y x) y x ↔ steps more R x y := by
  cases more
  · exact Iff.rfl
  · exact transGen_swap

theorem bwd_run (h : Denotes N ev R) (more : Bool) (b : Term) :
    (bwd ev more (N.length + 1) b []).ok = true ∧
    ∀ x y, (x, y) ∈ (bwd ev more (N.length + 1) b []).out ↔ y = b ∧ steps more R x b := by
  obtain ⟨h1, h2⟩ := fwd_run h.inv more none b
  rw [bwd_mirror, Dfs.mirror_ok]
  refine ⟨h1, fun x y => ?_⟩
  rw [Dfs.mem_mirror_out, h2, steps_swap]
  exact and_congr_right fun _ => and_iff_right rfl

theorem bwd_once (ev : Ev) (n : Nat) (b : Term) (seen : List Term) :
    (bwd ev false (n + 1) b seen).ok = true ∧
    ∀ x y, (x, y) ∈ (bwd ev false (n + 1) b seen).out ↔ (x, y) ∈ ev none (some b) := by
  obtain ⟨h1, h2⟩ := fwd_once (invEval ev) none n b seen
  rw [bwd_mirror, Dfs.mirror_ok]
  refine ⟨h1, fun x y => ?_⟩
  rw [Dfs.mem_mirror_out, h2, List.mem_filter, invEval, mem_map_swap]
  exact and_iff_left rfl

theorem mem_allStarts (ev : Ev) (fuel : Nat) : ∀ (L : List Pair) (seen : List Term) (p : Pair),
    p ∈ (allStarts ev fuel L seen).1 ↔
      ∃ so ∈ L, so.1 ∉ seen ∧ p ∈ (fwd ev true none fuel so.1 []).out := by
  intro L
  induction L with
  | nil => intro seen p; simp [allStarts]
  | cons so rest ih =>
    intro seen p
    by_cases hs : so.1 ∈ seen
    · simp only [allStarts, hs, if_true, ih, List.mem_cons, exists_eq_or_imp, not_true_eq_false,
        false_and, false_or]
    · simp only [allStarts, hs, if_false, List.mem_append, ih, List.mem_cons, exists_eq_or_imp,
        not_false_eq_true, true_and, mem_sinsert, not_or]
      constructor
      · rintro (h | ⟨so', h1, ⟨_, h2⟩, h3⟩)
        · exact Or.inl h
        · exact Or.inr ⟨so', h1, h2, h3⟩
      · rintro (h | ⟨so', h1, h2, h3⟩)
        · exact Or.inl h
        -- a later pair with the head's start is skipped by `seen`: the head's own run serves it
        · by_cases e : so'.1 = so.1
          · exact Or.inl (e ▸ h3)
          · exact Or.inr ⟨so', h1, ⟨e, h2⟩, h3⟩

theorem allStarts_ok (ev : Ev) (fuel : Nat) (h : ∀ a, (fwd ev true none fuel a []).ok = true) :
    ∀ (L : List Pair) (seen : List Term), (allStarts ev fuel L seen).2 = true := by
  intro L
  induction L with
  | nil => exact fun _ => rfl
  | cons so rest ih => intro seen; by_cases hs : so.1 ∈ seen <;> simp [allStarts, hs, h, ih]

theorem allFwd_run (h : Denotes (nodes g) ev R) (m : Mod) :
    (allFwd g ev m ((nodes g).length + 1)).2 = true ∧
    ∀ x y, (x, y) ∈ (allFwd g ev m ((nodes g).length + 1)).1 ↔ closure m R x y ∧ x ∈ nodes g ∧ y ∈ nodes g := by
  have hz : ∀ x y, (x, y) ∈ (if m.zero = true then (nodes g).map (fun n => (n, n)) else []) ↔
      (m.zero = true ∧ x = y) ∧ x ∈ nodes g ∧ y ∈ nodes g := by
    intro x y
    rw [List.mem_ite_nil_right, List.mem_map, and_assoc]
    exact and_congr_right fun _ =>
      ⟨fun ⟨n, hn, e⟩ => by cases e; exact ⟨rfl, hn, hn⟩, fun ⟨e, hx, _⟩ => ⟨x, hx, e ▸ rfl⟩⟩
  cases hm : m.more
  · refine ⟨by simp [allFwd, hm], fun x y => ?_⟩
    simp only [allFwd, hm, Bool.false_eq_true, if_false, List.mem_append, hz, h.correct.none_none, closure_iff, steps,
      or_and_right]
  · refine ⟨?_, fun x y => ?_⟩
    · simp only [allFwd, hm, if_true]
      exact allStarts_ok _ _ (fun a => (fwd_run h true none a).1) _ _
    have hmore : (x, y) ∈ (allStarts ev ((nodes g).length + 1) (ev none none) []).1 ↔
        TransGen R x y ∧ x ∈ nodes g ∧ y ∈ nodes g := by
      rw [mem_allStarts]
      constructor
      · rintro ⟨⟨a, b⟩, hab, _, hm⟩
        obtain ⟨_, ha, _⟩ := h.correct.none_none.mp hab
        obtain ⟨rfl, _, t⟩ := ((fwd_run h true none a).2 x y).mp hm
        exact ⟨t, ha, (transGen_iso h.iso).mem_right t ha⟩
      · rintro ⟨t, hx, _⟩
        -- the run that reports `(x, y)` starts at the path's first edge `(x, b)`, which `ev none none` lists: `Iso` puts `b` on nodes
        obtain ⟨b, r, _⟩ := TransGen.head'_iff.mp t
        exact ⟨(x, b), h.correct.none_none.mpr ⟨r, hx, h.iso.mem_right r hx⟩, List.not_mem_nil,
          ((fwd_run h true none x).2 x y).mpr ⟨rfl, rfl, t⟩⟩
    simp only [allFwd, hm, if_true, List.mem_append, hz, hmore, closure_iff, steps, or_and_right]

theorem nodup_zeroPairs (s o : Option Term) : (zeroPairs s o).Nodup := by
  match s, o with
  | none, none | some _, none | none, some _ => simp [zeroPairs]
  | some a, some b => rw [zeroPairs]; split <;> simp

theorem mem_zeroPairs {s o : Option Term} (h : ¬(s = none ∧ o = none)) (x y : Term) :
    (x, y) ∈ zeroPairs s o ↔ x = y ∧ Restr N s o x y := by
  match s, o, h with
  | none, none, h => exact absurd ⟨rfl, rfl⟩ h
  | some a, none, _ =>
    rw [restr_some_left, zeroPairs, List.mem_singleton, Prod.mk.injEq]
    exact ⟨fun ⟨e1, e2⟩ => ⟨e1.trans e2.symm, e1, rfl⟩, fun ⟨e, e1, _⟩ => ⟨e1, e ▸ e1⟩⟩
  | none, some b, _ =>
    rw [restr_none_some, zeroPairs, List.mem_singleton, Prod.mk.injEq]
    exact ⟨fun ⟨e1, e2⟩ => ⟨e1.trans e2.symm, e2⟩, fun ⟨e, e2⟩ => ⟨e ▸ e2, e2⟩⟩
  | some a, some b, _ =>
    rw [restr_some_left, zeroPairs, List.mem_ite_nil_right, List.mem_singleton, Prod.mk.injEq]
    exact ⟨fun ⟨e, e1, e2⟩ => ⟨e1.trans (e.trans e2.symm), e1, beq_iff_eq.mpr e2⟩,
      fun ⟨e, e1, e2⟩ => ⟨e1.symm.trans (e.trans (beq_iff_eq.mp e2)), e1, beq_iff_eq.mp e2⟩⟩

theorem mulRun_spec (h : Denotes (nodes g) ev R) (m : Mod) (s o : Option Term) :
    (mulRun g ev m s o).2 = true ∧ ∀ x y, (x, y) ∈ (mulRun g ev m s o).1 ↔
      (if s = none ∧ o = none then closure m R x y else steps m.more R x y) ∧ Restr (nodes g) s o x y := by
  match s, o with
  | some a, o =>
    obtain ⟨h1, h2⟩ := fwd_run h m.more o a
    refine ⟨h1, fun x y => (h2 x y).trans ?_⟩
    rw [if_neg nofun, restr_some_left]
    exact ⟨fun ⟨e, h, r⟩ => ⟨e ▸ r, e, h⟩, fun ⟨r, e, h⟩ => ⟨e, h, e ▸ r⟩⟩
  | none, some b =>
    obtain ⟨h1, h2⟩ := bwd_run h m.more b
    refine ⟨h1, fun x y => (h2 x y).trans ?_⟩
    rw [if_neg nofun, restr_none_some]
    exact ⟨fun ⟨e, r⟩ => ⟨e ▸ r, e⟩, fun ⟨r, e⟩ => ⟨e, e ▸ r⟩⟩
  | none, none =>
    obtain ⟨h1, h2⟩ := allFwd_run h m
    refine ⟨h1, fun x y => (h2 x y).trans ?_⟩
    rw [if_pos ⟨rfl, rfl⟩, restr_none_none]

theorem mulEvalF_true (g : Graph) (ev : Ev) (m : Mod) : mulEvalF g ev m true = mulEval g ev m := by
  funext s o
  simp only [mulEvalF, mulEval, Bool.and_true]

theorem mem_mulEvalF (g : Graph) (ev : Ev) (m : Mod) (first : Bool) (s o : Option Term) (p : Pair) :
    p ∈ mulEvalF g ev m first s o ↔
      ((m.zero && first) = true ∧ p ∈ zeroPairs s o) ∨ p ∈ (mulRun g ev m s o).1 := by
  simp only [mulEvalF, List.mem_append, dedupInto_eq_uniq, mem_uniq, List.mem_ite_nil_right]
  by_cases h : (m.zero && first) = true ∧ p ∈ zeroPairs s o
  · exact ⟨fun _ => Or.inl h, fun _ => Or.inl h⟩
  · exact ⟨fun h' => h'.imp_right And.left, fun h' => h'.imp_right fun h' => ⟨h', h⟩⟩

theorem nodup_mulEvalF (g : Graph) (ev : Ev) (m : Mod) (first : Bool) (s o : Option Term) :
    (mulEvalF g ev m first s o).Nodup := by
  simp only [mulEvalF, dedupInto_eq_uniq]
  refine List.nodup_append.mpr ⟨?_, nodup_uniq, fun a ha b hb e => ((mem_uniq _ _ b).mp hb).2 (e ▸ ha)⟩
  split
  · exact nodup_zeroPairs s o
  · exact List.nodup_nil

theorem nodup_mulEval (g : Graph) (ev : Ev) (m : Mod) (s o : Option Term) : (mulEval g ev m s o).Nodup :=
  mulEvalF_true g ev m ▸ nodup_mulEvalF g ev m true s o

theorem mul_correct (h : Denotes (nodes g) ev R) (m : Mod) : Correct (nodes g) (mulEval g ev m) (closure m R) := by
  intro s o x y
  rw [← mulEvalF_true, mem_mulEvalF, (mulRun_spec h m s o).2, Bool.and_true]
  by_cases hso : s = none ∧ o = none
  · rw [if_pos hso, hso.1, hso.2]
    exact or_iff_right fun hz => nomatch hz.2
  · rw [if_neg hso, mem_zeroPairs hso, closure_iff, or_and_right, and_assoc]

theorem mulF_false_correct (h : Denotes (nodes g) ev R) (m : Mod) (s o : Option Term) (x y : Term) :
    (x, y) ∈ mulEvalF g ev m false s o ↔
      (if s = none ∧ o = none then closure m R x y else steps m.more R x y) ∧ Restr (nodes g) s o x y := by
  rw [mem_mulEvalF, (mulRun_spec h m s o).2, Bool.and_false]
  exact or_iff_right fun h => nomatch h.1

namespace Denotes
theorem mul (h : Denotes (nodes g) ev R) (m : Mod) : Denotes (nodes g) (mulEval g ev m) (closure m R) :=
  ⟨mul_correct h m, closure_iso m h.iso⟩
end Denotes

/-! ### `compList` / `unionList` of an append (for splicing) -/

theorem comp_compList (R Y : Rel) : ∀ Zs : List Rel, comp R (compList Y Zs) = compList (comp R Y) Zs
  | [] => rfl
  | _ :: _ => (comp_assoc ..).symm

theorem compList_append (Xs : List Rel) : ∀ (R : Rel) (Zs : List Rel),
    compList R (Xs ++ Zs) = compList (compList R Xs) Zs := by
  induction Xs with
  | nil => exact fun _ _ => rfl
  | cons X Xs ih => intro R Zs; rw [List.cons_append, compList, ih, comp_compList]; rfl

theorem unionList_append (As Bs : List Rel) :
    unionList (As ++ Bs) = fun x y => unionList As x y ∨ unionList Bs x y := by
  funext x y
  simp only [unionList, List.mem_append, or_and_right, exists_or]

theorem unionList_cons (R : Rel) (Rs : List Rel) :
    unionList (R :: Rs) = fun x y => R x y ∨ unionList Rs x y := by
  funext x y
  simp only [unionList, List.mem_cons, exists_eq_or_imp]

theorem unionList_singleton {R : Rel} : unionList [R] = R := by
  funext x y
  simp [unionList]

/-! ### C11-F5: a separating graph -/

/-- larger than each member -/
def freshPred : List Nat → Nat
  | [] => 0
  | x :: xs => x + freshPred xs + 1

theorem lt_freshPred (l : List Nat) : ∀ x ∈ l, x < freshPred l := by
  induction l with
  | nil => nofun
  | cons y ys ih =>
    intro x h
    rcases List.mem_cons.mp h with rfl | e
    · exact Nat.lt_succ_of_le (Nat.le_add_right ..)
    · exact Nat.lt_succ_of_le (Nat.le_trans (Nat.le_of_lt (ih x e)) (Nat.le_add_left ..))

/-- a negated property set with an inverse member is answered wrongly on the one-triple graph `0 q 1`, `q` fresh:
    the reversed triple `(1, 0)` is demanded and `NegatedPath.eval` only ever answers forward triples -/
theorem neg_inverse_separates (fw : List Term) (b : Term) (bs : List Term) :
    negRel [(0, freshPred (fw ++ b :: bs), 1)] fw (b :: bs) 1 0 ∧
    ¬ negRelImpl [(0, freshPred (fw ++ b :: bs), 1)] fw (b :: bs) 1 0 := by
  refine ⟨Or.inr ⟨nofun, _, List.mem_singleton.mpr rfl, fun h => ?_⟩, fun ⟨p, hp, _⟩ => ?_⟩
  · exact Nat.lt_irrefl _ (lt_freshPred _ _ (List.mem_append_right _ h))
  · cases List.mem_singleton.mp hp

end RV.C11

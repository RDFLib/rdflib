import RV.C11.Lemmas
/-
  C11 — graph objects (views).  Over a coherent view the two leaves that read the graph denote the relations of its scan.
  A plain graph is the view `plainView g`; `view_of_mem` with `List.mem_filter`, `mem_unionView`, `mem_aggView` makes the three
  views coherent with the scan they should have (`view_eval_same`).
-/
namespace RV.C11

/-- the view's `triples` is a filter of its own full scan -/
def Coherent (tr : TriplesFn) : Prop :=
  ∀ s p o t, t ∈ tr s p o ↔ t ∈ tr none none none ∧ matchT s p o t = true

theorem matchT_none (t : Triple) : matchT none none none t = true := rfl

theorem matchT_iff (s p o : Option Term) (t : Triple) :
    matchT s p o t = true ↔ (∀ a, s = some a → t.1 = a) ∧ (∀ a, p = some a → t.2.1 = a) ∧ (∀ a, o = some a → t.2.2 = a) := by
  simp only [matchT, Bool.and_eq_true, okPos_iff]

theorem matchT_some (a b c : Term) (t : Triple) : matchT (some a) (some b) (some c) t = true ↔ t = (a, b, c) := by
  obtain ⟨x, y, z⟩ := t
  simp [matchT, okPos]

theorem triV_denotes {tr : TriplesFn} (h : Coherent tr) (p : Term) :
    Denotes (nodes (tr none none none)) (triV tr p) (fun x y => (x, p, y) ∈ tr none none none) := by
  refine denotes_of_scan triple_nodes fun s o x y => ?_
  simp only [triV, mem_proj, h s (some p) o, matchT, okPos, Bool.and_eq_true, beq_iff_eq]
  exact ⟨fun ⟨_, ht, hs, e, ho⟩ => ⟨e ▸ ht, hs, ho⟩, fun ⟨ht, hs, ho⟩ => ⟨p, ht, hs, rfl, ho⟩⟩

theorem contains_iff {tr : TriplesFn} (h : Coherent tr) (a b c : Term) :
    (tr (some a) (some b) (some c)).isEmpty = false ↔ (a, b, c) ∈ tr none none none := by
  simp only [List.isEmpty_eq_false_iff_exists_mem, h (some a) (some b) (some c), matchT_some]
  exact ⟨fun ⟨_, ht, e⟩ => e ▸ ht, fun ht => ⟨_, ht, rfl⟩⟩

theorem negV_denotes {tr : TriplesFn} (h : Coherent tr) (fw bw : List Term) :
    Denotes (nodes (tr none none none)) (negEvalV tr fw bw) (negRelImpl (tr none none none) fw bw) := by
  refine denotes_of_scan negRelImpl_nodes fun s o x y => ?_
  simp only [negEvalV, negRelImpl, mem_scan, h s none o, matchT, okPos, Bool.true_and, Bool.and_eq_true,
    Bool.not_eq_true', decide_eq_false_iff_not, List.any_eq_false, contains_iff h]
  exact ⟨fun ⟨p, ⟨ht, hs, ho⟩, hp, hb⟩ => ⟨⟨p, ht, hp, hb⟩, hs, ho⟩,
    fun ⟨⟨p, ht, hp, hb⟩, hs, ho⟩ => ⟨p, ⟨ht, hs, ho⟩, hp, hb⟩⟩

theorem view_of_mem {tr : TriplesFn} {P : Triple → Prop} (h : ∀ s p o t, t ∈ tr s p o ↔ P t ∧ matchT s p o t = true) :
    Coherent tr ∧ ∀ t, t ∈ tr none none none ↔ P t :=
  have scan t := (h none none none t).trans (and_iff_left rfl)
  ⟨fun s p o t => by rw [h, scan], scan⟩

theorem plainView_coherent (g : Graph) : Coherent (plainView g) :=
  (view_of_mem fun _ _ _ _ => List.mem_filter).1

/-! `plainView g` has the scan `g` and the leaves of `evalPath g` (`triV (plainView g) p` is `tri g p` by definition), hence
the same evaluator: what holds of `evalPathV` over a coherent view holds of `evalPath g` by rewriting with these. -/

theorem plainView_scan (g : Graph) : plainView g none none none = g :=
  List.filter_eq_self.mpr fun _ _ => rfl

theorem contains_plain (g : Graph) (a b c : Term) :
    (!(plainView g (some a) (some b) (some c)).isEmpty) = decide ((a, b, c) ∈ g) := by
  rw [Bool.eq_iff_iff, Bool.not_eq_true', contains_iff (plainView_coherent g), plainView_scan, decide_eq_true_eq]

theorem negEvalV_plain (g : Graph) (fw bw : List Term) : negEvalV (plainView g) fw bw = negEval g fw bw := by
  funext s o
  simp only [negEvalV, contains_plain]
  simp only [negEval, plainView, List.filter_filter]
  refine congrArg _ (List.filter_congr fun t _ => ?_)
  rw [Bool.and_comm, matchT, show okPos none t.2.1 = true from rfl, Bool.true_and, Bool.and_assoc]

mutual
theorem evalPathV_plain (g : Graph) : ∀ p : Path, evalPathV (plainView g) p = evalPath g p
  | .iri _ => rfl
  | .inv p => congrArg invEval (evalPathV_plain g p)
  | .seq p ps => congrArg₂ seqEval (evalPathV_plain g p) (evalListV_plain g ps)
  | .alt ps => congrArg altEval (evalListV_plain g ps)
  | .mul p m => (congrArg₂ (mulEval · · m) (plainView_scan g) (evalPathV_plain g p) :)
  | .neg fw bw => negEvalV_plain g fw bw
theorem evalListV_plain (g : Graph) : ∀ ps : List Path, evalListV (plainView g) ps = evalList g ps
  | [] => rfl
  | p :: ps => congrArg₂ List.cons (evalPathV_plain g p) (evalListV_plain g ps)
end

theorem mem_unionView (ctxs : List Graph) (s p o : Option Term) (t : Triple) :
    t ∈ unionView ctxs s p o ↔ (∃ c ∈ ctxs, t ∈ c) ∧ matchT s p o t = true := by
  simp only [unionView, mem_uniq, List.not_mem_nil, not_false_eq_true, and_true, List.mem_filter, List.mem_flatten]

/-- the skip-if-held-earlier scan loses nothing -/
theorem mem_aggScan (s p o : Option Term) : ∀ (ms before : List Graph) (t : Triple),
    t ∈ aggScan s p o before ms ↔ matchT s p o t = true ∧ (∀ g ∈ before, t ∉ g) ∧ ∃ m ∈ ms, t ∈ m
  | [], before, t => by simp [aggScan]
  | m :: ms, before, t => by
    simp only [aggScan, List.mem_append, List.mem_filter, Bool.and_eq_true, Bool.not_eq_true', List.any_eq_false,
      decide_eq_true_eq, mem_aggScan s p o ms (before ++ [m]) t, List.mem_cons, exists_eq_or_imp, or_imp, forall_and,
      forall_eq, List.not_mem_nil, false_imp_iff, implies_true, and_true]
    constructor
    · rintro (⟨hm, hk, hb⟩ | ⟨hk, ⟨hb, _⟩, h⟩)
      · exact ⟨hk, hb, Or.inl hm⟩
      · exact ⟨hk, hb, Or.inr h⟩
    · rintro ⟨hk, hb, hm | h⟩
      · exact Or.inl ⟨hm, hk, hb⟩
      · exact (Decidable.em (t ∈ m)).imp (fun hm => ⟨hm, hk, hb⟩) fun hm => ⟨hk, ⟨hb, hm⟩, h⟩

theorem mem_aggView (ms : List Graph) (s p o : Option Term) (t : Triple) :
    t ∈ aggView ms s p o ↔ (∃ m ∈ ms, t ∈ m) ∧ matchT s p o t = true := by
  rw [aggView, mem_aggScan, and_comm]
  exact and_congr_left fun _ => and_iff_right nofun

end RV.C11

import RV.C11.Lemmas
import RV.C11.N3Lemmas
import RV.C11.ViewLemmas
/-
  C11 — "Property paths denote the relation SPARQL defines, for every binding of the ends."

  Specification (`rel`): SPARQL 1.1 §18.2.2 / §18.4 read as relational algebra over the graph —
  a plain IRI is its set of (subject, object) pairs, `^` is the converse, `/` composition,
  `|` union, `?` `*` `+` the reflexive / reflexive-transitive / transitive closure, `!(…)` the
  negated property set.  The reflexive part of a closure is the identity on all terms, so a
  zero-length match on a *given* term holds whether or not the term occurs in the graph; when
  neither end is given the answers range over the nodes of the graph (ZeroLengthPath with two
  variables).  `evalPath` is the model of rdflib's generators (Model.lean).

  Each statement spells `Restr (nodes g) s o x y` out (`mul_first_flag` also `steps`), so it is by definition a
  `Correct (nodes g) … …`.
-/
namespace RV.C11
open Relation

mutual
/-- the relation a path denotes over graph `g` -/
def rel (g : Graph) : Path → Rel
  | .iri p => fun x y => (x, p, y) ∈ g
  | .inv p => fun x y => rel g p y x
  | .seq p ps => compList (rel g p) (relList g ps)
  | .alt ps => unionList (relList g ps)
  | .mul p m => closure m (rel g p)
  | .neg fw bw => negRel g fw bw
def relList (g : Graph) : List Path → List Rel
  | [] => []
  | p :: ps => rel g p :: relList g ps
end

mutual
/-- SPARQL 1.1 §18.2.2.3 / §18.4 read off the parser's tree: what a path *written in a query* denotes -/
def den (g : Graph) : Syn → Rel
  | .iri p => fun x y => (x, p, y) ∈ g
  | .altS x xs => unionList (den g x :: denList g xs)
  | .seqS x xs => compList (den g x) (denList g xs)
  | .elt x none => den g x
  | .elt x (some m) => closure m (den g x)
  | .invS x => fun a b => den g x b a
  | .nps fw bw => negRel g fw bw
def denList (g : Graph) : List Syn → List Rel
  | [] => []
  | x :: xs => den g x :: denList g xs
end

/-! ### The relation the code computes, and the shapes on which it is the specified one

`relC` is `rel` with `NegatedPath.eval`'s own relation (`negRelImpl`) for negated property sets.  The two
differ only for a set with an inverse member (`!(^p)`, `!(p|^q)`): known finding C11-F5. -/

mutual
def relC (g : Graph) : Path → Rel
  | .iri p => fun x y => (x, p, y) ∈ g
  | .inv p => fun x y => relC g p y x
  | .seq p ps => compList (relC g p) (relCList g ps)
  | .alt ps => unionList (relCList g ps)
  | .mul p m => closure m (relC g p)
  | .neg fw bw => negRelImpl g fw bw
def relCList (g : Graph) : List Path → List Rel
  | [] => []
  | p :: ps => relC g p :: relCList g ps
end

mutual
/-- no negated property set with an inverse member occurs anywhere in the path -/
def Path.noInvNeg : Path → Bool
  | .iri _ => true
  | .inv p => p.noInvNeg
  | .seq p ps => p.noInvNeg && noInvNegList ps
  | .alt ps => noInvNegList ps
  | .mul p _ => p.noInvNeg
  | .neg _ bw => bw.isEmpty
def noInvNegList : List Path → Bool
  | [] => true
  | p :: ps => p.noInvNeg && noInvNegList ps
end

/-- For every graph, every path of any nesting depth and each of the four bound/unbound combinations
    of the ends: the pairs produced are exactly the pairs of the denoted relation that agree with
    the given ends (and lie on nodes of the graph when no end is given).
    False (C11-F5): `path_correct_witness`. -/
def Statement_path_correct : Prop :=
  ∀ (g : Graph) (p : Path) (s o : Option Term) (x y : Term),
    (x, y) ∈ evalPath g p s o ↔
      rel g p x y ∧ (∀ a, s = some a → x = a) ∧ (∀ b, o = some b → y = b) ∧
        (s = none → o = none → x ∈ nodes g ∧ y ∈ nodes g)

/-- Closures contain no duplicates (whatever multiplicities the inner path produces). -/
def Statement_path_nodup : Prop :=
  ∀ (g : Graph) (p : Path) (s o : Option Term), p.isClosure = true → (evalPath g p s o).Nodup

/-- Closures terminate: the recursion of `_fwd` / `_bwd` never needs more than `|nodes g| + 1`
    nested calls, on any graph (cyclic, self-loops) and for any inner path. -/
def Statement_path_terminates : Prop :=
  ∀ (g : Graph) (p : Path) (m : Mod) (s o : Option Term), mulOk g p m s o = true

/-- A zero-length match on a given term holds even if the term does not occur in the graph. -/
def Statement_zero_length_on_given_term : Prop :=
  ∀ (g : Graph) (p : Path) (m : Mod) (a : Term), m.zero = true →
    (a, a) ∈ evalPath g (.mul p m) (some a) none ∧ (a, a) ∈ evalPath g (.mul p m) none (some a) ∧
    (a, a) ∈ evalPath g (.mul p m) (some a) (some a)

/-- The direction `SequencePath.eval` chooses is semantically irrelevant where both apply: with
    both ends given, forward and backward evaluation produce the same pairs. -/
def Statement_seq_fw_bw_agree : Prop :=
  ∀ (g : Graph) (p : Path) (ps : List Path) (a b x y : Term),
    (x, y) ∈ seqFw (evalPath g p) (evalList g ps) (some a) (some b) ↔
    (x, y) ∈ seqBwRev (revOnto (evalList g ps) (evalPath g p) []).1 (revOnto (evalList g ps) (evalPath g p) []).2
      (some a) (some b)

/-- The splicing done by `SequencePath(...)` / `AlternativePath(...)` (nested arguments of the same
    class are flattened) does not change the denoted relation; so the object the user builds is
    evaluated to the relation of the expression the user wrote. -/
def Statement_build_preserves_rel : Prop :=
  ∀ (g : Graph) (p : Path), rel g (build p) = rel g p

/-- SPARQL route: a path written in a query is translated by `translatePath` to an object whose
    evaluation yields exactly the pairs the query text denotes (for each binding of the ends).
    False: `sparql_path_same_witness`. -/
def Statement_sparql_path_same : Prop :=
  ∀ (g : Graph) (t : Syn) (s o : Option Term) (x y : Term),
    (x, y) ∈ evalPath g (translate t) s o ↔
      den g t x y ∧ (∀ a, s = some a → x = a) ∧ (∀ b, o = some b → y = b) ∧
        (s = none → o = none → x ∈ nodes g ∧ y ∈ nodes g)

/-! `rel_iso` is why the oracle may work over `nodes g ∪ given ends`; the proofs below carry `Iso` of `relC` inside `Denotes`. -/

mutual
theorem rel_iso (g : Graph) : ∀ p : Path, Iso (nodes g) (rel g p)
  | .iri _ => iso_of_nodes triple_nodes
  | .inv p => inv_iso (rel_iso g p)
  | .seq p ps => compList_iso _ _ (rel_iso g p) (relList_iso g ps)
  | .alt ps => alt_iso (relList_iso g ps)
  | .mul p m => closure_iso m (rel_iso g p)
  | .neg _ _ => iso_of_nodes negRel_nodes
theorem relList_iso (g : Graph) : ∀ ps : List Path, ∀ S ∈ relList g ps, Iso (nodes g) S
  | [] => nofun
  | p :: ps => List.forall_mem_cons.mpr ⟨rel_iso g p, relList_iso g ps⟩
end

/-! The one induction over the path, over a coherent view `tr`; `evalPath g` is the instance `plainView g`. -/

mutual
theorem evalPathV_denotes {tr : TriplesFn} (h : Coherent tr) :
    ∀ p : Path, Denotes (nodes (tr none none none)) (evalPathV tr p) (relC (tr none none none) p)
  | .iri p => triV_denotes h p
  | .inv p => (evalPathV_denotes h p).inv
  | .seq p ps => (evalPathV_denotes h p).seq (evalListV_denotes h ps)
  | .alt ps => .alt (evalListV_denotes h ps)
  | .mul p m => (evalPathV_denotes h p).mul m
  | .neg fw bw => negV_denotes h fw bw
theorem evalListV_denotes {tr : TriplesFn} (h : Coherent tr) :
    ∀ ps : List Path, DenotesL (nodes (tr none none none)) (evalListV tr ps) (relCList (tr none none none) ps)
  | [] => .nil
  | p :: ps => .cons (evalPathV_denotes h p) (evalListV_denotes h ps)
end

theorem evalPathV_computes {tr : TriplesFn} (h : Coherent tr) :
    ∀ p : Path, Correct (nodes (tr none none none)) (evalPathV tr p) (relC (tr none none none) p) :=
  fun p => (evalPathV_denotes h p).correct

theorem evalListV_computes {tr : TriplesFn} (h : Coherent tr) :
    ∀ ps : List Path, CorrectL (nodes (tr none none none)) (evalListV tr ps) (relCList (tr none none none) ps) :=
  fun ps => (evalListV_denotes h ps).correctL

theorem evalPath_denotes (g : Graph) (p : Path) : Denotes (nodes g) (evalPath g p) (relC g p) := by
  have := evalPathV_denotes (plainView_coherent g) p
  rwa [plainView_scan, evalPathV_plain] at this

theorem evalList_denotes (g : Graph) (ps : List Path) : DenotesL (nodes g) (evalList g ps) (relCList g ps) := by
  have := evalListV_denotes (plainView_coherent g) ps
  rwa [plainView_scan, evalListV_plain] at this

theorem evalPath_computes (g : Graph) (p : Path) : Correct (nodes g) (evalPath g p) (relC g p) :=
  (evalPath_denotes g p).correct

theorem tri_correct (g : Graph) (p : Term) : Correct (nodes g) (tri g p) (fun x y => (x, p, y) ∈ g) :=
  evalPath_computes g (.iri p)

theorem negImpl_correct (g : Graph) (fw bw : List Term) : Correct (nodes g) (negEval g fw bw) (negRelImpl g fw bw) :=
  evalPath_computes g (.neg fw bw)

mutual
/-- without an inverse member in a negated property set, the code's relation is the specified one: the two are built by
    the same operators from the same parts -/
theorem relC_eq_rel (g : Graph) : ∀ p : Path, p.noInvNeg = true → relC g p = rel g p
  | .iri _, _ => rfl
  | .inv p, h => congrArg (fun R x y => R y x) (relC_eq_rel g p h)
  | .seq p ps, h =>
    have ⟨hp, hps⟩ := Bool.and_eq_true_iff.mp h
    congrArg₂ compList (relC_eq_rel g p hp) (relCList_eq_relList g ps hps)
  | .alt ps, h => congrArg unionList (relCList_eq_relList g ps h)
  | .mul p m, h => congrArg (closure m) (relC_eq_rel g p h)
  | .neg fw [], _ => negRelImpl_nil g fw
  | .neg _ (_ :: _), h => nomatch h
theorem relCList_eq_relList (g : Graph) : ∀ ps : List Path, noInvNegList ps = true → relCList g ps = relList g ps
  | [], _ => rfl
  | p :: ps, h =>
    have ⟨hp, hps⟩ := Bool.and_eq_true_iff.mp h
    congrArg₂ List.cons (relC_eq_rel g p hp) (relCList_eq_relList g ps hps)
end

/-- `Statement_path_correct` restricted to paths without an inverse member in a negated property set (any depth, all
    four bindings) -/
theorem path_correct_partial :
    ∀ (g : Graph) (p : Path), p.noInvNeg = true → ∀ (s o : Option Term) (x y : Term),
      (x, y) ∈ evalPath g p s o ↔
        rel g p x y ∧ (∀ a, s = some a → x = a) ∧ (∀ b, o = some b → y = b) ∧
          (s = none → o = none → x ∈ nodes g ∧ y ∈ nodes g) :=
  fun g p h => relC_eq_rel g p h ▸ evalPath_computes g p

/-- `?s !(^q) ?o` on the single triple `1 p 2` must answer `(2, 1)` (the reversed triple, its predicate is not `q`);
    `NegatedPath.eval` answers `(1, 2)` -/
theorem neg_inverse_witness :
    ¬ ((2, 1) ∈ evalPath [(1, 10, 2)] (.neg [] [11]) none none ↔
      negRel [(1, 10, 2)] [] [11] 2 1 ∧ Restr (nodes [(1, 10, 2)]) none none 2 1) :=
  have spec : negRel [(1, 10, 2)] [] [11] 2 1 := Or.inr ⟨nofun, 10, .head _, by decide⟩
  have onNodes : 2 ∈ nodes [(1, 10, 2)] ∧ 1 ∈ nodes [(1, 10, 2)] := by decide +kernel
  fun h => absurd (h.mpr ⟨spec, nofun, nofun, fun _ _ => onNodes⟩) (by decide +kernel)

theorem path_correct_witness : ¬ Statement_path_correct :=
  fun h => neg_inverse_witness (h _ (.neg [] [11]) none none 2 1)

/-- For all paths: what is yielded is exactly the relation the code computes, restricted to the ends. -/
def Statement_path_computes : Prop :=
  ∀ (g : Graph) (p : Path) (s o : Option Term) (x y : Term),
    (x, y) ∈ evalPath g p s o ↔
      relC g p x y ∧ (∀ a, s = some a → x = a) ∧ (∀ b, o = some b → y = b) ∧
        (s = none → o = none → x ∈ nodes g ∧ y ∈ nodes g)

theorem path_computes : Statement_path_computes :=
  fun g p s o x y => evalPath_computes g p s o x y

theorem nodup_of_isClosure (tr : TriplesFn) :
    ∀ (p : Path) (s o : Option Term), p.isClosure = true → (evalPathV tr p s o).Nodup
  | .mul _ m, s, o, _ => nodup_mulEval _ _ m s o
  | .inv p, s, o, h => nodup_invEval (nodup_of_isClosure tr p o s h)
  | .iri _, _, _, h | .seq _ _, _, _, h | .alt _, _, _, h | .neg _ _, _, _, h => nomatch h

theorem path_nodup : Statement_path_nodup :=
  fun g p s o h => evalPathV_plain g p ▸ nodup_of_isClosure (plainView g) p s o h

theorem path_terminates : Statement_path_terminates :=
  fun g p m s o => (mulRun_spec (evalPath_denotes g p) m s o).1

theorem closure_refl {m : Mod} (hz : m.zero = true) {R : Rel} {a : Term} : closure m R a a :=
  closure_iff.mpr (Or.inl ⟨hz, rfl⟩)

theorem zero_length_on_given_term : Statement_zero_length_on_given_term := by
  intro g p m a hz
  have pc := evalPath_computes g (.mul p m)
  have hc : relC g (.mul p m) a a := closure_refl hz
  exact ⟨pc.some_none.mpr ⟨rfl, hc⟩, pc.none_some.mpr ⟨rfl, hc⟩, pc.some_some.mpr ⟨rfl, rfl, hc⟩⟩

theorem seq_fw_bw_agree : Statement_seq_fw_bw_agree := by
  intro g p ps a b x y
  rw [(seqFw_ok (evalList_denotes g ps) (evalPath_denotes g p)).mem (some a) (some b) (Or.inl nofun) x y,
    mem_of_bwOk (seqBwRev_revOnto_ok (evalList_denotes g ps) (evalPath_denotes g p)) (some a) (some b) (Or.inl nofun) x y]

theorem relList_append (g : Graph) : ∀ ps qs : List Path, relList g (ps ++ qs) = relList g ps ++ relList g qs
  | [], _ => rfl
  | p :: ps, qs => congrArg (rel g p :: ·) (relList_append g ps qs)

theorem compList_seqArgs (g : Graph) (R : Rel) (p : Path) :
    compList R (relList g (seqArgs p)) = comp R (rel g p) := by
  cases p <;> rfl

theorem compList_flatMap_seqArgs (g : Graph) : ∀ (ps : List Path) (R : Rel),
    compList R (relList g (ps.flatMap seqArgs)) = compList R (relList g ps)
  | [], _ => rfl
  | p :: ps, R => by
    rw [List.flatMap_cons, relList_append, compList_append, compList_seqArgs,
      compList_flatMap_seqArgs g ps, ← comp_compList]
    rfl

theorem rel_seq (g : Graph) (q : Path) (qs : List Path) :
    rel g (.seq q qs) = compList (rel g q) (relList g qs) := rfl

theorem rel_mkSeq (g : Graph) {p : Path} {ps : List Path} :
    rel g (mkSeq p ps) = compList (rel g p) (relList g ps) := by
  cases p with
  | seq q qs =>
    exact (congrArg (compList _) (relList_append g qs _)).trans
      ((compList_append ..).trans (compList_flatMap_seqArgs g ps _))
  | _ => exact compList_flatMap_seqArgs g ps _

theorem rel_altArgs (g : Graph) (p : Path) : unionList (relList g (altArgs p)) = rel g p := by
  cases p with
  | alt qs => rfl
  | _ => exact unionList_singleton

theorem rel_mkAlt (g : Graph) : ∀ ps : List Path, rel g (mkAlt ps) = unionList (relList g ps)
  | [] => rfl
  | p :: ps => by
    show unionList (relList g ((p :: ps).flatMap altArgs)) = _
    rw [List.flatMap_cons, relList_append, unionList_append, rel_altArgs]
    exact (congrArg (fun S x y => rel g p x y ∨ S x y) (rel_mkAlt g ps)).trans (unionList_cons ..).symm

mutual
theorem build_rel_aux (g : Graph) : ∀ p : Path, rel g (build p) = rel g p
  | .iri _ => rfl
  | .inv p => congrArg (fun R x y => R y x) (build_rel_aux g p)
  | .seq p ps => (rel_mkSeq g).trans (congrArg₂ compList (build_rel_aux g p) (buildList_rel_aux g ps))
  | .alt ps => (rel_mkAlt g _).trans (congrArg unionList (buildList_rel_aux g ps))
  | .mul p m => congrArg (closure m) (build_rel_aux g p)
  | .neg _ _ => rfl
theorem buildList_rel_aux (g : Graph) : ∀ ps : List Path, relList g (buildList ps) = relList g ps
  | [] => rfl
  | p :: ps => congrArg₂ List.cons (build_rel_aux g p) (buildList_rel_aux g ps)
end

theorem build_preserves_rel : Statement_build_preserves_rel := build_rel_aux

mutual
theorem translate_rel (g : Graph) : ∀ s : Syn, rel g (translate s) = den g s
  | .iri _ => rfl
  | .altS x xs => by
    rw [den, ← translate_rel g x, ← translateList_rel g xs, translate]
    cases translateList xs with
    | nil => exact unionList_singleton.symm
    | cons t ts => exact rel_mkAlt g _
  | .seqS x xs => by
    rw [den, ← translate_rel g x, ← translateList_rel g xs, translate]
    cases translateList xs with
    | nil => rfl
    | cons t ts => exact rel_mkSeq g
  | .elt x none => translate_rel g x
  | .elt x (some m) => congrArg (closure m) (translate_rel g x)
  | .invS x => congrArg (fun R a b => R b a) (translate_rel g x)
  | .nps _ _ => rfl
theorem translateList_rel (g : Graph) : ∀ xs : List Syn, relList g (translateList xs) = denList g xs
  | [] => rfl
  | x :: xs => congrArg₂ List.cons (translate_rel g x) (translateList_rel g xs)
end

/-- `Statement_sparql_path_same` restricted to query paths whose translation has no inverse member in a negated set -/
theorem sparql_path_same_partial :
    ∀ (g : Graph) (t : Syn), (translate t).noInvNeg = true → ∀ (s o : Option Term) (x y : Term),
      (x, y) ∈ evalPath g (translate t) s o ↔
        den g t x y ∧ (∀ a, s = some a → x = a) ∧ (∀ b, o = some b → y = b) ∧
          (s = none → o = none → x ∈ nodes g ∧ y ∈ nodes g) :=
  fun g t h => translate_rel g t ▸ path_correct_partial g (translate t) h

/-- the same defect through SPARQL: `SELECT * { ?s !(^q) ?o }` -/
theorem sparql_path_same_witness : ¬ Statement_sparql_path_same :=
  fun h => neg_inverse_witness (h _ (.nps [] [11]) none none 2 1)

/-- What a user gets: the expression `p` is built by the constructors (`build`) and evaluated.
    False: `path_correct_as_built_witness`. -/
def Statement_path_correct_as_built : Prop :=
  ∀ (g : Graph) (p : Path) (s o : Option Term) (x y : Term),
    (x, y) ∈ evalPath g (build p) s o ↔
      rel g p x y ∧ (∀ a, s = some a → x = a) ∧ (∀ b, o = some b → y = b) ∧
        (s = none → o = none → x ∈ nodes g ∧ y ∈ nodes g)

theorem path_correct_as_built_partial :
    ∀ (g : Graph) (p : Path), (build p).noInvNeg = true → ∀ (s o : Option Term) (x y : Term),
      (x, y) ∈ evalPath g (build p) s o ↔
        rel g p x y ∧ (∀ a, s = some a → x = a) ∧ (∀ b, o = some b → y = b) ∧
          (s = none → o = none → x ∈ nodes g ∧ y ∈ nodes g) :=
  fun g p h => build_preserves_rel g p ▸ path_correct_partial g (build p) h

theorem path_correct_as_built_witness : ¬ Statement_path_correct_as_built :=
  fun h => neg_inverse_witness (h _ (.neg [] [11]) none none 2 1)

/-- The repair of `NegatedPath.eval` kept on branch fix-C11 (`negEvalFixed`) computes the specified
    negated property set. -/
theorem neg_repair_correct (g : Graph) (fw bw : List Term) :
    Correct (nodes g) (negEvalFixed g fw bw) (negRel g fw bw) := by
  refine (denotes_of_scan negRel_nodes fun s o x y => ?_).correct
  simp only [negEvalFixed, negRel, List.mem_append, List.mem_ite_nil_right, mem_scan, mem_scan_rev, Bool.or_eq_true,
    Bool.and_eq_true, Bool.not_eq_true', decide_eq_false_iff_not, List.isEmpty_eq_false_iff, List.isEmpty_iff]
  constructor
  · rintro (⟨hc, p, ht, hs, ho, hp⟩ | ⟨hc, p, ht, ho, hs, hp⟩)
    · exact ⟨Or.inl ⟨hc, p, ht, hp⟩, hs, ho⟩
    · exact ⟨Or.inr ⟨hc, p, ht, hp⟩, hs, ho⟩
  · rintro ⟨⟨hc, p, ht, hp⟩ | ⟨hc, p, ht, hp⟩, hs, ho⟩
    · exact Or.inl ⟨hc, p, ht, hs, ho, hp⟩
    · exact Or.inr ⟨hc, p, ht, ho, hs, hp⟩

/-! ### Known finding C11-F5, characterised: exactly the sets with an inverse member are affected -/

/-- `NegatedPath.eval` computes the specified negated property set on every graph **iff** the set has no inverse
    member: `!(p|…)` and `!()` are right on all graphs, every `!(…|^q|…)` is wrong on some graph. -/
def Statement_neg_affected_iff : Prop :=
  ∀ (fw bw : List Term), (∀ g : Graph, negRelImpl g fw bw = negRel g fw bw) ↔ bw = []

theorem neg_affected_iff : Statement_neg_affected_iff := by
  intro fw bw
  refine ⟨fun h => ?_, fun e g => e ▸ negRelImpl_nil g fw⟩
  cases bw with
  | nil => rfl
  | cons b bs => exact absurd (h _ ▸ (neg_inverse_separates fw b bs).1) (neg_inverse_separates fw b bs).2

/-- the same in terms of what is yielded: for a set with an inverse member there is a graph (one triple `0 q 1`
    with a predicate `q` outside the set) on which `?s !(…) ?o` must answer `(1, 0)` and `NegatedPath.eval` does not -/
theorem neg_affected_answer (fw : List Term) (b : Term) (bs : List Term) :
    ∃ g : Graph, rel g (.neg fw (b :: bs)) 1 0 ∧ (1, 0) ∉ evalPath g (.neg fw (b :: bs)) none none :=
  ⟨_, (neg_inverse_separates fw b bs).1, fun h =>
    (neg_inverse_separates fw b bs).2 ((evalPath_computes _ (.neg fw (b :: bs))).none_none.mp h).1⟩

example : evalPath [(0, freshPred [10, 11], 1)] (.neg [10] [11]) none none = [(0, 1)] := by decide +kernel

/-! ### The syntax tie: `Path.n3()` text, read back as SPARQL and translated

`n3` (N3.lean) is the writer of rdflib/paths.py, `readPath` a recursive-descent reader of SPARQL 1.1 grammar rules [88]–[96]
producing the parser's tree, `translate` the model of `translatePath`; `reparse p = (readPath (n3 p)).map translate` is the
path object a query gets when the user splices `p.n3()` into its text. -/

/-- the text `n3()` writes for `p` is in SPARQL's grammar: no modifier on anything but a primary (`p*+`, `(^p)*` — which is
    written `^p*`), no `^` on a `^` (`^^p`), no empty alternative; single-member sequences / alternatives are transparent -/
def Path.n3Readable (p : Path) : Bool := lvl p != .bad

/-- Splicing `p.n3()` into a query gives a path that denotes what `p` denotes.
    False: `path_n3_roundtrip_witness`. -/
def Statement_path_n3_roundtrip : Prop :=
  ∀ p : Path, ∃ q, reparse p = some q ∧ ∀ g : Graph, rel g q = rel g p

mutual
theorem norm_rel (g : Graph) : ∀ p : Path, rel g (norm p) = rel g p
  | .iri _ => rfl
  | .neg _ _ => rfl
  | .inv x => congrArg (fun R a b => R b a) (norm_rel g x)
  | .mul x m => congrArg (closure m) (norm_rel g x)
  | .seq a [] => norm_rel g a
  | .seq a (b :: bs) =>
    (rel_mkSeq g).trans (congrArg₂ compList (norm_rel g a) (normList_rel g (b :: bs)))
  | .alt [] => rfl
  | .alt [a] => (norm_rel g a).trans unionList_singleton.symm
  | .alt (a :: b :: cs) => (rel_mkAlt g _).trans (congrArg unionList (normList_rel g (a :: b :: cs)))
theorem normList_rel (g : Graph) : ∀ ps : List Path, relList g (normList ps) = relList g ps
  | [] => rfl
  | p :: ps => congrArg₂ List.cons (norm_rel g p) (normList_rel g ps)
end

/-- For every path whose `n3()` text is in the grammar (any depth): the reader accepts the text with the fuel it is
    given, `translatePath` rebuilds exactly `norm p` (the same tree up to single-member wrappers and the constructors'
    splicing), and that path denotes the relation of `p`. -/
theorem path_n3_roundtrip_partial :
    ∀ p : Path, p.n3Readable = true → reparse p = some (norm p) ∧ ∀ g : Graph, rel g (norm p) = rel g p := by
  intro p h
  obtain ⟨t, h1, h2⟩ := read_n3 p (bne_iff_ne.mp h)
  exact ⟨by rw [reparse, h1, Option.map_some, h2], fun g => norm_rel g p⟩

/-- The code falsifies the full statement: `MulPath(MulPath(p, '*'), '+').n3()` is `<p>*+`, which is not a SPARQL path. -/
theorem path_n3_roundtrip_witness : ¬ Statement_path_n3_roundtrip := by
  intro h
  obtain ⟨q, hq, _⟩ := h (.mul (.mul (.iri 10) .zeroOrMore) .oneOrMore)
  have : reparse (.mul (.mul (.iri 10) .zeroOrMore) .oneOrMore) = none := by decide +kernel
  cases this.symm.trans hq

/-- Evaluating the query text `n3()` wrote yields exactly the pairs of the relation `p` denotes (all four bindings), as far
    as `NegatedPath.eval` is right (C11-F5). -/
theorem n3_query_same_partial :
    ∀ (g : Graph) (p : Path), p.n3Readable = true → (norm p).noInvNeg = true → ∀ (s o : Option Term) (x y : Term),
      (∃ q, reparse p = some q ∧ ((x, y) ∈ evalPath g q s o ↔
        rel g p x y ∧ (∀ a, s = some a → x = a) ∧ (∀ b, o = some b → y = b) ∧
          (s = none → o = none → x ∈ nodes g ∧ y ∈ nodes g))) := by
  intro g p h hn s o x y
  exact ⟨norm p, (path_n3_roundtrip_partial p h).1, norm_rel g p ▸ path_correct_partial g (norm p) hn s o x y⟩

-- `(p/(q|^r))*` is written `( p / ( q | ^ r ) ) *`; `(^p)*` is written `^ p *` and read back as `^(p*)` (same relation);
-- `^^p` and the empty alternative have no readable text
example : n3 (.mul (.seq (.iri 10) [.alt [.iri 11, .inv (.iri 12)]]) .zeroOrMore) =
    [.lp, .iri 10, .slash, .lp, .iri 11, .bar, .hat, .iri 12, .rp, .rp, .mod .zeroOrMore] := by decide +kernel
example : Path.n3Readable (.mul (.seq (.iri 10) [.alt [.iri 11, .inv (.iri 12)]]) .zeroOrMore) = true := by decide +kernel
example : (reparse (.mul (.inv (.iri 10)) .zeroOrMore)).isSome = true ∧
    Path.n3Readable (.mul (.inv (.iri 10)) .zeroOrMore) = false := by decide +kernel
example : (reparse (.inv (.inv (.iri 10)))).isNone = true ∧ (reparse (.seq (.iri 10) [.alt []])).isNone = true := by decide +kernel

/-! ### Non-vacuity: cyclic graph (2-cycle, self-loop, 3-cycle), nested closures, all bindings -/

/-- 2-cycle 1⇄2 on p=10, self-loop on 3, 3-cycle 4→5→6→4 on q=11, edge 2 -q-> 4 -/
def exG : Graph := [(1, 10, 2), (2, 10, 1), (3, 10, 3), (4, 11, 5), (5, 11, 6), (6, 11, 4), (2, 11, 4)]
/-- `(p* / (q | ^q))+` -/
def exP : Path := .mul (.seq (.mul (.iri 10) .zeroOrMore) [.alt [.iri 11, .inv (.iri 11)]]) .oneOrMore

example : evalPath exG (.mul (.iri 10) .zeroOrMore) (some 1) none = [(1, 1), (1, 2)] := by decide +kernel
example : evalPath exG (.mul (.iri 10) .oneOrMore) (some 3) none = [(3, 3)] := by decide +kernel
example : evalPath exG (.mul (.iri 10) .zeroOrMore) (some 9) none = [(9, 9)] := by decide +kernel  -- 9 ∉ nodes
example : evalPath exG exP (some 1) none = [(1, 4), (1, 5), (1, 6), (1, 2)] := by decide +kernel
example : evalPath exG exP none (some 2) = [(4, 2), (6, 2), (5, 2), (2, 2), (1, 2)] := by decide +kernel
example : evalPath exG exP (some 1) (some 6) = [(1, 6)] := by decide +kernel
example : (evalPath exG (.mul (.iri 11) .zeroOrMore) none none).length = 15 := by decide +kernel
example : evalPath exG (.neg [10] []) none (some 4) = [(6, 4), (2, 4)] := by decide +kernel
example : mulOk exG (.iri 11) .oneOrMore (some 4) none = true := by decide +kernel
example : build (.seq (.seq (.iri 10) [.iri 11]) [.seq (.iri 10) [.iri 10]]) =
    .seq (.iri 10) [.iri 11, .iri 10, .iri 10] := rfl

-- `(p/^q)*|!(p|^r)` as parsed, and as translated
example : translate (.altS (.seqS (.elt (.altS (.seqS (.elt (.iri 10) none) [.invS (.elt (.iri 11) none)]) []) (some .zeroOrMore)) [])
      [.seqS (.elt (.nps [10] [12]) none) []]) =
    .alt [.mul (.seq (.iri 10) [.inv (.iri 11)]) .zeroOrMore, .neg [10] [12]] := rfl

/-! ### The Graph API with a path as predicate (`Graph.triples` dispatch, `in`, `objects` / `subjects` /
`subject_objects` with `unique=`, list-valued ends, `Graph.value`) -/

/-- Every entry point answers with exactly the relation the code computes for the path (`relC`; the specified one
    unless C11-F5 applies), whatever `unique` is. -/
def Statement_api_dispatch : Prop :=
  ∀ (g : Graph) (p : Path),
    (∀ a b, gContains g p a b = true ↔ relC g p a b) ∧
    (∀ a u y, y ∈ gObjects g p (some a) u ↔ relC g p a y) ∧
    (∀ b u x, x ∈ gSubjects g p (some b) u ↔ relC g p x b) ∧
    (∀ u x y, (x, y) ∈ gSubjectObjects g p u ↔ relC g p x y ∧ x ∈ nodes g ∧ y ∈ nodes g) ∧
    (∀ ss u y, y ∈ gObjectsOfList g p ss u ↔ ∃ a ∈ ss, relC g p a y) ∧
    (∀ os u x, x ∈ gSubjectsOfList g p os u ↔ ∃ b ∈ os, relC g p x b) ∧
    (∀ a, (gValueObj g p a = none ↔ ∀ y, ¬ relC g p a y) ∧ ∀ y, gValueObj g p a = some y → relC g p a y) ∧
    (∀ b, (gValueSubj g p b = none ↔ ∀ x, ¬ relC g p x b) ∧ ∀ x, gValueSubj g p b = some x → relC g p x b)

/-- `unique=True` answers are duplicate-free for every path (not only closures). -/
def Statement_api_unique_nodup : Prop :=
  ∀ (g : Graph) (p : Path),
    (∀ s, (gObjects g p s true).Nodup) ∧ (∀ o, (gSubjects g p o true).Nodup) ∧ (gSubjectObjects g p true).Nodup

theorem mem_ite_uniq {α : Type} [DecidableEq α] (u : Bool) (L : List α) (x : α) :
    x ∈ (if u = true then uniq [] L else L) ↔ x ∈ L := by
  cases u
  · exact Iff.rfl
  · exact (mem_uniq L [] x).trans (and_iff_left List.not_mem_nil)

theorem mem_gObjects (g : Graph) (p : Path) (a : Term) (u : Bool) (y : Term) :
    y ∈ gObjects g p (some a) u ↔ relC g p a y := by
  rw [gObjects, mem_ite_uniq, List.mem_map]
  constructor
  · rintro ⟨⟨x, y'⟩, h, rfl⟩; exact ((evalPath_computes g p).some_none.mp h).2
  · exact fun hr => ⟨(a, y), (evalPath_computes g p).some_none.mpr ⟨rfl, hr⟩, rfl⟩

theorem mem_gSubjects (g : Graph) (p : Path) (b : Term) (u : Bool) (x : Term) :
    x ∈ gSubjects g p (some b) u ↔ relC g p x b := by
  rw [gSubjects, mem_ite_uniq, List.mem_map]
  constructor
  · rintro ⟨⟨x', y⟩, h, rfl⟩; exact ((evalPath_computes g p).none_some.mp h).2
  · exact fun hr => ⟨(x, b), (evalPath_computes g p).none_some.mpr ⟨rfl, hr⟩, rfl⟩

theorem api_dispatch : Statement_api_dispatch := by
  intro g p
  have pc := evalPath_computes g p
  refine ⟨fun a b => ?contains, mem_gObjects g p, mem_gSubjects g p, fun u x y => ?subjectObjects,
    fun ss u y => ?objectsOfList, fun os u x => ?subjectsOfList,
    fun a => ⟨?valueObjNone, fun y h => (mem_gObjects g p a false y).mp (List.mem_of_head? h)⟩,
    fun b => ⟨?valueSubjNone, fun x h => (mem_gSubjects g p b false x).mp (List.mem_of_head? h)⟩⟩
  case contains =>
    -- some pair is yielded; every pair yielded with both ends given is `(a, b)`
    have hne : gContains g p a b = true ↔ ∃ r, r ∈ evalPath g p (some a) (some b) := by
      rw [gContains, gTriples]
      cases evalPath g p (some a) (some b) with
      | nil => exact ⟨nofun, fun ⟨_, h⟩ => nomatch h⟩
      | cons r rs => exact ⟨fun _ => ⟨r, List.mem_cons_self ..⟩, fun _ => rfl⟩
    exact hne.trans ⟨fun ⟨(_, _), h⟩ => (pc.some_some.mp h).2.2, fun hr => ⟨(a, b), pc.some_some.mpr ⟨rfl, rfl, hr⟩⟩⟩
  case subjectObjects => rw [gSubjectObjects, mem_ite_uniq]; exact pc.none_none
  case objectsOfList => simp only [gObjectsOfList, List.mem_flatMap, mem_gObjects]
  case subjectsOfList => simp only [gSubjectsOfList, List.mem_flatMap, mem_gSubjects]
  case valueObjNone =>
    rw [gValueObj, List.head?_eq_none_iff, List.eq_nil_iff_forall_not_mem]
    exact forall_congr' fun y => not_congr (mem_gObjects g p a false y)
  case valueSubjNone =>
    rw [gValueSubj, List.head?_eq_none_iff, List.eq_nil_iff_forall_not_mem]
    exact forall_congr' fun x => not_congr (mem_gSubjects g p b false x)

theorem api_unique_nodup : Statement_api_unique_nodup :=
  fun _ _ => ⟨fun _ => nodup_uniq, fun _ => nodup_uniq, nodup_uniq⟩

/-- the first four clauses against the *specified* relation, for every path without an inverse member in a negated set
    (C11-F5) -/
theorem api_dispatch_correct_partial (g : Graph) (p : Path) (h : p.noInvNeg = true) :
    (∀ a b, gContains g p a b = true ↔ rel g p a b) ∧
    (∀ a u y, y ∈ gObjects g p (some a) u ↔ rel g p a y) ∧
    (∀ b u x, x ∈ gSubjects g p (some b) u ↔ rel g p x b) ∧
    (∀ u x y, (x, y) ∈ gSubjectObjects g p u ↔ rel g p x y ∧ x ∈ nodes g ∧ y ∈ nodes g) := by
  have := api_dispatch g p
  rw [relC_eq_rel g p h] at this
  exact ⟨this.1, this.2.1, this.2.2.1, this.2.2.2.1⟩

example : gContains exG exP 1 6 = true ∧ gObjects exG (.seq (.iri 10) [.inv (.iri 10)]) (some 1) false = [1] ∧
    gObjects exG (.alt [.iri 10, .inv (.iri 10)]) (some 1) false = [2, 2] ∧
    gObjects exG (.alt [.iri 10, .inv (.iri 10)]) (some 1) true = [2] ∧ gValueObj exG exP 9 = none := by decide +kernel

/-- `first=True` (the default, what `Graph.triples` uses) is the evaluation above; `first=False` with an end given yields
    exactly the pairs joined by one or more steps (`?`: exactly one step) — the zero-length pair only if a cycle returns —
    still duplicate-free; with both ends free the flag changes nothing. -/
def Statement_mul_first_flag : Prop :=
  ∀ (g : Graph) (p : Path) (m : Mod) (s o : Option Term),
    mulEvalF g (evalPath g p) m true s o = evalPath g (.mul p m) s o ∧
    (mulEvalF g (evalPath g p) m false s o).Nodup ∧
    ∀ x y, (x, y) ∈ mulEvalF g (evalPath g p) m false s o ↔
      (if s = none ∧ o = none then closure m (relC g p) x y
       else (if m.more = true then TransGen (relC g p) x y else relC g p x y)) ∧
      (∀ a, s = some a → x = a) ∧ (∀ b, o = some b → y = b) ∧ (s = none → o = none → x ∈ nodes g ∧ y ∈ nodes g)

theorem mul_first_flag : Statement_mul_first_flag :=
  fun g p m s o => ⟨by rw [mulEvalF_true]; rfl, nodup_mulEvalF g _ m false s o,
    mulF_false_correct (evalPath_denotes g p) m s o⟩

example : mulEvalF exG (evalPath exG (.iri 10)) .zeroOrMore false (some 1) none = [(1, 2), (1, 1)] ∧
    mulEvalF exG (evalPath exG (.iri 11)) .zeroOrMore false (some 2) none = [(2, 4), (2, 5), (2, 6)] ∧
    mulEvalF exG (evalPath exG (.iri 10)) .zeroOrOne false none (some 9) = [] := by decide +kernel

/-- `?x path ?x` answers exactly the diagonal of the relation over ALL nodes of the graph (subjects and objects alike, so
    object-only nodes such as literals too); zero-length paths list every node; pre-bound to a term `a` (which may be absent
    from the graph) it answers iff `(a, a)` is in the relation.  A variable bound by another pattern of the BGP restricts
    the answers to that pattern's terms: the subject by a pattern evaluated before the path, the object by one evaluated
    after it. -/
def Statement_bgp_binding_shapes : Prop :=
  ∀ (g : Graph) (p : Path),
    (∀ x y, (x, y) ∈ bgpSame g p none ↔ x = y ∧ relC g p x x ∧ x ∈ nodes g) ∧
    (∀ a x y, (x, y) ∈ bgpSame g p (some a) ↔ x = a ∧ y = a ∧ relC g p a a) ∧
    (∀ x y, (x, y) ∈ bgpSubjBefore g p ↔ relC g p x y ∧ ∃ t ∈ g, t.1 = x) ∧
    (∀ x y, (x, y) ∈ bgpObjAfter g p ↔ (relC g p x y ∧ x ∈ nodes g ∧ y ∈ nodes g) ∧ ∃ t ∈ g, t.2.2 = y)

theorem bgp_binding_shapes : Statement_bgp_binding_shapes := by
  intro g p
  have pc := evalPath_computes g p
  refine ⟨fun x y => ?_, fun a x y => pc.some_some, fun x y => ?_, fun x y => ?_⟩
  · rw [bgpSame, List.mem_filter, pc.none_none, beq_iff_eq]
    constructor
    · rintro ⟨⟨hr, hx, _⟩, e⟩; obtain rfl : x = y := e; exact ⟨rfl, hr, hx⟩
    · rintro ⟨rfl, hr, hx⟩; exact ⟨⟨hr, hx, hx⟩, rfl⟩
  · simp only [bgpSubjBefore, List.mem_flatMap, pc.some_none]
    constructor
    · rintro ⟨t, ht, rfl, hr⟩; exact ⟨hr, t, ht, rfl⟩
    · rintro ⟨hr, t, ht, rfl⟩; exact ⟨t, ht, rfl, hr⟩
  · simp only [bgpObjAfter, List.mem_filter, pc.none_none, List.any_eq_true, beq_iff_eq]

/-- `?x p* ?x`, `?x p? ?x` list every node of the graph — object-only nodes (literals) included -/
theorem bgp_same_zero_length (g : Graph) (p : Path) (m : Mod) (hz : m.zero = true) (s q o : Term) (h : (s, q, o) ∈ g) :
    (o, o) ∈ bgpSame g (.mul p m) none ∧ (s, s) ∈ bgpSame g (.mul p m) none :=
  ⟨((bgp_binding_shapes g _).1 o o).mpr ⟨rfl, closure_refl hz, (triple_nodes h).2⟩,
    ((bgp_binding_shapes g _).1 s s).mpr ⟨rfl, closure_refl hz, (triple_nodes h).1⟩⟩

-- the object-only literal 7: `?x ^q/q ?x` and `?x q* ?x` on `3 q 7`
example : bgpSame [(3, 11, 7)] (.seq (.inv (.iri 11)) [.iri 11]) none = [(7, 7)] ∧
    bgpSame [(3, 11, 7)] (.mul (.iri 11) .zeroOrMore) none = [(3, 3), (7, 7)] := by decide +kernel

/-! ### Paths over graph *objects*: plain Graph / named-graph view, ConjunctiveGraph & Dataset(default_union),
ReadOnlyGraphAggregate.  `evalPathV tr` is the evaluator handed the object's `triples` method `tr` (the only thing paths.py
reads of it); `Coherent tr`: that method is a filter of its own full scan. -/

/-- Evaluating a path over a graph object reads it through `triples` only, and yields exactly what evaluation over the
    list of triples the object scans yields (so every theorem above transfers); closures stay duplicate-free.  The three
    kinds of object rdflib has are coherent and scan exactly the triples of their contexts / members. -/
def Statement_view_eval_same : Prop :=
  (∀ (tr : TriplesFn), Coherent tr → ∀ (p : Path) (s o : Option Term),
    (∀ x y, (x, y) ∈ evalPathV tr p s o ↔ (x, y) ∈ evalPath (tr none none none) p s o) ∧
    (p.isClosure = true → (evalPathV tr p s o).Nodup)) ∧
  (∀ g : Graph, Coherent (plainView g) ∧ ∀ t, t ∈ plainView g none none none ↔ t ∈ g) ∧
  (∀ ctxs : List Graph, Coherent (unionView ctxs) ∧ ∀ t, t ∈ unionView ctxs none none none ↔ ∃ c ∈ ctxs, t ∈ c) ∧
  (∀ ms : List Graph, Coherent (aggView ms) ∧ ∀ t, t ∈ aggView ms none none none ↔ ∃ m ∈ ms, t ∈ m)

theorem view_eval_same : Statement_view_eval_same := by
  refine ⟨fun tr h p s o => ⟨fun x y => ?_, nodup_of_isClosure tr p s o⟩,
    fun g => view_of_mem fun _ _ _ _ => List.mem_filter, fun ctxs => view_of_mem (mem_unionView ctxs),
    fun ms => view_of_mem (mem_aggView ms)⟩
  rw [evalPathV_computes h p s o x y, evalPath_computes (tr none none none) p s o x y]

-- `p/q` over an aggregate whose members hold one hop each, a shared triple, and the named view that sees one member only
example : evalPathV (aggView [[(1, 10, 2), (5, 10, 5)], [(2, 11, 3), (5, 10, 5)]]) (.seq (.iri 10) [.iri 11]) none none = [(1, 3)] ∧
    evalPathV (unionView [[(1, 10, 2), (5, 10, 5)], [(2, 11, 3), (5, 10, 5)]]) (.mul (.iri 10) .oneOrMore) none none = [(1, 2), (5, 5)] ∧
    evalPathV (plainView [(2, 11, 3), (5, 10, 5)]) (.seq (.iri 10) [.iri 11]) none none = [] := by decide +kernel

/-! ### The defects the `fix:` commits on /repo main repair, as regression witnesses.  Each definition is the
    generator as it was before its repair; each theorem shows on a concrete instance that it violates the property. -/

def wG : Graph := [(1, 10, 2), (2, 10, 1)]

/-- pre-fix `MulPath.eval`: the zero-length pair was yielded before the `done` filter existed -/
def mulEvalPrefixDone (g : Graph) (ev : Ev) (m : Mod) : Ev := fun s o =>
  (if m.zero then zeroPairs s o else []) ++ dedupInto [] (mulRun g ev m s o).1

theorem prefix_zero_pair_twice :
    ¬ (mulEvalPrefixDone wG (tri wG 10) .zeroOrMore (some 1) none).Nodup := by decide +kernel

/-- Python truthiness of a bound end: a falsy term counts as "not given" -/
def truthy (falsy : Term → Bool) : Option Term → Option Term
  | some t => if falsy t then none else some t
  | none => none

/-- pre-fix `MulPath.eval` (`if subj and obj / elif subj / elif obj`, `if not obj or o == obj`) -/
def mulEvalPrefixTruthy (falsy : Term → Bool) (g : Graph) (ev : Ev) (m : Mod) : Ev := fun s o =>
  (if m.zero then zeroPairs (truthy falsy s) (truthy falsy o) else []) ++
  dedupInto [] (match s, o with
    | some a, o => (fwd ev m.more (truthy falsy o) ((nodes g).length + 1) a []).out
    | none, some b => (bwd ev m.more ((nodes g).length + 1) b []).out
    | none, none => (allFwd g ev m ((nodes g).length + 1)).1)

def wF : Graph := [(1, 10, 0), (1, 10, 2)]

/-- `1 p+ 0` with `0` falsy returned every node reachable from 1; `0 p? 0` had no zero-length match -/
theorem prefix_falsy_end_ignored :
    mulEvalPrefixTruthy (· == 0) wF (tri wF 10) .oneOrMore (some 1) (some 0) = [(1, 0), (1, 2)] ∧
    mulEvalPrefixTruthy (· == 0) wF (tri wF 10) .zeroOrOne (some 0) (some 0) = [] ∧
    evalPath wF (.mul (.iri 10) .oneOrMore) (some 1) (some 0) = [(1, 0)] ∧
    evalPath wF (.mul (.iri 10) .zeroOrOne) (some 0) (some 0) = [(0, 0)] := by decide +kernel

/-- pre-fix `_eval_seq_bw`: after the last step it switched to the forward `_eval_seq` with a free start -/
def seqBwRevPrefix : Ev → List Ev → Ev
  | l, [] => fun s o => l s o
  | l, l' :: ls => fun s o =>
    (l none o).flatMap (fun my =>
      (seqFw (revOnto ls l' []).1 (revOnto ls l' []).2 s (some my.1)).map (fun r => (r.1, my.2)))

/-- `?s p*/p*/p* 9` on a graph without 9: the zero-length match on the given end was lost -/
theorem prefix_seq_bw_loses_absent_end :
    seqBwRevPrefix (evalPath wG (.mul (.iri 10) .zeroOrMore))
      [evalPath wG (.mul (.iri 10) .zeroOrMore), evalPath wG (.mul (.iri 10) .zeroOrMore)] none (some 9) = [] ∧
    evalPath wG (.seq (.mul (.iri 10) .zeroOrMore) [.mul (.iri 10) .zeroOrMore, .mul (.iri 10) .zeroOrMore])
      none (some 9) = [(9, 9)] := by decide +kernel

/-- pre-fix `ReadOnlyGraphAggregate.triples`: the path was evaluated once per member graph and the
    loop rebound `s`, `o` to the last pair produced -/
def aggPrefix (e : Ev) : Nat → Option Term → Option Term → List Pair
  | 0, _, _ => []
  | k + 1, s, o =>
    e s o ++ (match (e s o).getLast? with
      | some r => aggPrefix e k (some r.1) (some r.2)
      | none => aggPrefix e k s o)

theorem prefix_aggregate_duplicates :
    ¬ (aggPrefix (evalPath wG (.mul (.iri 10) .zeroOrMore)) 2 (some 1) none).Nodup := by decide +kernel

end RV.C11

import RV.C11.Model
import Mathlib.Logic.Relation
/-
  C11 — the vocabulary of the theorem statements of Props.lean: relations over terms and their operators, what it means
  for an evaluator to be right about one (`Restr`, `Correct`, `Iso`), and `lvl`, `norm` of the `n3()` round trip.
-/
namespace RV.C11

section
open Relation

abbrev Rel := Term → Term → Prop

/-- Mathlib's `Relation.Comp` under the name the statements use; `comp_assoc`, `comp_conv` hand its lemmas over -/
def comp (R S : Rel) : Rel := fun x y => ∃ m, R x m ∧ S m y

def compList : Rel → List Rel → Rel
  | R, [] => R
  | R, S :: Ss => comp R (compList S Ss)

def unionList (Rs : List Rel) : Rel := fun x y => ∃ R ∈ Rs, R x y

/-- `?`, `*`, `+` : reflexive / reflexive-transitive / transitive closure.  The reflexive part is the
    identity on *all* terms; which zero-length pairs are answers is decided by `Restr`. -/
def closure : Mod → Rel → Rel
  | .zeroOrOne, R => fun x y => x = y ∨ R x y
  | .zeroOrMore, R => ReflTransGen R
  | .oneOrMore, R => TransGen R

/-- negated property set (SPARQL 1.1 §18.2.2.2): forward part ∪ converse of the inverse part; the
    forward part is present when there is a plain member or no member at all, the inverse part
    when there is an inverse member. -/
def negRel (g : Graph) (fw bw : List Term) : Rel := fun x y =>
  ((fw ≠ [] ∨ bw = []) ∧ ∃ p, (x, p, y) ∈ g ∧ p ∉ fw) ∨
  (bw ≠ [] ∧ ∃ p, (y, p, x) ∈ g ∧ p ∉ bw)

/-- the relation `NegatedPath.eval` computes: forward triples whose predicate is not a plain member and
    whose reversal does not occur with an inverse member's predicate -/
def negRelImpl (g : Graph) (fw bw : List Term) : Rel := fun x y =>
  ∃ p, (x, p, y) ∈ g ∧ p ∉ fw ∧ ∀ a ∈ bw, (y, a, x) ∉ g

/-- restriction of a relation to the given ends; when neither end is given the answer ranges
    over the nodes `N` of the graph (SPARQL's ZeroLengthPath with two variables) -/
def Restr (N : List Term) (s o : Option Term) (x y : Term) : Prop :=
  (∀ a, s = some a → x = a) ∧ (∀ b, o = some b → y = b) ∧ (s = none → o = none → x ∈ N ∧ y ∈ N)

/-- evaluator `e` yields exactly the pairs of `R` allowed by the given ends -/
def Correct (N : List Term) (e : Ev) (R : Rel) : Prop :=
  ∀ s o x y, (x, y) ∈ e s o ↔ R x y ∧ Restr N s o x y

/-- a relation only relates a term outside `N` to itself -/
def Iso (N : List Term) (R : Rel) : Prop := ∀ x y, R x y → x = y ∨ (x ∈ N ∧ y ∈ N)

inductive CorrectL (N : List Term) : List Ev → List Rel → Prop
  | nil : CorrectL N [] []
  | cons {e : Ev} {R : Rel} {es : List Ev} {Rs : List Rel} :
      Correct N e R → CorrectL N es Rs → CorrectL N (e :: es) (R :: Rs)

end

/-- grammar level of a text: PathPrimary, PathElt, `^` PathElt, none -/
inductive Lvl
  | prim | elt | inv | bad
  deriving DecidableEq, Repr

/-- the level of `^x` from the level of `x`'s text -/
def lvlInv : Lvl → Lvl
  | .prim => .inv
  | .elt => .inv
  | _ => .bad

/-- the level of `x` with a modifier from the level of `x`'s text -/
def lvlMul : Lvl → Lvl
  | .prim => .elt
  | _ => .bad

mutual
/-- what the text `_n3(p)` is in SPARQL's grammar (the writer parenthesises only sequences / alternatives with two or more
    members): a PathPrimary, a PathElt (primary + modifier), `^` PathElt, or not a path at all (`bad`: a modifier on a
    non-primary `p*+`, `(^p)*` written `^p*`, `^^p`, an empty alternative) -/
def lvl : Path → Lvl
  | .iri _ => .prim
  | .neg _ _ => .prim
  | .inv x => lvlInv (lvl x)
  | .mul x _ => lvlMul (lvl x)
  | .seq a [] => lvl a
  | .seq a (b :: bs) => if lvl a != .bad && (lvl b != .bad && okList bs) then .prim else .bad
  | .alt [] => .bad
  | .alt [a] => lvl a
  | .alt (a :: b :: cs) => if lvl a != .bad && (lvl b != .bad && okList cs) then .prim else .bad
def okList : List Path → Bool
  | [] => true
  | p :: ps => lvl p != .bad && okList ps
end

mutual
/-- the path object `translatePath` builds from the tree of the text: single-member sequences / alternatives vanish,
    parenthesised groups are spliced by the constructors -/
def norm : Path → Path
  | .iri p => .iri p
  | .neg fw bw => .neg fw bw
  | .inv x => .inv (norm x)
  | .mul x m => .mul (norm x) m
  | .seq a [] => norm a
  | .seq a (b :: bs) => mkSeq (norm a) (norm b :: normList bs)
  | .alt [] => .alt []
  | .alt [a] => norm a
  | .alt (a :: b :: cs) => mkAlt (norm a :: norm b :: normList cs)
def normList : List Path → List Path
  | [] => []
  | p :: ps => norm p :: normList ps
end

end RV.C11

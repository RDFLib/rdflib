import RV.C06.Spec
/-
  C06 — which statements does each emitter write?  For every format and every source whose `contexts()` cover its
  quads: the quads themselves, with ONE graph (`asDefault`) read as the default graph.  A Dataset is the case where
  that graph is the default graph already.  Everything is about membership (documents and datasets are read as sets).
-/
namespace RV.C06

theorem mem_triplesOf {d : List Quad} {g : Name} {t : Triple} :
    t ∈ triplesOf d g ↔ (t, g) ∈ d := by
  induction d with
  | nil => simp [triplesOf]
  | cons q qs ih =>
    obtain ⟨t', g'⟩ := q
    by_cases h : g' = g
    · simp [triplesOf, h, ih]
    · simp [triplesOf, h, ih, Ne.symm h]

theorem isEmpty_triplesOf_false {d : List Quad} {g : Name} {t : Triple} (h : (t, g) ∈ d) :
    (triplesOf d g).isEmpty = false := by
  have := mem_triplesOf.mpr h
  cases hx : triplesOf d g <;> simp_all

theorem mem_dedup {l : List Name} {g : Name} : g ∈ dedup l ↔ g ∈ l := by
  induction l with
  | nil => simp [dedup]
  | cons x xs ih => by_cases e : g = x <;> simp [dedup, ih, e]

theorem nodup_dedup (l : List Name) : (dedup l).Nodup := by
  induction l with
  | nil => simp [dedup]
  | cons x xs ih =>
    simp only [dedup, List.nodup_cons, mem_sremove]
    exact ⟨fun h => h.1 rfl, nodup_sremove ih⟩

theorem mem_blockStmts {sp : Spell} {ts : List Triple} {t : Triple} {g : Name} :
    (t, g) ∈ blockStmts sp ts ↔ t ∈ ts ∧ g = dest sp := by
  induction ts with
  | nil => simp [blockStmts]
  | cons x xs ih => simp [blockStmts, ih, or_and_right]

theorem mem_stmts {bs : List Block} {t : Triple} {g : Name} :
    (t, g) ∈ stmts bs ↔ ∃ b ∈ bs, dest b.spell = g ∧ t ∈ b.triples := by
  induction bs with
  | nil => simp [stmts]
  | cons b bs ih =>
    rw [stmts, List.mem_append, mem_blockStmts, ih, and_comm, eq_comm]
    simp

theorem mem_stmts_map {d : List Quad} {sp : Name → Spell} {names : List Name} {t : Triple} {g' : Name} :
    (t, g') ∈ stmts (names.map (blockOf d sp)) ↔ ∃ g ∈ names, (t, g) ∈ d ∧ g' = dest (sp g) := by
  induction names with
  | nil => simp [stmts]
  | cons g gs ih => simp [stmts, blockOf, mem_blockStmts, mem_triplesOf, ih]

theorem mem_stmts_nonEmptyBlocks {bs : List Block} {t : Triple} {g : Name} :
    (t, g) ∈ stmts (nonEmptyBlocks bs) ↔ (t, g) ∈ stmts bs := by
  simp only [mem_stmts, nonEmptyBlocks, List.mem_filter]
  refine exists_congr fun b => and_congr_left fun h => and_iff_left ?_
  cases hx : b.triples with
  | nil => rw [hx] at h; cases h.2
  | cons _ _ => rfl

theorem mem_ctxPlusDefault {s : Src} {g : Name} :
    g ∈ ctxPlusDefault s ↔ g ∈ ctxList s ∨ (dfltNonEmpty s = true ∧ g = s.dflt) := by
  by_cases h : dfltNonEmpty s = true <;> simp [ctxPlusDefault, h]

theorem mem_ctxList {s : Src} {g : Name} : g ∈ ctxList s ↔ g ∈ s.cs ∨ (s.cg = false ∧ g = Name.default) := by
  by_cases e : s.cg = true <;> by_cases e' : Name.default ∈ s.cs <;> simp [ctxList, e, e']
  rintro rfl
  exact e'

theorem toDs_eq (dflt : Name) (q : Quad) : toDs dflt q = (q.1, toDsName dflt q.2) := rfl

theorem toDsName_of_eq {dflt g : Name} (h : g = dflt) : toDsName dflt g = Name.default := if_pos h

theorem toDsName_of_ne {dflt g : Name} (h : g ≠ dflt) : toDsName dflt g = g := if_neg h

theorem mem_map_toDs {d : List Quad} {dflt : Name} {t : Triple} {g' : Name} :
    (t, g') ∈ d.map (toDs dflt) ↔ ∃ g, (t, g) ∈ d ∧ g' = toDsName dflt g := by
  simp only [List.mem_map]
  constructor
  · rintro ⟨⟨t0, g0⟩, h, e⟩
    simp only [toDs_eq, Prod.mk.injEq] at e
    obtain ⟨rfl, rfl⟩ := e
    exact ⟨g0, h, rfl⟩
  · rintro ⟨g0, h, rfl⟩
    exact ⟨(t, g0), h, rfl⟩

theorem toDsName_default (g : Name) : toDsName Name.default g = g := by
  by_cases h : g = Name.default
  · exact (toDsName_of_eq h).trans h.symm
  · exact toDsName_of_ne h

theorem toDsName_self_default (dflt : Name) : toDsName dflt Name.default = Name.default := by
  by_cases h : Name.default = dflt
  · exact toDsName_of_eq h
  · exact toDsName_of_ne h

theorem map_toDs_default (d : List Quad) : d.map (toDs Name.default) = d := by
  induction d with
  | nil => rfl
  | cons q qs ih => rw [List.map_cons, ih, toDs_eq, toDsName_default]

theorem stmts_map_toDs {d : List Quad} {sp : Name → Spell} {names : List Name} {dflt : Name}
    (hsp : ∀ g, (∃ t, (t, g) ∈ d) → dest (sp g) = toDsName dflt g)
    (hcov : ∀ q ∈ d, q.2 ∈ names) :
    SetEq (stmts (names.map (blockOf d sp))) (d.map (toDs dflt)) := by
  rintro ⟨t, g'⟩
  rw [mem_stmts_map, mem_map_toDs]
  exact exists_congr fun g => ⟨fun ⟨_, ht, hg⟩ => ⟨ht, hg.trans (hsp g ⟨t, ht⟩)⟩,
    fun ⟨ht, hg⟩ => ⟨hcov _ ht, ht, hg.trans (hsp g ⟨t, ht⟩).symm⟩⟩

theorem dest_nqSpell (g : Name) : dest (nqSpell g) = g := by
  by_cases h : g = Name.default <;> simp [nqSpell, h, dest]

theorem nqSpell_eq_unnamed (g : Name) : nqSpell g = Spell.unnamed ↔ g = Name.default := by
  by_cases h : g = Name.default <;> simp [nqSpell, h]

theorem patchSpell_ds {s : Src} (h : s.dflt = Name.default) (g : Name) : patchSpell s g = nqSpell g := by
  by_cases e : g = Name.default <;> simp [patchSpell, nqSpell, h, e]

theorem dest_trigSpell (s : Src) (g : Name) : dest (trigSpell s g) = toDsName s.dflt g := by
  unfold trigSpell
  split
  · next h => exact (toDsName_of_eq h).symm
  · next h => exact (toDsName_of_ne h).symm

theorem dest_patchSpell (s : Src) (g : Name) : dest (patchSpell s g) = toDsName s.dflt g := by
  unfold patchSpell
  split
  · next h => exact (toDsName_of_eq h).symm
  · next h => rw [toDsName_of_ne h, dest_nqSpell]

theorem dfltNonEmpty_of_mem {s : Src} {t : Triple} (h : (t, s.dflt) ∈ s.d) : dfltNonEmpty s = true := by
  unfold dfltNonEmpty
  rw [isEmpty_triplesOf_false h]
  rfl

/-- hext decides by the truthiness of the default context; a graph that holds a quad is truthy -/
theorem dest_hextSpell {s : Src} {g : Name} {t : Triple} (ht : (t, g) ∈ s.d) :
    dest (hextSpell s g) = toDsName s.dflt g := by
  by_cases e : g = s.dflt
  · subst e
    rw [toDsName_of_eq rfl]
    simp [hextSpell, dfltNonEmpty_of_mem ht, dest]
  · rw [toDsName_of_ne e]
    by_cases e' : g = Name.default <;> simp [hextSpell, e, e', dest]

/-- loop step: `A` = collected so far, `Q` = what qualifies `a`; an `x` that qualifies was collected already -/
theorem or_and_mem_cons {α : Type} {a x : α} {xs : List α} {A Q : Prop} (h : a = x → Q → A) :
    (A ∨ (a ∈ xs ∧ Q)) ↔ (A ∨ (a ∈ x :: xs ∧ Q)) := by
  rw [List.mem_cons, or_and_right, ← or_assoc, or_iff_left_of_imp (b := a = x ∧ Q) fun hq => h hq.1 hq.2]

/-- one turn of the loop, with the tests as propositions -/
theorem jsonldLoop_cons (s : Src) (own : Bool) (x : Name) (xs named : List Name) (merged : List Triple) :
    jsonldLoop s own (x :: xs) (named, merged) = jsonldLoop s own xs
      (if (own = true ∧ x = Name.default) ∨ x ∈ named then (named, merged)
       else if x.isIri = true ∨ x ≠ s.dflt then (named ++ [x], merged)
       else (named, merged ++ triplesOf s.d x)) := by
  rw [jsonldLoop]
  simp only [Bool.or_eq_true, Bool.and_eq_true, decide_eq_true_eq]
  split
  · rfl
  · split <;> rfl

theorem mem_jsonldLoop_named (s : Src) (own : Bool) (gs : List Name) :
    ∀ (named : List Name) (merged : List Triple) (g : Name),
      g ∈ (jsonldLoop s own gs (named, merged)).1 ↔
        g ∈ named ∨ (g ∈ gs ∧ ¬ (own = true ∧ g = Name.default) ∧ (g.isIri = true ∨ g ≠ s.dflt)) := by
  induction gs with
  | nil => intro named merged g; simp [jsonldLoop]
  | cons x xs ih =>
    intro named merged g
    rw [jsonldLoop_cons]
    split
    · next h =>
      rw [ih]
      refine or_and_mem_cons ?_
      rintro rfl ⟨h2, _⟩
      exact h.resolve_left h2
    · next h =>
      split
      · next h2 =>
        -- `x` is collected in this turn; it also qualifies (`h`, `h2`), so `g = x` and `g = x ∧ …` say the same
        rw [ih, List.mem_append, List.mem_singleton, List.mem_cons, or_and_right, or_assoc]
        exact or_congr_right (or_congr_left ⟨fun e => ⟨e, e ▸ ⟨fun ho => h (Or.inl ho), h2⟩⟩, And.left⟩)
      · next h2 =>
        rw [ih]
        refine or_and_mem_cons ?_
        rintro rfl ⟨_, h3⟩
        exact absurd h3 h2

theorem mem_jsonldLoop_merged (s : Src) (own : Bool) (t : Triple) (gs : List Name) :
    ∀ (named : List Name) (merged : List Triple), (s.dflt.isIri = false → s.dflt ∉ named) →
      (t ∈ (jsonldLoop s own gs (named, merged)).2 ↔
        t ∈ merged ∨ (s.dflt ∈ gs ∧ s.dflt.isIri = false ∧ t ∈ triplesOf s.d s.dflt)) := by
  induction gs with
  | nil => intro named merged _; simp [jsonldLoop]
  | cons x xs ih =>
    -- `hn` is the loop invariant: a blank-node default context is never collected as a named graph
    intro named merged hn
    rw [jsonldLoop_cons]
    split
    · next h =>
      rw [ih _ _ hn]
      refine or_and_mem_cons ?_
      rintro rfl ⟨hi, _⟩
      rcases h with ⟨_, h⟩ | h
      · rw [h] at hi; cases hi
      · exact absurd h (hn hi)
    · split
      · next h2 =>
        have hx : s.dflt.isIri = false → s.dflt ≠ x := by
          rintro hi rfl
          rcases h2 with h2 | h2
          · rw [hi] at h2; cases h2
          · exact h2 rfl
        rw [ih _ _ (fun hi => by simp [hn hi, hx hi])]
        exact or_and_mem_cons fun e q => absurd e (hx q.1)
      · next h2 =>
        simp only [not_or, Decidable.not_not, Bool.not_eq_true] at h2
        obtain ⟨hi, rfl⟩ := h2
        rw [ih _ _ hn, List.mem_append]
        simp only [hi, List.mem_cons_self, true_and, or_assoc]
        exact or_congr_right (or_iff_left_of_imp And.right)

theorem stmts_emitTrig {s : Src} (hc : Covers s) : SetEq (stmts (emitTrig s)) (s.d.map (toDs s.dflt)) := by
  refine stmts_map_toDs (fun g _ => dest_trigSpell s g) (fun q hq => ?_)
  rw [List.mem_filter]
  refine ⟨mem_dedup.mpr (mem_ctxPlusDefault.mpr (Or.inl (hc q hq))), ?_⟩
  rw [isEmpty_triplesOf_false (t := q.1) hq]
  rfl

/-- TriG writes ONE block per graph: for a Dataset a block's destination is the graph it was made from -/
theorem nodup_dest_emitTrig {s : Src} (h : s.dflt = Name.default) :
    ((emitTrig s).map (fun b => dest b.spell)).Nodup := by
  have hd : (fun b : Block => dest b.spell) ∘ blockOf s.d (trigSpell s) = id :=
    funext fun g => by rw [Function.comp_apply, blockOf, dest_trigSpell, h, toDsName_default]; rfl
  unfold emitTrig
  rw [List.map_map, hd, List.map_id]
  exact (nodup_dedup _).sublist List.filter_sublist

theorem triples_ne_nil_of_mem_emitTrig {s : Src} : ∀ b ∈ emitTrig s, b.triples ≠ [] := by
  intro b hb
  obtain ⟨g, hg, rfl⟩ := List.mem_map.mp hb
  simpa [blockOf] using (List.mem_filter.mp hg).2

theorem toDsName_jsonld_of_named {s : Src} {g : Name} (h : g.isIri = true ∨ g ≠ s.dflt) :
    toDsName (asDefault .jsonld s) g = g := by
  simp only [asDefault]
  split
  · exact toDsName_default g
  · next hi =>
    refine toDsName_of_ne ?_
    rintro rfl
    exact h.elim hi (fun h' => h' rfl)

theorem toDsName_jsonld_dflt {s : Src} (hi : s.dflt.isIri = false) :
    toDsName (asDefault .jsonld s) s.dflt = Name.default :=
  toDsName_of_eq (by simp [asDefault, hi])

theorem stmts_emitJsonld {s : Src} (hc : Covers s) :
    SetEq (stmts (emitJsonld s)) (s.d.map (toDs (asDefault .jsonld s))) := by
  rintro ⟨t, g⟩
  unfold emitJsonld
  rw [mem_stmts_nonEmptyBlocks, mem_map_toDs]
  have merged := mem_jsonldLoop_merged s (jsonldOwn s) t (ctxList s) [] [] (fun _ h => nomatch h)
  simp only [stmts, List.mem_append, mem_blockStmts, merged, List.mem_ite_nil_right, mem_triplesOf, mem_stmts_map,
    mem_jsonldLoop_named, List.not_mem_nil, false_or, dest]
  -- left side at this point: `(own ∧ (t, default) ∈ d ∨ dflt listed ∧ dflt.isIri = false ∧ (t, dflt) ∈ d) ∧ g = default ∨
  --   ∃ g0, (g0 listed ∧ ¬(own ∧ g0 = default) ∧ (g0.isIri ∨ g0 ≠ dflt)) ∧ (t, g0) ∈ d ∧ g = g0`
  constructor
  · rintro (⟨⟨_, ht⟩ | ⟨_, hi, ht⟩, rfl⟩ | ⟨g0, ⟨_, _, hn⟩, ht, rfl⟩)
    · exact ⟨_, ht, (toDsName_self_default _).symm⟩
    · exact ⟨_, ht, (toDsName_jsonld_dflt hi).symm⟩
    · exact ⟨_, ht, (toDsName_jsonld_of_named hn).symm⟩
  · rintro ⟨g0, ht, rfl⟩
    by_cases ho : jsonldOwn s = true ∧ g0 = Name.default
    · exact Or.inl ⟨Or.inl ⟨ho.1, ho.2 ▸ ht⟩, by rw [ho.2, toDsName_self_default]⟩
    · by_cases hn : g0.isIri = true ∨ g0 ≠ s.dflt
      · exact Or.inr ⟨g0, ⟨hc _ ht, ho, hn⟩, ht, toDsName_jsonld_of_named hn⟩
      · simp only [not_or, Decidable.not_not, Bool.not_eq_true] at hn
        obtain ⟨hi, rfl⟩ := hn
        exact Or.inl ⟨Or.inr ⟨hc _ ht, hi, ht⟩, toDsName_jsonld_dflt hi⟩

theorem stmts_emit_toDs (F : Fmt) {s : Src} (hc : Covers s) :
    SetEq (stmts (emit F s)) (s.d.map (toDs (asDefault F s))) := by
  cases F
  · exact stmts_map_toDs (fun g _ => (dest_nqSpell g).trans (toDsName_default g).symm) hc
  · exact stmts_emitTrig hc
  · exact stmts_map_toDs (sp := trixSpell) (fun g _ => (toDsName_default g).symm) hc
  · exact stmts_map_toDs (fun _ ⟨_, ht⟩ => dest_hextSpell ht) (fun q hq => mem_ctxPlusDefault.mpr (Or.inl (hc q hq)))
  · exact stmts_emitJsonld hc
  · exact stmts_map_toDs (fun g _ => dest_patchSpell s g) hc

theorem asDefault_ds (F : Fmt) {s : Src} (h : DsWF s) : asDefault F s = Name.default := by
  cases F <;> simp [asDefault, h.dflt]

theorem setEq_stmts_emit (F : Fmt) {s : Src} (h : DsWF s) : SetEq (stmts (emit F s)) s.d := by
  have := stmts_emit_toDs F h.covers
  rwa [asDefault_ds F h, map_toDs_default] at this

theorem mapTerm_id (t : Term) : mapTerm id t = t := by cases t <;> rfl
theorem mapName_id (g : Name) : mapName id g = g := by cases g <;> rfl
theorem mapQuad_id : mapQuad id = id :=
  funext fun ⟨⟨a, b, c⟩, g⟩ => by simp [mapQuad, mapTriple, mapTerm_id, mapName_id]

end RV.C06

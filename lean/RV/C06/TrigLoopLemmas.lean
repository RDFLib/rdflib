import RV.C06.TrigLoop
/-
  C06 — the loops of the TriG serializer compute the block list of `emitTrig`.
  Invariant: the dict is `L.map (kv s)` for its list of keys `L` (every value is the graph's triples).
-/
namespace RV.C06

def kv (s : Src) (g : Name) : Name × List Triple := (g, triplesOf s.d g)

theorem dictSet_kv (s : Src) (g : Name) (L : List Name) :
    dictSet (L.map (kv s)) g (triplesOf s.d g) = (sinsert L g).map (kv s) := by
  induction L with
  | nil => rfl
  | cons x xs ih =>
    by_cases hx : x = g
    · subst hx; simp [dictSet, sinsert, kv]
    · unfold sinsert at ih ⊢
      by_cases hg : g ∈ xs <;> simp_all [dictSet, kv, Ne.symm hx]

/-- for any keys `L` already in the dict: a graph is appended iff it is non-empty and not yet a key -/
theorem trigPreprocess_kv (s : Src) (gs : List Name) :
    ∀ L : List Name, trigPreprocess s gs (L.map (kv s)) =
      (L ++ (dedup gs).filter (fun g => !(triplesOf s.d g).isEmpty && decide (g ∉ L))).map (kv s) := by
  induction gs with
  | nil => intro L; simp [trigPreprocess, dedup]
  | cons g gs ih =>
    intro L
    unfold trigPreprocess
    simp only [dedup, List.filter_cons, sremove_eq_filter, List.filter_filter]
    cases he : (triplesOf s.d g).isEmpty
    · by_cases hL : g ∈ L
      · -- already a key: `dictSet` changes nothing, and in `dedup gs` `g` fails `∉ L` anyway
        simp only [Bool.false_eq_true, if_false, dictSet_kv, sinsert, hL, if_true, ih, Bool.not_false,
          Bool.true_and, not_true_eq_false, decide_false]
        exact congrArg (fun X => (L ++ X).map (kv s))
          (List.filter_congr fun a _ => by by_cases e : a = g <;> simp [e, hL])
      · -- new: `g` becomes the last key; on the rest "`∉ L`, `≠ g`" is "`∉ L ++ [g]`"
        simp only [Bool.false_eq_true, if_false, dictSet_kv, sinsert, hL, ih, Bool.not_false, Bool.true_and,
          not_false_eq_true, decide_true, if_true, List.append_assoc, List.singleton_append]
        exact congrArg (fun X => (L ++ g :: X).map (kv s))
          (List.filter_congr fun a _ => by by_cases e : a = g <;> simp [e, hL])
    · -- empty: passed over, and in `dedup gs` `g` fails the non-emptiness test anyway
      simp only [if_true, ih, Bool.not_true, Bool.false_and, Bool.false_eq_true, if_false]
      exact congrArg (fun X => (L ++ X).map (kv s))
        (List.filter_congr fun a _ => by by_cases e : a = g <;> simp [e, he])

theorem trigBlocks_kv (s : Src) (L : List Name) :
    trigBlocks s (L.map (kv s)) = (L.filter (fun g => !(triplesOf s.d g).isEmpty)).map (blockOf s.d (trigSpell s)) := by
  induction L with
  | nil => rfl
  | cons g gs ih => cases h : (triplesOf s.d g).isEmpty <;> simp [kv, trigBlocks, blockOf, h, ← ih]

end RV.C06

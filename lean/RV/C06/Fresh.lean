import RV.C06.Model
/-
  C06 — the document-scoped label map of the relabelling parsers.
  Reading a whole document with "first occurrence gets a fresh node, later occurrences reuse it"
  equals applying ONE injective function to every label of the document.
-/
namespace RV.C06

/-- `b`'s map extends `a`'s; `next` plays no part -/
def LSt.le (a b : LSt) : Prop := ∀ l v, lookup a.m l = some v → lookup b.m l = some v

theorem LSt.le_refl (a : LSt) : a.le a := fun _ _ h => h
theorem LSt.le_trans {a b c : LSt} (h1 : a.le b) (h2 : b.le c) : a.le c :=
  fun l v h => h2 l v (h1 l v h)

/-- the invariant of the label map: what makes `app` injective -/
structure Good (st : LSt) : Prop where
  lt : ∀ l v, lookup st.m l = some v → v < st.next
  inj : ∀ l l' v, lookup st.m l = some v → lookup st.m l' = some v → l = l'

/-- the renaming a state stands for (labels not in the map go above `next`, injectively) -/
def app (st : LSt) (l : Nat) : Nat :=
  match lookup st.m l with
  | some v => v
  | none => st.next + l

theorem app_injective {st : LSt} (hg : Good st) : Function.Injective (app st) := by
  intro a b hab
  unfold app at hab
  split at hab <;> split at hab
  · next _ _ ha _ _ hb => exact hg.inj a b _ ha (hab ▸ hb)
  · next _ _ ha _ _ => have := hg.lt a _ ha; omega
  · next _ _ _ _ hb => have := hg.lt b _ hb; omega
  · omega

theorem good_init (n : Nat) : Good ⟨[], n⟩ :=
  ⟨fun _ _ h => by simp [lookup] at h, fun _ _ _ h => by simp [lookup] at h⟩

theorem lookup_cons (k v : Nat) (m : List (Nat × Nat)) (l : Nat) :
    lookup ((k, v) :: m) l = if k = l then some v else lookup m l := rfl

/-- from state `st`, the result `r` (new state, value) is what the final renaming `m` gives, whatever is read later:
    "renaming with state" agrees with "map the final renaming".  Only `good` needs the invariant. -/
structure Step {α : Type} (st : LSt) (r : LSt × α) (m : (Nat → Nat) → α) : Prop where
  good : Good st → Good r.1
  le : st.le r.1
  final : ∀ st'', r.1.le st'' → m (app st'') = r.2

theorem Step.pure {α : Type} {st : LSt} {a : α} : Step st (st, a) (fun _ => a) :=
  ⟨id, LSt.le_refl st, fun _ _ => rfl⟩

theorem Step.map {α β : Type} {st : LSt} {r : LSt × α} {m : (Nat → Nat) → α} (h : Step st r m) (k : α → β) :
    Step st (r.1, k r.2) (fun f => k (m f)) :=
  ⟨h.good, h.le, fun st'' hle => congrArg k (h.final st'' hle)⟩

theorem Step.seq {α β γ : Type} {st : LSt} {ra : LSt × α} {rb : LSt × β} {ma : (Nat → Nat) → α} {mb : (Nat → Nat) → β}
    (ha : Step st ra ma) (hb : Step ra.1 rb mb) (mk : α → β → γ) :
    Step st (rb.1, mk ra.2 rb.2) (fun f => mk (ma f) (mb f)) :=
  ⟨hb.good ∘ ha.good, LSt.le_trans ha.le hb.le, fun st'' hle => by
    simp only
    rw [ha.final st'' (LSt.le_trans hb.le hle), hb.final st'' hle]⟩

theorem get_spec {st : LSt} (l : Nat) : Step st (st.get l) (fun f => f l) := by
  -- once `l ↦ v` is in the map, every later state's `app` gives `v`: what `final` rests on
  have fin : ∀ {st' : LSt} {v : Nat}, lookup st'.m l = some v → ∀ st'', st'.le st'' → app st'' l = v :=
    fun h st'' hle => by simp [app, hle _ _ h]
  unfold LSt.get
  cases h : lookup st.m l with
  | some v => exact ⟨id, LSt.le_refl st, fin h⟩
  | none =>
    refine ⟨fun hg => ⟨?_, ?_⟩, ?_, fin (by simp [lookup_cons])⟩
    · intro l' v hv
      simp only [lookup_cons] at hv
      split at hv
      · cases hv; exact Nat.lt_succ_self _
      · exact Nat.lt_succ_of_lt (hg.lt l' v hv)
    · intro l1 l2 v h1 h2
      simp only [lookup_cons] at h1 h2
      split at h1 <;> split at h2
      · next e1 e2 => exact e1.symm.trans e2
      · cases h1; have := hg.lt l2 _ h2; omega
      · cases h2; have := hg.lt l1 _ h1; omega
      · exact hg.inj l1 l2 v h1 h2
    · intro l' v hv
      simp only [lookup_cons]
      split
      · next e => subst e; rw [h] at hv; cases hv
      · exact hv

theorem rnTerm_spec {st : LSt} (x : Term) : Step st (rnTerm st x) (fun f => mapTerm f x) := by
  cases x with
  | bnode l => exact (get_spec l).map Term.bnode
  | _ => exact Step.pure

theorem rnName_spec {st : LSt} (x : Name) : Step st (rnName st x) (fun f => mapName f x) := by
  cases x with
  | bnode l => exact (get_spec l).map Name.bnode
  | _ => exact Step.pure

-- `Step.seq`'s result unfolds to the `let` chain of `rnTriple` (below: of `rnQuadGLast` / `rnQuadGFirst`)
theorem rnTriple_spec {st : LSt} (t : Triple) : Step st (rnTriple st t) (fun f => mapTriple f t) :=
  (rnTerm_spec t.1).seq ((rnTerm_spec t.2.1).seq (rnTerm_spec t.2.2) Prod.mk) Prod.mk

theorem rnQuads_spec (gFirst : Bool) (st : LSt) (qs : List Quad) :
    Step st (rnQuads gFirst st qs) (fun f => qs.map (mapQuad f)) := by
  unfold rnQuads
  induction qs generalizing st with
  | nil => exact Step.pure
  | cons q qs ih =>
    refine Step.seq ?_ (ih _) List.cons
    cases gFirst
    · exact (rnTriple_spec q.1).seq (rnName_spec q.2) Prod.mk
    · exact (rnName_spec q.2).seq (rnTriple_spec q.1) (fun g t => (t, g))

theorem routeFresh_eq (gFirst : Bool) (bs : List Block) (fresh : Nat) :
    ∃ f : Nat → Nat, Function.Injective f ∧ routeFresh gFirst bs fresh = (stmts bs).map (mapQuad f) :=
  have h := rnQuads_spec gFirst ⟨[], fresh⟩ (stmts bs)
  ⟨_, app_injective (h.good (good_init fresh)), (h.final _ (LSt.le_refl _)).symm⟩

end RV.C06

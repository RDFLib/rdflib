import RV.C06.Lemmas
import RV.C06.Fresh
import RV.C06.PatchLemmas
import RV.C06.TrigLoopLemmas
import RV.C06.HextTextLemmas
/-
  C06 — the property theorems; each statement is a `def Statement_… : Prop` (the two regression witnesses at the end
  are stated directly).  Between the statements and the proofs: `route_eq` and `emit_roundtrip`, of which the round-trip
  results are instances.

  "Quad syntaxes round-trip a Dataset: each triple returns to the graph it was in; an RDF Patch
   produced as the difference of two datasets, applied to the first, yields the second."
-/
namespace RV.C06

/-- Serialise a Dataset in format `F`, parse the document into an empty Dataset: the same quads up to
    one renaming of blank nodes — each triple is back in the graph (default, IRI-named or
    blank-node-named) it was asserted in, and in no other.  `fresh` = first node id the parser may allocate. -/
def Statement_quad_roundtrip (F : Fmt) : Prop :=
  ∀ (s : Src), DsWF s → ∀ fresh : Nat, Iso s.d (route F (emit F s) fresh)

/-- `(t, g)` is a quad of the dataset iff the document has a block that is routed to `g` and contains `t`
    (so a triple is written under the name of every graph it is in and under no other name, however
    often a graph is listed by `contexts()`). -/
def Statement_each_triple_one_block (F : Fmt) : Prop :=
  ∀ (s : Src), DsWF s → ∀ (t : Triple) (g : Name),
    (t, g) ∈ s.d ↔ ∃ b ∈ emit F s, dest b.spell = g ∧ t ∈ b.triples

/-- Which graphs are merely registered (empty named graphs, an empty default graph), in which order and
    how often `contexts()` lists them does not change where any triple is written. -/
def Statement_empty_default_ok (F : Fmt) : Prop :=
  ∀ (s s' : Src), DsWF s → DsWF s' → SetEq s.d s'.d → SetEq (stmts (emit F s)) (stmts (emit F s'))

/-- One renaming serves all quads: a blank node shared by several graphs — or used both as a graph name
    and inside triples — is still one node after the round trip. -/
def Statement_shared_bnode_preserved (F : Fmt) : Prop :=
  ∀ (s : Src), DsWF s → ∀ fresh : Nat,
    ∃ f : Nat → Nat, Function.Injective f ∧ ∀ q ∈ s.d, mapQuad f q ∈ route F (emit F s) fresh

/-- The patch `diff d1 d2` applied to `d1` gives `d2`. -/
def Statement_patch_apply_diff : Prop :=
  ∀ (d1 d2 : List Quad), SetEq (apply (diff d1 d2) d1) d2

/-- …and so does any reordering (or repetition) of its rows: adds and deletes are disjoint. -/
def Statement_patch_any_order : Prop :=
  ∀ (d1 d2 : List Quad) (rows : List PRow), (∀ r, r ∈ rows ↔ r ∈ diff d1 d2) → SetEq (apply rows d1) d2

/-- A diff adds exactly d2 − d1, deletes exactly d1 − d2, and no quad is in both. -/
def Statement_patch_disjoint : Prop :=
  ∀ (d1 d2 : List Quad), Disj (diff d1 d2) ∧
    ∀ q, ((POp.add, q) ∈ diff d1 d2 ↔ q ∈ d2 ∧ q ∉ d1) ∧ ((POp.del, q) ∈ diff d1 d2 ↔ q ∈ d1 ∧ q ∉ d2)

/-- A/D rows survive writing and reading; a row carries no graph label iff it is about the default graph. -/
def Statement_patch_rows_roundtrip : Prop :=
  ∀ (r : PRow), readRow (writeRow r) = r ∧ ((writeRow r).2.2 = Spell.unnamed ↔ r.2.2 = Name.default)

/-- rdf:first / rdf:rest triples (ids 10 and 11 of the harness vocabulary): the cells of an RDF collection -/
def IsCellTriple (t : Triple) : Prop := t.2.1 = Term.iri 10 ∨ t.2.1 = Term.iri 11

/-- The cells of an RDF collection are ordinary triples of their graph's block in this model (TriG `( … )` and
    JSON-LD `@list` are layouts of a block's triples, below the model's level): a cell of graph `g` is written in a
    block routed to `g`, and every block that contains it is routed to a graph that holds it.  In particular the
    parser must add `@list` cells to the graph of the enclosing block, never to the default graph. -/
def Statement_list_cells_stay_in_block (F : Fmt) : Prop :=
  ∀ (s : Src), DsWF s → ∀ (t : Triple) (g : Name), IsCellTriple t → (t, g) ∈ s.d →
    (∃ b ∈ emit F s, dest b.spell = g ∧ t ∈ b.triples) ∧
    (∀ b ∈ emit F s, t ∈ b.triples → (t, dest b.spell) ∈ s.d) ∧
    (∀ fresh, ∃ f : Nat → Nat, Function.Injective f ∧ mapQuad f (t, g) ∈ route F (emit F s) fresh)

/-- ConjunctiveGraph sources.  A ConjunctiveGraph's default context is a graph of the store identified by a
    blank node.  N-Quads and TriX write it under that name: the store's quads come back literally.
    TriG, hext and JSON-LD write it as THE default graph: its quads come back in the default graph of the receiving
    Dataset, everything else where it was (`toDs s.dflt`). -/
def Statement_cg_roundtrip : Prop :=
  ∀ (s : Src), CgWF s → ∀ fresh : Nat,
    (Iso s.d (route .nquads (emit .nquads s) fresh) ∧ Iso s.d (route .trix (emit .trix s) fresh)) ∧
    (Iso (s.d.map (toDs s.dflt)) (route .trig (emit .trig s) fresh) ∧
     Iso (s.d.map (toDs s.dflt)) (route .hext (emit .hext s) fresh) ∧
     Iso (s.d.map (toDs s.dflt)) (route .jsonld (emit .jsonld s) fresh))

/-- The operation codes are recognised on the characters of a line the way `RDFPatchParser.operation` /
    `eat_op` do it (`startswith` in the order of the enum, then `lstrip`): every code, followed by a blank and
    anything, is read as itself (no earlier code of the enum is a prefix of it) and is eaten completely. -/
def Statement_patch_opcode_recognised : Prop :=
  ∀ (c : PCode) (rest : List Char),
    opOf (c.text ++ ' ' :: rest) = some c ∧ opOf c.text = some c ∧
    lstrip c.text (c.text ++ ' ' :: rest) = ' ' :: rest

/-- Line by line: what `_patch_row` writes for triple `t` of graph `g` is read by `parsepatch` as that operation on
    `(t, g)`; the row has no graph column iff `g` is the default graph; header rows, `TX .` and `TC .` are passed over. -/
def Statement_patch_line_roundtrip : Prop :=
  ∀ (s : Src), s.dflt = Name.default →
    (∀ op g t, parseLine (patchRow s op g t) = .row (op, (t, g))) ∧
    (∀ op g t, ∃ lab, patchRow s op g t = codeLine (opCode op) (.quad (.plain t.1) t.2.1 (.plain t.2.2) lab) ∧
      (lab = PLabel.none ↔ g = Name.default)) ∧
    (∀ hid hprev, ∀ l ∈ writeHeader hid hprev ++ [codeLine .TC .dot], parseLine l = .skip)

/-- The reader is a left fold of `applyRow` over the A / D rows of the document, whatever else the document
    contains (comments, blank lines, H / TX / TC / TA / PA / PD rows); a raising line stops it where it is. -/
def Statement_patch_reader_is_fold : Prop :=
  ∀ (ls : List PLine) (d : List Quad),
    (parseDoc ls d).1 = apply (docRows ls) d ∧ ((parseDoc ls d).2 = none ↔ NoErr ls)

/-- `serialize(format="patch", target=d2)` on a Dataset, read back: no line raises; the rows are all the adds
    (exactly the quads of d2 − d1) followed by all the deletes (exactly d1 − d2), i.e. the rows of `diff d1 d2`. -/
def Statement_patch_text_roundtrip : Prop :=
  ∀ (s : Src), s.dflt = Name.default → ∀ (d2 : List Quad) (hid hprev : Option Nat),
    NoErr (serializeDoc none (some d2) hid hprev s) ∧
    (∃ X Y, docRows (serializeDoc none (some d2) hid hprev s) = tagRows .add X ++ tagRows .del Y ∧
      SetEq X (qdiff d2 s.d) ∧ SetEq Y (qdiff s.d d2)) ∧
    (∀ r, r ∈ docRows (serializeDoc none (some d2) hid hprev s) ↔ r ∈ diff s.d d2)

/-- …composed with `patch_any_order`: parsing the written document into d1 gives d2 (text level of the second
    sentence of the property). -/
def Statement_patch_text_apply : Prop :=
  ∀ (s : Src), s.dflt = Name.default → ∀ (d2 : List Quad) (hid hprev : Option Nat),
    (parseDoc (serializeDoc none (some d2) hid hprev s) s.d).2 = none ∧
    SetEq (parseDoc (serializeDoc none (some d2) hid hprev s) s.d).1 d2

/-- `operation=` (which wins over `target=`; absent and no target means "add"): the rows are, in this order, the
    statements of `emitPatch` tagged with the operation; the add document parsed into an empty Dataset gives the
    dataset, the remove document parsed into the dataset empties it. -/
def Statement_patch_operation_doc : Prop :=
  ∀ (s : Src) (hid hprev : Option Nat),
    (∀ o target, NoErr (serializeDoc (some o) target hid hprev s) ∧
      docRows (serializeDoc (some o) target hid hprev s) = tagRows o (stmts (emitPatch s))) ∧
    serializeDoc none none hid hprev s = serializeDoc (some .add) none hid hprev s ∧
    (DsWF s → ∀ target,
      SetEq (parseDoc (serializeDoc (some .add) target hid hprev s) []).1 s.d ∧
      SetEq (parseDoc (serializeDoc (some .del) target hid hprev s) s.d).1 [])

/-- `preprocess` (dict `_contexts`, empty graphs passed over, a graph listed twice keeps its first place) followed by
    the loop of `serialize` (entries without subjects passed over, header by identifier) writes exactly the block
    list `emitTrig` — same blocks, same order — for every source (Dataset or ConjunctiveGraph). -/
def Statement_trig_loop_refines : Prop := ∀ s : Src, emitTrigLoop s = emitTrig s

/-- `each_triple_one_block` for the loop model, with "ONE block": no two blocks of the document are routed to the
    same graph; and the round trip through the loop model. -/
def Statement_each_triple_one_block_trig_loop : Prop :=
  ∀ (s : Src), DsWF s →
    (∀ (t : Triple) (g : Name), (t, g) ∈ s.d ↔ ∃ b ∈ emitTrigLoop s, dest b.spell = g ∧ t ∈ b.triples) ∧
    ((emitTrigLoop s).map (fun b => dest b.spell)).Nodup ∧
    (∀ b ∈ emitTrigLoop s, b.triples ≠ []) ∧
    (∀ fresh, Iso s.d (route .trig (emitTrigLoop s) fresh))

/-- One row through `HextuplesSerializer._hex_line` (`json.dumps` of the six columns + newline) and back through
    `json.loads` + `_parse_hextuple`: the same subject, predicate and graph (no graph = the default graph, spelled
    as the empty string and as nothing else), the same object — except that a plain literal comes back typed
    `xsd:string` (`normObj`; RDF 1.1 identifies the two, rdflib's `==` does not). -/
def Statement_hext_row_roundtrip : Prop :=
  ∀ (s : HNode) (p : RV.C16.Str) (o : HObj) (g : Option HNode),
    s.Ok → p ≠ [] → o.Ok → (∀ n, g = some n → n.Ok) →
    parseHexLine (hexLine s p o (ctxStr g)) = .ok ⟨s, p, normObj o, g⟩ ∧
    (ctxStr g = [] ↔ g = none)

/-- `json.loads` undoes `json.dumps` on any non-empty list of strings (all of Unicode, `ensure_ascii` escapes and
    surrogate pairs included — on top of C16's `scanstring` theorem). -/
def Statement_hext_json_array_roundtrip : Prop :=
  ∀ (x : RV.C16.Str) (xs : List RV.C16.Str), loadsArr (dumpsArr (x :: xs) ++ ['\n']) = .ok ((x :: xs).map JV.str)

theorem route_eq (F : Fmt) (bs : List Block) (fresh : Nat) :
    ∃ f : Nat → Nat, Function.Injective f ∧ route F bs fresh = (stmts bs).map (mapQuad f) :=
  have vb : ∃ f : Nat → Nat, Function.Injective f ∧ routeVerbatim bs = (stmts bs).map (mapQuad f) :=
    ⟨id, fun _ _ e => e, by rw [mapQuad_id, List.map_id]; rfl⟩
  match F with
  | .nquads => routeFresh_eq false bs fresh
  | .trig => routeFresh_eq true bs fresh
  | .trix | .hext | .jsonld | .patch => vb

theorem emit_roundtrip (F : Fmt) {s : Src} (hc : Covers s) (fresh : Nat) :
    Iso (s.d.map (toDs (asDefault F s))) (route F (emit F s) fresh) := by
  obtain ⟨f, hf, e⟩ := route_eq F (emit F s) fresh
  rw [e]
  exact ⟨f, hf, setEq_map _ (SetEq.symm (stmts_emit_toDs F hc))⟩

theorem emit_roundtrip_of_default (F : Fmt) {s : Src} (hc : Covers s) (e : asDefault F s = Name.default) (fresh : Nat) :
    Iso s.d (route F (emit F s) fresh) := by
  have := emit_roundtrip F hc fresh
  rwa [e, map_toDs_default] at this

theorem quad_roundtrip (F : Fmt) : Statement_quad_roundtrip F :=
  fun _ h fresh => emit_roundtrip_of_default F h.covers (asDefault_ds F h) fresh

theorem cg_roundtrip : Statement_cg_roundtrip := by
  intro s h fresh
  have jd : asDefault .jsonld s = s.dflt := by simp [asDefault, h.dflt]
  exact ⟨⟨emit_roundtrip_of_default .nquads h.covers rfl fresh, emit_roundtrip_of_default .trix h.covers rfl fresh⟩,
    emit_roundtrip .trig h.covers fresh, emit_roundtrip .hext h.covers fresh, jd ▸ emit_roundtrip .jsonld h.covers fresh⟩

theorem each_triple_one_block (F : Fmt) : Statement_each_triple_one_block F := by
  intro s h t g
  rw [← setEq_stmts_emit F h (t, g), mem_stmts]

theorem empty_default_ok (F : Fmt) : Statement_empty_default_ok F := by
  intro s s' h h' e
  exact SetEq.trans (setEq_stmts_emit F h) (SetEq.trans e (SetEq.symm (setEq_stmts_emit F h')))

theorem shared_bnode_preserved (F : Fmt) : Statement_shared_bnode_preserved F := by
  intro s h fresh
  obtain ⟨f, hf, e⟩ := quad_roundtrip F s h fresh
  exact ⟨f, hf, fun q hq => (e _).mp (List.mem_map.mpr ⟨q, hq, rfl⟩)⟩

theorem list_cells_stay_in_block (F : Fmt) : Statement_list_cells_stay_in_block F := by
  intro s h t g _ ht
  refine ⟨(each_triple_one_block F s h t g).mp ht, ?_, ?_⟩
  · intro b hb htb
    exact (each_triple_one_block F s h t (dest b.spell)).mpr ⟨b, hb, rfl, htb⟩
  · intro fresh
    obtain ⟨f, hf, e⟩ := shared_bnode_preserved F s h fresh
    exact ⟨f, hf, e _ ht⟩

theorem patch_any_order : Statement_patch_any_order := by
  intro d1 d2 rows h x
  rw [mem_apply (disj_of_mem_iff_diff h), h, h, mem_diff, mem_diff]
  by_cases h1 : x ∈ d1 <;> simp [h1]

theorem patch_apply_diff : Statement_patch_apply_diff :=
  fun d1 d2 => patch_any_order d1 d2 (diff d1 d2) (fun _ => Iff.rfl)

theorem patch_disjoint : Statement_patch_disjoint := by
  intro d1 d2
  refine ⟨disj_of_mem_iff_diff (fun _ => Iff.rfl), fun q => ⟨?_, ?_⟩⟩ <;>
    simp [mem_diff]

theorem patch_rows_roundtrip : Statement_patch_rows_roundtrip := by
  rintro ⟨op, t, g⟩
  -- the label `writeRow` writes is `nqSpell g`
  exact ⟨congrArg (fun g => (op, t, g)) (dest_nqSpell g), nqSpell_eq_unnamed g⟩

theorem patch_opcode_recognised : Statement_patch_opcode_recognised := by
  intro c rest
  -- per code, by evaluation: the codes tried before `c` differ from it in the first or second character; `lstrip` stops
  -- at the blank, which is a character of no code
  cases c <;> exact ⟨rfl, opOf_text _, rfl⟩

theorem patch_line_roundtrip : Statement_patch_line_roundtrip := by
  intro s h
  refine ⟨?_, ?_, ?_⟩
  · intro op g t
    rw [parseLine_patchRow, dest_patchSpell, h, toDsName_default]
  · intro op g t
    refine ⟨spellLabel (patchSpell s g), rfl, ?_⟩
    rw [patchSpell_ds h, ← nqSpell_eq_unnamed g]
    cases nqSpell g <;> simp [spellLabel]
  · intro hid hprev
    exact List.forall_mem_append.mpr ⟨skip_writeHeader hid hprev, List.forall_mem_singleton.mpr (parseLine_codeLine .TC _)⟩

theorem patch_reader_is_fold : Statement_patch_reader_is_fold := by
  intro ls
  induction ls with
  | nil => intro d; exact ⟨rfl, by simp [parseDoc, NoErr]⟩
  | cons l ls ih =>
    intro d
    simp only [parseDoc, docRows, NoErr.cons_iff]
    cases hp : parseLine l with
    | skip => exact ⟨(ih d).1, (ih d).2.trans (by simp)⟩
    | row r => exact ⟨(ih _).1, (ih _).2.trans (by simp)⟩
    | err e => exact ⟨rfl, by simp⟩

theorem Reads.parseDoc {ls : List PLine} {rows : List PRow} (h : Reads ls rows) (d : List Quad) :
    parseDoc ls d = (apply rows d, none) :=
  Prod.ext ((patch_reader_is_fold ls d).1.trans (by rw [h.rows])) ((patch_reader_is_fold ls d).2.mpr h.noErr)

theorem patch_text_roundtrip : Statement_patch_text_roundtrip := by
  intro s h d2 hid hprev
  have hr : Reads (serializeDoc none (some d2) hid hprev s) _ :=
    reads_frame hid hprev ((reads_writeTriples s _ .add _).append (reads_writeTriples s _ .del _))
  refine ⟨hr.noErr, ⟨_, _, hr.rows, setEq_stmts_quadSrc h, setEq_stmts_quadSrc h⟩, ?_⟩
  rintro ⟨op, q⟩
  rw [hr.rows, List.mem_append, mem_tagRows, mem_tagRows, setEq_stmts_quadSrc h q,
    setEq_stmts_quadSrc h q, mem_diff, mem_qdiff, mem_qdiff]

theorem patch_text_apply : Statement_patch_text_apply := by
  intro s h d2 hid hprev
  obtain ⟨hn, _, hrows⟩ := patch_text_roundtrip s h d2 hid hprev
  rw [Reads.parseDoc ⟨hn, rfl⟩]
  exact ⟨rfl, patch_any_order s.d d2 _ hrows⟩

theorem patch_operation_doc : Statement_patch_operation_doc := by
  intro s hid hprev
  have key : ∀ o target, Reads (serializeDoc (some o) target hid hprev s) (tagRows o (stmts (emitPatch s))) := by
    intro o target
    -- `serializeDoc` matches on (effective operation, target): it reduces once `target` is a constructor
    cases target <;> exact reads_frame hid hprev (reads_writeTriples s s.d o (ctxList s))
  refine ⟨fun o target => ⟨(key o target).noErr, (key o target).rows⟩, rfl, ?_⟩
  intro hw target
  have hs : ∀ x, x ∈ stmts (emitPatch s) ↔ x ∈ s.d := setEq_stmts_emit .patch hw
  constructor
  · rw [Reads.parseDoc (key .add target)]
    intro x
    simpa [mem_apply disj_tagRows, mem_tagRows] using hs x
  · rw [Reads.parseDoc (key .del target)]
    intro x
    simpa [mem_apply disj_tagRows, mem_tagRows] using (hs x).mpr

theorem trig_loop_refines : Statement_trig_loop_refines := by
  intro s
  unfold emitTrigLoop emitTrig
  rw [show ([] : List (Name × List Triple)) = ([] : List Name).map (kv s) from rfl, trigPreprocess_kv, trigBlocks_kv]
  simp [List.filter_filter]

theorem each_triple_one_block_trig_loop : Statement_each_triple_one_block_trig_loop := by
  intro s h
  rw [trig_loop_refines s]
  exact ⟨each_triple_one_block .trig s h, nodup_dest_emitTrig h.dflt, triples_ne_nil_of_mem_emitTrig,
    quad_roundtrip .trig s h⟩

theorem hext_json_array_roundtrip : Statement_hext_json_array_roundtrip := loadsArr_dumps

theorem hext_row_roundtrip : Statement_hext_row_roundtrip := by
  intro s p o g hs hp ho hg
  constructor
  · -- `hexLine s p o _` is `dumpsArr` of six columns, whichever `o` is
    cases o with
    | node n =>
      cases n with
      | iri x => exact parseHexLine_row hs hp hg sGlobalId_ne_nil (colObj_global x [])
      | bnode l => exact parseHexLine_row hs hp hg sLocalId_ne_nil (colObj_local _ [])
    | plain lex => exact parseHexLine_row hs hp hg sXsdString_ok.1 (colObj_lit sXsdString_ok.2 lex [])
    | lang lex l =>
      exact parseHexLine_row hs hp hg sLangString_ok.1
        ((colObj_lit sLangString_ok.2 lex l).trans (by rw [noneIfEmpty_str ho]; rfl))
    | typed lex dt => exact parseHexLine_row hs hp hg ho.1 (colObj_lit ho.2 lex [])
  · cases g with
    | none => simp [ctxStr]
    | some n => simp [ctxStr, nodeStr_ne_nil (hg n rfl)]

/-! ### Non-vacuity: a dataset with a non-empty default graph, an IRI-named graph, a blank-node-named
    graph whose name is also a subject and an object elsewhere, a triple present in two graphs, a
    blank node shared across graphs, a registered empty graph, a graph listed twice -/

def exSrc : Src :=
  { cg := false, dflt := Name.default,
    cs := [.iri 4, .bnode 1, .iri 9, .default, .iri 4],
    d := [((.iri 1, .iri 7, .lit 2), .default), ((.iri 1, .iri 7, .lit 2), .iri 4),
          ((.bnode 1, .iri 7, .bnode 2), .bnode 1), ((.iri 1, .iri 8, .bnode 1), .default),
          ((.bnode 2, .iri 7, .lit 3), .iri 4)] }

example : DsWF exSrc := ⟨rfl, rfl, by unfold Covers; decide +kernel⟩

example : route .nquads (emit .nquads exSrc) 1000 =
    [((.iri 1, .iri 7, .lit 2), .iri 4), ((.bnode 1000, .iri 7, .lit 3), .iri 4),
     ((.bnode 1001, .iri 7, .bnode 1000), .bnode 1001), ((.iri 1, .iri 7, .lit 2), .default),
     ((.iri 1, .iri 8, .bnode 1001), .default), ((.iri 1, .iri 7, .lit 2), .iri 4),
     ((.bnode 1000, .iri 7, .lit 3), .iri 4)] := by decide +kernel

example : (emit .trig exSrc).map (·.spell) = [.named (.iri 4), .named (.bnode 1), .unnamed] := by decide +kernel
example : (emit .jsonld exSrc).map (·.spell) = [.unnamed, .named (.iri 4), .named (.bnode 1)] := by decide +kernel

example : diff exSrc.d [((.iri 1, .iri 7, .lit 2), .iri 4), ((.iri 5, .iri 7, .lit 2), .bnode 1)] =
    [(.add, ((.iri 5, .iri 7, .lit 2), .bnode 1)), (.del, ((.iri 1, .iri 7, .lit 2), .default)),
     (.del, ((.bnode 1, .iri 7, .bnode 2), .bnode 1)), (.del, ((.iri 1, .iri 8, .bnode 1), .default)),
     (.del, ((.bnode 2, .iri 7, .lit 3), .iri 4))] := by decide +kernel

/-- a two-cell collection (cells 20, 21) inside a blank-node-named graph, its head referenced from that graph -/
def exList : Src :=
  { cg := false, dflt := Name.default, cs := [.bnode 1, .default],
    d := [((.iri 1, .iri 7, .bnode 20), .bnode 1), ((.bnode 20, .iri 10, .lit 2), .bnode 1),
          ((.bnode 20, .iri 11, .bnode 21), .bnode 1), ((.bnode 21, .iri 10, .iri 3), .bnode 1),
          ((.bnode 21, .iri 11, .iri 12), .bnode 1), ((.iri 1, .iri 7, .lit 2), .default)] }

example : DsWF exList := ⟨rfl, rfl, by unfold Covers; decide +kernel⟩
example : IsCellTriple (.bnode 20, .iri 11, .bnode 21) := Or.inr rfl
example : (emit .jsonld exList).map (fun b => (b.spell, b.triples.length)) =
    [(.unnamed, 1), (.named (.bnode 1), 5)] := by decide +kernel

/-- a ConjunctiveGraph with a non-empty default context (blank node 99), an IRI-named and a blank-node-named graph -/
def exCg : Src :=
  { cg := true, dflt := .bnode 99, cs := [.bnode 99, .iri 4, .bnode 1],
    d := [((.iri 1, .iri 7, .lit 2), .bnode 99), ((.iri 1, .iri 7, .lit 2), .iri 4),
          ((.bnode 1, .iri 7, .bnode 2), .bnode 1)] }

example : CgWF exCg := ⟨rfl, rfl, by unfold Covers; decide +kernel⟩
example : (emit .trig exCg).map (·.spell) = [.unnamed, .named (.iri 4), .named (.bnode 1)] := by decide +kernel
example : (emit .nquads exCg).map (·.spell) = [.named (.bnode 99), .named (.iri 4), .named (.bnode 1)] := by decide +kernel
example : (emit .jsonld exCg).map (·.spell) = [.unnamed, .named (.iri 4), .named (.bnode 1)] := by decide +kernel

example : (emitTrigLoop exSrc).map (fun b => (b.spell, b.triples)) = (emitTrig exSrc).map (fun b => (b.spell, b.triples)) := by decide +kernel
example : (trigPreprocess exSrc (ctxPlusDefault exSrc) []).map (·.1) = [.iri 4, .bnode 1, .default] := by decide +kernel

/-! ### Non-vacuity: the patch document between `exSrc` and a second dataset, and a hand-made document -/

example : serializeDoc none (some [((.iri 1, .iri 7, .lit 2), .iri 4), ((.iri 5, .iri 7, .lit 2), .bnode 1)]) (some 2) none exSrc =
    [codeLine .H (.hdr false 2), codeLine .TX .dot,
     codeLine .A (.quad (.plain (.iri 5)) (.iri 7) (.plain (.lit 2)) (.plain (.bnode 1))),
     codeLine .D (.quad (.plain (.iri 1)) (.iri 7) (.plain (.lit 2)) .none),
     codeLine .D (.quad (.plain (.iri 1)) (.iri 8) (.plain (.bnode 1)) .none),
     codeLine .D (.quad (.plain (.bnode 1)) (.iri 7) (.plain (.bnode 2)) (.plain (.bnode 1))),
     codeLine .D (.quad (.plain (.bnode 2)) (.iri 7) (.plain (.lit 3)) (.plain (.iri 4))),
     codeLine .TC .dot] := by decide +kernel

/-- `AA` is read as an add (`lstrip`), `AD` raises, `<_:2>` is blank node 2, a row after `TA` still counts,
    an unknown word is a ValueError that leaves what was done -/
example : parseDoc [.comment, .cmd ['T', 'X'] .dot, .cmd ['A', 'A'] (.quad (.angle 2) (.iri 7) (.plain (.lit 1)) (.angle 3)),
      .cmd ['T', 'A'] .none, .cmd ['D'] (.quad (.plain (.iri 1)) (.iri 7) (.plain (.lit 2)) .none), .blank,
      .cmd ['X'] .none, .cmd ['A'] (.quad (.plain (.iri 1)) (.iri 7) (.plain (.lit 9)) .none)]
      [((.iri 1, .iri 7, .lit 2), .default)] =
    ([((.bnode 2, .iri 7, .lit 1), .bnode 3)], some .valueError) := by decide +kernel

example : parseLine (.cmd ['A', 'D'] (.quad (.plain (.iri 1)) (.iri 7) (.plain (.lit 9)) .none)) = .err .parseError := by decide +kernel

/-! ### Non-vacuity: a hextuples row with a non-ASCII language literal in a blank-node-named graph -/

example : (HNode.bnode "b1".toList).Ok ∧ (HObj.lang "é☃".toList "en".toList).Ok ∧ (HNode.iri "http://e/g".toList).Ok :=
  ⟨trivial, by simp [HObj.Ok], by simp [HNode.Ok]⟩

example : String.ofList (hexLine (.bnode "b1".toList) "h:p".toList (.lang "é\"".toList "en".toList) (ctxStr (some (.bnode "g".toList)))) =
    "[\"_:b1\", \"h:p\", \"\\u00e9\\\"\", \"http://www.w3.org/1999/02/22-rdf-syntax-ns#langString\", \"en\", \"_:g\"]\n" := by decide +kernel

/-! ### The defects of the code before the `fix:` commits, kept as regression witnesses -/

def oldSrc : Src :=
  { cg := false, dflt := Name.default, cs := [.bnode 1], d := [((.bnode 1, .iri 7, .lit 2), .bnode 1)] }

/-- what both witnesses use: a renaming sends blank node 1 to ONE node, as graph name and as subject -/
theorem iso_oldSrc {l : List Quad} (h : Iso oldSrc.d l) :
    ∃ n, ((Term.bnode n, Term.iri 7, Term.lit 2), Name.bnode n) ∈ l :=
  let ⟨f, _, h⟩ := h
  ⟨f 1, (h _).mp (List.mem_singleton_self _)⟩

/-- pre-fix JSON-LD merged every blank-node-named graph into the default graph: the triple cannot
    come back to the graph it was in -/
theorem jsonld_merge_breaks_roundtrip : ¬ Iso oldSrc.d (routeVerbatim (Old.emitJsonld oldSrc)) := by
  intro h
  obtain ⟨n, h1⟩ := iso_oldSrc h
  rw [show routeVerbatim (Old.emitJsonld oldSrc) = [((.bnode 1, .iri 7, .lit 2), .default)] by decide +kernel] at h1
  simp at h1

/-- pre-fix TriX dropped blank-node graph names; the parser invents a new node for the anonymous
    graph, so a node that is both graph name and subject is split in two -/
theorem trix_anonymous_breaks_roundtrip (fresh : Nat) (hf : fresh ≠ 1) :
    ¬ Iso oldSrc.d (Old.trixRoute oldSrc (ctxList oldSrc) fresh) := by
  intro h
  obtain ⟨n, h1⟩ := iso_oldSrc h
  rw [show Old.trixRoute oldSrc (ctxList oldSrc) fresh = [((.bnode 1, .iri 7, .lit 2), .bnode fresh)] from rfl] at h1
  simp at h1
  omega

end RV.C06

import RV.C06.Spec
import RV.C16.LemTextJson
/-
  C06 — `json.loads` undoes `json.dumps` on a list of strings (on top of C16's string codec),
  and the six columns of a hextuples row are read back.
-/
namespace RV.C06
open RV.C16 (Str Err pyDumpsStr jsonScan pyEscCharAscii escAll jsonScan_escAll jsonScanP_pyEscCharAscii)

theorem readValue_dumps (x rest : Str) : readValue (pyDumpsStr true x ++ rest) = .ok (.str x, rest) := by
  have h : jsonScan (escAll pyEscCharAscii x ++ '"' :: rest) = .ok (x, rest, false) :=
    jsonScan_escAll jsonScanP_pyEscCharAscii x rest
  simp only [pyDumpsStr, if_true, List.cons_append, List.append_assoc, List.nil_append, readValue, h]

theorem dumpsItems_cons (x : Str) (xs : List Str) (tl : Str) :
    dumpsItems (x :: xs) ++ tl =
      pyDumpsStr true x ++ (match xs with | [] => tl | y :: ys => ',' :: ' ' :: (dumpsItems (y :: ys) ++ tl)) := by
  cases xs <;> simp [dumpsItems]

theorem dumpsItems_quote (x : Str) (xs : List Str) (tl : Str) : ∃ r, dumpsItems (x :: xs) ++ tl = '"' :: r :=
  ⟨_, by rw [dumpsItems_cons]; rfl⟩

theorem skipWs_dumpsItems (x : Str) (xs : List Str) (tl : Str) :
    skipWs (dumpsItems (x :: xs) ++ tl) = dumpsItems (x :: xs) ++ tl := by
  obtain ⟨r, hr⟩ := dumpsItems_quote x xs tl
  rw [hr]; rfl

theorem arrElems_dumps (n : Nat) : ∀ (x : Str) (xs : List Str) (rest : Str), xs.length < n →
    arrElems n (dumpsItems (x :: xs) ++ ']' :: rest) = .ok ((x :: xs).map JV.str, rest) := by
  induction n with
  | zero => intro _ _ _ hn; exact absurd hn (Nat.not_lt_zero _)
  | succ n ih =>
    intro x xs rest hn
    rw [dumpsItems_cons, arrElems, readValue_dumps]
    cases xs with
    | nil => rfl
    | cons y ys =>
      have h1 : ∀ r, skipWs (',' :: r) = ',' :: r := fun _ => rfl
      have h2 : ∀ r, skipWs (' ' :: r) = skipWs r := fun _ => rfl
      simp only [h1, h2, skipWs_dumpsItems, ih y ys rest (Nat.lt_of_succ_lt_succ hn), List.map_cons]

theorem length_dumpsItems (xs : List Str) : xs.length ≤ (dumpsItems xs).length := by
  induction xs with
  | nil => simp [dumpsItems]
  | cons x xs ih =>
    cases xs with
    | nil => simp [dumpsItems, pyDumpsStr]
    | cons y ys =>
      simp only [dumpsItems, List.length_append, List.length_cons] at ih ⊢
      omega

theorem loadsArr_dumps (x : Str) (xs : List Str) :
    loadsArr (dumpsArr (x :: xs) ++ ['\n']) = .ok ((x :: xs).map JV.str) := by
  have e : dumpsArr (x :: xs) ++ ['\n'] = '[' :: (dumpsItems (x :: xs) ++ ']' :: ['\n']) := by simp [dumpsArr]
  obtain ⟨r, hr⟩ := dumpsItems_quote x xs (']' :: ['\n'])
  -- the fuel `line.length` is enough: every element writes at least one character
  have hlen : xs.length < ('[' :: '"' :: r).length := by
    have h1 := length_dumpsItems (x :: xs)
    have h2 := congrArg List.length hr
    simp only [List.length_append, List.length_cons, List.length_nil] at h1 h2 ⊢
    omega
  have h := arrElems_dumps _ x xs ['\n'] hlen
  simp only [hr, List.length_cons] at h
  rw [e, hr]
  simp [loadsArr, skipWs, h]

theorem noneIfEmpty_str {s : Str} (h : s ≠ []) : noneIfEmpty (.str s) = some s := by
  cases s with
  | nil => exact absurd rfl h
  | cons _ _ => rfl

theorem noneIfEmpty_nil : noneIfEmpty (.str []) = none := rfl

theorem readBnodeLabel_nodeStr (l : Str) : readBnodeLabel (nodeStr (.bnode l)) = l := rfl

theorem nodeStr_ne_nil {n : HNode} (h : n.Ok) : nodeStr n ≠ [] := by
  cases n with
  | iri x => exact h.1
  | bnode l => simp [nodeStr]

theorem read_nodeStr {n : HNode} (h : n.Ok) : readSubject (nodeStr n) = n ∧ readGraph (nodeStr n) = n := by
  cases n with
  | bnode l => exact ⟨rfl, rfl⟩
  | iri x =>
    cases x with
    | nil => exact absurd rfl h.1
    | cons c cs =>
      have hc : c ≠ '_' := fun e => h.2 (by simp [e])
      constructor
      · unfold nodeStr readSubject
        split
        · next heq => cases heq; exact absurd rfl hc
        · rfl
      · unfold nodeStr readGraph
        split
        · next heq => cases heq; exact absurd rfl hc
        · rfl

theorem readGraph_ctxStr (g : Option HNode) (h : ∀ n, g = some n → n.Ok) :
    (noneIfEmpty (.str (ctxStr g))).map readGraph = g := by
  cases g with
  | none => rfl
  | some n =>
    have hn := h n rfl
    have ⟨_, hgraph⟩ := read_nodeStr hn
    simp only [ctxStr, noneIfEmpty_str (nodeStr_ne_nil hn), Option.map_some, hgraph]

/-- the keywords are compared as strings, so that no `"…".toList` has to be evaluated -/
theorem toList_ne {a b : String} (h : a ≠ b) : a.toList ≠ b.toList := fun e => h (String.toList_inj.mp e)

theorem sGlobalId_ne_nil : sGlobalId ≠ [] := toList_ne (b := "") (by decide +kernel)
theorem sLocalId_ne_nil : sLocalId ≠ [] := toList_ne (b := "") (by decide +kernel)
theorem sLocalId_ne_global : sLocalId ≠ sGlobalId := toList_ne (by decide +kernel)

theorem sXsdString_ok : sXsdString ≠ [] ∧ sXsdString ≠ sGlobalId ∧ sXsdString ≠ sLocalId :=
  ⟨toList_ne (b := "") (by decide +kernel), toList_ne (by decide +kernel), toList_ne (by decide +kernel)⟩

theorem sLangString_ok : sLangString ≠ [] ∧ sLangString ≠ sGlobalId ∧ sLangString ≠ sLocalId :=
  ⟨toList_ne (b := "") (by decide +kernel), toList_ne (by decide +kernel), toList_ne (by decide +kernel)⟩

/-- the object that the value, datatype and language columns stand for (the three branches of `_parse_hextuple`) -/
def colObj (v dt l : Str) : HObj :=
  if dt = sGlobalId then .node (.iri v)
  else if dt = sLocalId then .node (.bnode (readBnodeLabel v))
  else match noneIfEmpty (.str l) with
    | none => .typed v dt
    | some l => .lang v l

theorem colObj_global (v l : Str) : colObj v sGlobalId l = .node (.iri v) := if_pos rfl

theorem colObj_local (v l : Str) : colObj v sLocalId l = .node (.bnode (readBnodeLabel v)) := by
  rw [colObj, if_neg sLocalId_ne_global, if_pos rfl]

theorem colObj_lit {dt : Str} (h : dt ≠ sGlobalId ∧ dt ≠ sLocalId) (v l : Str) :
    colObj v dt l = match noneIfEmpty (.str l) with | none => .typed v dt | some l => .lang v l := by
  obtain ⟨hglobal, hlocal⟩ := h
  rw [colObj, if_neg hglobal, if_neg hlocal]

theorem parseFields_six {a b dt : Str} (ha : a ≠ []) (hb : b ≠ []) (hdt : dt ≠ []) (v l ctx : Str) :
    parseFields [.str a, .str b, .str v, .str dt, .str l, .str ctx] =
      .ok ⟨readSubject a, b, colObj v dt l, (noneIfEmpty (.str ctx)).map readGraph⟩ := by
  unfold parseFields colObj
  simp only [noneIfEmpty_str ha, noneIfEmpty_str hb, noneIfEmpty_str hdt]
  split
  · rfl
  · split
    · rfl
    · cases noneIfEmpty (.str l) <;> rfl

theorem parseHexLine_row {s : HNode} {p dt : Str} {g : Option HNode} (hs : s.Ok) (hp : p ≠ [])
    (hg : ∀ n, g = some n → n.Ok) (hdt : dt ≠ []) {v l : Str} {o : HObj} (ho : colObj v dt l = o) :
    parseHexLine (dumpsArr [nodeStr s, p, v, dt, l, ctxStr g] ++ ['\n']) = .ok ⟨s, p, o, g⟩ := by
  subst ho
  have ⟨hsubj, _⟩ := read_nodeStr hs
  unfold parseHexLine
  rw [loadsArr_dumps]
  simp only [List.map, parseFields_six (nodeStr_ne_nil hs) hp hdt, hsubj, readGraph_ctxStr g hg]

end RV.C06

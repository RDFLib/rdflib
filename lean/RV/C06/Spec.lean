import RV.C06.Model
import RV.C06.PatchText
import RV.C06.HextText
/-
  C06 — what the statements (and `emit_roundtrip` behind the round-trip ones) speak of besides the model.  A dataset is
  a list of quads read as a set; "the same up to renaming of blank nodes" (`Iso`) is ONE injective function on labels
  applied to subjects, objects AND graph names.
-/
namespace RV.C06

/-- every graph that carries a quad is listed by `contexts()` -/
def Covers (s : Src) : Prop := ∀ q ∈ s.d, q.2 ∈ ctxList s

/-- the source object is a `Dataset`: its default graph is `urn:x-rdflib:default` -/
structure DsWF (s : Src) : Prop where
  ds : s.cg = false
  dflt : s.dflt = Name.default
  covers : Covers s

/-- the source object is a `ConjunctiveGraph`: its default context is a graph of the store identified by a blank node -/
structure CgWF (s : Src) : Prop where
  cg : s.cg = true
  dflt : s.dflt.isIri = false
  covers : Covers s

/-- the ConjunctiveGraph's default context read as "the default graph" -/
def toDs (dflt : Name) (q : Quad) : Quad := (q.1, if q.2 = dflt then Name.default else q.2)

/-- `toDs dflt` on the graph component: where a quad of graph `g` lands when `dflt` is the graph written without label -/
def toDsName (dflt g : Name) : Name := if g = dflt then Name.default else g

/-- the graph that a format writes as the default graph (no label) -/
def asDefault : Fmt → Src → Name
  | .nquads, _ => Name.default
  | .trix, _ => Name.default
  | .jsonld, s => if s.dflt.isIri then Name.default else s.dflt
  | _, s => s.dflt

def Iso (a b : List Quad) : Prop :=
  ∃ f : Nat → Nat, Function.Injective f ∧ SetEq (a.map (mapQuad f)) b

def Disj (rows : List PRow) : Prop := ∀ q, (POp.add, q) ∈ rows → (POp.del, q) ∉ rows

def NoErr (ls : List PLine) : Prop := ∀ l ∈ ls, ∀ e, parseLine l ≠ .err e

/-- subject or graph name that the row codec gives back: an empty column reads as absent, `_…` as a blank node -/
def HNode.Ok : HNode → Prop
  | .iri x => x ≠ [] ∧ x.head? ≠ some '_'
  | .bnode _ => True

/-- object that the row codec gives back: an empty tag or datatype reads as absent, `globalId` / `localId` in the datatype
    column mean a node -/
def HObj.Ok : HObj → Prop
  | .lang _ l => l ≠ []
  | .typed _ dt => dt ≠ [] ∧ dt ≠ sGlobalId ∧ dt ≠ sLocalId
  | _ => True

end RV.C06

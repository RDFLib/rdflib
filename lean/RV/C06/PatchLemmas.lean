import RV.C06.Lemmas
import RV.C06.PatchText
/-
  C06 — RDF Patch.  Set level: disjoint rows apply in any order (`mem_apply`).  Text level: a written line is dispatched on
  its own code (`parseLine_codeLine`), what the writer writes is read back (`Reads`).
-/
namespace RV.C06

theorem mem_qdiff {a b : List Quad} {q : Quad} : q ∈ qdiff a b ↔ q ∈ a ∧ q ∉ b := by
  induction a generalizing q with
  | nil => simp [qdiff]
  | cons x xs ih => by_cases h : x ∈ b <;> by_cases e : q = x <;> simp [qdiff, h, ih, e]

theorem mem_tagRows {op op' : POp} {qs : List Quad} {q : Quad} :
    (op', q) ∈ tagRows op qs ↔ op' = op ∧ q ∈ qs := by
  induction qs with
  | nil => simp [tagRows]
  | cons x xs ih => simp [tagRows, ih, and_or_left]

theorem mem_diff {d1 d2 : List Quad} {op : POp} {q : Quad} :
    (op, q) ∈ diff d1 d2 ↔ (op = .add ∧ q ∈ d2 ∧ q ∉ d1) ∨ (op = .del ∧ q ∈ d1 ∧ q ∉ d2) := by
  simp only [diff, List.mem_append, mem_tagRows, mem_qdiff]

theorem mem_apply {rows : List PRow} {d : List Quad} (hd : Disj rows) {x : Quad} :
    x ∈ apply rows d ↔ (POp.add, x) ∈ rows ∨ (x ∈ d ∧ (POp.del, x) ∉ rows) := by
  induction rows generalizing d with
  | nil => simp [apply]
  | cons r rs ih =>
    have hd' : Disj rs := fun q h1 h2 => hd q (List.mem_cons_of_mem _ h1) (List.mem_cons_of_mem _ h2)
    obtain ⟨op, q⟩ := r
    rw [show apply ((op, q) :: rs) d = apply rs (applyRow d (op, q)) from rfl, ih hd']
    cases op with
    | add =>
      -- the quad added here is not deleted later on: this is where disjointness is needed
      have hq : (POp.del, q) ∉ rs := fun h => hd q (List.mem_cons_self ..) (List.mem_cons_of_mem _ h)
      by_cases e : x = q <;> simp [applyRow, e, hq]
    | del => by_cases e : x = q <;> simp [applyRow, e]

theorem disj_of_mem_iff_diff {rows : List PRow} {d1 d2 : List Quad}
    (h : ∀ r, r ∈ rows ↔ r ∈ diff d1 d2) : Disj rows := by
  intro q h1 h2
  simp only [h, mem_diff, reduceCtorEq, false_and, or_false, true_and, false_or] at h1 h2
  exact h1.2 h2.1

theorem disj_tagRows {op : POp} {qs : List Quad} : Disj (tagRows op qs) :=
  fun _ h1 h2 => nomatch (mem_tagRows.mp h1).1.trans (mem_tagRows.mp h2).1.symm

theorem tagRows_append (op : POp) (a b : List Quad) : tagRows op (a ++ b) = tagRows op a ++ tagRows op b := by
  induction a with
  | nil => rfl
  | cons x xs ih => simp [tagRows, ih]

theorem read_spellLabel (sp : Spell) : (spellLabel sp).read = dest sp := by
  cases sp <;> rfl

theorem opOf_text (c : PCode) : opOf c.text = some c := by cases c <;> decide +kernel

theorem lstrip_text (c : PCode) : lstrip c.text c.text = [] := by cases c <;> decide +kernel

theorem parseLine_codeLine (c : PCode) (b : PBody) :
    parseLine (codeLine c b) = match c with
      | .A => readQuadRow .add [] b
      | .D => readQuadRow .del [] b
      | .PA | .PD => readPrefixRow [] b
      | _ => .skip := by
  rw [codeLine, parseLine, opOf_text]
  cases c <;> simp only [lstrip_text]

theorem parseLine_patchRow (s : Src) (op : POp) (g : Name) (t : Triple) :
    parseLine (patchRow s op g t) = .row (op, (t, dest (patchSpell s g))) := by
  rw [← read_spellLabel, patchRow, parseLine_codeLine]
  cases op <;> rfl

theorem skip_writeHeader (hid hprev : Option Nat) : ∀ l ∈ writeHeader hid hprev, parseLine l = .skip := by
  unfold writeHeader
  simp only [List.forall_mem_append, List.forall_mem_singleton]
  refine ⟨⟨?_, ?_⟩, parseLine_codeLine .TX _⟩
  · cases hid <;> simp [parseLine_codeLine]
  · cases hprev <;> simp [parseLine_codeLine]

theorem NoErr.append {a b : List PLine} (ha : NoErr a) (hb : NoErr b) : NoErr (a ++ b) := by
  intro l hl
  rcases List.mem_append.mp hl with h | h
  · exact ha l h
  · exact hb l h

theorem NoErr.cons_iff {l : PLine} {ls : List PLine} : NoErr (l :: ls) ↔ (∀ e, parseLine l ≠ .err e) ∧ NoErr ls :=
  List.forall_mem_cons

theorem docRows_append {a : List PLine} (ha : NoErr a) (b : List PLine) :
    docRows (a ++ b) = docRows a ++ docRows b := by
  induction a with
  | nil => rfl
  | cons l ls ih =>
    have ⟨hl, hls⟩ := NoErr.cons_iff.mp ha
    simp only [List.cons_append, docRows]
    cases h : parseLine l with
    | skip => exact ih hls
    | row r => exact congrArg (r :: ·) (ih hls)
    | err e => exact absurd h (hl e)

/-- what the writer's lemmas establish piece by piece -/
structure Reads (ls : List PLine) (rows : List PRow) : Prop where
  noErr : NoErr ls
  rows : docRows ls = rows

theorem Reads.nil : Reads [] [] := ⟨fun _ h => (nomatch h), rfl⟩

theorem Reads.append {a b : List PLine} {ra rb : List PRow} (ha : Reads a ra) (hb : Reads b rb) :
    Reads (a ++ b) (ra ++ rb) :=
  ⟨ha.noErr.append hb.noErr, by rw [docRows_append ha.noErr, ha.rows, hb.rows]⟩

theorem Reads.row {l : PLine} {r : PRow} (hl : parseLine l = .row r) : Reads [l] [r] :=
  ⟨by simp [NoErr, hl], by simp [docRows, hl]⟩

theorem Reads.skip {l : PLine} (hl : parseLine l = .skip) : Reads [l] [] :=
  ⟨by simp [NoErr, hl], by simp [docRows, hl]⟩

theorem Reads.of_skip {ls : List PLine} (h : ∀ l ∈ ls, parseLine l = .skip) : Reads ls [] := by
  induction ls with
  | nil => exact Reads.nil
  | cons l ls ih =>
    have ⟨hl, hls⟩ := List.forall_mem_cons.mp h
    exact (Reads.skip hl).append (ih hls)

theorem reads_rowsOfGraph (s : Src) (op : POp) (g : Name) (ts : List Triple) :
    Reads (rowsOfGraph s op g ts) (tagRows op (blockStmts (patchSpell s g) ts)) := by
  induction ts with
  | nil => exact Reads.nil
  | cons t ts ih => exact (Reads.row (parseLine_patchRow s op g t)).append ih

theorem reads_writeTriples (s : Src) (d : List Quad) (op : POp) (gs : List Name) :
    Reads (writeTriples s d op gs) (tagRows op (stmts (gs.map (blockOf d (patchSpell s))))) := by
  induction gs with
  | nil => exact Reads.nil
  | cons g gs ih =>
    have h := (reads_rowsOfGraph s op g (triplesOf d g)).append ih
    rwa [← tagRows_append] at h

theorem reads_frame (hid hprev : Option Nat) {body : List PLine} {rows : List PRow} (hb : Reads body rows) :
    Reads (writeHeader hid hprev ++ body ++ [codeLine .TC .dot]) rows := by
  have h := ((Reads.of_skip (skip_writeHeader hid hprev)).append hb).append (Reads.skip (parseLine_codeLine .TC .dot))
  rwa [List.nil_append, List.append_nil] at h

theorem setEq_stmts_quadSrc {s : Src} (h : s.dflt = Name.default) {d : List Quad} :
    SetEq (stmts ((ctxList (quadSrc d)).map (blockOf (quadSrc d).d (patchSpell s)))) d := by
  have := stmts_map_toDs (names := ctxList (quadSrc d)) (fun g _ => dest_patchSpell s g)
    (fun q hq => mem_ctxList.mpr (.inl (mem_dedup.mpr (List.mem_map.mpr ⟨q, hq, rfl⟩))))
  rwa [h, map_toDs_default] at this

end RV.C06
